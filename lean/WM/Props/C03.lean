import WM.Lemmas.FSRefreshRace
import WM.Props.C02
/-!
C03 — readers are snapshots; new readers and `refresh()` see exactly the last commit.

Writer activity is any sequence of storage events that never re-binds a name (`freshNames`, which
every trace accepted by the commit-protocol predicates of C02 satisfies: `safe_freshNames`).
-/
namespace WM.C03
open WM.FS

theorem safe_freshNames (ix : Name) (old new : Toc) (tmp : Option Name) (c : Chk) (tr : List Event)
    (h : (chkRun ix old new tmp c tr).isSome = true) : freshNames c.fs tr = true := by
  obtain ⟨c', hc'⟩ := Option.isSome_iff_exists.1 h
  exact chkRun_induction (motive := fun c tr _ => freshNames c.fs tr = true) (fun _ => rfl)
    (fun _ _ _ _ _ hok ih => freshNames_cons.2 ⟨hok.fresh, ih⟩) hc'

/-- **C03.snapshot (partial: readers whose files are all opened at construction).**
    Whatever storage events writers issue afterwards — commits, merges, optimisations, clean-ups,
    a writer dying mid-way — a reader that pinned all its files keeps showing exactly what it
    showed. -/
theorem snapshot_partial (fs : FS) (r : Reader) (tr : List Event) (τ : Nat → Nat)
    (he : EagerHandles r = true) (hok : ReaderOK fs r) (hfr : freshCreates fs tr = true) :
    probe (run fs tr) r = probe fs r ∧ probe (crash (run fs tr) τ) r = probe fs r := by
  have hstable : ∀ sr ∈ r.leaves, ∀ p ∈ sr.handles, (run fs tr).data p.2 = fs.data p.2 :=
    fun sr hsr p hp => run_data_stable fs tr p.2 (hok sr hsr p hp).1 (hok sr hsr p hp).2 hfr
  refine ⟨probe_congr fs _ r he hstable, probe_congr fs _ r he fun sr hsr p hp => ?_⟩
  -- the inode was not being written, so the crash leaves it alone too
  rw [crash_data_of_not_writing _ τ p.2 (by rw [hstable sr hsr p hp]; exact (hok sr hsr p hp).2)]
  exact hstable sr hsr p hp

/-- **C03.snapshot.**  The reader `ix.reader()` returns — its constructor opens every file of every
    segment of the TOC (`allFiles`: the compound file of a compound segment; `.trm`, `.pst`, every
    column file and the vector file of a loose one) — keeps showing exactly what it showed when it was
    opened, whatever storage events writers issue afterwards (commits, merges, clean-ups, a writer
    dying mid-way with arbitrary truncation of its open files).  No `EagerHandles` hypothesis: it is
    a consequence of how the reader is built (`FS.eagerHandles_fresh`). -/
theorem snapshot (ix : Name) (fs : FS) (t : Toc) (tr : List Event) (τ : Nat → Nat)
    (hwf : WF fs) (ht : readToc ix fs = .ok t) (hr : readable fs t = true)
    (hfr : freshCreates fs tr = true) :
    ∃ r, openReader allFiles ix fs = .ok r ∧ r.segs = t.segs ∧
      probe (run fs tr) r = probe fs r ∧ probe (crash (run fs tr) τ) r = probe fs r := by
  refine ⟨freshReader allFiles fs t, openReader_fresh allFiles ix fs t ht hr, ?_,
    snapshot_partial fs _ tr τ (eagerHandles_fresh fs t hr) (readerOK_fresh hwf t hr) hfr⟩
  rw [Reader.segs, freshReader_leaves, List.map_map]
  exact List.map_id' t.segs

/-- The full statement (no hypothesis on how the reader opens its files) … -/
def snapshot_full : Prop :=
  ∀ (fs : FS) (r : Reader) (tr : List Event), ReaderOK fs r → freshCreates fs tr = true →
    probe (run fs tr) r = probe fs r

namespace Witness
def colFile : Name := ['M', '_', 'a', '.', 'n', '.', 'c', 'o', 'l']
def trmFile : Name := ['M', '_', 'a', '.', 't', 'r', 'm']
def fsW : FS :=
  { names := [trmFile, colFile]
    dir := fun n => if n = trmFile then some 0 else if n = colFile then some 1 else none
    data := fun _ => ⟨7, .complete, none⟩
    next := 2 }
/-- a reader of a loose segment: `.trm` opened at construction, the column file lazily -/
def lazyReader : Reader :=
  .single ⟨⟨['M', '_', 'a'], [trmFile, colFile], []⟩, some 1, 0, [(trmFile, 0)]⟩
end Witness

/-- … is false: a reader whose handles do not cover its segment's files — one that opens a
    column file lazily, on first use — loses that file when a merging commit cleans up. -/
theorem snapshot_full_false : ¬ snapshot_full := fun h =>
  -- the hypotheses hold of the witness and the segments probed before and after differ: evaluated
  absurd (congrArg Prod.snd (h Witness.fsW Witness.lazyReader [.delete Witness.colFile]
    (by unfold ReaderOK; decide) (by decide))) (by decide)

/-- **C03.fresh.**  A reader opened at *any* moment of a protocol-following commit — also after the
    writer died there — is exactly the fresh reader of the old TOC (before the rename) or of the
    new one (after it), with every file it needs opened; after a completed commit it is the
    reader of `new`. -/
theorem fresh (eager : Name → Bool) (ix : Name) (old new : Toc) (tmp : Name) (fs0 : FS)
    (tr : List Event) (hc : Consistent ix old fs0)
    (hs : SafeCommitTrace ix old new tmp fs0 tr = true) (k : Nat) (τ : Nat → Nat) :
    let fs' := crash (run fs0 (tr.take k)) τ
    openReader eager ix fs' = .ok (freshReader eager fs' (C02.stateAt old new tr k)) ∧
    (CompleteCommit ix old new tmp fs0 tr = true →
      openReader eager ix (run fs0 tr) = .ok (freshReader eager (run fs0 tr) new)) := by
  intro fs'
  have h := C02.consistent_at hc hs k τ
  refine ⟨openReader_fresh eager ix fs' _ h.toc h.readable, ?_⟩
  intro hcc
  obtain ⟨r1, r2, _⟩ := C02.commit ix old new tmp fs0 tr hc hcc
  exact openReader_fresh eager ix _ new r1 r2

/-- no-crash version of `C02.consistent_at`: the committed state at every prefix of a commit
    (`C02.holds_at` for a commit trace, without its generation clause) -/
theorem holds_at {ix : Name} {old new : Toc} {tmp : Name} {fs0 : FS} {tr : List Event}
    (hc : Consistent ix old fs0) (hs : SafeCommitTrace ix old new tmp fs0 tr = true) (k : Nat) :
    WF (run fs0 (tr.take k)) ∧ Holds ix (run fs0 (tr.take k)) (C02.stateAt old new tr k) :=
  have h := C02.holds_at hc hs k
  ⟨h.1, h.2.1⟩

/-- **C03.snapshot_after_commit.**  `snapshot` composed with `C02.commit`: the reader opened after a
    completed protocol-following commit is on exactly the new TOC's segments and stays a snapshot
    under everything later writers do (the next commits, their clean-up passes, a crash). -/
theorem snapshot_after_commit (ix : Name) (old new : Toc) (tmp : Name) (fs0 : FS)
    (tr : List Event) (hc : Consistent ix old fs0)
    (hcc : CompleteCommit ix old new tmp fs0 tr = true)
    (tr2 : List Event) (τ : Nat → Nat) (hfr : freshCreates (run fs0 tr) tr2 = true) :
    ∃ r, openReader allFiles ix (run fs0 tr) = .ok r ∧ r.segs = new.segs ∧
      probe (run (run fs0 tr) tr2) r = probe (run fs0 tr) r ∧
      probe (crash (run (run fs0 tr) tr2) τ) r = probe (run fs0 tr) r := by
  obtain ⟨r1, r2, _⟩ := C02.commit ix old new tmp fs0 tr hc hcc
  exact snapshot ix (run fs0 tr) new tr2 τ (run_wf hc.wf tr) r1 r2 hfr

theorem moment_toc {ix : Name} {old new : Toc} {tmp : Name} {fs0 : FS} {ms : List MStep}
    (hc : Consistent ix old fs0) (hs : SafeCommitTrace ix old new tmp fs0 (wevents ms) = true)
    (k : Nat) (t : Toc) (ht : readToc ix (fsAt fs0 ms k) = .ok t) :
    (t = old ∨ t = new) ∧ readable (fsAt fs0 ms k) t = true := by
  obtain ⟨j, hj⟩ := wevents_take_prefix ms k
  obtain ⟨hw, hh⟩ := holds_at hc hs j
  rw [fsAt, hj] at ht ⊢
  obtain ⟨r1, r2⟩ := (holds_iff hw _).1 hh
  obtain rfl : C02.stateAt old new (wevents ms) j = t := Except.ok.inj (r1.symm.trans ht)
  refine ⟨?_, r2⟩
  unfold C02.stateAt
  split
  · exact Or.inr rfl
  · exact Or.inl rfl

/-- **C03.fresh_interleaved.**  One writer performs a protocol-following commit; the steps of a
    concurrent `ix.reader()` call (TOC read, one file open at a time, retry on a missing file) are
    interleaved with the writer's storage events in an arbitrary way.  If the call completes, the
    reader is on `old` or on `new`, and holds exactly the files an atomic open would have taken
    at the moment it (last) read the TOC: never a mixture. -/
theorem fresh_interleaved (eager : Name → Bool) (ix : Name) (old new : Toc) (tmp : Name) (fs0 : FS)
    (n : Nat) (ms : List MStep) (hc : Consistent ix old fs0)
    (hs : SafeCommitTrace ix old new tmp fs0 (wevents ms) = true)
    (t : Toc) (got : List (Name × Nat))
    (hdone : (mrun eager ix (fs0, .start n) ms).2 = .done t got) :
    (t = old ∨ t = new) ∧
    ∃ k, k ≤ ms.length ∧ readToc ix (fsAt fs0 ms k) = .ok t ∧ readable (fsAt fs0 ms k) t = true ∧
      got = (freshReader eager (fsAt fs0 ms k) t).leaves.flatMap (·.handles) := by
  obtain ⟨k, hk, h1, h2, h3⟩ := open_linearizable eager ix fs0 n ms hc.wf
    (safe_freshNames ix old new (some tmp) ⟨fs0, .pre⟩ (wevents ms) hs)
    (fun k _ t' ht' => (moment_toc hc hs k t' ht').2) t got hdone
  exact ⟨(moment_toc hc hs k t h1).1, k, hk, h1, h2, h3.trans (pinned_eq eager _ t)⟩

/-- **C03.refresh_interleaved.**  The same race for `Searcher.refresh()`: `old` (a reader of the TOC
    `old`) is recycled by `ix.reader(reuse=old)`, whose steps — TOC read, per segment either taking
    over the recycled sub-reader or opening the files one at a time, retry on a missing file with
    the recycled reader intact — are interleaved arbitrarily with one protocol-following commit.
    If the call completes, the result is exactly the fresh reader of `old` or of `new` at the
    moment the TOC was read: no stale deletions, no stale handles, no mixture. -/
theorem refresh_interleaved (eager : Name → Bool) (ix : Name) (old new : Toc) (tmp : Name) (fs0 : FS)
    (n : Nat) (ms : List MStep) (hc : Consistent ix old fs0)
    (hs : SafeCommitTrace ix old new tmp fs0 (wevents ms) = true)
    (hst : Stable old old ∧ Stable old new)
    (t : Toc) (r : Reader)
    (hdone : (xmrun eager ix (freshReader eager fs0 old) (fs0, .start n) ms).2 = .done t r) :
    (t = old ∨ t = new) ∧
    ∃ k, k ≤ ms.length ∧ readToc ix (fsAt fs0 ms k) = .ok t ∧ readable (fsAt fs0 ms k) t = true ∧
      r = freshReader eager (fsAt fs0 ms k) t := by
  obtain ⟨k, hk, h1, h2, h3⟩ := refresh_linearizable eager ix fs0 old n ms
    hc.wf hc.readable
    (safe_freshNames ix old new (some tmp) ⟨fs0, .pre⟩ (wevents ms) hs)
    (fun k _ t' ht' => (moment_toc hc hs k t' ht').2)
    (fun k _ t' ht' => by
      rcases (moment_toc hc hs k t' ht').1 with rfl | rfl
      · exact hst.1
      · exact hst.2)
    t r hdone
  exact ⟨(moment_toc hc hs k t h1).1, k, hk, h1, h2, h3⟩

/-- **C03.same_is_fresh.**  The "return self" outcome of `Searcher.refresh()` (see
    `FS.searcher_refresh_linearizable` for when it is taken under interleaving): a searcher that is
    up to date *is* the freshly opened one. -/
theorem same_is_fresh (eager : Name → Bool) (ix : Name) (fs0 : FS) (t0 t : Toc)
    (tr : List Event) (hwf : WF fs0) (h0 : readable fs0 t0 = true) (hfr : freshNames fs0 tr = true)
    (ht : readToc ix (run fs0 tr) = .ok t) (hr : readable (run fs0 tr) t = true)
    (hfiles : ∀ s0 ∈ t0.segs, ∀ s ∈ t.segs, s.sid = s0.sid → s0.files = s.files)
    (hcanon : ∀ s0 ∈ t0.segs, ∀ s ∈ t.segs, s.sid = s0.sid →
      sameSet s0.deleted s.deleted = true → s0.deleted = s.deleted)
    (hgen : t.gen = t0.gen → t = t0)
    (hup : upToDate ix (run fs0 tr) (freshReader eager fs0 t0) = true) :
    freshReader eager fs0 t0 = freshReader eager (run fs0 tr) t := by
  obtain rfl := hgen (gen_eq_of_upToDate ht hup)
  exact (Reach.run fs0 hfr).freshReader_eq hwf eager t h0 hr

/-- **C03.refresh_eq_fresh.**  `r` was opened on `fs0` (newest TOC `t0`); writers then issued any
    events that never re-bind a name, leaving `t` as the newest TOC, readable.  Then
    `Searcher.refresh()` (that is, `ix.reader(reuse=r)` unless `r` is up to date) yields exactly
    the reader a fresh `ix.reader()` yields.  `hfiles`: a segment id names one set of files;
    `hcanon`: deletion sets are written in canonical order; `hgen`: a generation number names one TOC. -/
theorem refresh_eq_fresh (eager : Name → Bool) (ix : Name) (fs0 : FS) (t0 t : Toc)
    (tr : List Event) (hwf : WF fs0)
    (h0 : readable fs0 t0 = true)
    (hfr : freshNames fs0 tr = true)
    (ht : readToc ix (run fs0 tr) = .ok t) (hr : readable (run fs0 tr) t = true)
    (hfiles : ∀ s0 ∈ t0.segs, ∀ s ∈ t.segs, s.sid = s0.sid → s0.files = s.files)
    (hcanon : ∀ s0 ∈ t0.segs, ∀ s ∈ t.segs, s.sid = s0.sid →
      sameSet s0.deleted s.deleted = true → s0.deleted = s.deleted)
    (hgen : t.gen = t0.gen → t = t0) :
    refresh eager ix (run fs0 tr) (freshReader eager fs0 t0) = openReader eager ix (run fs0 tr) := by
  rw [openReader_fresh eager ix _ t ht hr]
  unfold refresh
  by_cases hup : upToDate ix (run fs0 tr) (freshReader eager fs0 t0) = true
  · rw [if_pos hup, same_is_fresh eager ix fs0 t0 t tr hwf h0 hfr ht hr hfiles hcanon hgen hup]
  · rw [if_neg hup]
    have hco := coherent_of_stable eager hwf h0 (Reach.run fs0 hfr) hr
      fun s0 hs0 s hs hsid => ⟨hfiles s0 hs0 s hs hsid, hcanon s0 hs0 s hs hsid⟩
    obtain ⟨closed, hcl⟩ := indexReader_reuse eager ix _ t _ ht hr hco
    rw [hcl]

/-- **C03.up_to_date (partial: indexes with at least one segment).**  For the reader opened on
    TOC `t0`, `up_to_date()` is true exactly when the newest generation in the directory is still
    `t0.gen`. -/
theorem up_to_date_partial (eager : Name → Bool) (ix : Name) (fs0 fs : FS) (t0 : Toc)
    (hne : t0.segs ≠ []) :
    upToDate ix fs (freshReader eager fs0 t0) = true ↔ latestGen ix fs = some t0.gen := by
  rw [upToDate, freshReader_generation, if_neg hne]
  cases latestGen ix fs <;> simp [genEq]

/-- the full statement … -/
def up_to_date_full : Prop :=
  ∀ (eager : Name → Bool) (ix : Name) (fs0 fs : FS) (t0 : Toc),
    upToDate ix fs (freshReader eager fs0 t0) = true ↔ latestGen ix fs = some t0.gen

/-- … is false for an index without segments: `EmptyReader.generation()` is `None`, so
    `up_to_date()` is false although no newer generation exists. -/
theorem up_to_date_full_false : ¬ up_to_date_full := by
  intro h
  have := (h (fun _ => true) C02.Example.ix C02.Example.fs0 C02.Example.fs0 C02.Example.tocOld).2
    (by decide)
  revert this
  decide

/-! ### non-vacuity: a reader held across the example commit of C02 -/
namespace Example
open C02.Example

/-! the reader `held` opened on the committed example index, and an optimising commit `tr2` that
replaces its segment -/
def fs1 : FS := run fs0 tr
def held : Reader := freshReader (fun _ => true) fs1 tocNew
def seg2 : Name := ['M', '_', 'b', '.', 's', 'e', 'g']
def tmp2 : Name := ['_', 'M', '_', '2', '.', 't', 'o', 'c', '.', '7']
def toc2n : Name := ['_', 'M', '_', '2', '.', 't', 'o', 'c']
def toc2 : Toc := ⟨2, 0, [⟨['M', '_', 'b'], [seg2], []⟩]⟩
def tr2 : List Event :=
  [.create seg2, .write seg2 200, .close seg2, .create tmp2, .setToc tmp2 toc2, .write tmp2 60,
   .close tmp2, .rename tmp2 toc2n, .delete toc1, .delete segFile]

theorem names_tr2 : freshNames fs1 tr2 = true := by decide +kernel
theorem fresh_tr2 : freshCreates fs1 tr2 = true :=
  freshNames_freshCreates (run_wf consistent0.wf tr) tr2
    names_tr2

example : EagerHandles held = true := by decide +kernel
/-- `snapshot` instantiated: the reader opened on generation 1 is unchanged by the optimising
    commit `tr2` that unlinks its segment file -/
example : ∃ r, openReader allFiles ix fs1 = .ok r ∧ r.segs = tocNew.segs ∧
    probe (run fs1 tr2) r = probe fs1 r ∧ probe (crash (run fs1 tr2) fun _ => 0) r = probe fs1 r :=
  snapshot_after_commit ix tocOld tocNew tmpN fs0 tr consistent0 complete_tr tr2 _ fresh_tr2
example : freshNames fs1 tr2 = true := names_tr2
example : freshCreates fs1 tr2 = true := fresh_tr2
/-- the held reader still shows generation 1 after its segment file was unlinked … -/
example : probe (run fs1 tr2) held = probe fs1 held :=
  Prod.ext (by decide +kernel) (by decide +kernel)
/-- … is no longer up to date, and refreshing it gives the reader of generation 2 -/
example : upToDate ix (run fs1 tr2) held = false := by decide +kernel
example : refresh (fun _ => true) ix (run fs1 tr2) held
    = .ok (freshReader (fun _ => true) (run fs1 tr2) toc2) := by decide +kernel

/-- an `ix.reader()` call racing with that commit: it reads TOC 1, the writer then publishes
    TOC 2 and unlinks the old segment before the reader got to open it, the open fails, the
    reader re-reads the TOC and ends up on generation 2 with the new segment file pinned -/
def race : List MStep :=
  [.r] ++ tr2.map .w ++ [.r, .r, .r, .r]

def doneOn : ROpen → Option (Nat × List Name)
  | .done t got => some (t.gen, got.map (·.1))
  | _ => none

example : SafeCommitTrace ix tocNew toc2 tmp2 fs1 (wevents race) = true := by decide +kernel
example : doneOn (mrun (fun _ => true) ix (fs1, .start 10) race).2 = some (2, [seg2]) := by decide +kernel
/-! `held.refresh()` racing the same commit (the two examples below): it reads TOC 1 (nothing to
do: its own segment is recycled) when scheduled first, and ends on the fresh reader of generation 2
when the commit lands before its TOC read -/
def doneReader : RRefresh → Option (Nat × Reader)
  | .done t r => some (t.gen, r)
  | _ => none

example : doneReader (xmrun (fun _ => true) ix held (fs1, .start 10)
    ([.r, .r] ++ tr2.map .w ++ [.r])).2 = some (1, held) := by decide +kernel
example : doneReader (xmrun (fun _ => true) ix held (fs1, .start 10)
    (tr2.map .w ++ [.r, .r, .r, .r, .r])).2
    = some (2, freshReader (fun _ => true) (run fs1 tr2) toc2) := by decide +kernel

/-- the same reader scheduled before the clean-up stays on generation 1 -/
example : doneOn (mrun (fun _ => true) ix (fs1, .start 10)
    ([.r, .r] ++ tr2.map .w ++ [.r])).2 = some (1, [segFile]) := by decide +kernel

end Example

end WM.C03
