import WM.Lemmas.ColumnsVar
import WM.Lemmas.ColumnsFixed
import WM.Lemmas.ColumnsRef
import WM.Lemmas.ColumnsBit
import WM.Lemmas.ColumnsWrapped
import WM.Lemmas.ColumnsSeg
/-!
# C08 — stored values and column values come back unchanged for the right document

For every column type: for strictly increasing `(docnum, value)` adds and any `doccount` beyond
the last one, reading document `d` gives the supplied value where there is one and the column
default elsewhere (`cell`; `refCell`, with its saturation, for `RefBytesColumn`; `BitColumn` takes
adds in any order).  Then the stored fields, the column copy of a segment merge and the reader over
several segments.
-/
namespace WM.C08
open WM.Columns

/-- **VarBytesColumn** (every `write_offsets_cutoff`, offsets allowed or not; with the repaired
    `finish`): values whose total size stays below 2^32 (the column's documented limit; beyond it
    `GrowableArray(allow_longs=False)` raises `OverflowError`) come back unchanged, documents
    without a value read as `b''`. -/
theorem varbytes_roundtrip (allow : Bool) (cutoff : Nat) (adds : List (Nat × Bytes)) (doccount : Nat)
    (hinc : Increasing adds) (hwithin : Within adds doccount) (hsize : totalBytes adds < 4294967296) :
    ∃ file, varWrite allow cutoff adds doccount = .ok file ∧
      ∀ d, d < doccount → varRead file doccount d = .ok (cell [] adds d) := by
  obtain ⟨tail, so, hw, hopen⟩ := varWrite_open allow cutoff adds doccount hinc hwithin hsize
  refine ⟨_, hw, fun d hd => ?_⟩
  rw [varRead, hopen]
  exact VarR.get_row _ tail so d _ (rowsOf_get [] adds doccount d hd)

/-- The hypotheses are satisfiable: a gap, a value of 300 bytes, trailing documents without a value. -/
example (big : Bytes) (hbig : big.length = 300) :
    let adds : List (Nat × Bytes) := [(0, [1, 2]), (2, big)]
    Increasing adds ∧ Within adds 5 ∧ totalBytes adds < 4294967296 ∧ totalBytes adds = 302 := by
  intro adds
  refine ⟨?_, ?_, ?_, ?_⟩
  · simp [adds, Increasing]
  · intro p hp
    simp only [adds, List.mem_cons, List.not_mem_nil, or_false] at hp
    rcases hp with rfl | rfl <;> simp
  · simp [adds, totalBytes, hbig]
  · simp [adds, totalBytes, hbig]

/-- A row codec over a `VarBytesColumn` (the list columns, `PickleColumn`): the wrapped column stores
    `enc v`, the reader decodes what it reads with `dec`; hypotheses and `w` as in `cell_codec`. -/
theorem varbytes_codec_roundtrip {α γ : Type} (enc : α → Bytes) (dec : Bytes → γ) (w : α → γ) (dflt : α)
    (allow : Bool) (cutoff : Nat) (adds : List (Nat × α)) (doccount : Nat) (hinc : Increasing adds)
    (hwithin : Within adds doccount) (hsize : totalBytes (adds.map fun p => (p.1, enc p.2)) < 4294967296)
    (hdc : dec [] = w dflt) (hde : ∀ p ∈ adds, dec (enc p.2) = w p.2) :
    ∃ file, varWrite allow cutoff (adds.map fun p => (p.1, enc p.2)) doccount = .ok file ∧
      ∀ d, d < doccount → (varRead file doccount d).map dec = .ok (w (cell dflt adds d)) := by
  obtain ⟨file, hw, hr⟩ := varbytes_roundtrip allow cutoff _ doccount (increasing_map enc adds hinc)
    (within_map enc adds doccount hwithin) hsize
  refine ⟨file, hw, fun d hd => ?_⟩
  rw [hr d hd]
  exact congrArg Except.ok (cell_codec enc dec w [] dflt adds d hdc hde)

/-- **Any fixed-width column** (`StructColumn`, `NumericColumn` with float type codes, …): each add
    carries whether the writer takes it for the default (`v == self._default` — always `False` for
    `StructColumn`, Python `==` for floats) and the bytes `pack(v)` of width `k`.  Reading a
    document gives the packed bytes of its value, or the packed default when there is none *or when
    the value compared equal to the default* (this is where `-0.0` turns into `0.0`). -/
theorem fixedwidth_roundtrip (k : Nat) (hk : 0 < k) (db : Bytes) (hdb : db.length = k) (chk : Bool)
    (adds : List (Nat × Bool × Bytes)) (hinc : Increasing adds) (hw : ∀ p ∈ adds, p.2.2.length = k) :
    ∃ w, FixW.addAll k db chk {} adds = .ok w ∧
      ∀ d, fixGet k db w.out d = (match lookup adds d with
        | some (isd, vb) => if isd then db else vb
        | none => db) := by
  obtain ⟨w, h1, h2⟩ := FixW.addAll_inv k db chk hdb adds {} [] (FixW.inv_init k) hinc
    (fun _ _ => Nat.zero_le _) hw
  refine ⟨w, h1, fun d => ?_⟩
  rw [h2.out, fixGet_rows k hk db _ h2.width d, extendRows_nil_getD db _ (written_increasing adds hinc) d]
  exact cell_written db adds hinc d

/-- `fixedwidth_roundtrip` without the elision caveat: when every add the writer takes for the
    default really has the default's bytes (true for `StructColumn`, whose test never fires, and
    for numbers whose `==` coincides with equality of the packed bytes — not for `-0.0 == 0.0`),
    the bytes read are the bytes supplied. -/
theorem fixedwidth_roundtrip_exact (k : Nat) (hk : 0 < k) (db : Bytes) (hdb : db.length = k) (chk : Bool)
    (adds : List (Nat × Bool × Bytes)) (hinc : Increasing adds) (hw : ∀ p ∈ adds, p.2.2.length = k)
    (hexact : ∀ p ∈ adds, p.2.1 = true → p.2.2 = db) :
    ∃ w, FixW.addAll k db chk {} adds = .ok w ∧
      ∀ d, fixGet k db w.out d = cell db (adds.map fun p => (p.1, p.2.2)) d := by
  obtain ⟨w, h1, h2⟩ := fixedwidth_roundtrip k hk db hdb chk adds hinc hw
  refine ⟨w, h1, fun d => ?_⟩
  rw [h2 d, cell_map]
  cases hl : lookup adds d with
  | none => rfl
  | some x =>
    obtain ⟨isd, vb⟩ := x
    cases isd with
    | false => rfl
    | true => exact (hexact _ (lookup_mem hl) rfl).symm

/-- **FixedBytesColumn**: values of the fixed length come back unchanged for every document
    number (also beyond the rows stored); documents without a value — and values equal to the
    default, which are not written — read as the default. -/
theorem fixedbytes_roundtrip (k : Nat) (hk : 0 < k) (default : Bytes) (hdb : default.length = k)
    (adds : List (Nat × Bytes)) (hinc : Increasing adds) (hw : ∀ p ∈ adds, p.2.length = k) :
    ∃ file, fixedWrite k default adds = .ok file ∧
      ∀ d, fixGet k default file d = cell default adds d := by
  obtain ⟨w, h1, h2⟩ := fixedwidth_roundtrip_exact k hk default hdb true
    (adds.map fun p => (p.1, p.2 == default, p.2))
    (increasing_map (fun v => (v == default, v)) adds hinc)
    (List.forall_mem_map.mpr hw) (List.forall_mem_map.mpr fun _ _ => eq_of_beq)
  refine ⟨w.out, by rw [fixedWrite, h1], fun d => ?_⟩
  rw [h2 d, List.map_map]
  exact congrArg (cell default · d) (List.map_id adds)

/-- **NumericColumn** (integer type codes b/B/h/H/i/I/q/Q): every in-range value comes back
    unchanged, the default is elided on disk and synthesised on reading. -/
theorem numeric_roundtrip (c : NumCode) (default : Int) (adds : List (Nat × Int))
    (hinc : Increasing adds) (hdr : c.lo ≤ default ∧ default ≤ c.hi)
    (hr : ∀ p ∈ adds, c.lo ≤ p.2 ∧ p.2 ≤ c.hi) :
    ∃ file, numWrite c default {} adds = .ok file ∧
      ∀ d, numGet c default file d = .ok (cell default adds d) := by
  obtain ⟨g, hg⟩ := exists_total [] c.pack_spec
  obtain ⟨hdb, hdl, hdu⟩ := hg default hdr
  obtain ⟨w, h1, h2⟩ := fixedwidth_roundtrip_exact c.size c.size_pos (g default) hdl false
    (adds.map fun p => (p.1, decide (p.2 = default), g p.2))
    (increasing_map (fun v => (decide (v = default), g v)) adds hinc)
    (List.forall_mem_map.mpr fun p hp => (hg p.2 (hr p hp)).2.1)
    (List.forall_mem_map.mpr fun p _ h => congrArg g (of_decide_eq_true h))
  refine ⟨w.out, by rw [numWrite_eq c default g hdb adds {} fun p hp => (hg p.2 (hr p hp)).1, h1], fun d => ?_⟩
  simp only [numGet, hdb]
  rw [h2 d, List.map_map]
  exact congrArg Except.ok (cell_codec g c.unpack id (g default) default adds d hdu
    fun p hp => (hg p.2 (hr p hp)).2.2)

/-- A numeric column over converted values `f v` (a field's `to_column_value`): a document reads the
    conversion of its value, the column default without one. -/
theorem numeric_map_roundtrip {α : Type} (c : NumCode) (f : α → Int) (cd : Int) (adds : List (Nat × α))
    (hinc : Increasing adds) (hcd : c.lo ≤ cd ∧ cd ≤ c.hi) (hr : ∀ p ∈ adds, c.lo ≤ f p.2 ∧ f p.2 ≤ c.hi) :
    ∃ file, numWrite c cd {} (adds.map fun p => (p.1, f p.2)) = .ok file ∧
      ∀ d, numGet c cd file d = .ok (cell cd (adds.map fun p => (p.1, f p.2)) d) :=
  numeric_roundtrip c cd _ (increasing_map f adds hinc) hcd (List.forall_mem_map.mpr hr)

example : (NumCode.pack .h (-2)).toOption = some [255, 254] ∧ NumCode.unpack .h [255, 254] = -2 := by
  decide

/-- **RefBytesColumn**: values come back unchanged, documents without a value read as the
    default — through the buffered byte references, through the switch to ushorts when the table of
    uniques, the default included, gets its 257th entry, and with the documented saturation: a value
    whose position in the table exceeds 65 535 reads as the default (`refCell`). -/
theorem refbytes_roundtrip (fixedlen : Nat) (default : Bytes) (adds : List (Nat × Bytes))
    (doccount : Nat) (hinc : Increasing adds) (hwithin : Within adds doccount)
    (hfl : fixedlen = 0 ∨ (default.length = fixedlen ∧ ∀ p ∈ adds, p.2.length = fixedlen)) :
    ∀ d, d < doccount →
      refRead fixedlen (refWrite fixedlen default adds doccount) doccount d
        = .ok (refCell default adds d) := by
  intro d hd
  -- the writer lays down, per document, the position of its value in the *final* table
  obtain ⟨habs, hcount⟩ := RefW.addAll_inv adds (RefW.init default) [] [default] (RefW.inv_init default)
    rfl hinc (fun _ _ => Nat.zero_le _)
  have hrows := extendRows_final (0 : Nat)
    (adds.map fun p => (p.1, (tableOf [default] adds).idxOf p.2)) doccount
    (increasing_map (tableOf [default] adds).idxOf adds hinc)
    (within_map (tableOf [default] adds).idxOf adds doccount hwithin)
  obtain ⟨tc, hfile, hlt⟩ := RefW.finish_inv fixedlen _ _ _ doccount habs hcount
  rw [hrows] at hfile hlt
  have hUfl : fixedlen = 0 ∨ ∀ u ∈ tableOf [default] adds, u.length = fixedlen :=
    hfl.imp_right fun ⟨h1, h2⟩ => forall_mem_tableOf [default] adds (List.forall_mem_singleton.2 h1) h2
  rw [refWrite, hfile]
  refine refRead_layout fixedlen tc _ _ doccount (by rw [List.length_map, rowsOf_length])
    (fun r hr => by obtain ⟨x, hx, rfl⟩ := List.mem_map.mp hr; exact hlt x hx) hUfl d _ _
    (by rw [List.getElem?_map, rowsOf_get _ _ _ _ hd]; rfl) ?_
  rw [cell_map (tableOf [default] adds).idxOf 0 adds d, tableOf_eq_uniquesOf]
  exact refCell_of_table default adds d

/-- The hypotheses are satisfiable (variable-length values with a repeated one). -/
example : Increasing ([(0, [1]), (3, [2, 2]), (4, [1])] : List (Nat × Bytes)) ∧
    Within ([(0, [1]), (3, [2, 2]), (4, [1])] : List (Nat × Bytes)) 6 ∧
    refCell ([] : Bytes) [(0, [1]), (3, [2, 2]), (4, [1])] 4 = [1] ∧
    refCell ([] : Bytes) [(0, [1]), (3, [2, 2]), (4, [1])] 2 = [] := by
  refine ⟨by unfold Increasing; decide, by unfold Within; decide, by decide, by decide⟩

/-- **BitColumn**: document `d` reads `True` iff some add set it (adds in any order; the flag
    byte — compressed or not, with zlib an identity — does not matter). -/
theorem bit_roundtrip (compressAt : Nat) (adds : List (Nat × Bool)) (d : Nat) :
    bitGet (bitWrite compressAt adds) d = adds.any (fun p => p.1 == d && p.2) := by
  -- a fresh `BitSet()`, one zero byte, holds nothing
  have h0 : WM.IdSets.contains [0] d = false := WM.IdSets.contains_replicate_zero 1 d
  rw [bitWrite, bitGet_eq_contains, contains_foldl_bitAdd, h0, Bool.false_or]

/-- For one add per document this is the spec's `cell` with default `False`. -/
theorem bit_roundtrip_cell (compressAt : Nat) (adds : List (Nat × Bool)) (hinc : Increasing adds) (d : Nat) :
    bitGet (bitWrite compressAt adds) d = cell false adds d := by
  rw [bit_roundtrip, cell, Bool.eq_iff_iff]
  simp only [List.any_eq_true, Bool.and_eq_true, beq_iff_eq]
  constructor
  · rintro ⟨⟨d', v⟩, hm, rfl, rfl⟩
    rw [(lookup_eq_some_iff hinc).mpr hm]; rfl
  · intro h
    cases hl : lookup adds d with
    | none => rw [hl] at h; cases h
    | some b => rw [hl] at h; exact ⟨(d, b), lookup_mem hl, rfl, h⟩

/-- **PickleColumn over a bytes column** (the `_stored` column is
    `PickleColumn(CompressedBytesColumn())`): with `ser`/`de` any serialiser that round-trips and
    never yields the empty string, a document reads back the object supplied for it, `None`
    when nothing (or `None`) was supplied. -/
theorem pickled_roundtrip {α : Type} (ser : α → Bytes) (de : Bytes → α)
    (hrt : ∀ x, de (ser x) = x) (hne : ∀ x, ser x ≠ [])
    (allow : Bool) (cutoff : Nat) (adds : List (Nat × Option α)) (doccount : Nat)
    (hinc : Increasing adds) (hwithin : Within adds doccount)
    (hsize : totalBytes (pickleAdds ser adds) < 4294967296) :
    ∃ file, varWrite allow cutoff (pickleAdds ser adds) doccount = .ok file ∧
      ∀ d, d < doccount →
        (varRead file doccount d).map (pickleGet de) = .ok ((lookup adds d).join) := by
  obtain ⟨file, hw, hr⟩ := varbytes_codec_roundtrip (pickleEnc ser) (pickleGet de) id none allow cutoff adds
    doccount hinc hwithin hsize rfl fun p _ => pickleGet_enc ser de hrt hne p.2
  refine ⟨file, hw, fun d hd => (hr d hd).trans ?_⟩
  rw [id, cell]
  cases lookup adds d <;> rfl

/-- **Stored fields** through `W3PerDocWriter`: when documents `0, 1, 2, …` are written in order
    and document `i` supplies the non-empty stored dict `vals[i]` (or none), `stored_fields(d)` —
    `None → {}` — is the dict of document `d` and `{}` for every other document. -/
theorem stored {α : Type} (ser : α → Bytes) (de : Bytes → α) (empty : α)
    (hrt : ∀ x, de (ser x) = x) (hne : ∀ x, ser x ≠ [])
    (vals : List (Option α))
    (hsize : totalBytes (pickleAdds ser ((perDocAdds vals).map fun p => (p.1, some p.2))) < 4294967296) :
    ∃ file, varWrite true 32768 (pickleAdds ser ((perDocAdds vals).map fun p => (p.1, some p.2)))
        vals.length = .ok file ∧
      ∀ d, (hd : d < vals.length) →
        (varRead file vals.length d).map (fun v => (pickleGet de v).getD empty)
          = .ok ((vals[d]).getD empty) := by
  obtain ⟨file, hw, hr⟩ := varbytes_codec_roundtrip (pickleEnc ser) (fun v => (pickleGet de v).getD empty)
    (·.getD empty) none true 32768 _ vals.length
    (increasing_map some _ (perDocAdds_increasing vals)) (within_map some _ _ (perDocAdds_within vals)) hsize
    rfl fun p _ => congrArg (·.getD empty) (pickleGet_enc ser de hrt hne p.2)
  refine ⟨file, hw, fun d hd => (hr d hd).trans ?_⟩
  rw [cell_map, lookup_perDocAdds, List.getElem?_eq_getElem hd]
  cases vals[d] <;> rfl

/-- **List columns**: a list of byte strings survives `VarBytesListColumn`'s row encoding, a list
    of fixed-length strings `FixedBytesListColumn`'s; an empty row decodes to the empty list. -/
theorem list_encodings (ls : List Bytes) (k : Nat) (hk : 0 < k) :
    decodeVarList (encodeVarList ls) = some ls ∧ decodeVarList [] = some [] ∧
    ((∀ v ∈ ls, v.length = k) → encodeFixList k ls = .ok ls.flatten ∧ decodeFixList k ls.flatten = ls) ∧
    decodeFixList k [] = [] :=
  ⟨decodeVarList_encode ls, rfl, decodeFixList_encode k hk ls, rfl⟩

/-- `VarBytesListColumn` end to end (through the wrapped `VarBytesColumn`). -/
theorem varbyteslist_roundtrip (adds : List (Nat × List Bytes)) (doccount : Nat)
    (hinc : Increasing adds) (hwithin : Within adds doccount)
    (hsize : totalBytes (adds.map fun p => (p.1, encodeVarList p.2)) < 4294967296) :
    ∃ file, varWrite true 32768 (adds.map fun p => (p.1, encodeVarList p.2)) doccount = .ok file ∧
      ∀ d, d < doccount →
        (varRead file doccount d).map decodeVarList = .ok (some (cell [] adds d)) :=
  varbytes_codec_roundtrip encodeVarList decodeVarList some [] true 32768 adds doccount hinc hwithin hsize rfl
    fun p _ => decodeVarList_encode p.2

/-- `FixedBytesListColumn` end to end (through the wrapped `VarBytesColumn`). -/
theorem fixedbyteslist_roundtrip (k : Nat) (hk : 0 < k) (adds : List (Nat × List Bytes)) (doccount : Nat)
    (hinc : Increasing adds) (hwithin : Within adds doccount)
    (hlen : ∀ p ∈ adds, ∀ v ∈ p.2, v.length = k)
    (hsize : totalBytes (adds.map fun p => (p.1, p.2.flatten)) < 4294967296) :
    (∀ p ∈ adds, encodeFixList k p.2 = .ok p.2.flatten) ∧
    ∃ file, varWrite true 32768 (adds.map fun p => (p.1, p.2.flatten)) doccount = .ok file ∧
      ∀ d, d < doccount →
        (varRead file doccount d).map (decodeFixList k) = .ok (cell [] adds d) :=
  ⟨fun p hp => (decodeFixList_encode k hk p.2 (hlen p hp)).1,
    varbytes_codec_roundtrip List.flatten (decodeFixList k) id [] true 32768 adds doccount hinc hwithin hsize rfl
      fun p hp => (decodeFixList_encode k hk p.2 (hlen p hp)).2⟩

/-- **MultiColumnReader** (with every segment taking part — the repaired
    `MultiReader.column_reader`): global document `d` is served by the segment whose offset range
    contains it, at `d − offset`. -/
theorem multi (counts : List Nat) (d : Nat) (hd : d < counts.sum) :
    ∃ i c o, multiLocate (deriveOffsets 0 counts) d = some (i, d - o) ∧ counts[i]? = some c ∧
      (deriveOffsets 0 counts)[i]? = some o ∧ o ≤ d ∧ d - o < c := by
  obtain ⟨i, c, hc, ho, hloc, hle, hlt⟩ := multiLocate_eq counts d hd
  exact ⟨i, c, _, hloc, hc, ho, hle, hlt⟩

/-- **Merge**: the column of the merged segment holds, for its `j`-th document, the value the old
    segment had for its `j`-th live document; the merged adds are again increasing, so the column
    round-trip theorems apply to the new segment. -/
theorem merge {α : Type} (default : α) (adds : List (Nat × α)) (live : List Nat) :
    Increasing (mergedAdds default adds live) ∧ Within (mergedAdds default adds live) live.length ∧
    ∀ j, (h : j < live.length) → cell default (mergedAdds default adds live) j = cell default adds live[j] := by
  refine ⟨?_, ?_, fun j hj => ?_⟩
  · rw [mergedAdds_eq_perDocAdds]; exact perDocAdds_increasing _
  · have := perDocAdds_within (live.map fun d => some (cell default adds d))
    rwa [List.length_map, ← mergedAdds_eq_perDocAdds] at this
  · rw [cell, mergedAdds_eq_perDocAdds, lookup_perDocAdds, List.getElem?_map,
      List.getElem?_eq_getElem hj]; rfl

example : multiLocate (deriveOffsets 0 [3, 0, 4]) 5 = some (2, 2) ∧
    mergedAdds (0 : Nat) [(0, 7), (2, 9)] [0, 2] = [(0, 7), (1, 9)] := by decide

/-- **Merge, on the model of `write_per_doc`.**  The column copy of a segment merge reads the old
    segment's column at every live document (`cols[f][docnum]`, here any reader `read` that shows
    `cell default adds`, e.g. one of the column readers above) and adds the value for the next new
    document number.  The adds it produces are `mergedAdds` (increasing, within the new document
    count), so the new column round-trips by the theorems above and shows, for its `j`-th
    document, the old value of the `j`-th live document.  A segment without the column file
    (`has_column` false) contributes no adds: every row of the new column is the default. -/
theorem merge_model {α : Type} (default : α) (adds : List (Nat × α)) (live : List Nat)
    (read : Nat → Except Err α) (hread : ∀ d ∈ live, read d = .ok (cell default adds d)) :
    mergeColumnAdds true read 0 live = .ok (mergedAdds default adds live) ∧
    mergeColumnAdds false read 0 live = .ok [] ∧
    Increasing (mergedAdds default adds live) ∧ Within (mergedAdds default adds live) live.length ∧
    (∀ j, (h : j < live.length) → cell default (mergedAdds default adds live) j = cell default adds live[j]) ∧
    (∀ j, cell default ([] : List (Nat × α)) j = default) :=
  ⟨mergeColumnAdds_ok read (cell default adds) live 0 hread, mergeColumnAdds_none read live 0,
    (merge default adds live).1, (merge default adds live).2.1, (merge default adds live).2.2, fun _ => rfl⟩

/-- The same, composed for `VarBytesColumn` end to end: write the old column, merge-copy it
    through its reader, write the new column, read it. -/
theorem merge_varbytes (allow : Bool) (cutoff : Nat) (adds : List (Nat × Bytes)) (doccount : Nat)
    (live : List Nat) (hinc : Increasing adds) (hwithin : Within adds doccount)
    (hsize : totalBytes adds < 4294967296) (hlive : ∀ d ∈ live, d < doccount)
    (hsize2 : totalBytes (mergedAdds [] adds live) < 4294967296) :
    ∃ old madds new, varWrite allow cutoff adds doccount = .ok old ∧
      mergeColumnAdds true (varRead old doccount) 0 live = .ok madds ∧
      varWrite allow cutoff madds live.length = .ok new ∧
      ∀ j, (h : j < live.length) → varRead new live.length j = .ok (cell [] adds live[j]) := by
  obtain ⟨old, hw, hr⟩ := varbytes_roundtrip allow cutoff adds doccount hinc hwithin hsize
  obtain ⟨h1, _, h3, h4, h5, _⟩ := merge_model ([] : Bytes) adds live (varRead old doccount)
    (fun d hd => hr d (hlive d hd))
  obtain ⟨new, hw2, hr2⟩ := varbytes_roundtrip allow cutoff (mergedAdds [] adds live) live.length h3 h4 hsize2
  exact ⟨old, _, new, hw, h1, hw2, fun j hj => by rw [hr2 j hj, h5 j hj]⟩

/-- **MultiColumnReader, value read.**  With one reader per segment (the segment's rows, or an
    `EmptyColumnReader` for a segment without the column file — the repaired
    `MultiReader.column_reader`), global document `d` reads the `d`-th row of the concatenation of
    the segments' rows, a segment without the column counting as `doc_count_all` default rows. -/
theorem multi_value {α : Type} (default : α) (segs : List (SegCol α)) (d : Nat)
    (hd : d < (segs.map SegCol.len).sum) :
    ∃ v, multiGet default segs d = .ok v ∧ ((segs.map (SegCol.expand default)).flatten)[d]? = some v := by
  obtain ⟨i, c, hc, -, hloc, hle, hlt⟩ := multiLocate_eq (segs.map SegCol.len) d hd
  rw [List.getElem?_map] at hc
  obtain ⟨s, hseg, rfl⟩ := Option.map_eq_some_iff.mp hc
  obtain ⟨v, hget, hexp⟩ := SegCol.get_expand default s _ hlt
  refine ⟨v, by simp only [multiGet, hloc, hseg, hget], ?_⟩
  have := flatten_getElem?_offset (segs.map (SegCol.expand default)) i _ (s.expand default)
    (by rw [List.getElem?_map, hseg]; rfl) (by rw [s.expand_length]; exact hlt)
  rwa [List.map_take, map_length_expand, Nat.add_sub_cancel' hle, hexp] at this

/-- **Stored fields, field by field.**  Documents `0, 1, 2, …`, each a set of keyword arguments
    with distinct field names: `stored_fields(d)` (through the `_stored` pickle column, `None → {}`)
    is the dict `add_document`/`add_field` build for document `d`, and looking a name up in it
    gives the supplied value of a *stored* field — the `_stored_<name>` override when one was
    passed — and nothing for fields that are not stored, not supplied, or overridden with `None`
    (`specStored`).  A document whose dict is empty reads `{}`. -/
theorem stored_fields {α : Type} (ser : List (String × α) → Bytes) (de : Bytes → List (String × α))
    (hrt : ∀ x, de (ser x) = x) (hne : ∀ x, ser x ≠ [])
    (docs : List (List (FieldIn α))) (hnames : ∀ fs ∈ docs, (fs.map (·.name)).Nodup)
    (hsize : totalBytes (pickleAdds ser ((perDocAdds (docs.map storedValue)).map fun p => (p.1, some p.2)))
      < 4294967296) :
    ∃ file, varWrite true 32768
        (pickleAdds ser ((perDocAdds (docs.map storedValue)).map fun p => (p.1, some p.2))) docs.length
        = .ok file ∧
      ∀ d, (hd : d < docs.length) →
        (varRead file docs.length d).map (fun v => (pickleGet de v).getD [])
          = .ok (storedDict docs[d]) ∧
        ∀ name, ((storedDict docs[d]).find? (fun kv => kv.1 == name)).map (·.2) = specStored docs[d] name := by
  obtain ⟨file, hw, hr⟩ := stored ser de [] hrt hne (docs.map storedValue) hsize
  rw [List.length_map] at hw
  refine ⟨file, hw, fun d hd => ⟨?_, fun name => storedDict_lookup docs[d] (hnames _ (List.getElem_mem hd)) name⟩⟩
  have := hr d (by rw [List.length_map]; exact hd)
  simp only [List.length_map, List.getElem_map] at this
  rw [this, storedValue_getD]

/-! Hypotheses of the theorems above on concrete adds, and values the model computes for them. -/

example : Increasing ([(1, [7, 7]), (4, [0, 0])] : List (Nat × Bytes)) ∧
    (∀ p ∈ ([(1, [7, 7]), (4, [0, 0])] : List (Nat × Bytes)), p.2.length = 2) ∧
    cell [0, 0] ([(1, [7, 7]), (4, [0, 0])] : List (Nat × Bytes)) 4 = [0, 0] := by
  refine ⟨by unfold Increasing; decide, by decide, by decide⟩

example : Increasing ([(0, -128), (3, 127)] : List (Nat × Int)) ∧
    (NumCode.b.lo ≤ (0 : Int) ∧ (0 : Int) ≤ NumCode.b.hi) ∧
    (∀ p ∈ ([(0, -128), (3, 127)] : List (Nat × Int)), NumCode.b.lo ≤ p.2 ∧ p.2 ≤ NumCode.b.hi) := by
  refine ⟨by unfold Increasing; decide, by decide, by decide⟩

example : bitGet (bitWrite 2048 [(9, true), (3, false)]) 9 = true ∧
    bitGet (bitWrite 2048 [(9, true), (3, false)]) 3 = false ∧ Increasing [(3, false), (9, true)] := by
  refine ⟨by decide, by decide, by unfold Increasing; decide⟩

example : Increasing ([(0, some 5), (2, none)] : List (Nat × Option Nat)) ∧
    Within ([(0, some 5), (2, none)] : List (Nat × Option Nat)) 3 ∧
    pickleAdds (fun n : Nat => [n + 1]) [(0, some 5), (2, none)] = [(0, [6]), (2, [])] := by
  refine ⟨by unfold Increasing; decide, by unfold Within; decide, by decide⟩

example :
    let doc : List (FieldIn Nat) :=
      [⟨"a", some 1, none, true⟩, ⟨"b", some 2, some (some 9), true⟩, ⟨"c", some 3, none, false⟩,
       ⟨"d", none, none, true⟩, ⟨"e", some 5, some none, true⟩]
    (doc.map (·.name)).Nodup ∧ storedDict doc = [("a", 1), ("b", 9)] ∧
      specStored doc "b" = some 9 ∧ specStored doc "c" = none ∧ specStored doc "e" = none ∧
      perDocAdds [storedValue doc, storedValue ([] : List (FieldIn Nat))] = [(0, [("a", 1), ("b", 9)])] := by
  intro doc
  refine ⟨by decide, by decide, by decide, by decide, by decide, by decide⟩

example : Increasing ([(0, [[1], [2, 3]]), (2, [])] : List (Nat × List Bytes)) ∧
    decodeVarList (encodeVarList [[1], [2, 3]]) = some [[1], [2, 3]] := by
  refine ⟨by unfold Increasing; decide, decodeVarList_encode _⟩

example : multiGet (0 : Nat) [.rows [5, 6], .empty 2, .rows [7]] 3 = .ok 0 ∧
    multiGet (0 : Nat) [.rows [5, 6], .empty 2, .rows [7]] 4 = .ok 7 := ⟨rfl, rfl⟩

end WM.C08
