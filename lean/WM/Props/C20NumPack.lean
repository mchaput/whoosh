import WM.Lemmas.NumPack
import WM.Lemmas.NumPackS16
import WM.Props.C20NumLists
/-! C20 (packed number lists): `GInts` and `Simple16` of `whoosh/util/numlists.py` decode to what
was encoded. -/
namespace WM.C20
open WM.NumLists WM.NumPack

/-- `GInts.write_nums(xs)` is the documented layout: per group of (up to) four numbers one key byte with
    the four 2-bit byte counts, then each number in 1–4 little-endian bytes. -/
theorem gints_layout (xs : List Nat) (h : ∀ x ∈ xs, x < 2 ^ 32) : gWrite xs = some (gLayout xs) := by
  unfold gWrite
  rw [gWriteLoop_layout xs [] h]
  simp

/-- `GInts.read_nums(write_nums(xs))`: every list of numbers below 2^32 (`GInts.maxint`), any
    length (full groups of four and a shorter last group), any unread suffix: the numbers come
    back and the suffix is left unread. -/
theorem gints_roundtrip (xs rest : List Nat) (h : ∀ x ∈ xs, x < 2 ^ 32) :
    ∃ bs, gWrite xs = some bs ∧ gRead xs.length (bs ++ rest) = some (xs, rest) :=
  ⟨gLayout xs, gints_layout xs h, gReadLoop_layout xs rest 0 h⟩

/-- A number above `maxint` anywhere in the list makes `write_nums` raise (`struct.error`): nothing
    is ever silently truncated. -/
theorem gints_rejects (xs : List Nat) (h : ∃ x ∈ xs, 2 ^ 32 ≤ x) : gWrite xs = none := by
  rcases h with ⟨x, hx, hle⟩
  exact gWriteLoop_none xs [] [] 0 0 ⟨x, hx, by omega⟩

example : gWrite [1, 256, 65536, 16777216, 4294967295]
      = some [0xE4, 1, 0, 1, 0, 0, 1, 0, 0, 0, 1, 3, 255, 255, 255, 255]
    ∧ gRead 5 [0xE4, 1, 0, 1, 0, 0, 1, 0, 0, 0, 1, 3, 255, 255, 255, 255, 9]
      = some ([1, 256, 65536, 16777216, 4294967295], [9])
    ∧ gWrite [1, 4294967296] = none
    ∧ gRead 2 [0, 7] = none := by decide

/-- One Simple16 word: whatever layout `_compress` picks for the remaining numbers, it takes at
    least one of them, the word fits 32 bits, and `_decompress` of the word (with the same
    remaining count) yields exactly the numbers taken. -/
theorem simple16_word (xs : List Nat) (value num : Nat) (hne : xs ≠ [])
    (h : s16compress xs = some (value, num)) :
    s16decompress value xs.length = xs.take num ∧ 0 < num ∧ num ≤ xs.length ∧ value < 2 ^ 32 :=
  have hw := s16compress_word xs value num hne h
  ⟨hw.decompress, hw.num_pos, hw.num_le, hw.value_lt⟩

/-- `Simple16.read_nums(write_nums(xs))`: every list of numbers below 2^28 (`Simple16.maxint`)
    is written (some layout always takes the next number), and reading `len(xs)` numbers returns
    them and leaves any suffix unread — for every length, in particular a last word that is only
    partly filled. -/
theorem simple16_roundtrip (xs rest : List Nat) (h : ∀ x ∈ xs, x < 2 ^ 28) :
    ∃ bs, s16write xs = some bs ∧ s16read xs.length (bs ++ rest) = some (xs, rest) :=
  have ⟨bs, hw, hr, _⟩ := s16write_spec xs h
  ⟨bs, hw, hr rest⟩

/-- A number of 2^28 or more anywhere in the list makes `write_nums` raise (the bare `Exception`
    of `_compress`): nothing is silently truncated. -/
theorem simple16_rejects (xs : List Nat) (h : ∃ x ∈ xs, 2 ^ 28 ≤ x) : s16write xs = none := by
  fun_induction s16write xs with
  | case1 => simp at h
  | case3 x t value taken hc _ _ ih =>
    have hw := s16compress_word (x :: t) value taken (List.cons_ne_nil _ _) hc
    obtain ⟨y, hy, hbig⟩ := h
    rw [← List.take_append_drop taken (x :: t), List.mem_append] at hy
    -- the numbers taken are small, so the big one is among those left
    rw [ih ⟨y, hy.resolve_left fun hy => Nat.not_lt.mpr hbig (hw.taken_lt y hy), hbig⟩]
    rfl
  | case2 | case4 | case5 => rfl

/-- `Simple16.get(f, pos, i)` (as repaired) is the `i`-th number of the list written at `pos`:
    whole words are skipped by their layout's count, the number is cut out of its word; for every
    index, in particular the first number of the 2nd, 3rd, … word and a partly filled last word. -/
theorem simple16_get (pre xs rest : List Nat) (h : ∀ x ∈ xs, x < 2 ^ 28) (i : Nat) (hi : i < xs.length) :
    ∃ bs, s16write xs = some bs ∧ s16get ((pre ++ bs ++ rest).drop pre.length) i = some xs[i] := by
  obtain ⟨bs, hw, _, hg⟩ := s16write_spec xs h
  refine ⟨bs, hw, ?_⟩
  rw [List.append_assoc, List.drop_left]
  exact hg rest i hi

example : s16bits.map List.length = s16num ∧ s16bits.length = 16 := by decide

example : s16compress [1, 0, 1] = some (5, 3) ∧ s16decompress 5 3 = [1, 0, 1]
    ∧ s16compress [3, 1] = some (1 * 2 ^ 28 + 3 + 4, 2)
    ∧ s16compress [268435455, 1] = some (15 * 2 ^ 28 + 268435455, 1)
    ∧ s16compress [268435456] = none := by decide

/-- **Delta lists, every codec at once.**  For any codec whose `read_nums ∘ write_nums` round-trips
    on numbers in its range `P`, `read_deltas(write_deltas(xs)) = xs` (suffix left unread) for every
    ascending list (equal neighbours allowed) whose gaps — first element included — are in range:
    the composition of `delta_roundtrip` with the codec's own round trip. -/
theorem deltas_roundtrip (P : Nat → Prop) (write : List Nat → Option (List Nat))
    (read : Nat → List Nat → Option (List Nat × List Nat))
    (hrt : ∀ ds rest, (∀ d ∈ ds, P d) → ∃ bs, write ds = some bs ∧ read ds.length (bs ++ rest) = some (ds, rest))
    (xs rest : List Nat) (hasc : xs.Pairwise (· ≤ ·)) (hP : ∀ d ∈ natDeltas 0 xs, P d) :
    ∃ bs, writeDeltasWith write xs = some bs ∧ readDeltasWith read xs.length (bs ++ rest) = some (xs, rest) := by
  have henc : deltaEncode (xs.map fun (x : Nat) => (x : Int)) = (natDeltas 0 xs).map fun (d : Nat) => (d : Int) :=
    deltaEncodeFrom_asc 0 xs (List.pairwise_cons.mpr ⟨fun _ _ => Nat.zero_le _, hasc⟩)
  obtain ⟨bs, hw, hr⟩ := hrt (natDeltas 0 xs) rest hP
  refine ⟨bs, ?_, ?_⟩
  · unfold writeDeltasWith
    simp only [henc, map_toNat_cast]
    rw [if_pos, hw]
    simp [List.all_eq_true]
  · unfold readDeltasWith
    rw [natDeltas_length] at hr
    rw [hr]
    simp only [Option.map]
    rw [← henc, delta_roundtrip, map_toNat_cast]

/-- `GInts`: ascending doc-id lists with gaps below 2^32 (the ids themselves may be larger). -/
theorem gints_deltas_roundtrip (xs rest : List Nat) (hasc : xs.Pairwise (· ≤ ·))
    (hP : ∀ d ∈ natDeltas 0 xs, d < 2 ^ 32) :
    ∃ bs, writeDeltasWith gWrite xs = some bs ∧ readDeltasWith gRead xs.length (bs ++ rest) = some (xs, rest) :=
  deltas_roundtrip (· < 2 ^ 32) gWrite gRead (fun ds r h => gints_roundtrip ds r h) xs rest hasc hP

/-- `Simple16`: gaps below 2^28. -/
theorem simple16_deltas_roundtrip (xs rest : List Nat) (hasc : xs.Pairwise (· ≤ ·))
    (hP : ∀ d ∈ natDeltas 0 xs, d < 2 ^ 28) :
    ∃ bs, writeDeltasWith s16write xs = some bs ∧ readDeltasWith s16read xs.length (bs ++ rest) = some (xs, rest) :=
  deltas_roundtrip (· < 2 ^ 28) s16write s16read (fun ds r h => simple16_roundtrip ds r h) xs rest hasc hP

/-- `Varints`: every ascending list. -/
theorem varints_deltas_roundtrip (xs rest : List Nat) (hasc : xs.Pairwise (· ≤ ·)) :
    ∃ bs, writeDeltasWith (fun l => some (writeVarints l)) xs = some bs
      ∧ readDeltasWith readVarints xs.length (bs ++ rest) = some (xs, rest) :=
  deltas_roundtrip (fun _ => True) (fun l => some (writeVarints l)) readVarints
    (fun ds r _ => ⟨_, rfl, varints_roundtrip ds r⟩) xs rest hasc (fun _ _ => trivial)

/-- `ByteEncoding`/`UShortEncoding`/`UIntEncoding` (any width): gaps inside the width. -/
theorem fixed_deltas_roundtrip (size : Nat) (xs rest : List Nat) (hasc : xs.Pairwise (· ≤ ·))
    (hP : ∀ d ∈ natDeltas 0 xs, d < 256 ^ size) :
    ∃ bs, writeDeltasWith (writeFixed size) xs = some bs
      ∧ readDeltasWith (readFixed size) xs.length (bs ++ rest) = some (xs, rest) :=
  deltas_roundtrip (· < 256 ^ size) (writeFixed size) (readFixed size)
    (fun ds r h => by
      obtain ⟨bs, hw, _, hr⟩ := fixed_roundtrip size ds r h
      exact ⟨bs, hw, hr⟩) xs rest hasc hP

example : natDeltas 0 [3, 10, 10, 70000] = [3, 7, 0, 69990]
    ∧ writeDeltasWith gWrite [3, 10, 10, 70000] = some [0x80, 3, 7, 0, 0x66, 0x11, 0x01]
    ∧ readDeltasWith gRead 4 [0x80, 3, 7, 0, 0x66, 0x11, 0x01, 9] = some ([3, 10, 10, 70000], [9])
    ∧ writeDeltasWith gWrite [5, 4] = none := by decide

end WM.C20
