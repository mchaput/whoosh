import WM.Lemmas.CodecPool
import WM.Props.C10
/-!
# C10 — value codecs of `formats.py` and term vectors

`values_X`: what `X.word_values` yields for a token stream is, for every distinct token text in
order of first occurrence, the frequency / weight / encoded value whose decoding is exactly the
projection of the occurrences of that text (`postingSpec`), gaps and repeats in positions included.
Then vectors (`vector_items`, `vector_transpose*`), the path documents → pool → posting list of a term
(`doc_post_spec`, `term_postings_spec`), the value bytes against the block codec (`values_ok`) and
the composition down to decoded blocks (`postings_end_to_end`).
-/
namespace WM.Codec

/-- Element-wise relation between two lists of the same length. -/
inductive Forall2 {α β : Type} (R : α → β → Prop) : List α → List β → Prop
  | nil : Forall2 R [] []
  | cons {a b as bs} : R a b → Forall2 R as bs → Forall2 R (a :: as) (b :: bs)

/-- A pool post carries what the spec says about (term, document): document number, weight
    (with the document boost) and a value that decodes to the occurrences. -/
def PostMatches (fmt : Fmt) (p : Post) (q : Int × PostingSpec) : Prop :=
  p.docnum = q.1 ∧ p.weight = q.2.weight ∧ valueAgrees fmt p.value q.2

end WM.Codec

namespace WM.C10
open WM.Codec

/-- Terms listed by `word_values`: the distinct token texts, each once. -/
theorem word_values_terms (f32 : Rat → Rat) (fmt : Fmt) (fb : Rat) (toks : List Token) :
    (wordValues f32 fmt fb toks).map (·.1) = distinctTexts toks ∧ (distinctTexts toks).Nodup ∧
      ∀ w, w ∈ distinctTexts toks ↔ ∃ t ∈ toks, t.text = w :=
  ⟨wordValues_fst f32 fmt fb toks, nodup_distinctTexts toks, mem_distinctTexts toks⟩

/-- Every format at once: an item of `word_values` carries the frequency, the weight and a value
    that decodes to the posting computed from the occurrences of its term. -/
theorem values_all (f32 : Rat → Rat) (fmt : Fmt) (fb : Rat) (toks : List Token) :
    ∀ x ∈ wordValues f32 fmt fb toks,
      x.2.1 = (postingSpec fmt fb (occ toks x.1)).freq ∧
      x.2.2.1 = (postingSpec fmt fb (occ toks x.1)).weight ∧
      valueAgrees fmt x.2.2.2 (postingSpec fmt fb (occ toks x.1)) := by
  intro x hx
  rw [wordValues_eq, List.mem_map] at hx
  obtain ⟨w, _, rfl⟩ := hx
  exact itemOf_spec f32 fmt fb (occ toks w)

theorem values_existence (f32 : Rat → Rat) (fb : Rat) (toks : List Token) :
    ∀ x ∈ wordValues f32 .existence fb toks,
      x.2.1 = (postingSpec .existence fb (occ toks x.1)).freq ∧
      x.2.2.1 = (postingSpec .existence fb (occ toks x.1)).weight ∧
      valueAgrees .existence x.2.2.2 (postingSpec .existence fb (occ toks x.1)) :=
  values_all f32 .existence fb toks

theorem values_frequency (f32 : Rat → Rat) (fb : Rat) (toks : List Token) :
    ∀ x ∈ wordValues f32 .frequency fb toks,
      x.2.1 = (postingSpec .frequency fb (occ toks x.1)).freq ∧
      x.2.2.1 = (postingSpec .frequency fb (occ toks x.1)).weight ∧
      valueAgrees .frequency x.2.2.2 (postingSpec .frequency fb (occ toks x.1)) :=
  values_all f32 .frequency fb toks

theorem values_positions (f32 : Rat → Rat) (fb : Rat) (toks : List Token) :
    ∀ x ∈ wordValues f32 .positions fb toks,
      x.2.1 = (postingSpec .positions fb (occ toks x.1)).freq ∧
      x.2.2.1 = (postingSpec .positions fb (occ toks x.1)).weight ∧
      valueAgrees .positions x.2.2.2 (postingSpec .positions fb (occ toks x.1)) :=
  values_all f32 .positions fb toks

theorem values_characters (f32 : Rat → Rat) (fb : Rat) (toks : List Token) :
    ∀ x ∈ wordValues f32 .characters fb toks,
      x.2.1 = (postingSpec .characters fb (occ toks x.1)).freq ∧
      x.2.2.1 = (postingSpec .characters fb (occ toks x.1)).weight ∧
      valueAgrees .characters x.2.2.2 (postingSpec .characters fb (occ toks x.1)) :=
  values_all f32 .characters fb toks

theorem values_positionBoosts (f32 : Rat → Rat) (fb : Rat) (toks : List Token) :
    ∀ x ∈ wordValues f32 .positionBoosts fb toks,
      x.2.1 = (postingSpec .positionBoosts fb (occ toks x.1)).freq ∧
      x.2.2.1 = (postingSpec .positionBoosts fb (occ toks x.1)).weight ∧
      valueAgrees .positionBoosts x.2.2.2 (postingSpec .positionBoosts fb (occ toks x.1)) :=
  values_all f32 .positionBoosts fb toks

/-- `CharacterBoosts` (with the repaired weight `summedboost * field_boost`). -/
theorem values_characterBoosts (f32 : Rat → Rat) (fb : Rat) (toks : List Token) :
    ∀ x ∈ wordValues f32 .characterBoosts fb toks,
      x.2.1 = (postingSpec .characterBoosts fb (occ toks x.1)).freq ∧
      x.2.2.1 = (postingSpec .characterBoosts fb (occ toks x.1)).weight ∧
      valueAgrees .characterBoosts x.2.2.2 (postingSpec .characterBoosts fb (occ toks x.1)) :=
  values_all f32 .characterBoosts fb toks

/-- Non-vacuity: a stream with a repeated term, a gap in positions and a boost. -/
example :
    let toks : List Token := [⟨"b", 0, 0, 1, 1⟩, ⟨"a", 1, 2, 3, 2⟩, ⟨"b", 5, 9, 10, 1/2⟩]
    distinctTexts toks = ["b", "a"] ∧
    (wordValues id .positions 2 toks).map (fun x => (x.1, x.2.1, x.2.2.1)) = [("b", 2, 3), ("a", 1, 4)] ∧
    (postingSpec .positions 2 (occ toks "b")).positions = [0, 5] := by
  decide +kernel

theorem toBytes_itemOf (tail : FValue → Bytes) (f32 : Rat → Rat) (fmt : Fmt) (fb : Rat) (os : List Token) :
    ValueOk fmt.fixedSize ((itemOf f32 fmt fb os).2.2.toBytes tail) := by
  cases fmt
  · rfl
  · rfl
  all_goals exact List.cons_ne_nil _ _

/-- **Vector of a document** as written by `add_document`: one item per distinct term, ordered by
    term, each carrying the weight and the value of that term's posting for this document. -/
theorem vector_items (f32 : Rat → Rat) (vfmt : Fmt) (fb : Rat) (toks : List Token) :
    (vectorItems f32 vfmt fb toks).map (·.1) = (specVector vfmt fb toks).map (·.1) ∧
    ((vectorItems f32 vfmt fb toks).map (·.1)).Pairwise (· ≤ ·) ∧
    ((vectorItems f32 vfmt fb toks).map (·.1)).Nodup ∧
    ∀ x ∈ vectorItems f32 vfmt fb toks,
      x.2.1 = (postingSpec vfmt fb (occ toks x.1)).weight ∧
      valueAgrees vfmt x.2.2 (postingSpec vfmt fb (occ toks x.1)) := by
  have hmap : (vectorItems f32 vfmt fb toks).map (·.1)
      = (distinctTexts toks).mergeSort (fun a b => decide (a ≤ b)) := by
    unfold vectorItems
    rw [List.map_mergeSort (s := fun a b => decide (a ≤ b)) (fun a _ b _ => rfl)]
    congr 1
    rw [List.map_map]
    exact (word_values_terms f32 vfmt fb toks).1
  refine ⟨?_, ?_, ?_, ?_⟩
  · rw [hmap]; simp [specVector, Function.comp_def]
  · rw [hmap]
    have := List.pairwise_mergeSort (le := fun (a b : String) => decide (a ≤ b))
      (fun a b c h1 h2 => by simp only [decide_eq_true_eq] at *; exact String.le_trans h1 h2)
      (fun a b => by simp only [Bool.or_eq_true, decide_eq_true_eq]; exact String.le_total a b)
      (distinctTexts toks)
    exact this.imp (fun h => by simpa using h)
  · rw [hmap]
    exact (List.mergeSort_perm _ _).nodup_iff.mpr (nodup_distinctTexts toks)
  · intro x hx
    obtain ⟨w, _, rfl⟩ := (mem_vectorItems f32 vfmt fb toks x).mp hx
    exact (itemOf_spec f32 vfmt fb (occ toks w)).2

/-- **Vector = transposed postings.**  For a document `d` of the collection and a term `t`:
    `d`'s vector lists `t` iff `t`'s posting list lists `d`, and then both carry the posting
    computed from the same occurrences (the posting list additionally scaled by the document's
    boost). -/
theorem vector_transpose (fmt : Fmt) (fb : Rat) (docs : List DocIn) (d : DocIn) (hd : d ∈ docs)
    (hdistinct : docs.Pairwise (fun a b => a.docnum ≠ b.docnum)) (t : String) :
    ((∃ p, (t, p) ∈ specVector fmt fb d.toks) ↔ (∃ q, (d.docnum, q) ∈ specPostings fmt fb docs t)) ∧
    (∀ p, (t, p) ∈ specVector fmt fb d.toks →
      p = postingSpec fmt fb (occ d.toks t) ∧
      (d.docnum, { p with weight := p.weight * d.boost }) ∈ specPostings fmt fb docs t) ∧
    (∀ q, (d.docnum, q) ∈ specPostings fmt fb docs t →
      (t, { q with weight := (postingSpec fmt fb (occ d.toks t)).weight }) ∈ specVector fmt fb d.toks) := by
  -- both list `t` for `d` exactly when `t` occurs in `d`, with the posting of its occurrences
  have hvec : ∀ p, (t, p) ∈ specVector fmt fb d.toks ↔
      ((occ d.toks t).isEmpty = false ∧ p = postingSpec fmt fb (occ d.toks t)) := by
    intro p
    rw [occ_isEmpty_eq_false_iff]
    simp only [specVector, List.mem_map, List.mem_mergeSort, Prod.mk.injEq]
    exact ⟨fun ⟨w, hw, e1, e2⟩ => by subst e1; exact ⟨hw, e2.symm⟩, fun ⟨hw, e⟩ => ⟨t, hw, rfl, e.symm⟩⟩
  have hpost : ∀ q, (d.docnum, q) ∈ specPostings fmt fb docs t ↔
      ((occ d.toks t).isEmpty = false ∧ q = { postingSpec fmt fb (occ d.toks t) with
          weight := (postingSpec fmt fb (occ d.toks t)).weight * d.boost }) := by
    intro q
    simp only [specPostings, List.mem_filterMap]
    constructor
    · rintro ⟨d', hd', hq⟩
      cases he : (occ d'.toks t).isEmpty with
      | true => simp only [he, if_true, reduceCtorEq] at hq
      | false =>
        simp only [he, Bool.false_eq_true, if_false, Option.some.injEq, Prod.mk.injEq] at hq
        cases eq_of_pairwise_ne (·.docnum) hdistinct hd' hd hq.1
        exact ⟨he, hq.2.symm⟩
    · rintro ⟨hne, rfl⟩
      exact ⟨d, hd, by simp only [hne, Bool.false_eq_true, if_false]⟩
  refine ⟨?_, ?_, ?_⟩
  · constructor
    · rintro ⟨p, hp⟩
      exact ⟨_, (hpost _).mpr ⟨((hvec p).mp hp).1, rfl⟩⟩
    · rintro ⟨q, hq⟩
      exact ⟨_, (hvec _).mpr ⟨((hpost q).mp hq).1, rfl⟩⟩
  · intro p hp
    obtain ⟨hne, rfl⟩ := (hvec p).mp hp
    exact ⟨rfl, (hpost _).mpr ⟨hne, rfl⟩⟩
  · intro q hq
    obtain ⟨hne, rfl⟩ := (hpost q).mp hq
    exact (hvec _).mpr ⟨hne, rfl⟩

example :
    let d0 : DocIn := ⟨0, 1, [⟨"b", 0, 0, 1, 1⟩, ⟨"a", 1, 2, 3, 1⟩]⟩
    let d1 : DocIn := ⟨1, 2, [⟨"b", 0, 0, 1, 1⟩, ⟨"b", 3, 4, 5, 1⟩]⟩
    d0 ∈ [d0, d1] ∧ [d0, d1].Pairwise (fun a b => a.docnum ≠ b.docnum) ∧
    distinctTexts d0.toks = ["b", "a"] ∧
    (specPostings .positions 1 [d0, d1] "b").map (fun x => (x.1, x.2.positions))
      = [(0, [0]), (1, [0, 3])] := by
  intro d0 d1
  refine ⟨by simp, by simp [d0, d1], by decide +kernel, by decide +kernel⟩

/-- What one document contributes to the posting list of term `w` (model: its `word_values` item,
    weight times the document's boost) against the spec: nothing iff the term does not occur in
    the document, otherwise a post that matches `postingSpec` of the occurrences. -/
theorem doc_post_spec (f32 : Rat → Rat) (fmt : Fmt) (fb : Rat) (w : String) (d : DocIn) :
    ((occ d.toks w).isEmpty = true → docPost f32 fmt fb w d = none) ∧
    ((occ d.toks w).isEmpty = false → ∃ p, docPost f32 fmt fb w d = some p ∧ p.term = w ∧
      PostMatches fmt p (d.docnum, { postingSpec fmt fb (occ d.toks w) with
        weight := (postingSpec fmt fb (occ d.toks w)).weight * d.boost })) := by
  obtain ⟨_, hw, hv⟩ := itemOf_spec f32 fmt fb (occ d.toks w)
  rw [docPost_eq]
  constructor
  · intro he; rw [he]; rfl
  · intro he; rw [he]; exact ⟨_, rfl, rfl, rfl, by rw [hw], hv⟩

/-- **Term postings, model = spec.**  The posting list of a term as it reaches the postings writer
    (`add_document` posts → sorted pool → `add_postings` grouping; documents in ascending number
    order) lists exactly the documents `specPostings` lists, in the same order, each post matching
    the spec posting (document number, weight including the document boost, decoded value). -/
theorem term_postings_spec (f32 : Rat → Rat) (fmt : Fmt) (fb : Rat) (docs : List DocIn) (w : String)
    (hs : docs.Pairwise (fun a b => a.docnum < b.docnum)) :
    termPostings f32 fmt fb docs w = docs.filterMap (docPost f32 fmt fb w) ∧
    Forall2 (PostMatches fmt) (termPostings f32 fmt fb docs w) (specPostings fmt fb docs w) := by
  have heq := termPostings_eq f32 fmt fb docs w hs
  refine ⟨heq, ?_⟩
  rw [heq]
  unfold specPostings
  clear heq hs
  induction docs with
  | nil => exact Forall2.nil
  | cons d docs ih =>
    simp only [List.filterMap_cons]
    obtain ⟨h1, h2⟩ := doc_post_spec f32 fmt fb w d
    cases he : (occ d.toks w).isEmpty with
    | true => simp only [h1 he, if_true]; exact ih
    | false =>
      obtain ⟨p, hp, _, hm⟩ := h2 he
      simp only [hp, Bool.false_eq_true, if_false]
      exact Forall2.cons hm ih

/-- **Vector = transposed postings, on the model.**  For a document `d` of a collection given in
    ascending document-number order, with the vector stored in the posting format: an item
    `(t, weight, value)` of `d`'s vector (`vectorItems`, what `add_vector_items` receives) occurs
    in the posting list of `t` (`termPostings`, what `add_postings` receives) at `d.docnum` with
    the same value and the weight times `d`'s boost — and every post of `t` for `d.docnum` comes
    from such a vector item.  (`add_document` applies the document boost to postings only; this is
    the one difference between a vector and the transposed postings.) -/
theorem vector_transpose_model (f32 : Rat → Rat) (fmt : Fmt) (fb : Rat) (docs : List DocIn) (d : DocIn)
    (hd : d ∈ docs) (hs : docs.Pairwise (fun a b => a.docnum < b.docnum)) (t : String) :
    (∀ wt v, (t, wt, v) ∈ vectorItems f32 fmt fb d.toks →
      ({ term := t, docnum := d.docnum, weight := wt * d.boost, value := v } : Post)
        ∈ termPostings f32 fmt fb docs t) ∧
    (∀ p ∈ termPostings f32 fmt fb docs t, p.docnum = d.docnum →
      ∃ wt, (t, wt, p.value) ∈ vectorItems f32 fmt fb d.toks ∧ p.weight = wt * d.boost) := by
  rw [termPostings_eq f32 fmt fb docs t hs]
  constructor
  · intro wt v hitem
    obtain ⟨w, hw, he⟩ := (mem_vectorItems f32 fmt fb d.toks _).mp hitem
    cases he
    refine List.mem_filterMap.mpr ⟨d, hd, ?_⟩
    rw [docPost_eq, (occ_isEmpty_eq_false_iff _ _).mpr hw]; rfl
  · intro p hp hdn
    obtain ⟨d', hd', hp'⟩ := List.mem_filterMap.mp hp
    obtain ⟨he, rfl⟩ := docPost_eq_some hp'
    cases eq_of_pairwise_ne (·.docnum) (hs.imp Int.ne_of_lt) hd' hd hdn
    exact ⟨_, (mem_vectorItems f32 fmt fb d.toks _).mpr ⟨t, (occ_isEmpty_eq_false_iff _ _).mp he, rfl⟩, rfl⟩

/-- Value shapes: what `word_values` of each format puts into the posting value. -/
theorem word_values_shape (f32 : Rat → Rat) (fmt : Fmt) (fb : Rat) (toks : List Token) :
    ∀ x ∈ wordValues f32 fmt fb toks,
      match fmt with
      | .existence => x.2.2.2 = .empty
      | .frequency => ∃ n, x.2.2.2 = .freq n
      | _ => x.2.2.2 ≠ .empty ∧ ∀ n, x.2.2.2 ≠ .freq n := by
  intro x hx
  rw [wordValues_eq, List.mem_map] at hx
  obtain ⟨w, _, rfl⟩ := hx
  cases fmt <;> simp [itemOf, encodePositions, encodeChars, encodePosBoosts, encodeCharBoosts]

/-- **Formats ↔ block codec: `ValuesOk` holds for every shipped format.**  The value bytes of the
    posts of a term (`pack_uint` header + pickled rest) are admissible for a block writer whose
    `fixedsize` is the format's `fixed_value_size()`: none for `Existence`, exactly 4 bytes for
    `Frequency`, never empty for the variable-size formats. -/
theorem values_ok (f32 : Rat → Rat) (fmt : Fmt) (fb : Rat) (docs : List DocIn) (w : String)
    (tail : FValue → Bytes) (lenOf : Int → Option Nat)
    (hs : docs.Pairwise (fun a b => a.docnum < b.docnum)) :
    ValuesOk fmt.fixedSize (toPostings tail lenOf (termPostings f32 fmt fb docs w)) ∧
    InlineValuesOk fmt.fixedSize (toPostings tail lenOf (termPostings f32 fmt fb docs w)) := by
  apply valuesOk_of_forall
  intro q hq
  simp only [toPostings, List.mem_map] at hq
  obtain ⟨p, hp, rfl⟩ := hq
  rw [termPostings_eq f32 fmt fb docs w hs, List.mem_filterMap] at hp
  obtain ⟨d, _, hp'⟩ := hp
  rw [(docPost_eq_some hp').2]
  exact toBytes_itemOf tail f32 fmt fb _

/-- **End to end for one term: documents → postings → blocks → entries.**  Writing the posts of
    term `w` (from the documents' `word_values`, through the pool and `add_postings`) with a block
    writer configured for the format, and decoding the blocks, gives back exactly those posts
    (ids, stored weights, value bytes) — and the posts match `specPostings`.  `ValuesOk` is
    discharged by `values_ok`, not assumed. -/
theorem postings_end_to_end (c : Cfg Int (List Int)) (fmt : Fmt) (fb : Rat) (docs : List DocIn) (w : String)
    (tail : FValue → Bytes) (lenOf : Int → Option Nat)
    (hids : c.ids = docIds) (hfs : c.fixedsize = fmt.fixedSize) (hbl : 1 ≤ c.blocklimit)
    (hs : docs.Pairwise (fun a b => a.docnum < b.docnum))
    (hne : termPostings c.f32 fmt fb docs w ≠ [])
    (hni : c.inlinelimit ≤ (termPostings c.f32 fmt fb docs w).length ∨
      c.blocklimit < (termPostings c.f32 fmt fb docs w).length)
    (hvalid : ∀ d ∈ docs, 0 ≤ d.docnum ∧ d.docnum < 4294967296)
    (hu : LengthsUniform (toPostings tail lenOf (termPostings c.f32 fmt fb docs w))) :
    ∃ bs b ti, writeTerm c (toPostings tail lenOf (termPostings c.f32 fmt fb docs w)) = .ok (bs ++ [b], ti) ∧
      decodeBlocks c.ids c.fixedsize (bs ++ [b])
        = .ok ((toPostings tail lenOf (termPostings c.f32 fmt fb docs w)).map (expected c)) ∧
      Forall2 (PostMatches fmt) (termPostings c.f32 fmt fb docs w) (specPostings fmt fb docs w) := by
  have hvok := (values_ok c.f32 fmt fb docs w tail lenOf hs).1
  rw [← hfs] at hvok
  have hval : ∀ p ∈ toPostings tail lenOf (termPostings c.f32 fmt fb docs w), c.ids.valid p.id = true := by
    intro q hq
    simp only [toPostings, List.mem_map] at hq
    obtain ⟨p, hp, rfl⟩ := hq
    rw [termPostings_eq c.f32 fmt fb docs w hs, List.mem_filterMap] at hp
    obtain ⟨d, hd, hp'⟩ := hp
    rw [hids, (docPost_eq_some hp').2]
    simpa [docIds] using hvalid d hd
  obtain ⟨bs, b, ti, h1, h2, _⟩ := blocks_roundtrip c (hids ▸ docIds_lawful) _ hbl
    (by simpa [toPostings] using hne) (by simpa [toPostings] using hni) hval hvok hu
  exact ⟨bs, b, ti, h1, h2, (term_postings_spec c.f32 fmt fb docs w hs).2⟩

example :
    let d0 : DocIn := ⟨0, 1, [⟨"b", 0, 0, 1, 1⟩, ⟨"a", 1, 2, 3, 1⟩]⟩
    let d1 : DocIn := ⟨1, 2, [⟨"b", 0, 0, 1, 1⟩, ⟨"b", 3, 4, 5, 1⟩]⟩
    [d0, d1].Pairwise (fun a b => a.docnum < b.docnum) ∧
    ([d0, d1].filterMap (docPost id .frequency 1 "b")).map (fun p => (p.docnum, p.weight, p.value))
      = [(0, 1, .freq 1), (1, 4, .freq 2)] ∧
    (FValue.freq 2).toBytes (fun _ => []) = [0, 0, 0, 2] := by
  intro d0 d1
  refine ⟨by simp [d0, d1], by decide +kernel, by decide⟩

end WM.C10
