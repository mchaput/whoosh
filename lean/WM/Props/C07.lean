import WM.Lemmas.IndexStats
import WM.Lemmas.IndexUnique
/-!
# C07 — deletes, updates and cancel have exact, durable semantics

Model: `WM/Model/Index.lean` (SegmentWriter & co.), specification: `WM/Spec/Dict.lean` (an index is
a dictionary of live documents).  `lockstep` runs any number of successive writer sessions on both.
-/
namespace WM.C07
open WM.Dict WM.Index

/-- **Refinement.** For every history of writer sessions — any calls (`add_document`,
`update_document`, `delete_document`, `delete_by_term`, `delete_by_query`, `add_field`,
`remove_field`; failing calls included), each session ended by `commit` under any merge policy
that only re-arranges segments (NO_MERGE, MERGE_SMALL, OPTIMIZE, custom), by `commit(CLEAR)` or
by `cancel` — started from a well-formed index that holds the documents of a dictionary state:
no commit raises, the index stays well-formed, and it holds exactly the documents of the
dictionary (same schema, same visible documents as multisets; in particular deleted documents are
in no read function's output) and `doc_count()` is their number.
Side conditions (`HistOK`): each `update_document` is unambiguous (`Unambiguous`: at most one live
committed document per unique term — see `update_all_full`), added field names are fresh.
Un-delete (`delete_document(n, delete=False)`) is covered: it restores the document at `n`. -/
theorem refines_dict (t : Toc) (sp : State) (hwf : t.WF) (h : Rel t sp)
    (hist : List (List Op × Ending × SEnd)) (hok : HistOK t sp hist) :
    ∃ t' sp', lockstep t sp hist = .ok (t', sp') ∧
      t.history (hist.map (fun x => (x.1, x.2.1))) = .ok t' ∧
      t'.WF ∧ sp'.schema = t'.schema ∧ t'.content.Perm sp'.docs ∧ t'.docCount = sp'.docs.length := by
  obtain ⟨⟨t', sp'⟩, h1, wf', rel'⟩ := history_sim t sp hwf h hist hok
  refine ⟨t', sp', h1, ?_, wf', rel'.schema, rel'.docs, ?_⟩
  · rw [← lockstep_fst t sp hist, h1]; rfl
  · rw [Toc.docCount_eq t' wf', rel'.docs.length_eq]

/-- The same for one call: whatever the client calls on an open writer, the pending state of the
    writer and of the dictionary session stay in correspondence. -/
theorem refines_dict_step (w : Writer) (ss : Sess) (h : SRel w ss) (hwf : w.WF) (op : Op) (hok : OpOK w ss op) :
    SRel (w.step op).1 (ss.step (w.specOp op)) ∧ (w.step op).1.WF :=
  step_sim w ss hwf h op hok

/-- **delete_by_term / delete_by_query are exact.** The call succeeds, returns the number of live
documents matching the query, removes exactly those from the live documents (in place: order
kept), and touches nothing else.  For a term query the count needs the (codec) invariant that a
document has at most one posting per term. -/
theorem delete_exact (w : Writer) (hwf : w.WF) (q : Query)
    (hone : ∀ f t, q = .term f t → ∀ x ∈ liveGlobal w.segs 0, termCount w.schema f t x.1 ≤ 1) :
    ∃ w', w.deleteByQuery q = .ok (w', ((contentOf w.schema w.segs).filter (denote q)).length) ∧
      contentOf w'.schema w'.segs = (contentOf w.schema w.segs).filter (fun d => !denote q d) ∧
      w'.schema = w.schema ∧ w'.ndocs = w.ndocs ∧ w'.pool = w.pool ∧
      w'.segs.map Seg.docs = w.segs.map Seg.docs ∧ w'.segs.map Seg.posts = w.segs.map Seg.posts := by
  obtain ⟨w', h1, f1, hc⟩ := Writer.deleteMany_matching w _ (denote q) (docsForQuery_selects w.schema q w.segs hwf.segs)
  exact ⟨w', by simp only [Writer.deleteByQuery, h1, Except.map, docsForQuery_length w.schema q w.segs hwf.segs hone],
    hc, f1.schema, f1.ndocs, f1.pool, f1.docs, f1.posts⟩

/-- **delete_document(n)**: a valid number removes exactly the document at `n` (nothing when it
    was deleted already); an invalid one raises and changes nothing. -/
theorem delete_document_exact (w : Writer) (n : Nat) :
    (n < docCountAllSegs w.segs →
      ∃ w', w.deleteDocument n true = .ok w' ∧
        liveGlobal w'.segs 0 = (liveGlobal w.segs 0).filter (fun p => p.2 != n)) ∧
    (¬ n < docCountAllSegs w.segs → w.deleteDocument n true = .error .noSuchDoc) := by
  refine ⟨fun h => ?_, fun h => by rw [Writer.deleteDocument_eq, if_neg h]⟩
  obtain ⟨w', h1, _, l1⟩ := Writer.deleteDocument_ok w n h
  exact ⟨w', h1, l1⟩

/-- **un-delete.** For a valid number `delete_document(n, delete=False)` succeeds, touches only the
deleted sets, changes the liveness of no other document and makes the document at `n` live again;
when it was not deleted nothing changes at all. -/
theorem undelete (w : Writer) (hwf : w.WF) (n : Nat) (h : n < docCountAllSegs w.segs) :
    ∃ w', w.deleteDocument n false = .ok w' ∧ Frame w w' ∧
      (liveGlobal w'.segs 0).filter (fun p => p.2 != n) = (liveGlobal w.segs 0).filter (fun p => p.2 != n) ∧
      (∀ d, docAt w.segs n = some d → (d, n) ∈ liveGlobal w'.segs 0) ∧
      (isDeletedG w.segs n = false → w' = w) :=
  have hnd : ∀ s ∈ w.segs, s.deleted.Nodup := fun s hs => (hwf.segs s hs).delNodup
  ⟨_, by rw [Writer.deleteDocument_eq, if_pos h], Frame.deleteAt w n false, (liveGlobal_undeleteAt w.segs n h hnd).1,
    (liveGlobal_undeleteAt w.segs n h hnd).2, fun hg => by rw [deleteAt_of_eq w.segs n false hg]⟩

/-- **cancel is the identity** — whatever the cancelled writer did (deletions included).
*Definitional*: the model's `Toc.session … .cancel` returns the TOC it started from by definition
(a writer's changes live in the `Writer` value, which a cancel discards), so this theorem only
records that modelling decision; that the real `cancel()` leaves TOC, segments and deleted sets
untouched is what the check compares (dump before/after every cancelled session). -/
theorem cancel_identity (t : Toc) (ops : List Op) : t.session ops .cancel = .ok t := rfl

/-- **unique_invariant.** An index maintained under the key discipline (`HistDisc`: keyed documents
are written with `update_document`, every key at most once per writer — cancelled writers
included —, `add_document` only for documents without key terms; `K` says which (field, term)
pairs are keys, every written document carries exactly its own unique terms as key terms) holds,
after every commit, at most one live document per key; every `update_document` of such a history
is unambiguous, so the history also satisfies `refines_dict` (`HistOK`) and the index holds exactly
the dictionary's documents.  Scope: `HistDisc` admits the *plain* calls only (add, update, delete
by number / by query); a history with an un-delete (can resurrect a second document of a key) or a
schema change is outside this theorem.  The conclusion is "at most one live document per key" —
a key whose document was deleted has none. -/
theorem unique_invariant (K : Nat → Nat → Bool) (t : Toc) (sp : State) (hwf : t.WF) (h : Rel t sp)
    (hinv : KeyInv K sp.docs) (hist : List (List Op × Ending × SEnd)) (hd : HistDisc K t sp hist) :
    HistOK t sp hist ∧ ∃ t' sp', lockstep t sp hist = .ok (t', sp') ∧ t'.WF ∧ t'.content.Perm sp'.docs ∧
      KeyInv K t'.content := by
  obtain ⟨hok, ⟨t', sp'⟩, h1, wf', rel', inv', _⟩ := history_unique K t sp hwf h hinv hist hd
  exact ⟨hok, t', sp', h1, wf', rel'.docs, inv'.perm rel'.docs.symm⟩

/-- **unique_keys.** The instance for the schema's own unique fields (`K f _ := sc.isUnique f`):
an index whose content satisfies the specification's `UniqueKeys` and which is maintained under the
key discipline satisfies `UniqueKeys` (for its unchanged schema) after every commit. -/
theorem unique_keys (t : Toc) (sp : State) (hwf : t.WF) (h : Rel t sp) (huk : UniqueKeys sp.schema sp.docs)
    (hist : List (List Op × Ending × SEnd)) (hd : HistDisc (fun f _ => sp.schema.isUnique f) t sp hist) :
    ∃ t' sp', lockstep t sp hist = .ok (t', sp') ∧ t'.WF ∧ t'.schema = t.schema ∧ t'.content.Perm sp'.docs ∧
      UniqueKeys t'.schema t'.content := by
  obtain ⟨_, ⟨t', sp'⟩, h1, wf', rel', inv', hs⟩ := history_unique _ t sp hwf h huk hist hd
  have hsc : t'.schema = sp.schema := by rw [← rel'.schema, hs]
  refine ⟨t', sp', h1, wf', by rw [hsc, h.schema], rel'.docs, ?_⟩
  rw [hsc]
  exact inv'.perm rel'.docs.symm

/-- **postings_exact.** The posting read path of a committed index: `reader.postings(f, t)` with
the deleted-documents filter (`Toc.postingDocs`, what `Term(f, t)` searches iterate) yields exactly
the global numbers of the live documents whose visible data carry the term — never a deleted
document, never a document of a removed field, and every live carrier. -/
theorem postings_exact (t : Toc) (hwf : t.WF) (f tm n : Nat) :
    n ∈ t.postingDocs f tm ↔ ∃ q ∈ liveGlobal t.segs 0, q.2 = n ∧ (restrict t.schema q.1).hasTerm f tm = true :=
  mem_docsForQuery_term t.schema f tm t.segs hwf n

/-- The full statement about `update_document` ("deletes *every* committed document with the
    same unique value"), i.e. `refines_dict_step` without the `Unambiguous` side condition. -/
def update_all_full : Prop :=
  ∀ (w : Writer) (ss : Sess) (d : DocRec), SRel w ss → w.WF →
    SRel (w.step (.update d)).1 (ss.step (w.specOp (.update d)))

/-! ### the witness against `update_all_full`, and non-vacuity of the theorems above -/

namespace Witness

def sc : Schema := { fields := [0, 1], uniques := [1] }
/-- a document whose unique field 1 carries key term 7 -/
def keyed (key st : Nat) : DocRec :=
  { key := key, fields := [{ fld := 1, stored := some st, toks := [⟨7, 1, 0⟩], len := 0, col := none, vec := none,
                             ukey := some 7 }] }
def plain (key t : Nat) : DocRec :=
  { key := key, fields := [{ fld := 0, stored := none, toks := [⟨t, 1, 0⟩, ⟨t + 1, 2, 0⟩], len := 3, col := none,
                             vec := none, ukey := none }] }

/-- two live committed documents with the same key (written by two `add_document` calls) -/
def seg : Seg := { docs := [keyed 0 10, keyed 1 11], posts := [⟨1, 7, 0, 1, 0⟩, ⟨1, 7, 1, 1, 0⟩], deleted := [] }
def w : Writer := { schema := sc, segs := [seg], gen := 1, ndocs := [], pool := [], added := false }
def ss : Sess := { schema := sc, committed := [keyed 0 10, keyed 1 11], fresh := [] }

theorem seg_wf : seg.WF := ⟨by decide, by decide, by decide +kernel, by decide +kernel⟩
theorem w_wf : w.WF := ⟨List.forall_mem_singleton.2 seg_wf, by decide⟩
theorem w_srel : SRel w ss := ⟨rfl, by decide +kernel, rfl, by decide, fun _ => rfl⟩

end Witness

/-- `update_document` deletes only the *first* live posting of the key (`first_id`): with two live
    documents carrying the key, one survives, while the specification deletes both. -/
theorem update_all_full_false : ¬ update_all_full := by
  intro h
  have h1 := (h Witness.w Witness.ss (Witness.keyed 2 12) Witness.w_srel Witness.w_wf).committed
  revert h1
  decide +kernel

/-- non-vacuity of `refines_dict_step`: an unambiguous update (one live document with the key). -/
example : ∃ w ss d, SRel w ss ∧ w.WF ∧ OpOK w ss (.update d) ∧ (w.step (.update d)).1.ndocs = [d] ∧
    contentOf (w.step (.update d)).1.schema (w.step (.update d)).1.segs = [Witness.plain 5 3] :=
  ⟨{ Witness.w with segs := [{ docs := [Witness.keyed 0 10, Witness.plain 5 3],
                                posts := [⟨0, 3, 1, 1, 0⟩, ⟨0, 4, 1, 2, 0⟩, ⟨1, 7, 0, 1, 0⟩], deleted := [] }] },
   { Witness.ss with committed := [Witness.keyed 0 10, Witness.plain 5 3] }, Witness.keyed 2 12,
   ⟨rfl, by decide +kernel, rfl, by decide, fun _ => rfl⟩,
   ⟨List.forall_mem_singleton.2 ⟨by decide, by decide, by decide +kernel, by decide +kernel⟩, by decide⟩,
   by show Unambiguous _ _; unfold Unambiguous; decide +kernel, by decide +kernel, by decide +kernel⟩

/-- non-vacuity of `refines_dict`: two successive writers on an empty index (add two documents and
    commit with MERGE_SMALL; delete by term, update, commit with OPTIMIZE) satisfy `HistOK`. -/
example : HistOK { schema := Witness.sc, segs := [], gen := 0 } { schema := Witness.sc, docs := [] }
    [([.update (Witness.keyed 0 10), .add (Witness.plain 5 3)], .commit planMergeSmall, .commit),
     ([.delBy (.term 0 4), .update (Witness.keyed 2 12)], .commit planOptimize, .commit)] := by
  refine ⟨EndRel.commit _ planMergeSmall_ok, ⟨by show Unambiguous _ _; unfold Unambiguous; decide +kernel, trivial, trivial⟩, ?_⟩
  intro t' _
  refine ⟨EndRel.commit _ planOptimize_ok, ⟨trivial, ?_, trivial⟩, fun _ _ => trivial⟩
  show Unambiguous _ _
  simp only [Writer.specOp]
  unfold Unambiguous
  decide +kernel

/-- a document whose unique field 1 carries key term `t` -/
def Witness.keyedT (key st t : Nat) : DocRec :=
  { key := key, fields := [{ fld := 1, stored := some st, toks := [⟨t, 1, 0⟩], len := 0, col := none, vec := none,
                             ukey := some t }] }

theorem Witness.uniqTerms_keyedT (key st t : Nat) : uniqTerms Witness.sc (Witness.keyedT key st t) = [(1, t)] := rfl

theorem Witness.keyedT_wf (key st t : Nat) : DocKeyWF (fun f _ => f == 1) Witness.sc (Witness.keyedT key st t) := by
  rw [DocKeyWF, Witness.uniqTerms_keyedT]
  constructor
  · intro ft hft
    rw [List.mem_singleton.mp hft]
    rfl
  · intro f t' _ ht
    simp only [DocRec.hasTerm, Witness.keyedT, List.any_cons, List.any_nil, Bool.or_false, Bool.and_eq_true,
      beq_iff_eq] at ht
    obtain ⟨rfl, rfl⟩ := ht
    exact List.mem_singleton.mpr rfl

/-- non-vacuity of `unique_invariant`: one writer on the empty index updates key 7, adds a keyless
    document, deletes by term and updates key 8 — this satisfies the discipline for
    `K f t := f == 1` (field 1 is the unique field). -/
theorem Witness.hist_disc : HistDisc (fun f _ => f == 1) { schema := Witness.sc, segs := [], gen := 0 } { schema := Witness.sc, docs := [] }
    [([.update (Witness.keyedT 0 10 7), .add (Witness.plain 5 3), .delBy (.term 0 4), .update (Witness.keyedT 1 11 8)],
      .commit planMergeSmall, .commit)] := by
  refine ⟨EndRel.commit _ planMergeSmall_ok, by decide, ?_, ?_, fun _ _ => trivial⟩
  · intro d hd
    simp only [List.mem_cons, Op.update.injEq, reduceCtorEq, List.not_mem_nil, or_false, false_or] at hd
    rcases hd with rfl | rfl <;> decide
  · -- every document fits, so on the dictionary the calls are `update`, `add`, `deleteWhere`, `update`
    refine ⟨Witness.keyedT_wf 0 10 7, by simp, ⟨?_, ⟨Witness.keyedT_wf 1 11 8, ?_, trivial⟩⟩⟩
    · intro f t hk
      have hf : f = 1 := by simpa using hk
      subst hf
      simp [DocRec.hasTerm, Witness.plain]
    · intro ft hft
      rw [Witness.uniqTerms_keyedT] at hft ⊢
      rw [List.mem_singleton.mp hft]
      decide

theorem Witness.isUnique_eq : (fun (f _ : Nat) => Witness.sc.isUnique f) = (fun f _ => f == 1) := by
  funext f _
  by_cases h : f = 1
  · subst h; rfl
  · simp [Witness.sc, Schema.isUnique, h]

/-- non-vacuity of `unique_keys`: the same history satisfies the discipline for the schema's own
    unique fields, and the empty content satisfies `UniqueKeys` -/
example : UniqueKeys Witness.sc [] ∧
    HistDisc (fun f _ => ({ schema := Witness.sc, docs := [] } : State).schema.isUnique f)
      { schema := Witness.sc, segs := [], gen := 0 } { schema := Witness.sc, docs := [] }
      [([.update (Witness.keyedT 0 10 7), .add (Witness.plain 5 3), .delBy (.term 0 4), .update (Witness.keyedT 1 11 8)],
        .commit planMergeSmall, .commit)] := by
  refine ⟨fun _ _ _ => Nat.zero_le _, ?_⟩
  show HistDisc (fun f _ => Witness.sc.isUnique f) _ _ _
  rw [Witness.isUnique_eq]
  exact Witness.hist_disc

/-- `postings_exact` on the witness index after deleting document 0: the term's postings yield
    document 1 only -/
example : (({ schema := Witness.sc, segs := [Witness.seg.deleteDocument 0 true], gen := 2 } : Toc).postingDocs 1 7) = [1] := by
  decide +kernel

/-- non-vacuity of `undelete`: deleting document 0 of the witness writer and un-deleting it gives
    the two live documents back -/
example : ((Witness.w.deleteDocument 0 true).bind (fun w => w.deleteDocument 0 false)).toOption.map
    (fun w => (liveGlobal w.segs 0).map (·.2)) = some [0, 1] := by decide +kernel

end WM.C07
