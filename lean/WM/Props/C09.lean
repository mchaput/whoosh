import WM.Props.C01Cursor
import WM.Props.C01Multi
import WM.Props.C05
import WM.Props.C11
import WM.Lemmas.SearchCollect
import WM.Lemmas.LengthByte
import WM.Lemmas.SearchModels
/-!
C09 — scores are the documented composition of the weighting model's term scores (list level).

`scoreOf ls q d` composes the leaf scores `ls` (any weighting model: a function of the document,
the field and the term): sum over the matching clauses × boost for And/Or, maximum over the
matching clauses for DisjunctionMax, first operand for Require/AndNot, first plus second when the
second matches for AndMaybe, the constant for constant-score queries (`ConstantScoreQuery`,
`constantscore=True` multi-term queries and ranges, `Every`), 1 for `Not`.
-/
namespace WM.C09
open WM.Search WM.Compile

/-- In every scored context the list compiled for a segment is *exactly* the specified one: the
    live documents satisfying the query, each with the score `scoreOf ls q d` — for every binary
    tree shape over the clauses and every `Or` strategy. -/
theorem scores (ls : LeafScore) (so : ShapeOracle) (s : Segment) (hso : ValidOracle so)
    (hleaf : PosLeaf ls s) (q : Query) (hq : PosQ q) (ctx : Ctx)
    (hsc : ctx.scored = true) :
    compile ls so s ctx q = segHits ls q s :=
  (compile_same ls so s hso hleaf q hq ctx).2 hsc

/-- entry-wise reading of `scores` -/
theorem score_of_entry (ls : LeafScore) (so : ShapeOracle) (s : Segment) (hso : ValidOracle so)
    (hleaf : PosLeaf ls s) (q : Query) (hq : PosQ q) (ctx : Ctx)
    (hsc : ctx.scored = true) :
    ∀ e ∈ compile ls so s ctx q, e.score = scoreOf ls q (s.doc e.id) ∧ e.id ∈ s.live ∧ sat q (s.doc e.id) = true := by
  rw [scores ls so s hso hleaf q hq ctx hsc]
  intro e he
  obtain ⟨i, hi, rfl⟩ := List.mem_map.mp he
  exact ⟨rfl, List.mem_filter.mp hi⟩

/-- The score of a document does not depend on whether the collector needs the current match: a
    run whose context has `needs_current` set (`terms=True`: the matcher tree is stepped, unions are
    binary trees, constant scores are wrappers) and a run without it (plain `search`: array unions,
    pre-read constant-score lists), with whatever tree shapes, give the same `(doc, score)` list — the
    specified `hits`; hence a document's score is a function of the query and that document alone
    (not of the other documents in the result), and the ranked result is a permutation of it.
    (Top-N collectors, `limit` and quality skipping are C05's; sorting and filtering collectors C14's.) -/
theorem collector_independent (ls : LeafScore) (so so' : ShapeOracle) (hso : ValidOracle so)
    (hso' : ValidOracle so') (idx : Index) (hok : IndexOK ls idx) (q : Query) (hq : PosQ q)
    (nc nc' : Bool) :
    run ls so ⟨nc, true⟩ q idx = run ls so' ⟨nc', true⟩ q idx ∧
    run ls so ⟨nc, true⟩ q idx = hits ls q idx ∧
    (rankAll ls q idx).Perm (run ls so ⟨nc, true⟩ q idx) := by
  have h1 : run ls so ⟨nc, true⟩ q idx = hits ls q idx := (runFrom_same ls so hso q hq ⟨nc, true⟩ idx 0 hok).2 rfl
  exact ⟨h1.trans ((runFrom_same ls so' hso' q hq ⟨nc', true⟩ idx 0 hok).2 rfl).symm, h1, h1 ▸ rankAll_perm ls q idx⟩

/-- **Scores through the top searcher.**  `Term.matcher(top searcher)` - the `MultiMatcher` that
    `Searcher.postings` builds over the segments' posting readers, each with its own per-segment scorer, under
    the boost wrapper (`WM.Compile.topTerm`) - is a well-formed cursor whose `(id, score)` list is exactly the
    specified `hits`: every live document of the whole index containing the term, in global document
    numbers, with `scoreOf` of that document (leaf score x query boost) - the same list the
    segment-by-segment collectors produce (`collector_independent`), whatever the segment layout.
    (Composition of `WM.C01.term_top` with `collector_independent`.) -/
theorem term_top_scores (ls : LeafScore) (so : ShapeOracle) (hso : ValidOracle so) (idx : Index)
    (hok : IndexOK ls idx) (f : String) (t : Term) (b : Rat) (hq : PosQ (.term f t b)) :
    WM.Matcher.WF (topTerm ls idx f t b).1 (topTerm ls idx f t b).2 ∧
    toPL (topTerm ls idx f t b).den = hits ls (.term f t b) idx := by
  obtain ⟨h1, h2, -⟩ := WM.C01.term_top ls so hso idx hok f t b hq ⟨false, true⟩
  exact ⟨h1, h2.trans (collector_independent ls so so hso hso idx hok (.term f t b) hq false false).2.1⟩

example : toPL (topTerm freqLeaf WM.C01.exIdx "t" [97] 2).den = [⟨1, 4⟩, ⟨3, 2⟩] ∧
    hits freqLeaf (.term "t" [97] 2) WM.C01.exIdx = [⟨1, 4⟩, ⟨3, 2⟩] ∧ PosQ (.term "t" [97] 2) :=
  have hq : PosQ (.term "t" [97] 2) := posQ_of_posQuery _ (by decide)
  have hd : toPL (topTerm freqLeaf WM.C01.exIdx "t" [97] 2).den = [⟨1, 4⟩, ⟨3, 2⟩] := by decide +kernel
  ⟨hd, (term_top_scores freqLeaf balancedOracle balancedOracle_valid _ WM.C01.exIdx_ok "t" [97] 2 hq).2.symm.trans hd, hq⟩

/-! a concrete instance (shared with C01): scores under `Frequency` -/

example : IndexOK freqLeaf WM.C01.exIdx ∧ PosQ WM.C01.exQ ∧
    hits freqLeaf WM.C01.exQ WM.C01.exIdx = [⟨1, 5⟩, ⟨4, 1⟩] :=
  ⟨WM.C01.exIdx_ok, WM.C01.exQ_pos, WM.C01.exQ_hits⟩

/-- **C09 over cursors.**  For every query of the cursor fragment (`CursorOK`: term / null / Every leaves,
    multi-term expansions, the boolean constructors, union trees and the scored array union) in a scored
    context, the cursor tree `Query.matcher` builds (`build`) is constructed without error and stands on
    exactly the specified list `(doc, scoreOf ls q doc)` of the live satisfying documents; and whatever
    program of `next()` / `skip_to(t)` / `replace()` calls the specification list allows runs on the tree
    without error and leaves it well formed on the list `L` the list model predicts — so that, wherever
    the cursor then stands, `id()` is a live document satisfying the query and `score()` **is**
    `scoreOf ls q` of that document (composition of `WM.C01.cursor_den`, `scores` and
    `WM.C11.program_replace` and the `id` / `score` fields of `tree_faithful`). -/
theorem cursor_scores (ls : LeafScore) (so : ShapeOracle) (s : Segment) (hso : ValidOracle so)
    (hleaf : PosLeaf ls s) (q : Query) (hq : PosQ q) (ctx : Ctx) (hsc : ctx.scored = true)
    (h : CursorOK ls s ctx q) :
    ∃ m, build ls so s ctx q = .ok m ∧ WM.Matcher.WF m.1 m.2 ∧ m.den = specDen ls q s ∧
      ∀ (prog : List WM.Matcher.CmdR) (L : WM.Matcher.Den),
        WM.Matcher.runSpecR prog (specDen ls q s) = some L →
        ∃ m', WM.Matcher.runR prog m = .ok m' ∧ WM.Matcher.WF m'.1 m'.2 ∧ m'.den = L ∧
          ∀ d r rest, L = (d, r) :: rest →
            (WM.Matcher.ops m'.1).id m'.2 = .ok d ∧ (WM.Matcher.ops m'.1).score m'.2 = .ok r ∧
            r = scoreOf ls q (s.doc d) ∧ d ∈ s.live ∧ sat q (s.doc d) = true := by
  obtain ⟨m, h1, h2, h3⟩ := WM.C01.cursor_den ls so s q ctx h
  have hden : m.den = specDen ls q s :=
    toPL_inj.mp (h3.trans ((scores ls so s hso hleaf q hq ctx hsc).trans (toPL_specDen ls q s).symm))
  refine ⟨m, h1, h2, hden, fun prog L hs => ?_⟩
  rw [← hden] at hs
  obtain ⟨m', g1, g2, g3⟩ := WM.C11.program_replace prog m h2 L hs
  refine ⟨m', g1, g2, g3, fun d r rest hL => ?_⟩
  have hd : m'.den = (d, r) :: rest := g3.trans hL
  -- the entry is one of the compiled list, since the program left a suffix of `m.den`
  have hmem : (⟨d, r⟩ : Hit) ∈ compile ls so s ctx q :=
    h3 ▸ List.mem_map_of_mem ((WM.Matcher.runSpecR_suffix prog _ L hs).subset (hL ▸ List.mem_cons_self))
  have hf := WM.Matcher.tree_faithful m'.1
  exact ⟨hf.id m'.2 d r rest g2 hd, hf.score m'.2 d r rest g2 hd, score_of_entry ls so s hso hleaf q hq ctx hsc _ hmem⟩

/-- the hypotheses are satisfiable (the array-union / Every / multi-term example of C01Cursor): after
    `skip_to(1)` — document 1 is deleted — the cursor stands on document 2 with score 16 -/
example : CursorOK freqLeaf WM.C01.mSeg ⟨false, true⟩ WM.C01.mQ ∧ PosQ WM.C01.mQ ∧ wfSegment WM.C01.mSeg = true ∧
    specDen freqLeaf WM.C01.mQ WM.C01.mSeg = [(0, 8), (2, 16), (3, 1)] ∧
    WM.Matcher.runSpecR [.skipTo 1, .replace0] (specDen freqLeaf WM.C01.mQ WM.C01.mSeg) = some [(2, 16), (3, 1)] :=
  have hd : specDen freqLeaf WM.C01.mQ WM.C01.mSeg = [(0, 8), (2, 16), (3, 1)] := by decide +kernel
  ⟨WM.C01.mQ_ok, posQ_of_posQuery _ (by decide +kernel), WM.C01.mSeg_wf, hd, hd ▸ rfl⟩

/-- **C09 ∘ C05.**  Feed the collector family's `TopCollector` model (`WM.Collect.collectTop`: heap admission,
    periodic `replace(minscore)`, `skip_to_quality(minscore)` on block changes — driven by an arbitrary
    schedule of drops / score-lowerings within the C12 contract, arbitrary "new block" flags and
    `supports_block_quality()` answers) with what the per-segment matchers of the query enumerate
    (`compile`, one per segment with its offset): for every `limit ≥ 1`, `replace` period, `usequality`
    setting and `final()` hook the result is the first `limit` entries of the ranking (score descending,
    document number ascending on ties: `WM.Rank.topK`) of the **specified** hits — the live documents that
    satisfy the query, each scored `scoreOf ls q` (then `final`).  And the unlimited search returns that
    whole ranking, of which the limited result is the prefix. -/
theorem search_limit (ls : LeafScore) (so : ShapeOracle) (hso : ValidOracle so) (idx : Index)
    (hok : IndexOK ls idx) (q : Query) (hq : PosQ q) (nc : Bool)
    (cfg : WM.Collect.Cfg) (final : Nat → Rat → Rat) (flags : Nat → Nat → Bool) (sup : Nat → Bool)
    (sched sched' : List WM.Collect.Step) (hk : 1 ≤ cfg.limit) :
    WM.Collect.collectTop cfg final (collectorSegs ls so ⟨nc, true⟩ q flags sup 0 0 idx) sched =
      .ok (WM.Rank.topK cfg.limit ((hits ls q idx).map (toRank cfg.useFinal final))) ∧
    WM.Collect.collectUnlimited cfg.replace cfg.useFinal final false
        (collectorSegs ls so ⟨nc, true⟩ q flags sup 0 0 idx) sched' =
      .ok (WM.Rank.rankAll ((hits ls q idx).map (toRank cfg.useFinal final))) := by
  have hrun : runFrom ls so ⟨nc, true⟩ q 0 idx = hitsFrom ls q 0 idx := (runFrom_same ls so hso q hq ⟨nc, true⟩ idx 0 hok).2 rfl
  have hwf : (WM.Collect.globalDocs (collectorSegs ls so ⟨nc, true⟩ q flags sup 0 0 idx)).Pairwise (· < ·) := by
    rw [collectorSegs_docs, hrun]; exact List.pairwise_map.mpr (hitsFrom_sorted ls q idx 0).1
  have hfresh := collectorSegs_fresh ls so ⟨nc, true⟩ q flags sup idx 0 0
  refine ⟨?_, ?_⟩
  · rw [WM.C05.topk cfg final _ sched hk hwf hfresh, collectorSegs_hits, hrun]; rfl
  · rw [WM.C05.unlimited]
    simp only [Bool.false_eq_true, if_false]
    rw [collectorSegs_hits, hrun]; rfl

/-- non-vacuity on the two-segment example index of C01 (one deletion): the collector's input is two
    segments with offsets 0 and 3 holding the hits `(1, 5)` and `(4, 1)`; with `limit = 1` the theorem
    says that every schedule returns the top 1 of them -/
example : IndexOK freqLeaf WM.C01.exIdx ∧ PosQ WM.C01.exQ ∧ ValidOracle balancedOracle ∧
    (hits freqLeaf WM.C01.exQ WM.C01.exIdx).map (toRank false (fun _ x => x)) = [⟨1, 5⟩, ⟨4, 1⟩] ∧
    (collectorSegs freqLeaf balancedOracle ⟨false, true⟩ WM.C01.exQ (fun _ _ => true) (fun _ => true) 0 0
      WM.C01.exIdx).map (fun sg => (sg.off, sg.postings.map (·.doc))) = [(0, [1]), (3, [1])] :=
  ⟨WM.C01.exIdx_ok, WM.C01.exQ_pos, balancedOracle_valid, congrArg (List.map _) WM.C01.exQ_hits, by decide +kernel⟩

/-- **Frequency, TF_IDF and BM25F (per-field `B`, unscorable fields scored by weight) as leaf
    scorers.**  Each is a function of the statistics of the *whole* index (`termStats idx`: whoosh
    builds one scorer per segment, and each asks the parent searcher), the stored weight and the
    approximated field length.  On an index whose token and field boosts are positive, with a positive
    idf, `K1 ≥ 0` and `0 ≤ B ≤ 1`, they satisfy `PosLeaf` on every segment; therefore, for every
    segment `s` of the index, in every scored context the compiled list carries exactly
    `scoreOf (model idx) q d` — the documented formula on global statistics — and the whole run is
    `hits`. -/
theorem models (idf : Idf) (p : Bm25) (hidf : ∀ n df, 0 < idf n df) (hp : Bm25Ok p) (idx : Index)
    (hwf : ∀ s ∈ idx, wfSegment s = true) (so : ShapeOracle) (hso : ValidOracle so) (q : Query) (hq : PosQ q)
    (ctx : Ctx) (hsc : ctx.scored = true) :
    (∀ s ∈ idx, compile freqLeaf so s ctx q = segHits freqLeaf q s ∧
                compile (tfidfLeaf idf idx) so s ctx q = segHits (tfidfLeaf idf idx) q s ∧
                compile (bm25fLeaf p idx) so s ctx q = segHits (bm25fLeaf p idx) q s) ∧
    run (tfidfLeaf idf idx) so ctx q idx = hits (tfidfLeaf idf idx) q idx ∧
    run (bm25fLeaf p idx) so ctx q idx = hits (bm25fLeaf p idx) q idx := by
  refine ⟨fun s hs => ?_, ?_, ?_⟩
  · have h := hwf s hs
    exact ⟨scores _ so s hso (posLeaf_freq h) q hq ctx hsc,
           scores _ so s hso (posLeaf_tfidf hidf idx h) q hq ctx hsc,
           scores _ so s hso (posLeaf_bm25f hp idx h) q hq ctx hsc⟩
  · exact (runFrom_same _ so hso q hq ctx idx 0 fun s hs => posLeaf_tfidf hidf idx (hwf s hs)).2 hsc
  · exact (runFrom_same _ so hso q hq ctx idx 0 fun s hs => posLeaf_bm25f hp idx (hwf s hs)).2 hsc

/-- BM25F (B = 3/4, K1 = 6/5, idf ≡ 2) on the example index: DisjunctionMax over an AndMaybe and a
    Require — maximum over the matching clauses, first operand plus the optional second, first operand
    only.  Document 1 = `aa bb` (field boost 2) of the first segment, document 3 = `aa . . cc` of the
    second one; both scored with the statistics of the whole five-document index. -/
def exBm : Bm25 := ⟨fun _ _ => 2, 6/5, fun _ => 3/4, fun _ => true⟩
def exQ2 : Query :=
  .dismax [.andMaybe (.term "t" [97] 1) (.term "t" [99] 2), .require (.term "t" [98] 4) (.term "t" [97] 1)] (1/2)

example : Bm25Ok exBm ∧ (∀ s ∈ WM.C01.exIdx, wfSegment s = true) ∧ PosQ exQ2 ∧
    (hits (bm25fLeaf exBm WM.C01.exIdx) exQ2 WM.C01.exIdx).map (·.id) = [1, 3] ∧
    hits freqLeaf exQ2 WM.C01.exIdx = [⟨1, 4⟩, ⟨3, 3/2⟩] :=
  ⟨⟨fun _ _ => by show (0 : Rat) < 2; decide +kernel, by show (0 : Rat) ≤ 6 / 5; decide +kernel,
      fun _ => by show (0 : Rat) ≤ 3 / 4; decide +kernel, fun _ => by show (3 / 4 : Rat) ≤ 1; decide +kernel⟩,
    WM.C01.exIdx_wf, posQ_of_posQuery exQ2 (by decide +kernel), by decide +kernel, by decide +kernel⟩

/-- **C09.layout.** Two indexes without deletions that hold the same documents (as a multiset: any
    partition into segments, any order — what different commit / merge histories of the same
    additions produce) have the same collection statistics for every term (document count, document
    frequency, collection frequency, total approximated field length: each is whoosh's sum over
    the segments).  Hence every weighting model — any function of these statistics, the stored
    term weight and the length-byte approximation of the document's field length — induces the same
    leaf scores, and every query scores every document the same in both layouts. -/
theorem layout (w : Weighting) (idx idx' : Index) (hd : NoDeletions idx) (hd' : NoDeletions idx')
    (hperm : (liveDocs idx).Perm (liveDocs idx')) :
    (∀ f t, termStats idx f t = termStats idx' f t) ∧
    statLeaf w idx = statLeaf w idx' ∧
    ∀ q d, scoreOf (statLeaf w idx) q d = scoreOf (statLeaf w idx') q d := by
  rw [liveDocs_eq_allDocs hd, liveDocs_eq_allDocs hd'] at hperm
  have hst : ∀ f t, termStats idx f t = termStats idx' f t := fun f t => termStats_perm hperm f t
  have hleaf : statLeaf w idx = statLeaf w idx' := by
    funext d f t
    simp only [statLeaf, hst f t]
  exact ⟨hst, hleaf, fun q d => by rw [hleaf]⟩

/-- … in particular for TF_IDF and BM25F: the same leaf scorer in both layouts. -/
theorem layout_models (idf : Idf) (p : Bm25) (idx idx' : Index) (hd : NoDeletions idx) (hd' : NoDeletions idx')
    (hperm : (liveDocs idx).Perm (liveDocs idx')) :
    tfidfLeaf idf idx = tfidfLeaf idf idx' ∧ bm25fLeaf p idx = bm25fLeaf p idx' := by
  rw [liveDocs_eq_allDocs hd, liveDocs_eq_allDocs hd'] at hperm
  exact ⟨tfidfLeaf_perm idf hperm, bm25fLeaf_perm p hperm⟩

/-- three documents in one segment, or split 1 + 2 in another order: same statistics; and the
    hypothesis matters — a layout that still carries a deleted document counts it -/
def la : Doc := ⟨[⟨"t", 1, [WM.C01.tok 97 0, WM.C01.tok 98 1], []⟩]⟩
def lb : Doc := ⟨[⟨"t", 2, [WM.C01.tok 97 0], []⟩]⟩
def lc : Doc := ⟨[⟨"t", 1, [WM.C01.tok 99 0, WM.C01.tok 97 1, WM.C01.tok 97 2], []⟩]⟩

example : NoDeletions [⟨[la, lb, lc], []⟩] ∧ NoDeletions [⟨[lc], []⟩, ⟨[la, lb], []⟩] ∧
    (liveDocs [⟨[la, lb, lc], []⟩]).Perm (liveDocs [⟨[lc], []⟩, ⟨[la, lb], []⟩]) ∧
    termStats [⟨[lc], []⟩, ⟨[la, lb], []⟩] "t" [97] = ⟨3, 3, 5, 6⟩ ∧
    termStats [⟨[la, lb, lc], []⟩] "t" [97] = ⟨3, 3, 5, 6⟩ ∧
    -- with a deleted document still in the segment the statistics (and so idf, avgfl) differ
    (liveDocs [⟨[la, lb, lc], [1]⟩]).Perm (liveDocs [⟨[la, lc], []⟩]) ∧
    termStats [⟨[la, lb, lc], [1]⟩] "t" [97] ≠ termStats [⟨[la, lc], []⟩] "t" [97] :=
  have hA : NoDeletions [⟨[la, lb, lc], []⟩] := List.forall_mem_singleton.mpr rfl
  have hB : NoDeletions [⟨[lc], []⟩, ⟨[la, lb], []⟩] := List.forall_mem_cons.mpr ⟨rfl, List.forall_mem_singleton.mpr rfl⟩
  have hp : (liveDocs [⟨[la, lb, lc], []⟩]).Perm (liveDocs [⟨[lc], []⟩, ⟨[la, lb], []⟩]) := by
    rw [liveDocs_eq_allDocs hA, liveDocs_eq_allDocs hB]
    exact List.perm_append_comm (l₁ := [la, lb]) (l₂ := [lc])
  have hs : termStats [⟨[lc], []⟩, ⟨[la, lb], []⟩] "t" [97] = ⟨3, 3, 5, 6⟩ := by decide +kernel
  ⟨hA, hB, hp, hs, ((layout (fun _ _ _ => 0) _ _ hA hB hp).1 "t" [97]).trans hs,
    .of_eq (.trans (b := [la, lc]) rfl rfl), by decide +kernel⟩

open WM.LengthByte

/-- `byte_to_length(length_to_byte(n))` is defined for every `n`, never smaller than `n` below
    the table's end, idempotent and monotone. -/
theorem lengthbyte (n : Nat) :
    byteToLength (lengthToByte n) = some (approx n) ∧
    approx n ∈ table ∧
    (n < 106374 → n ≤ approx n) ∧
    approx (approx n) = approx n ∧
    ∀ m, m ≤ n → approx m ≤ approx n := by
  -- 106374 is the last entry of the table (`last_mem`): every length from there on is stored as byte 255
  obtain ⟨h1, hmem, hle, hleast⟩ := approx_least n
  refine ⟨h1, hmem, fun h => Nat.le_trans (Nat.le_min.mpr ⟨Nat.le_refl n, Nat.le_of_lt h⟩) hle, ?_,
    fun m hm => ?_⟩
  · -- a table entry is the least entry not below itself
    obtain ⟨-, -, hle', hleast'⟩ := approx_least (approx n)
    rw [Nat.min_eq_left (hleast _ last_mem (Nat.min_le_right n _))] at hle' hleast'
    exact Nat.le_antisymm (hleast' _ hmem (Nat.le_refl _)) hle'
  · have hmn : min m 106374 ≤ min n 106374 :=
      Nat.le_min.mpr ⟨Nat.le_trans (Nat.min_le_left _ _) hm, Nat.min_le_right _ _⟩
    exact (approx_least m).2.2.2 _ hmem (Nat.le_trans hmn hle)

example : lengthToByte 11 = 11 ∧ approx 11 = 12 ∧ approx 12 = 12 ∧ approx 200000 = 106374 := by decide +kernel

end WM.C09
