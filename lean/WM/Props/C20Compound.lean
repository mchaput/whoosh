import WM.Lemmas.CompoundWriter
import WM.Lemmas.CompoundSubFile
import WM.Lemmas.CompoundBytes
/-! C20 (compound files): a compound file exposes byte-identical member files; the sub-streams of a
`CompoundWriter` give back what was written to them for every buffer size and interleaving. -/
namespace WM.C20
open WM.Compound
open WM.NumLists (encodeBE length_encodeBE at_self cap_i cap_q)
open WM.StructFile (getNat_enc)

/-- `CompoundStorage.open_file(name).read()` returns exactly the bytes of the member file that was
    assembled in, for any members with distinct names, any bytes before the compound data
    (`basepos`) and whatever follows the members (the pickled directory). -/
theorem compound_member_bytes (before : Bytes) (files : List (String × Bytes)) (after : Bytes)
    (hnd : (files.map (·.1)).Nodup) (name : String) (data : Bytes) (hmem : (name, data) ∈ files) :
    openFile ((assemble before files).1 ++ after) (assemble before files).2.1 name = some data :=
  openFile_layout before files (before ++ List.replicate headerSize 0) after
    (by rw [List.length_append, List.length_replicate]) hnd name data hmem

/-- The directory lists exactly the member names, and the directory position is where the members end. -/
theorem compound_directory (before : Bytes) (files : List (String × Bytes)) :
    (assemble before files).2.1.map (·.name) = files.map (·.1)
      ∧ (assemble before files).2.2 = (assemble before files).1.length :=
  ⟨copyFiles_names files _, assemble_dirpos before files⟩

example : openFile ((assemble [9, 9] [("a", [1, 2, 3]), ("b", []), ("c", [7])]).1 ++ [0xAA])
    (assemble [9, 9] [("a", [1, 2, 3]), ("b", []), ("c", [7])]).2.1 "c" = some [7] := by decide

/-- **The finished compound file, as bytes.**  `assemble` + `write_dir` (12 placeholder bytes at
    `basepos`, the members, the pickles, then the back-patch of `!q dirpos` / `!i length`) produce
    a file in which: the bytes before `basepos` are untouched; `CompoundStorage.__init__` reads
    back exactly the directory position and length and is positioned on exactly the pickled bytes;
    and every member (distinct names) is still byte-identical — the back-patch touches nothing but
    the header.  The pickles are an opaque blob (`pickle` is trusted to invert itself). -/
theorem compound_file_bytes (before : Bytes) (files : List (String × Bytes)) (pickled : Bytes)
    (hpos : ((assemble before files).2.2 : Int) < 2 ^ 63) (hlen : (pickled.length : Int) < 2 ^ 31)
    (hnd : (files.map (·.1)).Nodup) :
    ∃ file, assembleFile before files pickled = .ok file
      ∧ file.take before.length = before
      ∧ openDir file before.length = .ok ((assemble before files).2.2, pickled.length, pickled)
      ∧ ∀ name data, (name, data) ∈ files → openFile file (assemble before files).2.1 name = some data := by
  refine ⟨_, assembleFile_eq before files pickled hpos hlen, ?_, ?_, ?_⟩
  · simp only [List.append_assoc]
    exact List.take_left' rfl
  · have h0 := at_self (before ++ encodeBE 8 (assemble before files).2.2 ++ encodeBE 4 pickled.length
      ++ (copyFiles (before.length + headerSize) files).1 ++ pickled)
    unfold openDir
    rw [getNat_enc .q _ _ (h0.head.head.head.tail.cast (Nat.zero_add _)) (by rw [cap_q]; exact hpos),
      getNat_enc .i _ _ (h0.head.head.tail.cast (by rw [Nat.zero_add, List.length_append, length_encodeBE]))
        (by rw [cap_i]; exact hlen)]
    simp only [bind, Except.bind]
    refine congrArg (fun l => Except.ok (_, _, l)) (List.drop_left' ?_)
    simp only [List.length_append, length_encodeBE]
    unfold assemble; simp only [headerSize]
  · intro name data hmem
    have hpre : (before ++ encodeBE 8 (assemble before files).2.2 ++ encodeBE 4 pickled.length).length
        = before.length + headerSize := by
      simp only [List.length_append, length_encodeBE, headerSize]
    have := openFile_layout before files _ pickled hpre hnd name data hmem
    unfold assemble
    exact this

example : assembleFile [9] [("a", [1, 2]), ("b", [3])] [0x80, 0x4E]
      = .ok [9, 0, 0, 0, 0, 0, 0, 0, 16, 0, 0, 0, 2, 1, 2, 3, 0x80, 0x4E] :=
  (assembleFile_eq [9] [("a", [1, 2]), ("b", [3])] [0x80, 0x4E] (by decide) (by decide)).trans
    (congrArg _ (by decide +kernel))

/-- **Sub-streams are transparent**: after any sequence of `create_file` / `write` calls, with any
    buffer size (also 0 or negative), `_readback()` yields for every stream exactly the bytes
    written to it, streams in creation order — however the writes were interleaved in the shared
    temporary file. -/
theorem compound_writer_streams (buffersize : Int) (ops : List Op) :
    (ops.foldl step ⟨buffersize, [], []⟩).readback = ops.foldl specStep [] := by
  have hfin : Sim (ops.foldl step ⟨buffersize, [], []⟩) (ops.foldl specStep []) :=
    List.foldl_rel ⟨(fun _ h => nomatch h), rfl, List.Pairwise.nil⟩ fun op _ w s h => step_sim w s op h
  rw [← hfin.eq]
  exact List.map_congr_left fun p _ => Prod.ext rfl (readBlocks_close _ _)

/-- Non-vacuity: two interleaved streams, buffer size 4 (flushes in the middle of both). -/
example : (([Op.create "a", .create "b", .write "a" [1, 2], .write "b" [10, 11, 12, 13, 14],
      .write "a" [3, 4, 5], .write "a" [6], .write "b" [15]].foldl step ⟨4, [], []⟩).readback)
    = [("a", [1, 2, 3, 4, 5, 6]), ("b", [10, 11, 12, 13, 14, 15])] := by
  rw [compound_writer_streams]; decide

/-! ### `SubFile`: the member view of a compound file that is not memory-mapped -/

/-- `read(n)` at a non-negative position returns the next at most `n` bytes **of the member**
    (never of a neighbouring member) and advances by their number — what an in-memory file over
    the member bytes does. -/
theorem subfile_read (parent : Bytes) (s : SubFile) (p : Nat) (hp : s.pos = p) (n : Nat) :
    ∃ s', s.read parent (some (n : Int)) = some (((s.member parent).drop p).take n, s') ∧
      s'.offset = s.offset ∧ s'.length = s.length ∧ s'.pos = ((p + min n (s.length - p) : Nat) : Int) :=
  ⟨_, SubFile.read_some parent s n p hp, rfl, rfl, rfl⟩

/-- `read()` returns the rest of the member. -/
theorem subfile_read_all (parent : Bytes) (s : SubFile) (p : Nat) (hp : s.pos = p) :
    ∃ s', s.read parent none = some ((s.member parent).drop p, s') ∧
      s'.offset = s.offset ∧ s'.length = s.length ∧ s'.pos = ((max p s.length : Nat) : Int) :=
  ⟨_, SubFile.read_all_spec parent s p hp, rfl, rfl, rfl⟩

/-- Chunked reading (`while chunk := f.read(n)`), for every chunk size `n > 0`: the concatenation of
    the chunks is the rest of the member; from position 0, the member itself. -/
theorem subfile_read_chunks (parent : Bytes) (s : SubFile) (p : Nat) (hp : s.pos = p) (n : Nat) (hn : 0 < n)
    (hfit : s.offset + s.length ≤ parent.length) :
    ∃ s', SubFile.readChunks parent (n : Int) s (s.length + 1) = some ((s.member parent).drop p, s') ∧
      s'.pos = ((max p s.length : Nat) : Int) :=
  ⟨_, SubFile.readChunks_spec parent n hn (s.length + 1) s p hp hfit (by omega), rfl⟩

/-- Chunked reading of a five-byte member at offset 2 of a parent with foreign bytes on both sides. -/
example : ∃ s', SubFile.readChunks [9, 9, 1, 2, 3, 4, 5, 7, 7] 2 ⟨2, 5, 0⟩ 6 = some ([1, 2, 3, 4, 5], s') ∧ s'.pos = 5 :=
  subfile_read_chunks [9, 9, 1, 2, 3, 4, 5, 7, 7] ⟨2, 5, 0⟩ 0 rfl 2 (by omega) (by decide)
example : (SubFile.mk 2 5 3).read [9, 9, 1, 2, 3, 4, 5, 7, 7] (some 10) = some ([4, 5], ⟨2, 5, 5⟩) := by decide

end WM.C20
