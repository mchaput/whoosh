import WM.Lemmas.ColumnsBlock
/-! C08 — `CompressedBlockColumn`: random access finds the block of a document. -/
namespace WM.C08
open WM.Columns

/-- **`_find_block` on an ordered block table.**  If every block spans `first ≤ last` and later blocks
    start after earlier ones end, the scan returns a block exactly when that block's document range
    contains the document (so: the first, the last and every inner document of the 1st, 2nd, … block
    are found in *their* block, and a document between two blocks in none). -/
theorem cblock_find (bs : List CBlock) (h : CbOrdered bs) (d : Nat) (b : CBlock) :
    cbFind d bs = some b ↔ b ∈ bs ∧ b.first ≤ d ∧ d ≤ b.last := by
  induction bs with
  | nil => exact ⟨nofun, fun h => nomatch h.1⟩
  | cons x xs ih =>
    have hx : x.first ≤ x.last := h.1 x List.mem_cons_self
    obtain ⟨hlt, hp⟩ := List.pairwise_cons.mp h.2
    have ih := ih ⟨fun y hy => h.1 y (List.mem_cons_of_mem _ hy), hp⟩
    have htail : ∀ y ∈ xs, y.first ≤ d → x.last < d := fun y hy hyd => Nat.lt_of_lt_of_le (hlt y hy) hyd
    rw [cbFind, List.mem_cons]
    by_cases h1 : d < x.first
    · rw [if_pos h1]
      refine ⟨nofun, ?_⟩
      rintro ⟨rfl | hm, h2, _⟩
      · exact absurd h2 (Nat.not_le.mpr h1)
      · exact absurd (Nat.lt_of_le_of_lt hx (htail b hm h2)) (Nat.lt_asymm h1)
    · rw [if_neg h1]
      by_cases h2 : d ≤ x.last
      · rw [if_pos h2]
        constructor
        · intro e; cases e; exact ⟨Or.inl rfl, Nat.le_of_not_lt h1, h2⟩
        · rintro ⟨rfl | hm, h3, _⟩
          · rfl
          · exact absurd h2 (Nat.not_le.mpr (htail b hm h3))
      · rw [if_neg h2, ih]
        constructor
        · rintro ⟨hm, h3, h4⟩; exact ⟨Or.inr hm, h3, h4⟩
        · rintro ⟨rfl | hm, h3, h4⟩
          · exact absurd h4 h2
          · exact ⟨hm, h3, h4⟩

/-- **Writer and reader composed.**  For strictly increasing document numbers and every block size, the
    table `Writer.add/_emit/finish` writes is ordered and disjoint, hence `reader._find_block(d)` is the
    block written for the range containing `d`, and `None` (the column default `b''`) exactly when no
    written block's range contains `d`. -/
theorem cblock_writer_find (blocksize : Nat) (adds : List (Nat × Bytes))
    (hs : adds.Pairwise (fun x y => x.1 < y.1)) (d : Nat) :
    (∀ b, cbFind d (cbWrite blocksize adds) = some b ↔
      b ∈ cbWrite blocksize adds ∧ b.first ≤ d ∧ d ≤ b.last) ∧
    (cbFind d (cbWrite blocksize adds) = none ↔
      ∀ b ∈ cbWrite blocksize adds, ¬ (b.first ≤ d ∧ d ≤ b.last)) := by
  have ho := cbWrite_ordered blocksize adds hs
  refine ⟨fun b => cblock_find _ ho d b, ?_⟩
  rw [Option.eq_none_iff_forall_ne_some]
  exact ⟨fun hn b hb hr => hn b ((cblock_find _ ho d b).mpr ⟨hb, hr⟩),
    fun hall b hf => hall b ((cblock_find _ ho d b).mp hf).1 ((cblock_find _ ho d b).mp hf).2⟩

/-- Three blocks of 2 bytes; document 4 starts the second block and is read from it, document 3 lies
    between two blocks (default), document 6 has no value inside the third block (`KeyError`, the
    recorded defect). -/
example :
    (cbWrite 2 [(0, [1]), (2, [2]), (4, [3, 4]), (5, [5]), (7, [6])]).length = 3 ∧
    cbGet (cbWrite 2 [(0, [1]), (2, [2]), (4, [3, 4]), (5, [5]), (7, [6])]) 4 = .value [3, 4] ∧
    cbGet (cbWrite 2 [(0, [1]), (2, [2]), (4, [3, 4]), (5, [5]), (7, [6])]) 3 = .value [] ∧
    cbGet (cbWrite 2 [(0, [1]), (2, [2]), (4, [3, 4]), (5, [5]), (7, [6])]) 7 = .value [6] ∧
    cbGet (cbWrite 2 [(0, [1]), (2, [2]), (4, [3, 4]), (5, [5]), (7, [6])]) 6 = .keyError := by
  decide

end WM.C08
