import WM.Lemmas.Base85
/-! C20 (base 85): `from_base85(to_base85(x)) = x` on the 5/10-character range, fixed width. -/
namespace WM.C20
open WM.Base85

/-- the alphabet is strictly ascending: encoded text sorts like the numbers do -/
theorem b85_chars_ascending : chars.Pairwise (· < ·) := chars_ascending

/-- `to_base85` yields `size` characters of the alphabet and `from_base85` gives the number
    back, when it is below `85^size` (5 characters: `< 85^5`, which covers 32 bits; 10: 64 bits). -/
theorem b85_roundtrip (x : Nat) (islong : Bool) (h : x < 85 ^ (if islong then 10 else 5)) :
    ∃ cs, toBase85 x islong = some cs ∧ cs.length = (if islong then 10 else 5) ∧ fromBase85 cs = some x := by
  unfold toBase85 fromBase85
  rcases foldlM_decChar_chars (digits (if islong then 10 else 5) x []) 0
      (digits_lt _ x [] (by simp)) with ⟨cs, h1, h2, h3⟩
  refine ⟨cs, h1, by rw [h2, length_digits]; simp, ?_⟩
  rw [h3, foldl_digits, List.foldl_nil, Nat.zero_mul, Nat.zero_add, Nat.mod_eq_of_lt h]

/-- 2^32 − 1 fits five characters, 2^64 − 1 ten. -/
example : (toBase85 4294967295 false).bind fromBase85 = some 4294967295
    ∧ toBase85 0 false = some [33, 33, 33, 33, 33] ∧ (4294967295 : Nat) < 85 ^ 5 ∧ (2 ^ 64 - 1 : Nat) < 85 ^ 10 := by
  refine ⟨?_, ?_, by decide, by decide⟩
  · rcases b85_roundtrip 4294967295 false (by decide) with ⟨cs, h1, _, h3⟩
    rw [h1]; exact h3
  · have h : chars[0]? = some 33 := by rw [chars_eq]; rfl
    simp [toBase85, digits, h]

end WM.C20
