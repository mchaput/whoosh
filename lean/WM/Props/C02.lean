import WM.Lemmas.FSCommit
import WM.Lemmas.FSCodec
import WM.Lemmas.Basics -- `DecidableEq (Except ε α)`, for the `decide`s on `readToc … = .ok …`
/-!
C02 — a commit is atomic with respect to process crashes.

All theorems quantify over *every* storage trace accepted by the decidable protocol predicates of
`WM/Model/FS.lean` (`SafeCommitTrace`, `SafeCancelTrace`, `CleansOrphans`); the check evaluates the
same definitions, through the compiled driver, on traces logged from the real writer.
-/
namespace WM.C02
open WM.FS

/-- the committed state after the first `k` events of a commit trace. -/
def stateAt (old new : Toc) (tr : List Event) (k : Nat) : Toc :=
  if renamed (tr.take k) then new else old

/-- The committed state at every prefix of a trace the checker accepts, as a commit (`tmp` the
    temp name) or as a cancel (`tmp = none`, where the rename never happens). -/
theorem holds_at {ix : Name} {old new : Toc} {tmp : Option Name} {fs0 : FS} {tr : List Event}
    (hc : Consistent ix old fs0) (hs : (chkRun ix old new tmp ⟨fs0, .pre⟩ tr).isSome = true)
    (k : Nat) :
    WF (run fs0 (tr.take k)) ∧ Holds ix (run fs0 (tr.take k)) (stateAt old new tr k) ∧
      (renamed (tr.take k) = true → new.gen = old.gen + 1) := by
  obtain ⟨c', hr⟩ := Option.isSome_iff_exists.1 hs
  obtain ⟨ck, h1, h2, h3⟩ := chkRun_take hr (inv_init hc) k
  have hph : ck.phase = .post ↔ renamed (tr.take k) = true :=
    (chkRun_phase h1).trans ⟨fun h => h.elim nofun id, Or.inr⟩
  have hcur : curToc old new ck.phase = stateAt old new tr k := by simp only [curToc, stateAt, hph]
  rw [← show ck.fs = run fs0 (tr.take k) from h2]
  exact ⟨h3.wf, hcur ▸ h3.holds, fun h => h3.gen (hph.2 h)⟩

theorem consistent_at {ix : Name} {old new : Toc} {tmp : Name} {fs0 : FS} {tr : List Event}
    (hc : Consistent ix old fs0) (hs : SafeCommitTrace ix old new tmp fs0 tr = true)
    (k : Nat) (τ : Nat → Nat) :
    Consistent ix (stateAt old new tr k) (crash (run fs0 (tr.take k)) τ) :=
  have h := holds_at hc hs k
  consistent_crash h.1 h.2.1 τ

/-- **C02.crash_atomic.**  From a consistent directory, for every trace that follows the commit
    protocol, every crash point `k` and every truncation `τ` of the files still open: re-opening
    yields exactly the old TOC (before the rename) or exactly the new one (after it), and every
    file that TOC references is present and complete. -/
theorem crash_atomic (ix : Name) (old new : Toc) (tmp : Name) (fs0 : FS) (tr : List Event)
    (hc : Consistent ix old fs0) (hs : SafeCommitTrace ix old new tmp fs0 tr = true)
    (k : Nat) (τ : Nat → Nat) :
    let fs' := crash (run fs0 (tr.take k)) τ
    (readToc ix fs' = .ok old ∨ readToc ix fs' = .ok new) ∧
    readToc ix fs' = .ok (stateAt old new tr k) ∧
    readable fs' (stateAt old new tr k) = true := by
  have h := consistent_at hc hs k τ
  refine ⟨?_, h.toc, h.readable⟩
  rw [h.toc]
  unfold stateAt
  split <;> simp

/-- **C02.cancel.**  A writer that never publishes a TOC (cancel, failing with-block, death before
    the TOC) leaves the old state at every point. -/
theorem cancel (ix : Name) (old : Toc) (fs0 : FS) (tr : List Event)
    (hc : Consistent ix old fs0) (hs : SafeCancelTrace ix old fs0 tr = true)
    (k : Nat) (τ : Nat → Nat) :
    Consistent ix old (crash (run fs0 (tr.take k)) τ) := by
  have h := holds_at hc hs k
  rw [show stateAt old old tr k = old from ite_self _] at h
  exact consistent_crash h.1 h.2.1 τ

/-- **C02.commit.**  A whole commit that follows the protocol publishes exactly `new`, readable,
    one generation after `old` (no crash involved). -/
theorem commit (ix : Name) (old new : Toc) (tmp : Name) (fs0 : FS) (tr : List Event)
    (hc : Consistent ix old fs0) (hs : CompleteCommit ix old new tmp fs0 tr = true) :
    readToc ix (run fs0 tr) = .ok new ∧ readable (run fs0 tr) new = true ∧
    new.gen = old.gen + 1 := by
  obtain ⟨hsafe, hren⟩ := safe_of_complete hs
  have h := holds_at hc hsafe tr.length
  rw [stateAt, List.take_length, if_pos hren] at h
  obtain ⟨r1, r2⟩ := (holds_iff h.1 new).1 h.2.1
  exact ⟨r1, r2, h.2.2 hren⟩

/-- What "no orphan is left" means: every listed name that does not start with a dot is the
    current TOC or is not a TOC, and if the segment pattern matches it, its segment is referenced. -/
def Clean (ix : Name) (t : Toc) (fs : FS) : Prop :=
  ∀ n ∈ fs.listing, startsWithDot n = false →
    (∀ g, tocGen ix n = some g → g = t.gen) ∧
    (tocGen ix n = none → ∀ s, segOf ix n = some s → s ∈ t.sids)

theorem clean_of_cleansOrphans {ix : Name} {new : Toc} {fs : FS} {tr : List Event}
    (hcl : CleansOrphans ix new fs tr = true) : Clean ix new (run fs tr) := by
  intro n hn hdot
  unfold CleansOrphans at hcl
  simp only [Bool.and_eq_true, Bool.not_eq_true', List.all_eq_true, List.any_eq_false] at hcl
  obtain ⟨⟨⟨hren, hdel⟩, hnc⟩, hnr⟩ := hcl
  -- after the rename nothing is created or renamed, so a name listed at the end was listed right
  -- after the rename and was not deleted since; had `clean_files` selected it, it would have been
  rw [split_at_rename tr hren, run_append] at hn
  obtain ⟨h1, h2⟩ := listed_after_quiet _ (afterRename tr)
    (fun e he => ⟨by simpa using hnc e he, by simpa using hnr e he⟩) n hn
  have hnot : n ∉ cleanFiles ix new.gen new.sids (run fs (uptoRename tr)).listing := fun hmem =>
    h2 (by simpa using hdel n hmem)
  simp only [cleanFiles, List.mem_filter, not_and] at hnot
  have hf := hnot h1
  rw [hdot] at hf
  simp only [Bool.false_eq_true, if_false] at hf
  constructor
  · intro g hg
    rw [hg] at hf
    simpa using hf
  · intro hg s hs
    rw [hg, hs] at hf
    simpa using hf

/-- **C02.orphans_removed.**  Whatever a crashed commit left behind (any prefix, any truncation),
    the directory is a consistent starting point for the next writer, and when that writer's
    whole commit follows the protocol and performs the `clean_files` pass, no TOC of another
    generation and no file of an unreferenced segment is left. -/
theorem orphans_removed (ix : Name) (old new : Toc) (tmp : Name) (fs0 : FS) (tr : List Event)
    (hc : Consistent ix old fs0) (hs : SafeCommitTrace ix old new tmp fs0 tr = true)
    (k : Nat) (τ : Nat → Nat) :
    let fs1 := crash (run fs0 (tr.take k)) τ
    Consistent ix (stateAt old new tr k) fs1 ∧
    ∀ (new2 : Toc) (tr2 : List Event),
      CleansOrphans ix new2 fs1 tr2 = true → Clean ix new2 (run fs1 tr2) :=
  ⟨consistent_at hc hs k τ, fun _ _ => clean_of_cleansOrphans⟩

/-- **C02.next_commit.**  `orphans_removed` and `commit` in one statement: after any crashed prefix
    (any truncation), a later writer whose whole commit follows the protocol from the surviving
    directory and performs the clean-up pass publishes exactly its new TOC, readable, one
    generation on — and leaves no stale TOC and no file of an unreferenced segment.
    (A leaked TOC temp file `_<ix>_<n>.toc.<time>` matches neither pattern: `clean_files` never
    removes it and `Clean` does not speak about it; the property only names segment files.) -/
theorem next_commit (ix : Name) (old new : Toc) (tmp : Name) (fs0 : FS) (tr : List Event)
    (hc : Consistent ix old fs0) (hs : SafeCommitTrace ix old new tmp fs0 tr = true)
    (k : Nat) (τ : Nat → Nat) (new2 : Toc) (tmp2 : Name) (tr2 : List Event) :
    let fs1 := crash (run fs0 (tr.take k)) τ
    CompleteCommit ix (stateAt old new tr k) new2 tmp2 fs1 tr2 = true →
    CleansOrphans ix new2 fs1 tr2 = true →
    readToc ix (run fs1 tr2) = .ok new2 ∧ readable (run fs1 tr2) new2 = true ∧
    new2.gen = (stateAt old new tr k).gen + 1 ∧ Clean ix new2 (run fs1 tr2) := by
  intro fs1 hcc hcl
  obtain ⟨r1, r2, r3⟩ := commit ix _ new2 tmp2 fs1 tr2 (consistent_at hc hs k τ) hcc
  exact ⟨r1, r2, r3, clean_of_cleansOrphans hcl⟩

/-- **C02.committed_files_untouched.**  What the protocol predicates demand of in-place changes: a
    trace that deletes the committed TOC or any file of a segment it references *before* the TOC
    rename (e.g. a schema change that drops a removed field's column file of the existing loose segments
    at once) is rejected, whatever comes before and after — by `SafeCommitTrace` and by
    `SafeCancelTrace`.  (Such a delete is exactly what would make a crash, or a cancel, leave a mixture:
    the old TOC with a segment whose file is gone, see the `example` below.) -/
theorem committed_files_untouched (ix : Name) (old new : Toc) (tmp : Option Name) (c : Chk)
    (hc : c.phase ≠ .post) (pre post : List Event) (n : Name)
    (hn : n = tocName ix old.gen ∨ n ∈ old.files) (hnr : renamed pre = false) :
    chkRun ix old new tmp c (pre ++ .delete n :: post) = none := by
  rw [chkRun_append]
  cases hpre : chkRun ix old new tmp c pre with
  | none => rfl
  | some c1 =>
    have hp : c1.phase ≠ .post := fun h =>
      ((chkRun_phase hpre).1 h).elim hc (by rw [hnr]; nofun)
    have hg : Protected ix old new c1.phase n := Or.inl (by rw [curToc, if_neg hp]; exact hn)
    show chkRun ix old new tmp c1 (.delete n :: post) = none
    rw [chkRun, chkStep, okEvent_delete_protected hg]
    rfl

/-- `committed_files_untouched` for the two trace predicates: such a trace is neither a commit
    prefix nor a cancel. -/
theorem committed_files_untouched_commit (ix : Name) (old new : Toc) (tmp : Name) (fs0 : FS)
    (pre post : List Event) (n : Name) (hn : n = tocName ix old.gen ∨ n ∈ old.files)
    (hnr : renamed pre = false) :
    SafeCommitTrace ix old new tmp fs0 (pre ++ .delete n :: post) = false ∧
    SafeCancelTrace ix old fs0 (pre ++ .delete n :: post) = false := by
  simp [SafeCommitTrace, SafeCancelTrace,
    committed_files_untouched ix old new (some tmp) ⟨fs0, .pre⟩ (by simp) pre post n hn hnr,
    committed_files_untouched ix old old none ⟨fs0, .pre⟩ (by simp) pre post n hn hnr]

/-- **C02.pattern.**  The temp name `"%s.%s" % (tocfilename, time())` is never matched by the TOC
    pattern (whatever follows the dot), while the final name is, with its own generation; the lock
    file and the temp-storage directory are never matched by the segment pattern. -/
theorem pattern (ix : Name) (g : Nat) (t : List Char) :
    tocGen ix (tocName ix g ++ '.' :: t) = none ∧
    tocGen ix (tocName ix g) = some g ∧
    segOf ix (ix ++ ['_', 'W', 'R', 'I', 'T', 'E', 'L', 'O', 'C', 'K']) = none ∧
    segOf ix (ix ++ ['.', 't', 'm', 'p']) = none := by
  refine ⟨tocGen_tmp ix g t, tocGen_tocName ix g, ?_, ?_⟩
  · -- after `<ix>_` no character of `[0-9a-z]` follows
    rw [segOf, show ix ++ ['_', 'W', 'R', 'I', 'T', 'E', 'L', 'O', 'C', 'K']
      = (ix ++ ['_']) ++ ['W', 'R', 'I', 'T', 'E', 'L', 'O', 'C', 'K'] by simp, stripPrefix_append]
    rfl
  · rw [segOf, stripPrefix_mismatch ix ['t', 'm', 'p'] [] '_' '.' (by decide)]

/-- **C02.segFiles_segOf.**  Every file of a W3 segment — as named by the codec itself
    (`segFiles`: `<id>.seg`, or `.trm`, `.pst`, one `.<field>.col` per column, `.vps`), for *any*
    column names — is recognised by the segment pattern `clean_files` uses, with its own segment id. -/
theorem segFiles_segOf (ix segid : Name) (sh : SegShape) (hg : goodSegid segid = true) :
    ∀ f ∈ segFiles (segmentId ix segid) sh, segOf ix f = some (segmentId ix segid) := by
  intro f hf
  obtain ⟨rest, rfl⟩ := mem_segFiles_form _ sh f hf
  exact segOf_segmentId_dot ix segid rest hg

/-- with the pattern `segOfOld`, which restricts the extension to `[A-Za-z0-9_.]+`, this is false: the column file of a field
    named `é…` (or `-x`, `名前`, …) of a loose segment is not recognised, hence would never be cleaned -/
example : segOfOld ['M'] (columnFilename (segmentId ['M'] ['a']) ['é', 't']) = none := by decide
example : segOf ['M'] (columnFilename (segmentId ['M'] ['a']) ['é', 't']) = some ['M', '_', 'a'] :=
  segFiles_segOf ['M'] ['a'] ⟨false, [['é', 't']], false⟩ (by decide) _ (by decide)

/-- **C02.clean_codec.**  `clean_files` against the codec's file list: a file of a segment is deleted
    exactly when it is in the listing and its segment is not referenced by the new TOC — so the
    clean-up pass never removes a file of a referenced segment (which `SafeCommitTrace` demands of the
    deletes after the rename) and removes every file of an unreferenced one (`Clean`). -/
theorem clean_codec (ix segid : Name) (sh : SegShape) (gen : Nat) (sids listing : List Name)
    (hix : GoodIx ix) (hg : goodSegid segid = true) :
    ∀ f ∈ segFiles (segmentId ix segid) sh,
      (f ∈ cleanFiles ix gen sids listing ↔ f ∈ listing ∧ segmentId ix segid ∉ sids) := by
  intro f hf
  have hseg := segFiles_segOf ix segid sh hg f hf
  obtain ⟨rest, rfl⟩ := mem_segFiles_form _ sh f hf
  have hname : segmentId ix segid ++ '.' :: rest = ix ++ ('_' :: segid ++ '.' :: rest) := by
    simp [segmentId]
  have htoc : tocGen ix (segmentId ix segid ++ '.' :: rest) = none := by
    rw [hname]; exact tocGen_of_goodIx hix _
  have hdot : startsWithDot (segmentId ix segid ++ '.' :: rest) = false := by
    rw [hname]; exact startsWithDot_of_goodIx hix _
  simp [cleanFiles, List.mem_filter, hdot, htoc, hseg]

/-- **C02.toc_tmp_leaks.**  What happens to a TOC temp file `_<ix>_<g>.toc.<time>` that a writer which
    died between creating it and renaming it left behind: (1) readers never take it for a TOC
    (`pattern`), (2) no `clean_files` pass — whatever generation, segments and listing — selects it, and
    (3) it is still in the directory after any later writer activity whose deletes only hit names one of
    the two patterns matches or files of the temp storage `<ix>.tmp/…` (what `clean_files`,
    `create_compound_file` and the per-document writer's temp storage delete; checked on every later
    writer's real trace) and which renames only other names (its own fresh temp file).  So it leaks for
    ever; it is harmless to every reader and writer, and the property text only promises the removal of
    orphaned *segment* files (`next_commit`). -/
theorem toc_tmp_leaks (ix : Name) (hix : GoodIx ix) (g : Nat) (t : List Char) :
    let n := tocName ix g ++ '.' :: t
    tocGen ix n = none ∧
    (∀ gen sids listing, n ∉ cleanFiles ix gen sids listing) ∧
    (∀ (fs : FS) (tr2 : List Event), n ∈ fs.listing →
      (∀ m, Event.delete m ∈ tr2 → (tocGen ix m).isSome ∨ (segOf ix m).isSome ∨
        (stripPrefix (ix ++ ['.', 't', 'm', 'p']) m).isSome) →
      (∀ a b, Event.rename a b ∈ tr2 → a ≠ n) →
      n ∈ (run fs tr2).listing) := by
  intro n
  have h1 : tocGen ix n = none := tocGen_tmp ix g t
  -- `n` starts with `_`, the index name does not
  have h2 : segOf ix n = none := segOf_underscore hix _
  have h3 : stripPrefix (ix ++ ['.', 't', 'm', 'p']) n = none := by
    obtain ⟨c, cs, rfl, hc, _⟩ := hix
    exact stripPrefix_mismatch [] _ _ c '_' hc
  refine ⟨h1, fun gen sids listing hmem => ?_, fun fs tr2 hl hdel hren => ?_⟩
  · have hsel := (List.mem_filter.1 hmem).2
    simp [h1, h2] at hsel
  · refine run_keeps_bound fs tr2 n (fun e he ho => ?_) hl
    -- an event that unbinds `n` renames it or deletes it
    cases e <;> cases ho
    · exact hren _ _ he rfl
    · rcases hdel _ he with h | h | h
      · rw [h1] at h; cases h
      · rw [h2] at h; cases h
      · rw [h3] at h; cases h

/-! ### A concrete instance (non-vacuity of the hypotheses) -/
namespace Example

def ix : Name := ['M']
def segFile : Name := ['M', '_', 'a', '.', 's', 'e', 'g']
def toc0 : Name := ['_', 'M', '_', '0', '.', 't', 'o', 'c']
def toc1 : Name := ['_', 'M', '_', '1', '.', 't', 'o', 'c']
def tmpN : Name := ['_', 'M', '_', '1', '.', 't', 'o', 'c', '.', '9']
def tocOld : Toc := ⟨0, 0, []⟩
def tocNew : Toc := ⟨1, 0, [⟨['M', '_', 'a'], [segFile], []⟩]⟩
def fs0 : FS :=
  { names := [toc0]
    dir := fun n => if n = toc0 then some 0 else none
    data := fun _ => ⟨10, .complete, some tocOld⟩
    next := 1 }
/-- the storage events of a one-segment commit, in the order the real writer issues them -/
def tr : List Event :=
  [.create segFile, .write segFile 100, .close segFile,
   .create tmpN, .setToc tmpN tocNew, .write tmpN 50, .close tmpN,
   .rename tmpN toc1, .delete toc0]
/-- the same events with the segment file closed only after the TOC is in place -/
def trBad : List Event :=
  [.create segFile, .write segFile 100,
   .create tmpN, .setToc tmpN tocNew, .write tmpN 50, .close tmpN,
   .rename tmpN toc1, .close segFile, .delete toc0]

theorem dir0 {n : Name} {i : Nat} (h : fs0.dir n = some i) : n = toc0 ∧ i = 0 := by
  simp only [fs0] at h
  split at h
  · next hn => exact ⟨hn, (Option.some.inj h).symm⟩
  · cases h

theorem consistent0 : Consistent ix tocOld fs0 where
  toc := by decide +kernel
  readable := by decide +kernel
  noWriting := by intro i; simp [fs0]
  support n h := by
    obtain ⟨i, hi⟩ := Option.isSome_iff_exists.1 h
    rw [(dir0 hi).1]
    exact List.mem_singleton_self _
  range n i h := by rw [(dir0 h).2]; exact Nat.zero_lt_one
  inj a b i ha hb := by rw [(dir0 ha).1, (dir0 hb).1]

theorem complete_tr : CompleteCommit ix tocOld tocNew tmpN fs0 tr = true := by decide +kernel
theorem safe_tr : SafeCommitTrace ix tocOld tocNew tmpN fs0 tr = true := (safe_of_complete complete_tr).1
theorem goodIx : GoodIx ix := ⟨'M', [], rfl, by decide, by decide⟩

example : SafeCommitTrace ix tocOld tocNew tmpN fs0 tr = true := safe_tr
example : CompleteCommit ix tocOld tocNew tmpN fs0 tr = true := complete_tr
example : CleansOrphans ix tocNew fs0 tr = true := by decide +kernel
example : SafeCancelTrace ix tocOld fs0 (tr.take 3) = true := by decide +kernel
/-- the protocol predicate rejects the mis-ordered trace, and there the conclusion indeed fails:
    a crash right after the rename leaves a TOC whose segment file is torn. -/
example : SafeCommitTrace ix tocOld tocNew tmpN fs0 trBad = false := by decide +kernel
example : readable (crash (run fs0 (trBad.take 7)) fun _ => 0) tocNew = false := by decide +kernel
/-- instantiation of the theorem at a crash inside the TOC temp file and right after the rename -/
example : readToc ix (crash (run fs0 (tr.take 6)) fun _ => 3) = .ok tocOld :=
  (crash_atomic ix tocOld tocNew tmpN fs0 tr consistent0 safe_tr 6 _).2.1
example : readToc ix (crash (run fs0 (tr.take 8)) fun _ => 0) = .ok tocNew :=
  (crash_atomic ix tocOld tocNew tmpN fs0 tr consistent0 safe_tr 8 _).2.1

/-! junk left by a crash is really deleted by the next commit: the writer of `tr` dies after
writing (and not closing) its segment file; the next writer commits another segment and its
clean-up pass removes the torn orphan -/
def fsCrashed : FS := crash (run fs0 (tr.take 2)) fun _ => 40
def segFile2 : Name := ['M', '_', 'b', '.', 's', 'e', 'g']
def tocNew2 : Toc := ⟨1, 0, [⟨['M', '_', 'b'], [segFile2], []⟩]⟩
def tmpN2 : Name := ['_', 'M', '_', '1', '.', 't', 'o', 'c', '.', '8']
def tr2 : List Event :=
  [.create segFile2, .write segFile2 70, .close segFile2,
   .create tmpN2, .setToc tmpN2 tocNew2, .write tmpN2 50, .close tmpN2,
   .rename tmpN2 toc1, .delete toc0, .delete segFile]

/-- the orphan is there after the crash (torn, 40 of its 100 bytes) … -/
example : (fsCrashed.file? segFile).map (fun d => (d.len, d.st)) = some (40, .torn) := by decide +kernel
theorem complete_tr2 : CompleteCommit ix tocOld tocNew2 tmpN2 fsCrashed tr2 = true := by decide +kernel
theorem cleans_tr2 : CleansOrphans ix tocNew2 fsCrashed tr2 = true := by decide +kernel
example : CompleteCommit ix tocOld tocNew2 tmpN2 fsCrashed tr2 = true := complete_tr2
example : CleansOrphans ix tocNew2 fsCrashed tr2 = true := cleans_tr2
/-- … and gone after the next commit, which `next_commit` says for every such trace -/
example : (run fsCrashed tr2).listing.contains segFile = false := by decide +kernel
example : Clean ix tocNew2 (run fsCrashed tr2) :=
  (next_commit ix tocOld tocNew tmpN fs0 tr consistent0 safe_tr 2 (fun _ => 40) tocNew2 tmpN2 tr2
    complete_tr2 cleans_tr2).2.2.2
/-- a writer that dies with its TOC temp file open leaves it behind, the next commit (which does
    clean up the orphaned segment file) does not remove it: `toc_tmp_leaks` instantiated -/
def fsCrashedTmp : FS := crash (run fs0 (tr.take 6)) fun _ => 3
def tmpN3 : Name := ['_', 'M', '_', '1', '.', 't', 'o', 'c', '.', '7']
def tr3 : List Event :=
  [.create segFile2, .write segFile2 70, .close segFile2,
   .create tmpN3, .setToc tmpN3 tocNew2, .write tmpN3 50, .close tmpN3,
   .rename tmpN3 toc1, .delete toc0, .delete segFile]
example : CompleteCommit ix tocOld tocNew2 tmpN3 fsCrashedTmp tr3 = true := by decide +kernel
example : CleansOrphans ix tocNew2 fsCrashedTmp tr3 = true := by decide +kernel
example : (run fsCrashedTmp tr3).listing.contains tmpN = true := by decide +kernel
example : tmpN ∈ (run fsCrashedTmp tr3).listing :=
  (toc_tmp_leaks ix goodIx 1 ['9']).2.2 fsCrashedTmp tr3 (by decide +kernel)
    (by intro m hm
        simp only [tr3, List.mem_cons, List.not_mem_nil, or_false, reduceCtorEq, false_or,
          Event.delete.injEq] at hm
        rcases hm with rfl | rfl <;> decide)
    (by intro a b hm
        simp only [tr3, List.mem_cons, List.not_mem_nil, or_false, reduceCtorEq, false_or,
          Event.rename.injEq] at hm
        rw [hm.1]; decide)
/-- `clean_codec` on the orphan of the example above: selected because its segment is unreferenced -/
example : segFile ∈ cleanFiles ix 1 tocNew2.sids fsCrashed.listing :=
  (clean_codec ix ['a'] ⟨true, [], false⟩ 1 tocNew2.sids fsCrashed.listing
    goodIx (by decide) segFile (by decide)).2 ⟨by decide +kernel, by decide +kernel⟩

/-- without the clean-up pass the predicate says no (and the orphan would stay) -/
example : CleansOrphans ix tocNew2 fsCrashed (tr2.take 9) = false := by decide +kernel

/-! `committed_files_untouched` on a concrete instance: after the commit above, a writer that deletes the
    committed segment file before publishing anything is rejected (as a commit prefix and as a cancel),
    and a crash right after that delete really leaves a mixture — the TOC read back is the committed
    one, but it is not readable any more. -/
def fs1 : FS := run fs0 tr
example : SafeCancelTrace ix tocNew fs1 [.other, .delete segFile] = false :=
  (committed_files_untouched_commit ix tocNew tocNew tmpN fs1 [.other] [] segFile
    (Or.inr (by decide +kernel)) (by decide +kernel)).2
example : SafeCancelTrace ix tocNew fs1 [.other, .delete segFile] = false := by decide +kernel
example : readToc ix (crash (run fs1 [.other, .delete segFile]) fun _ => 0) = .ok tocNew ∧
    readable (crash (run fs1 [.other, .delete segFile]) fun _ => 0) tocNew = false ∧
    readable (crash (run fs1 [.other]) fun _ => 0) tocNew = true := ⟨by decide +kernel, by decide +kernel, by decide +kernel⟩

end Example

end WM.C02
