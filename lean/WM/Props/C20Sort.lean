import WM.Lemmas.Sort
/-! C20 (external merge sort): `SortingPool.items()` is a sorted permutation of what was added,
for every run size (`maxsize ≥ 1`), every `maxfiles ≥ 2` and every total, transitive order. -/
namespace WM.C20
open WM.Sort

section
variable {α : Type} (le : α → α → Bool)
  (htrans : ∀ a b c, le a b = true → le b c = true → le a c = true)
  (htotal : ∀ a b, (le a b || le b a) = true)

include htrans htotal in
/-- **The external sort returns its input sorted**: for every run size `maxsize ≥ 1`, every
    `maxfiles ≥ 2` and every input, `sort(items)` is sorted by `le` and a permutation of the input. -/
theorem extsort_sorted_perm (maxsize maxfiles : Nat) (hs : 1 ≤ maxsize) (hm : 2 ≤ maxfiles) (xs : List α) :
    ∃ out, sortAll le maxsize maxfiles xs = .ok out ∧ SortedBy le out ∧ out.Perm xs := by
  unfold sortAll
  rw [if_neg (Nat.not_lt.mpr hs)]
  have hinv := foldl_add_inv le htrans htotal xs ⟨maxsize, [], []⟩ []
    ⟨by intro r hr; simp at hr, by simp⟩
  simp only [List.nil_append] at hinv
  exact items_spec le htrans htotal _ xs hinv maxfiles hm

include htrans htotal in
/-- `reduce_to(target, k)` really gets down to `target` runs (so at most `maxfiles` files are open). -/
theorem extsort_reduce_bound (target k : Nat) (ht : 1 ≤ target) (hk : 2 ≤ k) (runs : List (List α))
    (hs : ∀ r ∈ runs, SortedBy le r) :
    ∃ out, reduceTo le target k runs = .ok out ∧ out.length ≤ max runs.length target
      ∧ (runs.length > target → out.length ≤ target) := by
  have h := Nat.sub_add_cancel ht ▸ length_reduceLoop_le le (target - 1) (k - 2) runs
  exact ⟨_, reduceTo_eq le ht hk runs, Nat.le_trans h (Nat.le_max_right ..), fun _ => h⟩

end

/-- Invalid parameters are rejected the way the code rejects them. -/
theorem extsort_rejects {α} (le : α → α → Bool) (xs : List α) (maxsize maxfiles : Nat)
    (h : maxsize < 1 ∨ maxfiles < 2) : sortAll le maxsize maxfiles xs = .error .value := by
  unfold sortAll
  by_cases h1 : maxsize < 1
  · rw [if_pos h1]
  · rw [if_neg h1]
    unfold Pool.items
    rw [if_pos (h.resolve_left h1)]

/-- Non-vacuity: run size 2 and two files force five saved runs and three rounds of reduction. -/
example : ∃ out, sortAll (fun (a b : Nat) => decide (a ≤ b)) 2 2 [5, 3, 1, 4, 1, 5, 9, 2, 6] = .ok out
    ∧ out.Perm [5, 3, 1, 4, 1, 5, 9, 2, 6] ∧ SortedBy (fun (a b : Nat) => decide (a ≤ b)) out := by
  rcases extsort_sorted_perm (fun (a b : Nat) => decide (a ≤ b))
    (fun a b c h1 h2 => decide_eq_true (Nat.le_trans (of_decide_eq_true h1) (of_decide_eq_true h2)))
    (fun a b => by simp only [Bool.or_eq_true, decide_eq_true_eq]; exact Nat.le_total a b) 2 2 (by decide) (by decide)
    [5, 3, 1, 4, 1, 5, 9, 2, 6] with ⟨out, h1, h2, h3⟩
  exact ⟨out, h1, h3, h2⟩

end WM.C20
