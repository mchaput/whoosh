import WM.Lemmas.NormalizeOps
import WM.Lemmas.NormalizeWitness
import WM.Lemmas.NormalizeExc
import WM.Lemmas.NormalizeNested
/-!
C15 — query rewriting never changes what a query means.

Model: `WM.Normalize` (lean/WM/Model/Normalize.lean, NormalizeReader.lean; NormalizeExc.lean for "never
raises", NormalizeDedupe.lean and NormalizeNested.lean for clause classes outside `Q`) mirrors the rewrite
methods of `whoosh.query`; specification: `WM.Sat.sat` (lean/WM/Spec/Sat.lean).  Every theorem
holds for every environment `env` (index contents, multi-term expansions, glob bracket semantics,
positional part of sequences, what the opaque span queries match).

The tree under /repo has rewrite rules that are *not* meaning preserving and that its test-suite pins
(known_findings.json): the main theorem is therefore `normalize_sat_partial`, under the decidable
hypothesis `WM.Clean.clean q` that excludes exactly those rules, `Doc.BelowMax` (no term at or above
`u"￿"`) and `EOk env q`: the tree has no `TermRange` with an exclusive open/empty start where a
rewrite touches it (`WM.Clean.emptyOk`), *or* no document holds the empty term.  (`WM.Sat.sat` reads
the multi-term leaves as the repaired `MultiTerm.matcher` does: the empty term counts.)  The full
statement is kept as `normalize_sat_full` and refuted below on a concrete witness per recorded defect.
-/
namespace WM.C15
open WM.Normalize WM.Sat WM.Clean

/-- `normalize()` keeps the set of matching documents, on every index without terms at or above `u"￿"`,
    for every tree that does not run into one of the recorded defects and for which the empty term is
    harmless (`EOk`). -/
theorem normalize_sat_partial (env : Env) (q : Q) (hq : clean q = true) (he : EOk env q)
    (hidx : ∀ d ∈ env.index, d.BelowMax) (d : Doc) (hd : d ∈ env.index) :
    sat env (normalize q) d = sat env q d :=
  normalize_sat_aux env hidx q hq he d hd

/-- Consequence for whole answers. -/
theorem normalize_answer_partial (env : Env) (q : Q) (hq : clean q = true) (he : EOk env q)
    (hidx : ∀ d ∈ env.index, d.BelowMax) : answer env (normalize q) = answer env q :=
  answer_congr (normalize_sat_partial env q hq he hidx)

/-- On an index of plain documents (no empty term, nothing at or above `u"￿"`)
    every clean tree keeps its meaning, exclusive open starts included. -/
theorem normalize_sat_plain (env : Env) (q : Q) (hq : clean q = true)
    (hidx : ∀ d ∈ env.index, d.Plain) (d : Doc) (hd : d ∈ env.index) :
    sat env (normalize q) d = sat env q d :=
  normalize_sat_aux env (fun d hd => (hidx d hd).belowMax) q hq (Or.inr fun d hd => (hidx d hd).noEmpty) d hd

/-- On an index that holds the empty term: ranges with inclusive or non-empty starts are merged, turned
    into `Every(f)`/`Term` and de-duplicated without changing the answer (document 0 has the empty
    term in field 0, document 1 the term `b`). -/
example :
    let envE : Env := { env0 with index := [doc 0 [[]], doc 1 [[98]]] }
    let q : Q := .comp .or [.range 0 none (some [97]) false false 1 true, .range 0 (some []) none false false 2 true,
      .wild 0 [] 1 true, .range 0 (some [97]) (some [99]) true false 1 true] 1
    clean q = true ∧ emptyOk q = true ∧ normalize q = .every (some 0) 2
      ∧ answer envE q = [0, 1] ∧ answer envE (normalize q) = [0, 1]
      ∧ answer envE (.wild 0 [] 1 true) = [0] ∧ answer envE (.pre 0 [] 1 true) = [0, 1] := by
  decide +kernel

/-- The statement of the property, at full strength.  It is false for the tree under /repo. -/
def normalize_sat_full : Prop :=
  ∀ (env : Env) (q : Q) (d : Doc), d ∈ env.index → sat env (normalize q) d = sat env q d

/-- Non-vacuity: a clean tree that exercises flattening, de-duplication, range merging under `Or`,
    `Every` absorption under `Or` and single-clause unwrapping, on an index of plain documents. -/
example :
    let q : Q := .comp .or [.comp .or [.term 0 [97] 1, .range 0 (some [97]) (some [99]) false false 1 true] 2,
      .term 0 [97] 2, .range 0 (some [98]) none false false 1 true, .comp .and [.every none 1, .term 0 [112] 1] 1] 1
    clean q = true ∧ normalize q = .comp .or [.term 0 [97] 2, .range 0 (some [97]) none false false 2 true,
      .term 0 [112] 1] 1 ∧ answer env0 q = [0, 1] ∧ answer env0 (normalize q) = [0, 1] := by
  decide +kernel

/-! Recorded defects: each of the next five refutes `normalize_sat_full` (and lies outside `clean`). -/

/-- `And([x, NullQuery])` -> `x`. -/
theorem defect_and_null :
    let q : Q := .comp .and [.term 0 [97] 1, .null] 1
    clean q = false ∧ normalize q = .term 0 [97] 1 ∧ answer env0 q = [] ∧ answer env0 (normalize q) = [0] := by
  decide +kernel

/-- `Not(NullQuery)` -> `NullQuery`. -/
theorem defect_not_null :
    let q : Q := .comp .or [.term 0 [97] 1, .not .null 1] 1
    clean q = false ∧ normalize q = .term 0 [97] 1 ∧ answer env0 q = [0, 1]
      ∧ answer env0 (normalize q) = [0] := by
  decide +kernel

/-- `And([Every(f), Term(f, a)])` -> `Every(f)`. -/
theorem defect_and_every_field :
    let q : Q := .comp .and [.every (some 0) 1, .term 0 [97] 1] 1
    clean q = false ∧ normalize q = .every (some 0) 1 ∧ answer env0 q = [0]
      ∧ answer env0 (normalize q) = [0, 1] := by
  decide +kernel

/-- `And([[a TO m], [f TO q]])` -> `[f TO m]` although document 1 has `b` and `p`. -/
theorem defect_and_range_multivalued :
    let q : Q := .comp .and [.range 0 (some [97]) (some [109]) false false 1 true,
      .range 0 (some [102]) (some [113]) false false 1 true] 1
    clean q = false ∧ normalize q = .range 0 (some [102]) (some [109]) false false 1 true
      ∧ answer env0 q = [1] ∧ answer env0 (normalize q) = [] := by
  decide +kernel

/-- `And([[a TO z], [b TO b']])` with nested ranges -> the *outer* range. -/
theorem defect_and_range_nested :
    let q : Q := .comp .and [.range 0 (some [97]) (some [122]) false false 1 true,
      .range 0 (some [99]) (some [100]) false false 1 true] 1
    clean q = false ∧ normalize q = .range 0 (some [97]) (some [122]) false false 1 true
      ∧ answer env0 q = [] ∧ answer env0 (normalize q) = [0, 1] := by
  decide +kernel

theorem not_normalize_sat_full : ¬ normalize_sat_full := fun h =>
  List.cons_ne_nil _ _ <|
    defect_and_null.2.2.2.symm.trans ((answer_congr fun d => h env0 _ d).trans defect_and_null.2.2.1)

/-- What is still false about odd terms.  (1) A `TermRange` with an *exclusive* open start leaves the
    empty term out (`TermRange._btexts` skips a first term equal to the start `b""`), `TermRange.normalize`
    turns it into `Every(f)`, which does not: `emptyOk` cannot be dropped on an index that holds the empty
    term.  The same range with an inclusive start is fine.  (2) A term at or above `u"￿"` is outside
    `[... TO u"￿"]` but inside the `Every(f)` that `normalize` makes of it: `Doc.BelowMax` cannot be
    dropped. -/
theorem defect_open_excl_start :
    let envE : Env := { env0 with index := [doc 0 [[]], doc 1 [[98]]] }
    let q1 : Q := .range 0 none none true false 1 true
    let q1' : Q := .range 0 (some []) (some maxText) true false 1 true
    clean q1 = true ∧ emptyOk q1 = false ∧ emptyOk q1' = false
      ∧ normalize q1 = .every (some 0) 1 ∧ answer envE q1 = [1] ∧ answer envE (normalize q1) = [0, 1]
      ∧ normalize q1' = .every (some 0) 1 ∧ answer envE q1' = [1]
      ∧ emptyOk (.range 0 none none false false 1 true) = true
      ∧ answer envE (.range 0 none none false false 1 true) = [0, 1] := by
  decide +kernel

/-- The merging loop has the same blind spot: the comparable of an open start is `(Lowest, 0)` whether
    exclusive or not, so `Or([{ TO a], [b TO c]])`-like unions forget the exclusion. -/
example :
    let envE : Env := { env0 with index := [doc 0 [[]], doc 1 [[98]]] }
    let q : Q := .comp .or [.range 0 none (some [98]) true false 1 true, .range 0 (some [97]) (some [99]) false false 1 true] 1
    clean q = true ∧ emptyOk q = false ∧ normalize q = .range 0 none (some [99]) false false 1 true
      ∧ answer envE q = [1] ∧ answer envE (normalize q) = [0, 1] := by
  decide +kernel

theorem defect_odd_terms :
    let envA : Env := { env0 with index := [doc 0 [[0x1F600]]] }
    let q2 : Q := .range 0 none (some maxText) false false 1 true
    emptyOk q2 = true ∧ normalize q2 = .every (some 0) 1 ∧ answer envA q2 = []
      ∧ answer envA (normalize q2) = [0] := by
  decide +kernel

/-- `normalize` is total (a structurally / well-founded recursive function, no fuel) and its result has the
    shape `NF`: a compound at the root, or reached from it through compounds only, has at least two clauses,
    and the `TermRange`s there are fixed points of `TermRange.normalize`.  `NF` does not look below a `Not`, a
    binary node, a `Sequence` or a `ConstantScoreQuery`; that the whole tree has the shape the rewrite promises
    is `WM.Normalize.Normal_normalize`. -/
theorem total (q : Q) : ∃ r, normalize q = r ∧ NF r = true := ⟨_, rfl, normalize_NF q⟩

example : NF (normalize (.comp .and [.comp .and [] 1, .comp .or [.null] 2] 1)) = true
    ∧ normalize (.comp .and [.comp .and [] 1, .comp .or [.null] 2] 1) = .null := by
  decide +kernel

/-- `normalize()` never raises.  `normalizeE` (lean/WM/Model/NormalizeExc.lean) mirrors the same code in
    the exception monad with the one statement on its path that can raise kept as a raising site
    (`assert self.fieldname == other.fieldname` in `RangeMixin.merge`); it returns a query for every
    tree, the query is `normalize q`, and it has the shape `NF` (see `total`). -/
theorem never_raises (q : Q) : ∃ r, normalizeE q = .ok r ∧ r = normalize q ∧ NF r = true :=
  ⟨normalize q, normalizeE_eq q, rfl, normalize_NF q⟩

/-- The operators `&`, `|`, `-` never raise either. -/
theorem ops_never_raise (a b : Q) :
    opAndE a b = .ok (opAnd a b) ∧ opOrE a b = .ok (opOr a b) ∧ opSubE a b = .ok (opSub a b) :=
  ⟨normalizeE_eq _, normalizeE_eq _, normalizeE_eq _⟩

/-- The raising site is a real one: `merge` of two ranges on different fields trips the `assert` (what
    keeps `normalize` from reaching it is `overlaps`, which compares the field names first); and a tree
    whose ranges sit on two fields and overlap as intervals goes through. -/
example :
    let a : Rng := ⟨0, some [97], some [99], false, false, 1, true⟩
    let b : Rng := ⟨1, some [98], some [100], false, false, 1, true⟩
    a.mergeE b false = .error .assertion ∧ a.overlaps b = false
      ∧ normalizeE (.comp .or [a.toQ, b.toQ, (Rng.mk 0 (some [98]) none false false 2 true).toQ] 1)
        = .ok (.comp .or [.range 0 (some [97]) none false false 2 true, b.toQ] 1) := by
  exact ⟨rfl, by decide +kernel, (normalizeE_eq _).trans (congrArg Except.ok (by decide +kernel))⟩

/-- `normalize` is idempotent: for every tree (no hypothesis).  Proved through the normal forms
    `WM.Normalize.Normal`: `normalize` produces them and leaves them alone.  (True of the tree with
    the `fix:` "restart the scan after every merge"; before that fix it was not.) -/
theorem idempotent (q : Q) : normalize (normalize q) = normalize q :=
  normalize_of_Normal _ (Normal_normalize q)

/-- The input on which the tree was not idempotent before the fix: three ranges, the last one bridging the
    first two. -/
example :
    let q : Q := .comp .or [.range 0 (some [97]) (some [98]) false false 1 true,
      .range 0 (some [101]) (some [102]) false false 1 true, .range 0 (some [98]) (some [101]) false false 1 true] 1
    normalize q = .range 0 (some [97]) (some [102]) false false 1 true
      ∧ Normal (normalize q) = true ∧ Normal q = false := by
  decide +kernel

/-- Span queries (`query/spans.py`) are opaque leaves of every rewrite: `normalize` leaves them alone,
    de-duplicates equal ones, and lets `Every(f)` absorb only those that report the field `f`
    (`SpanFirst` of a query on `f`), never an unfielded one. -/
example :
    let sp : Q := .opq none [40, 115, 112, 97, 110]
    let sf : Q := .opq (some 0) [40, 115, 102]
    normalize (.comp .or [sp, .every (some 0) 1, sf, sp] 2) = .comp .or [sp, .every (some 0) 1] 2
      ∧ clean (.comp .and [sp, .term 0 [97] 1] 1) = true
      ∧ acceptId (.not sp 3) = .not sp 1 ∧ replace 0 [113] [97] sp = sp ∧ sp.withBoost 4 = sp := by
  decide +kernel

/-- Under `Or`: the merge of two overlapping ranges holds exactly the terms of their union. -/
theorem range_merge_union (a b : Rng) (h : a.overlaps b = true) (x : Text) :
    (a.merge b false).mem x ↔ a.mem x ∨ b.mem x := Rng.merge_union a b h x

/-- Under `And`, when neither range contains the other, the merge holds exactly the terms of the
    intersection. -/
theorem range_merge_inter_partial (a b : Rng) (x : Text)
    (hn1 : ¬ (cmpStart b.lo b.lox ≤ cmpStart a.lo a.lox ∧ cmpEnd a.hi a.hix ≤ cmpEnd b.hi b.hix))
    (hn2 : ¬ (cmpStart a.lo a.lox ≤ cmpStart b.lo b.lox ∧ cmpEnd b.hi b.hix ≤ cmpEnd a.hi a.hix)) :
    (a.merge b true).mem x ↔ a.mem x ∧ b.mem x :=
  (Rng.mem_merge a b true x).trans (mem_mergeBounds_inter hn1 hn2 (pt x))

/-- Full statement for `intersect=True`; false for nested ranges (`merge` returns the outer one). -/
def range_merge_inter_full : Prop :=
  ∀ (a b : Rng) (x : Text), a.overlaps b = true → ((a.merge b true).mem x ↔ a.mem x ∧ b.mem x)

example :
    let a : Rng := ⟨0, some [97], some [122], false, false, 1, true⟩
    let b : Rng := ⟨0, some [99], some [100], false, false, 1, true⟩
    a.overlaps b = true ∧ (a.merge b true).mem [98] ∧ ¬ b.mem [98] := by
  decide +kernel

example :
    let a : Rng := ⟨0, some [97], some [109], false, true, 1, true⟩
    let b : Rng := ⟨0, some [102], none, true, false, 2, false⟩
    a.overlaps b = true ∧ a.merge b false = ⟨0, some [97], none, false, false, 2, true⟩
      ∧ a.merge b true = ⟨0, some [102], some [109], true, true, 2, true⟩ := by
  decide +kernel

/-- `with_boost` never changes the matching documents (any tree, any index, any boost). -/
theorem with_boost_sat (env : Env) (q : Q) (b : Rat) (d : Doc) : sat env (q.withBoost b) d = sat env q d := by
  rw [withBoost_sat]

example : (Q.bin .andnot (.comp .or [.term 0 [97] 1] 2) (.term 0 [98] 1)).withBoost 4
    = .bin .andnot (.comp .or [.term 0 [97] 1] 4) (.term 0 [98] 1) := by decide +kernel

/-- `a & b` means conjunction (when the `And` it normalizes is clean). -/
theorem ops_and_partial (env : Env) (a b : Q) (h : clean (.comp .and [a, b] 1) = true)
    (he : EOk env (.comp .and [a, b] 1)) (hidx : ∀ d ∈ env.index, d.BelowMax) (d : Doc) (hd : d ∈ env.index) :
    sat env (opAnd a b) d = (sat env a d && sat env b d) :=
  (normalize_sat_partial env _ h he hidx d hd).trans (by simp [sat, satAll])

/-- `a | b` means disjunction (when `a` and `b` are clean). -/
theorem ops_or_partial (env : Env) (a b : Q) (h : clean (.comp .or [a, b] 1) = true)
    (he : EOk env (.comp .or [a, b] 1)) (hidx : ∀ d ∈ env.index, d.BelowMax) (d : Doc) (hd : d ∈ env.index) :
    sat env (opOr a b) d = (sat env a d || sat env b d) :=
  (normalize_sat_partial env _ h he hidx d hd).trans (by simp [sat, satAny])

/-- `a - b` means `a` and not `b` (when the `And([a, Not(b)])` it normalizes is clean). -/
theorem ops_sub_partial (env : Env) (a b : Q) (h : clean (.comp .and [a, .not b 1] 1) = true)
    (he : EOk env (.comp .and [a, .not b 1] 1)) (hidx : ∀ d ∈ env.index, d.BelowMax) (d : Doc) (hd : d ∈ env.index) :
    sat env (opSub a b) d = (sat env a d && !sat env b d) :=
  (normalize_sat_partial env _ h he hidx d hd).trans (by simp [sat, satAll])

def ops_full : Prop :=
  ∀ (env : Env) (a b : Q) (d : Doc), d ∈ env.index →
    sat env (opAnd a b) d = (sat env a d && sat env b d) ∧
    sat env (opOr a b) d = (sat env a d || sat env b d) ∧
    sat env (opSub a b) d = (sat env a d && !sat env b d)

/-- Non-vacuity, and the repaired unfielded-`Every` case: `Every() & t`, `t & Every()`, `Every() - t`. -/
example :
    let t : Q := .term 0 [97] 1
    clean (.comp .and [.every none 1, t] 1) = true ∧ opAnd (.every none 1) t = t ∧ opAnd t (.every none 1) = t
      ∧ opSub (.every none 1) t = .not t 1 ∧ opOr t (.every none 1) = .every none 1
      ∧ opOr t (.term 0 [98] 2) = .comp .or [t, .term 0 [98] 2] 1 := by
  decide +kernel

/-- `NullQuery - t` is `Not(t)` (the `And` drops the Null clause): refutes `ops_full`. -/
example : opSub .null (.term 0 [97] 1) = .not (.term 0 [97] 1) 1
    ∧ answer env0 (opSub .null (.term 0 [97] 1)) = [1] := by
  decide +kernel

/-- `q.accept(lambda q: q)` rebuilds the tree; it means the same (no `Not` below a `Sequence`, see
    `WM.Clean.seqNotFree`). -/
theorem apply_id_sat (env : Env) (q : Q) (h : seqNotFree q = true) (d : Doc) :
    sat env (acceptId q) d = sat env q d := by
  rw [acceptId_sat env q h]

/-- Replacing a term that does not occur is exactly the identity rebuild ... -/
theorem replace_absent (fld : Field) (old new : Text) (q : Q) (h : absent fld old q = true) :
    replace fld old new q = acceptId q := replace_absent_eq fld old new q h

/-- ... and therefore means the same. -/
theorem replace_absent_sat (env : Env) (fld : Field) (old new : Text) (q : Q)
    (h : absent fld old q = true) (hs : seqNotFree q = true) (d : Doc) :
    sat env (replace fld old new q) d = sat env q d := by
  rw [replace_absent fld old new q h, acceptId_sat env q hs]

example :
    let q : Q := .comp .and [.seq false [.term 0 [97] 1, .term 0 [98] 1] 3 false 2, .not (.phrase 0 [[97], [99]] 2 1) 4] 2
    seqNotFree q = true ∧ absent 0 [113] q = true
      ∧ replace 0 [113] [97] q
        = .comp .and [.seq false [.term 0 [97] 1, .term 0 [98] 1] 3 false 2, .not (.phrase 0 [[97], [99]] 2 1) 1] 2
      ∧ replace 0 [97] [113] q
        = .comp .and [.seq false [.term 0 [113] 1, .term 0 [98] 1] 3 false 2, .not (.phrase 0 [[113], [99]] 2 1) 1] 2 := by
  decide +kernel

/-! ### `__eq__` / `__hash__` (what `s in seenqs` of the de-duplication decides)

The model's equality `Q.beq` compares the class and every attribute that takes part in `__eq__` or
`__hash__` of the real classes.  (`Not.boost` is ignored by `Not.__eq__` but read by `Not.__hash__`: two
clauses that differ in the boost of one `Not` are kept apart by the Python set as by the model; trees
that differ in the boosts of several `Not`s can collide in the xor of hashes — the model keeps those
apart, the meaning is the same either way.)  Tied to the real `q2 in {q1}` on generated near-duplicate
pairs by the check. -/

/-- Queries the de-duplication treats as equal are the same tree ... -/
theorem eq_iff (a b : Q) : (a == b) = true ↔ a = b := beq_iff_eq

/-- ... hence match the same documents on every index, before and after every rewrite. -/
theorem eq_same_meaning (env : Env) (a b : Q) (h : (a == b) = true) :
    answer env a = answer env b ∧ answer env (normalize a) = answer env (normalize b)
      ∧ (∀ d, sat env a d = sat env b d) ∧ (normalize a == normalize b) = true := by
  have e : a = b := eq_of_beq h
  subst e
  exact ⟨rfl, rfl, fun _ => rfl, beq_self_eq_true _⟩

/-- Near-duplicates are kept apart: two `Term`s that differ in the boost only, two ranges that differ
    in one exclusion flag, two `Not`s that differ in the boost; exact duplicates are dropped. -/
example :
    let t : Q := .term 0 [97] 1
    let r : Q := .range 0 (some [97]) (some [99]) false false 1 true
    dedupe [] [] [t, .term 0 [97] 2, t, r, .range 0 (some [97]) (some [99]) false true 1 true, r, .not t 1, .not t 2]
      = [t, .term 0 [97] 2, r, .range 0 (some [97]) (some [99]) false true 1 true, .not t 1, .not t 2]
      ∧ ((Q.not t 1) == (Q.not t 2)) = false ∧ (t == Q.term 0 [97] 1) = true := by
  decide +kernel

/-! ### The duplicate elimination for an arbitrary clause class and equality

`NestedParent`/`NestedChildren` (and any class outside the model) go through the same "Eliminate
duplicate queries" loop with their own `__eq__`/`__hash__`.  `m c d` is any reading "clause `c`
matches document `d`". -/

/-- The duplicate elimination keeps the meaning of the clause list under `Or` (some clause matches) and
    under `And` (every clause matches) for every clause class whose equality is sound for the document:
    clauses that compare equal match it alike. -/
theorem dedupe_by_sound {α : Type} (eqv : α → α → Bool) (m : α → Doc → Bool) (d : Doc)
    (h : ∀ a b, eqv a b = true → m a d = m b d) (l : List α) :
    (WM.NormalizeDedupe.dedupeBy eqv [] l).any (fun c => m c d) = l.any (fun c => m c d)
      ∧ (WM.NormalizeDedupe.dedupeBy eqv [] l).all (fun c => m c d) = l.all (fun c => m c d) :=
  ⟨WM.NormalizeDedupe.dedupeBy_any eqv _ h l [], WM.NormalizeDedupe.dedupeBy_all eqv _ h l []⟩

/-- In particular an equality that only identifies a clause with itself (object identity, what
    `WrappingQuery` subclasses without `__eq__` have; structural equality of all attributes) is sound
    for every reading. -/
theorem dedupe_by_sound_of_eq {α : Type} (eqv : α → α → Bool) (heq : ∀ a b, eqv a b = true → a = b)
    (m : α → Doc → Bool) (d : Doc) (l : List α) :
    (WM.NormalizeDedupe.dedupeBy eqv [] l).any (fun c => m c d) = l.any (fun c => m c d)
      ∧ (WM.NormalizeDedupe.dedupeBy eqv [] l).all (fun c => m c d) = l.all (fun c => m c d) :=
  dedupe_by_sound eqv m d (fun a b e => by rw [heq a b e]) l

/-- The hypothesis is necessary: an equality that identifies two clauses of which only the second
    matches `d` makes `Or([a, b]).normalize()` lose `d`, and one that identifies two clauses of which
    only the first matches makes `And([a, b]).normalize()` gain it. -/
theorem dedupe_by_unsound {α : Type} (eqv : α → α → Bool) (m : α → Doc → Bool) (d : Doc) (a b : α)
    (e : eqv b a = true) :
    (m a d = false → m b d = true →
        (WM.NormalizeDedupe.dedupeBy eqv [] [a, b]).any (fun c => m c d) = false
          ∧ [a, b].any (fun c => m c d) = true)
      ∧ (m a d = true → m b d = false →
        (WM.NormalizeDedupe.dedupeBy eqv [] [a, b]).all (fun c => m c d) = true
          ∧ [a, b].all (fun c => m c d) = false) := by
  constructor <;> intro ha hb <;>
    simp [WM.NormalizeDedupe.dedupeBy, WM.NormalizeDedupe.seenBy, e, ha, hb]

/-- The loop of the modelled classes (`WM.Normalize.dedupe` with no `Every` field recorded) is the
    generic loop with structural equality `Q.beq`. -/
theorem dedupe_is_dedupe_by (l : List Q) :
    dedupe [] [] l = WM.NormalizeDedupe.dedupeBy (fun a b => a == b) [] l :=
  WM.NormalizeDedupe.dedupe_eq_of_fields [] l [] fun _ _ _ => rfl

/-- "Eliminate duplicate queries" (with no `Every` field recorded) keeps the meaning of the clause
    list under `Or` and under `And`: a clause is only dropped when an equal one was kept. -/
theorem dedupe_sat (env : Env) (l : List Q) (d : Doc) :
    satAny env (dedupe [] [] l) d = satAny env l d ∧ satAll env (dedupe [] [] l) d = satAll env l d := by
  simp only [dedupe_is_dedupe_by, satAny_eq_any, satAll_eq_all]
  exact dedupe_by_sound _ (sat env) d (sat_congr_of_beq env d) l

/-- Clauses numbered 0..3 with "same wrapped query" as equality (0 ~ 1, 2 ~ 3) and the reading
    "matches document `d` iff the clause number is odd": the loop keeps 0 and 2, the `Or` loses the
    document; with identity as equality nothing is dropped. -/
example :
    let eqv : Nat → Nat → Bool := fun i j => i / 2 == j / 2
    let m : Nat → Doc → Bool := fun i _ => i % 2 == 1
    WM.NormalizeDedupe.dedupeBy eqv [] [0, 1, 2, 3] = [0, 2]
      ∧ (WM.NormalizeDedupe.dedupeBy eqv [] [0, 1, 2, 3]).any (fun c => m c (doc 0 [])) = false
      ∧ [0, 1, 2, 3].any (fun c => m c (doc 0 [])) = true
      ∧ WM.NormalizeDedupe.dedupeBy (fun i j : Nat => i == j) [] [0, 1, 0, 3, 1] = [0, 1, 3]
      ∧ WM.NormalizeDedupe.dedupeBy (WM.NormalizeDedupe.tableEqv [(1, 0), (3, 2)]) [] [0, 1, 2, 3] = [0, 2] := by
  decide +kernel

/-- `simplify(reader)` means the same as the query on the index the reader describes (when none of
    the trees it hands to `normalize()` runs into a recorded defect: `WM.Clean.cleanS`). -/
theorem simplify_sat_partial (env : Env) (rd : Reader) (q : Q) (hrd : ReaderOk env rd)
    (hq : cleanS env.multi env.bracket rd q = true) (he : EOkS env rd q)
    (hidx : ∀ d ∈ env.index, d.BelowMax) (d : Doc) (hd : d ∈ env.index) :
    sat env (simplify env.multi env.bracket rd q) d = sat env q d :=
  simplify_sat_aux env rd hrd hidx q hq he d hd

def simplify_sat_full : Prop :=
  ∀ (env : Env) (rd : Reader) (q : Q), ReaderOk env rd → ∀ d ∈ env.index,
    sat env (simplify env.multi env.bracket rd q) d = sat env q d

example :
    let q : Q := .comp .and [.pre 0 [] 2 true, .bin .andnot (.wild 0 [63] 1 true) (.range 0 (some [99]) none false false 1 true)] 1
    cleanS env0.multi env0.bracket rd0 q = true
      ∧ simplify env0.multi env0.bracket rd0 q
        = .comp .and [.comp .or [.term 0 [97] 2, .term 0 [98] 2, .term 0 [112] 2] 1,
            .bin .andnot (.comp .or [.term 0 [97] 1, .term 0 [98] 1, .term 0 [112] 1] 1) (.term 0 [112] 1)] 1
      ∧ answer env0 q = [0] := by
  decide +kernel

/-- A prefix without expansions becomes `NullQuery`, which the enclosing `And` then drops:
    refutes `simplify_sat_full`. -/
example :
    let q : Q := .comp .and [.pre 0 [122] 1 true, .term 0 [97] 1] 1
    cleanS env0.multi env0.bracket rd0 q = false ∧ simplify env0.multi env0.bracket rd0 q = .term 0 [97] 1
      ∧ answer env0 q = [] ∧ answer env0 (simplify env0.multi env0.bracket rd0 q) = [0] := by
  decide +kernel

/-- `estimate_size` is never below the number of matching (live) documents, on every index with or
    without deleted documents: `rd.docs` are the live documents (= the index of `env`), `rd.dead` —
    arbitrary — the deleted ones that `doc_frequency` still counts while `doc_count()` does not. -/
theorem estimate_ge (env : Env) (rd : Reader) (q : Q) (hdocs : rd.docs = env.index) (hrd : ReaderOk env rd)
    (n : Nat) (h : estimate env.multi env.bracket rd q = some n) : (answer env q).length ≤ n := by
  rw [answer, List.length_map]
  exact estimate_ge_aux env rd hdocs hrd q n h

/-- `estimate_size` never raises: the one partial operation (`min()` of no subqueries in
    `And.estimate_size`, reached also from `Phrase`/`Sequence`) is guarded, for every tree without a
    span query (whose `estimate_size` is not modelled), every reader. -/
theorem estimate_total (env : Env) (rd : Reader) (q : Q) (h : q.spanFree = true) :
    ∃ n, estimate env.multi env.bracket rd q = some n :=
  estimate_total_aux env.multi env.bracket rd q h

/-- Both together: an estimate exists and bounds the answer. -/
theorem estimate_total_ge (env : Env) (rd : Reader) (q : Q) (hdocs : rd.docs = env.index)
    (hrd : ReaderOk env rd) (h : q.spanFree = true) :
    ∃ n, estimate env.multi env.bracket rd q = some n ∧ (answer env q).length ≤ n := by
  obtain ⟨n, hn⟩ := estimate_total env rd q h
  exact ⟨n, hn, estimate_ge env rd q hdocs hrd n hn⟩

example :
    estimate env0.multi env0.bracket rd0 (.comp .or [.term 0 [98] 1, .pre 0 [] 1 true] 1) = some 2
      ∧ estimate env0.multi env0.bracket rd0 (.comp .and [.term 0 [98] 1, .pre 0 [] 1 true] 1) = some 2
      ∧ estimate env0.multi env0.bracket rd0 (.phrase 0 [[97], [98]] 1 1) = some 1
      ∧ estimate env0.multi env0.bracket rd0 (.comp .and [] 1) = some 0
      ∧ (answer env0 (.comp .or [.term 0 [98] 1, .pre 0 [] 1 true] 1)).length = 2 := by
  decide +kernel

/-- With a deleted document `"a b"` still in its segment: `doc_frequency("b")` is 3 although only two
    live documents hold it; `Every` and `Not` estimate the live count; nested empty compounds and an
    empty phrase do not raise. -/
example :
    let rd : Reader := { rd0 with dead := [doc 2 [[97], [98]]] }
    rd.docs = env0.index ∧ rd.df 0 [98] = 3 ∧ rd.docCount = 2
      ∧ estimate env0.multi env0.bracket rd (.term 0 [98] 1) = some 3
      ∧ estimate env0.multi env0.bracket rd (.comp .or [.term 0 [98] 1, .term 0 [97] 1] 1) = some 2
      ∧ estimate env0.multi env0.bracket rd (.not (.term 0 [98] 1) 1) = some 2
      ∧ estimate env0.multi env0.bracket rd (.seq false [.comp .and [] 1, .phrase 0 [] 1 1] 1 true 1) = some 0
      ∧ (answer env0 (.term 0 [98] 1)).length = 2
      ∧ (Q.seq false [.comp .and [] 1, .phrase 0 [] 1 1] 1 true 1).spanFree = true := by
  exact ⟨rfl, by decide +kernel⟩

open WM.NormalizeNested in
/-- `NestedParent.normalize()` returns the same parent documents on every segmented index, when
    neither sub-query runs into a recorded defect of `normalize()` (the hypotheses of
    `normalize_sat_partial` for `parents` and for the wrapped query); `NullQuery` as the result means
    the query matched nothing. -/
theorem nested_parent_normalize_answer_partial (env : Env) (segs : List (List Doc)) (n : NParent)
    (hp : clean n.parents = true) (hc : clean n.child = true) (hep : EOk env n.parents)
    (hec : EOk env n.child) (hidx : ∀ d ∈ env.index, d.BelowMax)
    (hsegs : ∀ seg ∈ segs, ∀ d ∈ seg, d ∈ env.index) :
    parentAnswerOpt env segs n.normalize = parentAnswer env segs n := by
  rw [parentAnswerOpt_normalize]
  exact parentAnswer_congr env segs n _
    (fun seg hs d hd => normalize_sat_partial env n.parents hp hep hidx d (hsegs seg hs d hd))
    (fun seg hs d hd => normalize_sat_partial env n.child hc hec hidx d (hsegs seg hs d hd))

open WM.NormalizeNested in
/-- `NestedParent.normalize()` is idempotent and keeps `per_parent_limit` and `score_fn`. -/
theorem nested_parent_normalize_idempotent (n : NParent) :
    n.normalize.bind NParent.normalize = n.normalize
      ∧ ∀ m, n.normalize = some m → m.limit = n.limit ∧ m.fn = n.fn := by
  dsimp only [NParent.normalize]
  split
  · exact ⟨rfl, nofun⟩
  · next h =>
    refine ⟨?_, fun m hm => Option.some.inj hm ▸ ⟨rfl, rfl⟩⟩
    simp only [Option.bind_some, NParent.normalize, idempotent, if_neg h]

open WM.NormalizeNested in
/-- `with_boost()` of a `NestedParent` (the boost goes to the wrapped query) and `normalize()` of a
    `NestedChildren` (inherited from `Query`: the query itself) return the same documents, for every
    tree. -/
theorem nested_boost_answer (env : Env) (segs : List (List Doc)) (n : NParent) (b : Rat) (c : NChildren) :
    parentAnswer env segs (n.withBoost b) = parentAnswer env segs n ∧ c.normalize = c :=
  ⟨parentAnswer_congr env segs n _ (fun _ _ _ _ => rfl) (fun _ _ d _ => with_boost_sat env n.child b d), rfl⟩

/-- Two segments `p a p | b a p b` (one token per document, field 0).  Within a segment a sub-query
    match with no parent at or before it stops the matcher (`comb.before` is `None`): `NestedParent(p, a)`
    returns 0 from the first segment and nothing from the second (document 4 has no parent before it),
    `NestedParent(p, b)` nothing at all, `NestedParent(p, a|p)` 0 and 2.  The same documents as one segment
    give 0, 2 resp. 2, 5.  `normalize()` rewrites the duplicate `Or` to its clause and turns an empty
    sub-query into `NullQuery`. -/
example :
    let s1 := [doc 0 [[112]], doc 1 [[97]], doc 2 [[112]]]
    let s2 := [doc 3 [[98]], doc 4 [[97]], doc 5 [[112]], doc 6 [[98]]]
    let env : Env := { env0 with index := s1 ++ s2 }
    let p : Q := .term 0 [112] 1
    let n : WM.NormalizeNested.NParent := ⟨p, .comp .or [.term 0 [97] 1, .term 0 [97] 1] 1, some 1, 0⟩
    n.normalize.map (fun m => (m.parents, m.child, m.limit, m.fn)) = some (p, .term 0 [97] 1, some 1, 0)
      ∧ WM.NormalizeNested.parentAnswer env [s1, s2] n = [0]
      ∧ WM.NormalizeNested.parentAnswerOpt env [s1, s2] n.normalize = [0]
      ∧ WM.NormalizeNested.parentAnswer env [s1 ++ s2] n = [0, 2]
      ∧ WM.NormalizeNested.parentAnswer env [s1, s2] ⟨p, .term 0 [98] 1, none, 0⟩ = []
      ∧ WM.NormalizeNested.parentAnswer env [s1 ++ s2] ⟨p, .term 0 [98] 1, none, 0⟩ = [2, 5]
      ∧ WM.NormalizeNested.parentAnswer env [s1, s2] ⟨p, .comp .or [.term 0 [97] 1, .term 0 [112] 1] 1, none, 1⟩ = [0, 2]
      ∧ (WM.NormalizeNested.NParent.normalize ⟨p, .comp .or [] 1, none, 0⟩).isNone = true
      ∧ clean n.child = true ∧ clean p = true := by
  decide +kernel

end WM.C15
