import WM.Lemmas.FSLock
/-!
C04 — one writer at a time; no committed update is ever lost.

`scripts w` is the step script of writer `w` (any number of writers: all but finitely many scripts
may be empty), `sched` the order in which the scheduler lets writers move.  The theorems hold for
every schedule, provided every script satisfies the decidable `LockDiscipline`, which the check
evaluates on the storage traces of real `SegmentWriter` / `AsyncWriter` / `BufferedWriter` lives.
-/
namespace WM.C04
open WM.Lock

abbrev Disciplined (scripts : Nat → List Step) : Prop :=
  ∀ w, LockDiscipline (scripts w) = true ∨ scripts w = []

/-- **C04.mutex.**  In every reachable state at most one writer is between its successful
    acquire and its release, and it is the one the lock records. -/
theorem mutex (t0 : Toc) (scripts : Nat → List Step) (hd : Disciplined scripts) (sched : List Nat) :
    let s := exec (init t0 scripts) sched
    (∀ w1 w2, (s.ws w1).holds = true → (s.ws w2).holds = true → w1 = w2) ∧
    (∀ w, (s.ws w).holds = true ↔ s.holder = some w) := by
  have hinv := inv_reach t0 hd sched
  refine ⟨fun w1 w2 h1 h2 => ?_, hinv.mutex⟩
  have e := (hinv.mutex w2).1 h2
  rw [(hinv.mutex w1).1 h1] at e
  cases e; rfl

/-- **C04.generation.**  After `m` successful commits the generation is `g0 + m`: every commit
    advances it by exactly one, no gaps, no repeats. -/
theorem generation (t0 : Toc) (scripts : Nat → List Step) (hd : Disciplined scripts)
    (sched : List Nat) (w : Nat) :
    let s := exec (init t0 scripts) sched
    s.toc.gen = t0.gen + s.commits.length ∧
    ((stepW s w).toc.gen = s.toc.gen ∧ (stepW s w).commits = s.commits ∨
     (stepW s w).toc.gen = s.toc.gen + 1 ∧ (stepW s w).commits = s.commits ++ [w]) := by
  have hinv := inv_reach t0 hd sched
  refine ⟨hinv.gen, ?_⟩
  rcases toc_step hinv w with ⟨e, e'⟩ | ⟨e, e'⟩
  · exact .inl ⟨by rw [e], e'⟩
  · exact .inr ⟨by rw [e], e'⟩

/-- **C04.no_lost_update.**  The TOC always reflects the initial state followed by the changes
    of every writer that committed, in commit order, each exactly once; and whatever a TOC
    reflects is reflected (as a prefix) by every later TOC. -/
theorem no_lost_update (t0 : Toc) (scripts : Nat → List Step) (hd : Disciplined scripts)
    (sched later : List Nat) :
    let s := exec (init t0 scripts) sched
    let s' := exec (init t0 scripts) (sched ++ later)
    s.toc.ops = t0.ops ++ s.commits.flatMap (fun w => (s.ws w).pending) ∧
    s.toc.ops <+: s'.toc.ops ∧ s.commits <+: s'.commits := by
  have hinv := inv_reach t0 hd sched
  have := ops_prefix_exec hinv later
  rw [← exec_append] at this
  exact ⟨hinv.ops, this⟩

/-- **C04.lock_released.**  A writer whose script has run to its end (commit, cancel, exception
    exit, or `LockError`) does not hold the lock; when all have, the lock is free, and a writer
    that then tries acquires it. -/
theorem lock_released (t0 : Toc) (scripts : Nat → List Step) (hd : Disciplined scripts)
    (sched : List Nat) :
    let s := exec (init t0 scripts) sched
    (∀ w, (s.ws w).script = [] → (s.ws w).holds = false) ∧
    ((∀ w, (s.ws w).script = []) → s.holder = none) ∧
    (s.holder = none → ∀ v x r, x.script = .tryLock :: r →
      ((stepW (setW s v x) v).ws v).holds = true ∧ (stepW (setW s v x) v).holder = some v) := by
  have hinv := inv_reach t0 hd sched
  refine ⟨fun w h => (hinv.not_holder_of_nil h).1, hinv.free_of_all_nil, fun hfree v x r hx => ?_⟩
  rw [stepW_tryLock_free (s := setW _ v x) (r := r) (by rw [setW_ws_self]; exact hx) hfree]
  exact ⟨congrArg WState.holds setW_ws_self, rfl⟩

/-- **C04.trace_is_script.**  What the predicate evaluated on logged writer lifetimes says in terms
    of the machine: a lifetime accepted by `TraceDiscipline` is either a lone failed acquire, or
    the complete sequence of steps of a script satisfying `LockDiscipline` (the script the
    theorems above quantify over). -/
theorem trace_is_script (tr : List TEv) (h : TraceDiscipline tr = true) :
    tr = [.acquire false] ∨
    (∃ r, tr = .acquire true :: r) ∧ LockDiscipline (tr.map TEv.toStep) = true := by
  unfold TraceDiscipline at h
  split at h
  · exact .inl rfl
  · exact .inr ⟨⟨_, rfl⟩, h⟩
  · cases h

/-- **C04.failed_acquire_inert.**  "Fails with LockError instead of proceeding": a writer whose
    `tryLock` meets a held lock does nothing then or ever after — whatever the rest of its script
    was and however often it is scheduled, lock holder, TOC and commit list stay as they are.
    (This is the machine-side meaning of the logged lifetime `[acquire false]`.) -/
theorem failed_acquire_inert (s : State) (w u : Nat) (r : List Step)
    (hheld : s.holder = some u) (hs : (s.ws w).script = .tryLock :: r) (n : Nat) :
    let s' := exec s (List.replicate (n + 1) w)
    (s'.ws w).failed = true ∧ (s'.ws w).script = [] ∧ (s'.ws w).holds = (s.ws w).holds ∧
    s'.holder = s.holder ∧ s'.toc = s.toc ∧ s'.commits = s.commits ∧
    ∀ v, v ≠ w → s'.ws v = s.ws v := by
  intro s'
  have e : s' = setW s w { s.ws w with script := [], failed := true } := by
    show exec (stepW s w) (List.replicate n w) = _
    rw [stepW_tryLock_held hs hheld]
    exact exec_replicate_of_nil (congrArg WState.script setW_ws_self) n
  rw [e, setW_ws_self]
  exact ⟨rfl, rfl, rfl, rfl, rfl, rfl, fun v hv => setW_ws_other hv⟩

/-- **C04.script_runs_to_release.**  A disciplined script runs, left alone, to its end and hands
    the lock back (or gives up at once with `LockError`): after as many of its own steps as the
    script is long, nothing of the script is left and the writer does not hold the lock. -/
theorem script_runs_to_release (t0 : Toc) (scripts : Nat → List Step) (hd : Disciplined scripts)
    (sched : List Nat) (w : Nat) :
    let s := exec (init t0 scripts) sched
    let s' := exec s (List.replicate (s.ws w).script.length w)
    (s'.ws w).script = [] ∧ (s'.ws w).holds = false := by
  have := (inv_reach t0 hd sched).run_out w
  exact ⟨this.1, this.2.1⟩

/-! ### The constructor that fails after it took the lock

`SegmentWriter.__init__` acquires the lock first; reading the TOC, creating the temp storage, the
codec's `new_segment` / `per_document_writer` / `field_writer` can raise afterwards; the
constructor then releases the lock.  The lifetime is: acquire, TOC read (attempted), some storage
operations, release. -/

/-- the script of a writer whose constructor fails after `n` storage operations -/
def failedInit (n : Nat) : List Step := .tryLock :: .readToc :: (List.replicate n .io ++ [.release])

def failedInitLeak (n : Nat) : List Step := .tryLock :: .readToc :: List.replicate n .io

/-- **C04.failed_init_disciplined.**  The failed-constructor lifetime is a `LockDiscipline` script, so
    `mutex`, `generation`, `no_lost_update`, `lock_released` and `script_runs_to_release` cover it:
    it publishes nothing and hands the lock back. -/
theorem failed_init_disciplined (n : Nat) : LockDiscipline (failedInit n) = true :=
  tailOK_ios n _

/-- **C04.finished_writer_not_holder.**  Any disciplined writer — in particular one whose constructor
    failed (`failed_init_disciplined`) — left alone until its script has run out, has released: it
    does not hold the lock and is not the recorded holder, whatever the others did before. -/
theorem finished_writer_not_holder (t0 : Toc) (scripts : Nat → List Step) (hd : Disciplined scripts)
    (w : Nat) (sched : List Nat) :
    let s := exec (init t0 scripts) sched
    let s' := exec s (List.replicate (s.ws w).script.length w)
    (s'.ws w).script = [] ∧ (s'.ws w).holds = false ∧ s'.holder ≠ some w := by
  have := (inv_reach t0 hd sched).run_out w
  exact ⟨this.1, this.2.1, this.2.2.1⟩

/-- without the release the lifetime is not a disciplined script, and the index is dead-locked: the
    failed writer keeps the lock, every later writer gets `LockError` -/
example : LockDiscipline (failedInitLeak 1) = false := by decide +kernel
example : let s := exec (init ⟨5, [1]⟩ fun w => if w = 0 then failedInitLeak 1 else
      if w = 1 then [.tryLock, .readToc, .work 7, .writeToc, .release] else []) [0, 0, 0, 1, 1, 1]
    s.holder = some 0 ∧ (s.ws 1).failed = true ∧ s.toc = ⟨5, [1]⟩ := by decide +kernel
/-- with it: the second writer commits -/
example : let s := exec (init ⟨5, [1]⟩ fun w => if w = 0 then failedInit 1 else
      if w = 1 then [.tryLock, .readToc, .work 7, .writeToc, .release] else []) [0, 0, 0, 0, 1, 1, 1, 1, 1]
    s.holder = none ∧ (s.ws 1).failed = false ∧ s.toc = ⟨6, [1, 7]⟩ := by decide +kernel

/-! ### Lifetimes by the way they end: commit, cancel, failing with-block, failing commit

`commitLife` / `cancelLife` / `withBlock` (`WM/Model/FSLock.lean`) are the scripts of
`SegmentWriter.commit`, `SegmentWriter.cancel`, and `IndexWriter.__exit__` around them, including the
commit of the multi-process writer that finds a dead sub-writer (`MpWriter._subtasks_failed`). -/

/-- **C04.commit_life_disciplined / cancel_life_disciplined.**  "The lock is released by commit() and
    cancel()": both lifetimes, with any buffered work and any number of storage operations before and
    after, are `LockDiscipline` scripts (so every theorem above covers them). -/
theorem commit_life_disciplined (ops : List Op) (n m : Nat) :
    LockDiscipline (commitLife ops n m) = true :=
  (tailOK_body ops n _).trans (postOK_ios m _)

theorem cancel_life_disciplined (ops : List Op) (n m : Nat) :
    LockDiscipline (cancelLife ops n m) = true :=
  (tailOK_body ops n _).trans (tailOK_ios m _)

example : commitLife [7, 8] 1 2 =
    [.tryLock, .readToc, .work 7, .work 8, .io, .writeToc, .io, .io, .release] := by decide +kernel
example : cancelLife [7] 2 0 = [.tryLock, .readToc, .work 7, .io, .io, .release] := by decide +kernel

/-- **C04.with_block_disciplined.**  "… and a failing with-block, so writers never dead-lock the
    index": whatever the block does, whether it raises, and whether the commit run by `__exit__` fails
    on a dead sub-writer process, the lifetime of `with ix.writer() as w:` — as the code is, i.e. with
    `_subtasks_failed` cancelling — is a `LockDiscipline` script. -/
theorem with_block_disciplined (ops : List Op) (n m : Nat) (bodyRaises commitFails : Bool) :
    LockDiscipline (withBlock ops n m bodyRaises commitFails true) = true := by
  rw [withBlock_eq]
  split
  · exact cancel_life_disciplined ops n m
  · exact commit_life_disciplined ops n m

example : withBlock [7] 1 1 false true true = [.tryLock, .readToc, .work 7, .io, .io, .release] := by decide +kernel

/-- **C04.with_block_releases.**  The composition with the machine: among any disciplined writers and
    after any schedule, a writer living in a with-block (any body, any of the three endings) that is
    let run until its script is used up does not hold the lock and is not the recorded holder; and
    once every script has run out, the next writer that tries gets the lock. -/
theorem with_block_releases (t0 : Toc) (scripts : Nat → List Step) (w : Nat)
    (ops : List Op) (n m : Nat) (bodyRaises commitFails : Bool)
    (hw : scripts w = withBlock ops n m bodyRaises commitFails true)
    (hd : ∀ v, v ≠ w → LockDiscipline (scripts v) = true ∨ scripts v = []) (sched : List Nat) :
    let s := exec (init t0 scripts) sched
    let s' := exec s (List.replicate (s.ws w).script.length w)
    (s'.ws w).script = [] ∧ (s'.ws w).holds = false ∧ s'.holder ≠ some w ∧
    ((∀ v, (s'.ws v).script = []) → s'.holder = none) := by
  have hd' : Disciplined scripts := by
    intro v
    by_cases hv : v = w
    · left; rw [hv, hw]; exact with_block_disciplined ops n m bodyRaises commitFails
    · exact hd v hv
  exact (inv_reach t0 hd' sched).run_out w

/-- **C04.never_commits.**  "Nothing is committed by a writer that cancels": a writer whose (remaining)
    script contains no `writeToc` — `cancelLife`: cancel(), the failing with-block, the multi-process
    commit that found a dead sub-writer — is never added to the commit list, under any schedule of
    all writers; with `no_lost_update` / `generation`: its buffered changes are in no TOC and it does not
    advance the generation. -/
theorem never_commits (s : State) (w : Nat) (hw : Step.writeToc ∉ (s.ws w).script) (sched : List Nat) :
    let s' := exec s sched
    Step.writeToc ∉ (s'.ws w).script ∧ (w ∈ s'.commits → w ∈ s.commits) := by
  induction sched generalizing s with
  | nil => exact ⟨hw, id⟩
  | cons u us ih =>
    obtain ⟨h1, h2⟩ := ih (stepW s u) fun h => hw (mem_script_of_stepW h)
    refine ⟨h1, fun h => ?_⟩
    rcases (stepW_frame s u).toc with ⟨_, e⟩ | ⟨⟨r, hs⟩, e⟩
    · exact e ▸ h2 h
    · rcases List.mem_append.1 (e ▸ h2 h) with h | h
      · exact h
      · rw [List.mem_singleton.1 h, hs] at hw
        exact absurd List.mem_cons_self hw

/-- a failing with-block (either way) among any writers, any schedule: never in the commit list -/
theorem failing_with_block_never_commits (t0 : Toc) (scripts : Nat → List Step) (w : Nat)
    (ops : List Op) (n m : Nat) (bodyRaises commitFails : Bool) (hf : bodyRaises = true ∨ commitFails = true)
    (hw : scripts w = withBlock ops n m bodyRaises commitFails true) (sched : List Nat) :
    w ∉ (exec (init t0 scripts) sched).commits := by
  have h0 : Step.writeToc ∉ ((init t0 scripts).ws w).script := by
    show Step.writeToc ∉ scripts w
    rw [hw, withBlock_eq, if_pos (Bool.or_eq_true _ _ ▸ hf)]
    simp [cancelLife, lifeBody]
  exact fun hm => nomatch (never_commits (init t0 scripts) w h0 sched).2 hm

example : (exec (init ⟨5, [1]⟩ fun w => if w = 0 then withBlock [7] 1 1 false true true else
      if w = 1 then commitLife [8] 1 0 else []) [0, 0, 0, 0, 0, 0, 1, 1, 1, 1, 1, 1]).commits = [1] := by decide +kernel

/-- **C04.leak_deadlocks.**  Why the cancel inside `_subtasks_failed` is needed: a writer that holds the
    lock and whose remaining script contains no release (a `commit()` that raised out of `__exit__`
    with nobody cancelling) keeps the lock for ever — after *every* schedule of *all* writers it is
    still the holder, and every other writer that then tries gets `LockError` (`failed`). -/
theorem leak_deadlocks (s : State) (w : Nat) (hheld : s.holder = some w)
    (hnorel : Step.release ∉ (s.ws w).script)
    (hothers : ∀ v, v ≠ w → (s.ws v).holds = false) (sched : List Nat) :
    let s' := exec s sched
    s'.holder = some w ∧
    ∀ v r, v ≠ w → (s'.ws v).script = .tryLock :: r →
      ((stepW s' v).ws v).failed = true ∧ (stepW s' v).holder = some w := by
  intro s'
  have hh : s'.holder = some w := (Leaked.exec ⟨hheld, hnorel, hothers⟩ sched).holder
  refine ⟨hh, fun v r _ hs => ?_⟩
  rw [stepW_tryLock_held hs hh]
  exact ⟨congrArg WState.failed setW_ws_self, hh⟩

/-- the with-block of a multi-process writer whose `_subtasks_failed` does *not* cancel: not a
    disciplined script, and the index is dead-locked (writer 1 gets `LockError`, nothing published) -/
example : LockDiscipline (withBlock [7] 1 1 false true false) = false := by decide +kernel
example : let s := exec (init ⟨5, [1]⟩ fun w => if w = 0 then withBlock [7] 1 1 false true false else
      if w = 1 then commitLife [8] 1 0 else []) [0, 0, 0, 0, 1, 1, 1]
    s.holder = some 0 ∧ (s.ws 0).script = [] ∧ (s.ws 1).failed = true ∧ s.toc = ⟨5, [1]⟩ := by decide +kernel
/-- as the code is: writer 0's failed commit publishes nothing, writer 1 commits on top -/
example : let s := exec (init ⟨5, [1]⟩ fun w => if w = 0 then withBlock [7] 1 1 false true true else
      if w = 1 then commitLife [8] 1 0 else []) [0, 0, 0, 0, 0, 0, 1, 1, 1, 1, 1, 1]
    s.holder = none ∧ (s.ws 1).failed = false ∧ s.toc = ⟨6, [1, 8]⟩ := by decide +kernel

namespace Example

/-- two committing writers, one cancelling writer -/
def scripts : Nat → List Step
  | 0 => [.tryLock, .readToc, .work 10, .io, .writeToc, .io, .release]
  | 1 => [.tryLock, .readToc, .work 20, .work 21, .io, .writeToc, .release]
  | 2 => [.tryLock, .readToc, .work 30, .io, .release]
  | _ => []

theorem disciplined : Disciplined scripts := by
  intro w
  match w with
  | 0 => left; decide +kernel
  | 1 => left; decide +kernel
  | 2 => left; decide +kernel
  | _ + 3 => right; rfl

/-- writer 1 is locked out while writer 0 is active (LockError), writer 2 cancels, writer 0 commits -/
example : let s := exec (init ⟨5, [1]⟩ scripts) [0, 1, 0, 0, 0, 0, 0, 2, 0, 2, 2, 2, 2, 2]
    s.toc = ⟨6, [1, 10]⟩ ∧ (s.ws 1).failed = true ∧ s.holder = none ∧ s.commits = [0] := by decide +kernel

/-- the script that reads the TOC *before* taking the lock is rejected by the predicate, and does
    lose an update: both writers publish generation 6 and writer 0's change is gone -/
def badScripts : Nat → List Step
  | 0 => [.tryLock, .readToc, .work 10, .writeToc, .release]
  | 1 => [.readToc, .tryLock, .work 20, .writeToc, .release]
  | _ => []

example : LockDiscipline (badScripts 1) = false := by decide +kernel
example : (exec (init ⟨5, [1]⟩ badScripts) [1, 0, 0, 0, 0, 0, 1, 1, 1, 1]).toc = ⟨6, [1, 20]⟩ := by decide +kernel

end Example

end WM.C04
