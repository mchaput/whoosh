import WM.Lemmas.SearchTopTerm
import WM.Props.C01
/-!
C01 (top searcher) — `Query.docs(searcher)` / `Query.matcher(searcher)` evaluate a query against the TOP
searcher; on a multi-segment index the postings of a term are then one `MultiMatcher` over the segments'
posting readers (`MultiReader.postings`), not one matcher per segment.  `WM.Compile.topTerm` mirrors
`Term.matcher` there in the matcher family's cursor vocabulary (`mkMulti` over `ListMatcher` leaves).
-/
namespace WM.C01
open WM.Search WM.Compile

/-- The cursor `Term.matcher(top searcher)` builds over any index (any number of segments, deletions,
    segments without the term) is well formed in the matcher family's sense — so C11's `refine_next`,
    `refine_skipTo` (`skip_to(t)` lands on the first remaining id `>= t`, across segment boundaries) and
    `program` apply to it —, its result list is exactly what the segment-by-segment run enumerates
    (`Collector.run`, `docs_for_query`), and its ids are `answer`: the live documents of the whole index
    that contain the term, in ascending global document numbers. -/
theorem term_top (ls : LeafScore) (so : ShapeOracle) (hso : ValidOracle so) (idx : Index) (hok : IndexOK ls idx)
    (f : String) (t : Term) (b : Rat) (hq : PosQ (.term f t b)) (ctx : Ctx) :
    WM.Matcher.WF (topTerm ls idx f t b).1 (topTerm ls idx f t b).2 ∧
    toPL (topTerm ls idx f t b).den = run ls so ctx (.term f t b) idx ∧
    (topTerm ls idx f t b).den.map (·.1) = answer (.term f t b) idx := by
  obtain ⟨h1, h2⟩ := topTerm_denotes ls so ctx idx f t b
  exact ⟨h1, h2, (ids_toPL _).symm.trans ((congrArg _ h2).trans (segments ls so hso idx hok (.term f t b) hq ctx))⟩

/-- non-trivial instance: the two-segment index of `C01.lean` (segment 1: `b c`, `a b`, `a` deleted; segment
    2: `a c`, `b`), term `a` with boost 2: a `MultiMatcher` under a boost wrapper over both segments; term `c`
    with boost 1 likewise; a term no segment has is the `NullMatcher`. -/
example : ((topTerm freqLeaf exIdx "t" [97] 2).1, (topTerm freqLeaf exIdx "t" [97] 2).den) =
      (.boost (.multi .list), [(1, 4), (3, 2)]) ∧
    (topTerm freqLeaf exIdx "t" [99] 1).den.map (·.1) = [0, 3] ∧
    (topTerm freqLeaf exIdx "t" [120] 1).1 = .null ∧
    answer (.term "t" [97] 2) exIdx = [1, 3] := by decide +kernel

end WM.C01
