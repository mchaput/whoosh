import WM.Lemmas.CollectViews
import WM.Lemmas.Basics
/-! C14 — paging: `ResultsPage` arithmetic. -/
namespace WM.C14
open WM.Collect

/-- **C14.page (fields).** For every `total`, `pagelen ≥ 1`, `pagenum ≥ 1` the page object has
    `pagecount = ⌈total / pagelen⌉` (i.e. `total ≤ pagecount·pagelen < total + pagelen`), `pagenum`
    clamped to the last page, `offset = (pagenum-1)·pagelen`, a length that is `pagelen` except on
    the last page, and the slice lies inside `[0, total)`. -/
theorem page_fields (total pagenum pagelen : Nat) (hl : 1 ≤ pagelen) (hn : 1 ≤ pagenum) :
    ∃ p, mkPage total pagenum pagelen = .ok p ∧
      p.total = total ∧
      total ≤ p.pagecount * pagelen ∧ p.pagecount * pagelen < total + pagelen ∧
      p.pagenum = min p.pagecount pagenum ∧
      p.offset = (p.pagenum - 1) * pagelen ∧
      p.offset + p.pagelen ≤ total ∧
      p.pagelen = min pagelen (total - p.offset) := by
  obtain ⟨f1, f2⟩ := pagecount_facts total pagelen hl
  refine ⟨_, mkPage_ok total hl hn, rfl, f1, f2, rfl, rfl, ?_, rfl⟩
  have := offset_le f2 (Nat.min_le_left _ pagenum)
  dsimp only
  omega

/-- **C14.page (tiling).** The pages `1 … pagecount` tile `[0, total)`: page `p` covers
    `[(p-1)·pagelen, min(p·pagelen, total))`, so consecutive pages are adjacent, the first starts at 0
    and the last ends at `total`; a request beyond the last page yields the last page. -/
theorem page_tiling (total pagelen : Nat) (hl : 1 ≤ pagelen) :
    (∀ p, 1 ≤ p → p ≤ (total + pagelen - 1) / pagelen →
      ∃ pg, mkPage total p pagelen = .ok pg ∧ pg.pagenum = p ∧ pg.offset = (p - 1) * pagelen ∧
        pg.offset + pg.pagelen = min (p * pagelen) total) ∧
    (∀ p, (total + pagelen - 1) / pagelen < p → 1 ≤ (total + pagelen - 1) / pagelen →
      mkPage total p pagelen = mkPage total ((total + pagelen - 1) / pagelen) pagelen) := by
  obtain ⟨f1, f2⟩ := pagecount_facts total pagelen hl
  constructor
  · intro p hp1 hp2
    have hle := offset_le f2 hp2
    have hadd := offset_add p pagelen hp1
    refine ⟨_, mkPage_ok total hl hp1, ?_, ?_, ?_⟩
    all_goals simp only [Nat.min_eq_right hp2]
    rw [← hadd, ← Nat.add_min_add_left, Nat.add_sub_cancel' hle]
  · intro p hp hpc1
    rw [mkPage_ok total hl (Nat.le_trans hpc1 (Nat.le_of_lt hp)), mkPage_ok total hl hpc1,
      Nat.min_eq_left (Nat.le_of_lt hp), Nat.min_self]

/-- Non-vacuity: 23 hits in pages of 5 — page 5 is the short last page, page 9 is clamped to it;
    an empty result has one empty page; `pagenum = 0` and `pagelen = 0` are rejected. -/
example : mkPage 23 5 5 = .ok ⟨23, 5, 5, 20, 3⟩ ∧ mkPage 23 9 5 = .ok ⟨23, 5, 5, 20, 3⟩ ∧
    mkPage 23 2 5 = .ok ⟨23, 5, 2, 5, 5⟩ ∧ mkPage 0 1 10 = .ok ⟨0, 0, 0, 0, 0⟩ ∧
    mkPage 7 0 5 = .error .valueError ∧ mkPage 7 1 0 = .error .zeroDivisionError := by decide +kernel


/-- **C14.page (slice).** "A page is the corresponding slice of the ranking": for every exhaustive
    ranking, `search_page(q, pagenum, pagelen)` — the first `pagenum·pagelen` hits (what the limited
    search returns, C05), cut to `[offset, offset + page.pagelen)` — is the ranking from `offset` on,
    at most `pagelen` long, with `offset = (min(pagecount, pagenum) - 1)·pagelen`. -/
theorem page_slice {α : Type} (ranking : List α) (pagenum pagelen : Nat) (hl : 1 ≤ pagelen) (hn : 1 ≤ pagenum) :
    ∃ p, mkPage ranking.length pagenum pagelen = .ok p ∧
      p.offset = (min ((ranking.length + pagelen - 1) / pagelen) pagenum - 1) * pagelen ∧
      pageHits ranking pagenum pagelen = .ok ((ranking.drop p.offset).take pagelen) := by
  have f1 := (pagecount_facts ranking.length pagelen hl).1
  refine ⟨_, mkPage_ok _ hl hn, rfl, ?_⟩
  simp only [pageHits, mkPage_ok _ hl hn]
  congr 1
  rw [List.drop_take, List.take_take, List.take_eq_take_iff, List.length_drop]
  rw [Nat.min_eq_left (Nat.le_sub_of_add_le' (page_end_le f1 hn)), Nat.min_assoc, Nat.min_self]

/-- `page_slice` on a concrete ranking of 7 hits: page 2 of 3-hit pages, and a request beyond the
    last page (clamped to the last page, which is shorter). -/
example : pageHits [10, 11, 12, 13, 14, 15, 16] 2 3 = .ok [13, 14, 15] ∧
    pageHits [10, 11, 12, 13, 14, 15, 16] 9 3 = .ok [16] := by decide +kernel

end WM.C14
