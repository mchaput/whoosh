import WM.Lemmas.NumLists
import WM.Lemmas.Varint
/-! C20 (number codecs): delta, growable array, fixed-width and varint number lists decode to what
was encoded. -/
namespace WM.C20
open WM.NumLists

/-- `delta_decode(delta_encode(x)) == x` for every integer list (sorted or not). -/
theorem delta_roundtrip (l : List Int) : deltaDecode (deltaEncode l) = l :=
  deltaDecodeFrom_encodeFrom 0 l

/-- … and the other way round (the two generators are mutually inverse). -/
theorem delta_roundtrip_inv (l : List Int) : deltaEncode (deltaDecode l) = l :=
  deltaEncodeFrom_decodeFrom 0 l

example : deltaEncode [3, 10, 10, 4] = [3, 7, 0, -6] ∧ deltaDecode [3, 7, 0, -6] = [3, 10, 10, 4] := by
  decide

/-- Fixed-width little-endian lists (`ByteEncoding`/`UShortEncoding`/`UIntEncoding`, any width):
    numbers inside the width are written, and `read_nums` returns them and leaves the rest. -/
theorem fixed_roundtrip (size : Nat) (xs rest : List Nat) (h : ∀ x ∈ xs, x < 256 ^ size) :
    ∃ bs, writeFixed size xs = some bs ∧ bs.length = size * xs.length ∧
      readFixed size xs.length (bs ++ rest) = some (xs, rest) := by
  induction xs with
  | nil => exact ⟨[], rfl, by simp, by simp [readFixed]⟩
  | cons x xs ih =>
    rcases ih (fun y hy => h y (List.mem_cons_of_mem _ hy)) with ⟨bs, hw, hl, hr⟩
    have hx := h x List.mem_cons_self
    refine ⟨encodeLE size x ++ bs, ?_, ?_, ?_⟩
    · simp [writeFixed, hx, hw]
    · rw [List.length_append, length_encodeLE, hl, List.length_cons, Nat.mul_succ, Nat.add_comm]
    · simp only [List.length_cons, readFixed, List.append_assoc]
      rw [List.take_left' (length_encodeLE size x), List.drop_left' (length_encodeLE size x)]
      simp [length_encodeLE, hr, decodeLE_encodeLE size x hx]

/-- `FixedEncoding.get(f, pos, i)` is the `i`-th number written at `pos`. -/
theorem fixed_get (size : Nat) (pre xs rest : List Nat) (h : ∀ x ∈ xs, x < 256 ^ size) (i : Nat)
    (hi : i < xs.length) :
    ∃ bs, writeFixed size xs = some bs ∧ getFixed size (pre ++ bs ++ rest) pre.length i = some xs[i] := by
  refine ⟨_, writeFixed_eq_flatMap size xs h, ?_⟩
  have hat := (at_mid pre (xs.flatMap (encodeLE size)) rest).trans
    (at_flatMap (encodeLE size) size (length_encodeLE size) xs i xs[i] (List.getElem?_eq_getElem hi))
  unfold getFixed
  simp only
  rw [hat.slice_eq (length_encodeLE size _), length_encodeLE, if_pos rfl,
    decodeLE_encodeLE size _ (h _ (List.getElem_mem hi))]

/-- `Varints.read_nums(write_nums(xs))`: every list of naturals, any unread suffix. -/
theorem varints_roundtrip (xs rest : List Nat) :
    readVarints xs.length (writeVarints xs ++ rest) = some (xs, rest) := by
  induction xs with
  | nil => simp [readVarints, writeVarints]
  | cons x xs ih =>
    simp only [writeVarints] at ih
    simp only [writeVarints, List.flatMap_cons, List.length_cons, readVarints, List.append_assoc,
      WM.Varint.decode_encode, ih, Option.map]

example : writeFixed 2 [1, 65535] = some [1, 0, 255, 255]
    ∧ readFixed 2 2 [1, 0, 255, 255, 9] = some ([1, 65535], [9]) := by decide

/-- Contents are preserved by every append (with or without a retype); a failed append adds nothing. -/
theorem growable_contents (g : GA) (n : Int) :
    (g.append n).1.items = if (g.append n).2 then g.items else g.items ++ [n] := by
  rcases g.append_cases n with ⟨tc', _, ⟨h, _⟩ | h⟩ <;> rw [h] <;> rfl

/-- The typecode always fits every stored item. -/
theorem growable_fits (g : GA) (n : Int) (h : ∀ x ∈ g.items, g.tc.fits x = true) :
    ∀ x ∈ (g.append n).1.items, (g.append n).1.tc.fits x = true := by
  obtain ⟨tc', htc, ⟨h1, hn⟩ | h1⟩ := g.append_cases n <;> rw [h1]
  · exact forall_mem_snoc (fun x hx => htc x hx (h x hx)) hn
  · exact fun x hx => htc x hx (h x hx)

/-- `extend` without an error stores exactly the given numbers after the old ones. -/
theorem growable_extend (g : GA) (ns : List Int) (h : (g.extend ns).2 = false) :
    (g.extend ns).1.items = g.items ++ ns := by
  induction ns generalizing g with
  | nil => simp [GA.extend]
  | cons n t ih =>
    unfold GA.extend at h ⊢
    have hc := growable_contents g n
    cases ha : g.append n with
    | mk g' e =>
      rw [ha] at hc h
      cases e with
      | true => simp at h
      | false =>
        simp only at h hc ⊢
        rw [ih g' h]
        simp only [Bool.false_eq_true, ↓reduceIte] at hc
        rw [hc]; simp

/-- Retyping thresholds B/H → H → i → I → q: the typecode chosen for a number that does not fit. -/
theorem growable_thresholds (allowLongs : Bool) (n : Int) :
    retypeCode allowLongs n =
      if n < 65536 then some .H
      else if n < 2147483648 then some .i
      else if n < 4294967296 then some .I
      else if allowLongs then some .q else none := by
  unfold retypeCode; rfl

/-- Appending naturals below 2^63 to an array of naturals never fails (with `allow_longs`), and
    below 2^32 never fails at all: the position index of a hash file always grows. -/
theorem growable_nat_never_fails (g : GA) (n : Int) (h : ∀ x ∈ g.items, 0 ≤ x ∧ g.tc.fits x = true)
    (hn : 0 ≤ n) (hlim : n < 2 ^ 63) (hl : g.allowLongs = true ∨ n < 2 ^ 32) :
    (g.append n).2 = false :=
  g.append_nat n h hn hlim hl

/-- Reading item `k` back from the bytes `to_file` wrote (what `OrderedHashReader._get_pos` does)
    yields the stored number, for every typecode. -/
theorem growable_readback (g : GA) (h : ∀ x ∈ g.items, g.tc.fits x = true) (k : Nat) (hk : k < g.items.length) :
    readItem g.tc g.toBytes k = some g.items[k] :=
  readItem_toBytes g h k hk

example : ((GA.mk .H [] true).extend [1, 65535, 65536, 4294967295, 4294967296]).1.tc = .q
    ∧ ((GA.mk .H [] true).extend [1, 65535, 65536]).1.tc = .i
    ∧ ((GA.mk .H [] false).extend [1, 4294967296]) = (GA.mk .H [1] false, true) := by decide

end WM.C20
