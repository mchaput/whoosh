import WM.Props.C05
import WM.Props.C14
import WM.Props.C14Page
/-!
C14 — the views composed: what `search(q, sortedby=…, reverse=…, limit=…, filter=…, mask=…,
collapse=…)`, `search(q, limit=k, filter=…, mask=…)` and `search_page(…)` return, as single statements
about the collector stacks `Searcher.collector` builds (`searchSorted`, `collectStack`,
`searchPageSorted`), obtained by composing `sorted`, `filter_mask`, `filter_commutes_*`, `collapse_run`,
`page_slice`, C05's `with_wrappers_partial` and `collectUnlimited_eq` (the general form of `C05.unlimited`).
-/
namespace WM.C14
open WM.Rank WM.Collect

/-- The filter of `search(filter=allow, mask=restrict)` as a predicate on document numbers. -/
def passesSets (allow restrict : Option (List Nat)) (d : Nat) : Bool := !refuses allow restrict d

/-- The direction of `search(reverse=…)`: the whole list is reversed. -/
def dir {α : Type} (reverse : Bool) (l : List α) : List α := if reverse then l.reverse else l

theorem sortingResults_eq (key : Nat → Key) (limit : Option Nat) (reverse : Bool) (docs : List Nat) :
    sortingResults key limit reverse docs = truncate limit (dir reverse (ascending key docs)) := by
  have := (sorted key limit reverse docs).1
  rw [this]; cases reverse <;> rfl

/-- **C14.search_filter_mask_sorted** — one statement about `search(q, sortedby=key, reverse=…, limit=…,
    filter=allow, mask=restrict)` (the stack `FilterCollector(SortingCollector)`): the hits are the
    **unfiltered** sorted result list (all matched documents by key, document number on ties; reversed as a
    whole with `reverse=True`) restricted — without reordering — to the documents in the allow set (if
    there is one) and not in the mask, cut to `limit`; `len(results)` is the number of matched documents
    that pass, whatever the limit, and `filtered_count` counts the others. -/
theorem search_filter_mask_sorted (key : Nat → Key) (limit : Option Nat) (reverse : Bool)
    (allow restrict : Option (List Nat)) (docs : List Nat) :
    ∃ r, searchSorted { key := key, limit := limit, reverse := reverse, allow := allow, restrict := restrict } docs
        = .ok r ∧
      r.items = truncate limit ((dir reverse (ascending key docs)).filter (fun x => passesSets allow restrict x.2)) ∧
      (∀ x, x ∈ (dir reverse (ascending key docs)).filter (fun x => passesSets allow restrict x.2) ↔
        x.1 = key x.2 ∧ x.2 ∈ docs ∧ (∀ a, allow = some a → x.2 ∈ a) ∧ (∀ m, restrict = some m → x.2 ∉ m)) ∧
      r.len = (docs.filter (passesSets allow restrict)).length ∧
      r.len + r.filtered = docs.length := by
  refine ⟨_, rfl, ?_, ?_, rfl, ?_⟩
  · show sortingResults key limit reverse (docs.filter (passesSets allow restrict)) = _
    rw [sortingResults_eq, filter_commutes_sorting]
    cases reverse
    · rfl
    · simp only [dir, if_true, List.filter_reverse]
  · intro x
    have hdir : x ∈ dir reverse (ascending key docs) ↔ x ∈ ascending key docs := by
      cases reverse <;> simp [dir]
    rw [List.mem_filter, hdir, mem_ascending, passesSets, Bool.not_eq_true', refuses_eq_false_iff, and_assoc]
  · exact (filter_mask allow restrict docs).2.2

/-- Non-vacuity: five matched documents, keys with a tie, `reverse=True`, an allow set that refuses
    document 3 and a mask that removes document 0, `limit = 2`: hits 1, 4 (`len = 3`, 2 filtered). -/
example : ∃ r, searchSorted { key := fun d => [((d % 2 : Nat) : Rat)], limit := some 2, reverse := true,
                              allow := some [0, 1, 2, 4], restrict := some [0] } [0, 1, 2, 3, 4] = .ok r ∧
    r.items.map (·.2) = [1, 4] ∧ r.len = 3 ∧ r.filtered = 2 := by
  refine ⟨_, rfl, ?_⟩
  simp only [sortingResults, kdLe_sortOrder.mergeSort_flip, mergeSort_eq_insort]
  decide +kernel

/-- **C14.search_filter_mask_scored** — the same for a limited *scored* search: for every `limit ≥ 1`,
    every schedule of matcher drops within the C12 contract on the limited side and any schedule on the
    exhaustive side, `search(q, limit=k, filter=allow, mask=restrict)` (the stack
    `FilterCollector(TopCollector)`) returns the first `k` entries of the **unfiltered exhaustive
    ranking** `search(q, limit=None)` restricted to the documents that pass — composition of
    `C05.with_wrappers_partial`, `collectUnlimited_eq` (`C05.unlimited`) and `filter_commutes_ranking`. -/
theorem search_filter_mask_scored (cfg : Cfg) (final : Nat → Rat → Rat) (allow restrict : Option (List Nat))
    (segs : List Seg) (sched sched' : List Step) (hk : 1 ≤ cfg.limit)
    (hwf : (globalDocs segs).Pairwise (· < ·)) (hfresh : Fresh segs) :
    ∃ all st tr, collectUnlimited cfg.replace cfg.useFinal final false segs sched' = .ok all ∧
      collectStack cfg final { allow := allow, restrict := restrict } segs sched
        = .ok (((all.filter (fun h => passesSets allow restrict h.doc)).take cfg.limit), st, tr) := by
  obtain ⟨st, tr, h⟩ := WM.C05.with_wrappers_partial cfg final allow restrict segs sched hk hwf hfresh
  refine ⟨_, st, tr, collectUnlimited_eq cfg final false segs sched', ?_⟩
  rw [h, topK, filter_commutes_ranking]
  rfl

/-- **C14.search_collapse_sorted** — `search(q, sortedby=key, reverse=…, limit=…, filter=…, mask=…,
    collapse=ckey, collapse_limit=n, collapse_order=order)` (the stack
    `FilterCollector(CollapseCollector(SortingCollector))`) over an ascending run of matched documents:
    with `pass` = the matched documents that pass the filter and `skey` = the `collapse_order` key (or the
    sort key when there is none), the hits are the sorted list (reversed as a whole with `reverse=True`)
    of exactly the documents of `pass` that have no collapse key or are among the best `n` of their key in
    `(skey, docnum)` order, cut to `limit`; `len(results)` is the number of those documents whatever the
    limit; `collapsed_counts[c]` is the number of discarded documents of key `c`. (With `reverse=True` and
    no `collapse_order` the documents kept are still those with the **smallest** sort keys, which the
    reversed list shows *last* — see the example below.) -/
theorem search_collapse_sorted (v : View) (ckey : Nat → Option Int) (n : Nat) (order : Option (Nat → Key))
    (hv : v.collapse = some (ckey, n, order)) (hn : 1 ≤ n) (docs : List Nat) (hasc : docs.Pairwise (· < ·)) :
    ∃ r, searchSorted v docs = .ok r ∧
      r.items = truncate v.limit (dir v.reverse (ascending v.key
        ((docs.filter (passesSets v.allow v.restrict)).filter
          (keepsB ckey (order.getD v.key) n (docs.filter (passesSets v.allow v.restrict)))))) ∧
      r.len = ((docs.filter (passesSets v.allow v.restrict)).filter
          (keepsB ckey (order.getD v.key) n (docs.filter (passesSets v.allow v.restrict)))).length ∧
      (∀ c, dictGet c 0 r.counts =
        (keyDocs ckey c (docs.filter (passesSets v.allow v.restrict))).length -
          min n (keyDocs ckey c (docs.filter (passesSets v.allow v.restrict))).length) ∧
      r.filtered + (docs.filter (passesSets v.allow v.restrict)).length = docs.length := by
  have hf : (filterDocs v.allow v.restrict docs).1 = docs.filter (passesSets v.allow v.restrict) := rfl
  generalize hpass : docs.filter (passesSets v.allow v.restrict) = pass at *
  have hpasc : pass.Pairwise (· < ·) := by rw [← hpass]; exact hasc.filter _
  obtain ⟨st, hrun, hinv, hsub, hcounts⟩ := collapse_run ckey (order.getD v.key) n hn pass hpasc
  have hpnd : pass.Nodup := hpasc.imp (fun h => Nat.ne_of_lt h)
  have hperm : st.kept.Perm (pass.filter (keepsB ckey (order.getD v.key) n pass)) := by
    rw [List.perm_ext_iff_of_nodup (hsub.nodup hpnd) (hpnd.filter _)]
    intro d
    rw [hinv.kept, List.mem_filter, keepsB_iff]
  refine ⟨{ items := sortingResults v.key v.limit v.reverse st.kept, len := st.kept.length,
            filtered := (filterDocs v.allow v.restrict docs).2, counts := st.counts }, ?_, ?_, ?_, hcounts, ?_⟩
  · simp only [searchSorted, hv, hf, hrun]
  · show sortingResults v.key v.limit v.reverse st.kept = _
    rw [sortingResults_eq, ascending, kdLe_sortOrder.mergeSort_congr (hperm.map _)]; rfl
  · exact hperm.length_eq
  · rw [Nat.add_comm, ← hf]
    exact (filter_mask v.allow v.restrict docs).2.2

/-- Non-vacuity of `search_collapse_sorted`, and the behaviour under `reverse=True`: documents 0…5 with
    sort keys 5, 1, 4, 2, 3, 0 and collapse keys a, a, b, b, none, a; `collapse_limit = 1`. The collapser
    keeps documents 3 (key 2, group b), 4 (keyless) and 5 (key 0, group a) and discards two documents of
    group a and one of b. Ascending they are listed 5, 3, 4; with `reverse=True` the *same* documents are
    listed 4, 3, 5 — the collapser kept the documents with the smallest keys, not the ones a descending
    list would show first (documents 0 and 2). -/
example :
    let key : Nat → Key := fun d => [([5, 1, 4, 2, 3, 0].getD d 0 : Rat)]
    let ckey : Nat → Option Int := fun d => if d = 4 then none else if d = 2 ∨ d = 3 then some 1 else some 0
    ([0, 1, 2, 3, 4, 5] : List Nat).Pairwise (· < ·) ∧
    (collapseRun ckey key 1 [0, 1, 2, 3, 4, 5] {}).toOption.map (fun st => (st.kept, st.counts))
      = some ([3, 4, 5], [(0, 2), (1, 1)]) ∧
    (sortingResults key none false [3, 4, 5]).map (·.2) = [5, 3, 4] ∧
    (sortingResults key none true [3, 4, 5]).map (·.2) = [4, 3, 5] := by
  intro key ckey
  simp only [sortingResults, kdLe_sortOrder.mergeSort_flip, mergeSort_eq_insort]
  decide +kernel

theorem searchSorted_limit (v : View) (docs : List Nat) (k : Nat) (hk : 1 ≤ k) (r : ViewResult)
    (hr : searchSorted { v with limit := none } docs = .ok r) :
    searchSorted { v with limit := some k } docs = .ok { r with items := r.items.take k } ∧
    r.items.length = r.len := by
  obtain _ | k' := k
  · cases hk
  unfold searchSorted at hr ⊢
  dsimp only at hr ⊢
  split at hr
  · cases hr
    refine ⟨rfl, ?_⟩
    exact len_sorted v.key v.reverse _
  · split at hr
    · cases hr
    · cases hr
      refine ⟨rfl, ?_⟩
      exact len_sorted v.key v.reverse _

/-- **C14.page_of_view** — `search_page(q, pagenum, pagelen, sortedby=…, reverse=…, filter=…, mask=…,
    collapse=…)` on sorted, filtered and collapsed results: for every view, `pagenum ≥ 1`, `pagelen ≥ 1`,
    if the *unlimited* search returns `r`, then the page object is `ResultsPage` arithmetic on
    `len(results) = r.len` (`page_fields`: `total`, `pagecount = ⌈total/pagelen⌉`, clamped `pagenum`,
    `offset`) and its hits are exactly the slice `r.items[offset : offset + pagelen]` of the unlimited
    result list — although the search behind the page ran with `limit = pagenum·pagelen`. Together with
    `search_filter_mask_sorted` / `search_collapse_sorted` this says which documents are on the page. -/
theorem page_of_view (v : View) (docs : List Nat) (pagenum pagelen : Nat) (hl : 1 ≤ pagelen) (hn : 1 ≤ pagenum)
    (r : ViewResult) (hr : searchSorted { v with limit := none } docs = .ok r) :
    ∃ p, mkPage r.len pagenum pagelen = .ok p ∧
      p.offset = (min ((r.len + pagelen - 1) / pagelen) pagenum - 1) * pagelen ∧
      searchPageSorted v docs pagenum pagelen = .ok (p, (r.items.drop p.offset).take pagelen) := by
  have hk : 1 ≤ pagenum * pagelen := Nat.mul_le_mul hn hl
  obtain ⟨hlim, hlen⟩ := searchSorted_limit v docs (pagenum * pagelen) hk r hr
  obtain ⟨p, hp, hoff, hhits⟩ := page_slice r.items pagenum pagelen hl hn
  rw [hlen] at hp hoff
  refine ⟨p, hp, hoff, ?_⟩
  simp only [searchPageSorted, Nat.not_lt.mpr hn, Nat.not_lt.mpr hk, if_false, hlim, hp]
  simp only [pageHits, hlen, hp] at hhits
  injection hhits with hhits
  rw [hhits]

/-- The situation of `page_of_view` on a concrete filtered view: 8 matched documents sorted descending by document number,
    document 7 masked (`total = 7`), pages of 3: page 2 holds documents 3, 2, 1; page 9 is clamped to the short
    last page 3; `pagenum = 0` and `pagelen = 0` are rejected. -/
example :
    let v : View := { key := fun d => [((7 - d : Nat) : Rat)], restrict := some [7] }
    (∃ p hits, searchPageSorted v [0, 1, 2, 3, 4, 5, 6, 7] 2 3 = .ok (p, hits) ∧ p = ⟨7, 3, 2, 3, 3⟩ ∧
      hits.map (·.2) = [3, 2, 1]) ∧
    (∃ p hits, searchPageSorted v [0, 1, 2, 3, 4, 5, 6, 7] 9 3 = .ok (p, hits) ∧ p = ⟨7, 3, 3, 6, 1⟩ ∧
      hits.map (·.2) = [0]) ∧
    searchPageSorted v [0, 1, 2, 3, 4, 5, 6, 7] 0 4 = .error (.page .valueError) ∧
    searchPageSorted v [0, 1, 2, 3, 4, 5, 6, 7] 1 0 = .error .limit := by
  intro v
  have hs : sortingResults v.key none false [0, 1, 2, 3, 4, 5, 6] =
      [6, 5, 4, 3, 2, 1, 0].map fun d => ([((7 - d : Nat) : Rat)], d) := by
    rw [sortingResults_eq, ascending, mergeSort_eq_insort]; decide +kernel
  have hr : searchSorted { v with limit := none } [0, 1, 2, 3, 4, 5, 6, 7] = .ok ⟨_, 7, 1, []⟩ :=
    congrArg (fun l => Except.ok (ViewResult.mk l 7 1 [])) hs
  obtain ⟨p, hp, -, h⟩ := page_of_view v _ 2 3 (by decide) (by decide) _ hr
  obtain ⟨p', hp', -, h'⟩ := page_of_view v _ 9 3 (by decide) (by decide) _ hr
  cases hp
  cases hp'
  exact ⟨⟨_, _, h, rfl, rfl⟩, ⟨_, _, h', rfl, rfl⟩, rfl, rfl⟩

end WM.C14
