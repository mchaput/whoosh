import WM.Lemmas.HashBytes
import WM.Props.C20Hash
import WM.Lemmas.Varint
/-!
C20 (hash files, byte level): the `struct` formats `StructFile` and the hash file are built from
(`!B !H !i !I !q`, the two-field structs `!ii` / `!Iq` / `!qi`) round-trip, and `HashReader` — reading
the **bytes** `HashWriter` wrote: magic, hash-type byte, the trailing extras length, the 256-entry
directory, the 12-byte slots of the open-addressed tables, the `!ii`-prefixed records — returns
under every key the values written under it, in insertion order, and iterates the pairs in
insertion order.  `parse ∘ write = id` is `hash_file_open`; `hash_lookup_bytes` composes it with the
record-level theorem `hash_lookup`.
-/
namespace WM.C20
open WM.StructFile WM.HashBytes WM.HashFile
open WM.NumLists (TC)

/-- `unpack ∘ pack = id` for every format `StructFile.write_byte/ushort/int/uint/long` uses … -/
theorem struct_roundtrip (tc : TC) (n : Int) (bs : Bytes) (h : pack tc n = .ok bs) :
    bs.length = tc.size ∧ unpack tc bs = .ok n := ⟨length_pack h, unpack_pack h⟩
/-- … and a number outside the format is `struct.error`, never a silently truncated value. -/
theorem struct_rejects (tc : TC) (n : Int) (h : tc.fits n = false) : pack tc n = .error .struct := by
  unfold pack; rw [h]; rfl

/-- the two-field structs `_lengths = "!ii"`, `_pointer = "!Iq"`, `_dir_entry = "!qi"` -/
theorem struct2_roundtrip (t1 t2 : TC) (a b : Int) (bs : Bytes) (h : pack2 t1 t2 a b = .ok bs) :
    unpack2 t1 t2 bs = .ok (a, b) := unpack2_pack2 h

/-- `write_xxx(n)` then `read_xxx()` (sequential) and `get_xxx(pos)` (positional), whatever is
    written before and after. -/
theorem structfile_read_write (tc : TC) (n : Int) (bs pre post : Bytes) (h : writeNum tc n = .ok bs) :
    readNum tc (bs ++ post) = .ok (n, post) ∧ getNum tc (pre ++ bs ++ post) pre.length = .ok n := by
  have hl := length_pack h
  constructor
  · unfold readNum
    rw [← hl, List.take_left', List.drop_left', unpack_pack h] <;> rfl
  · unfold getNum
    rw [(WM.NumLists.at_mid pre bs post).get_eq hl, unpack_pack h]

/-- `write_varint/read_varint` and `write_string/read_string` -/
theorem structfile_string_roundtrip (s rest : Bytes) :
    readVarint (writeVarint s.length ++ rest) = some (s.length, rest) ∧
      readString (writeString s ++ rest) = some (s, rest) := by
  refine ⟨WM.Varint.decode_encode _ _, ?_⟩
  unfold readString writeString readVarint writeVarint
  rw [List.append_assoc, WM.Varint.decode_encode]
  exact congrArg some (Prod.ext (List.take_left' rfl) (List.drop_left' rfl))

example : pack .i (-2) = .ok [255, 255, 255, 254] ∧ pack .H 65536 = .error .struct
    ∧ pack2 .I .q 258 3 = .ok [0, 0, 1, 2, 0, 0, 0, 0, 0, 0, 0, 3] := by
  refine ⟨?_, ?_, ?_⟩
  · rw [pack, if_pos (by decide)]; exact congrArg _ (by decide +kernel)
  · exact struct_rejects .H 65536 (by decide)
  · exact (pack2_nat .I .q 258 3 (by decide) (by decide)).trans (congrArg _ (by decide +kernel))
example : readString (writeString [7, 8, 9] ++ [1]) = some ([7, 8, 9], [1]) :=
  (structfile_string_roundtrip [7, 8, 9] [1]).2

/-- Inside the formats the bytes of the model are the bytes `struct.pack` produces for every
    record header. -/
theorem hash_record_bytes (hash : Key → Nat) (so : Nat) (kvs : List (Key × Bytes)) (f : File Bytes)
    (hf : buildE hash List.length so kvs = .ok f) :
    ∀ r ∈ f.recs, pack2 .i .i r.key.length r.val.length = .ok (enc2 .i .i r.key.length r.val.length) := by
  intro r hr
  have := (written_of_buildE hf).recs r hr
  exact pack2_nat .i .i _ _ (WM.NumLists.lt_cap_i _ this.1) (WM.NumLists.lt_cap_i _ this.2.1)

/-- `parse ∘ write = id`: `HashReader.__init__` on the bytes of a written file (any bytes before
    `startoffset`, any extras blob below 2^31 bytes, the default `length`) recovers the hash type,
    the start and end of the data and the directory of the 256 tables. -/
theorem hash_file_open (hash : Key → Nat) (so : Nat) (kvs : List (Key × Bytes)) (f : File Bytes)
    (hf : buildE hash List.length so kvs = .ok f) (magic extras pre : Bytes) (hashtype : Nat)
    (hm : magic.length = 4) (hh : hashtype < 256) (he : extras.length < 2 ^ 31) (hp : pre.length = so) :
    openReader magic (fileBytes magic hashtype extras pre f) so
        ((fileBytes magic hashtype extras pre f).length - so) = .ok
      { file := fileBytes magic hashtype extras pre f, startoffset := so, hashtype := hashtype,
        startofdata := so + 13, endofdata := f.endofdata, tables := directory f,
        expos := tablePos f 256 + directorySize, exlen := extras.length } :=
  open_written (written_of_buildE hf) ((written_of_buildE hf).parts magic extras pre hashtype hm hp) hm hh he

/-- `hash_lookup` over file bytes: open the bytes the writer produced, and `list(reader.all(k))` —
    every probe, length comparison and key comparison reading the bytes — are the values written
    under `k`, in insertion order; absent keys give `[]`. -/
theorem hash_lookup_bytes (hash : Key → Nat) (so : Nat) (kvs : List (Key × Bytes)) (f : File Bytes)
    (hf : buildE hash List.length so kvs = .ok f) (magic extras pre : Bytes) (hashtype : Nat)
    (hm : magic.length = 4) (hh : hashtype < 256) (he : extras.length < 2 ^ 31) (hp : pre.length = so) :
    ∃ r, openReader magic (fileBytes magic hashtype extras pre f) so
        ((fileBytes magic hashtype extras pre f).length - so) = .ok r ∧
      ∀ key, allBytes hash r key = .ok (kvs.filterMap (fun kv => if kv.1 = key then some kv.2 else none)) := by
  refine ⟨_, hash_file_open hash so kvs f hf magic extras pre hashtype hm hh he hp, ?_⟩
  intro key
  rw [all_written (written_of_buildE hf) _ ((written_of_buildE hf).parts magic extras pre hashtype hm hp) rfl key,
    hash_lookup hash List.length so kvs f hf key]

/-- iterating the bytes (`items()`, `keys()`, `__iter__`) yields the pairs in insertion order -/
theorem hash_items_bytes (hash : Key → Nat) (so : Nat) (kvs : List (Key × Bytes)) (f : File Bytes)
    (hf : buildE hash List.length so kvs = .ok f) (magic extras pre : Bytes) (hashtype : Nat)
    (hm : magic.length = 4) (hh : hashtype < 256) (he : extras.length < 2 ^ 31) (hp : pre.length = so) :
    ∃ r, openReader magic (fileBytes magic hashtype extras pre f) so
        ((fileBytes magic hashtype extras pre f).length - so) = .ok r ∧ HashBytes.items r = .ok kvs := by
  refine ⟨_, hash_file_open hash so kvs f hf magic extras pre hashtype hm hh he hp, ?_⟩
  exact items_written (written_of_buildE hf) _ ((written_of_buildE hf).parts magic extras pre hashtype hm hp) rfl rfl

/-- Non-vacuity: a two-key file (colliding hashes) preceded by 3 foreign bytes opens and answers. -/
example : ∃ f, buildE (fun _ => 7) List.length 3 [([1], [10, 11]), ([2], []), ([1], [30])] = .ok f ∧
    ∃ r, openReader [72, 83, 72, 51] (fileBytes [72, 83, 72, 51] 2 [9, 9] [0, 0, 0] f) 3
        ((fileBytes [72, 83, 72, 51] 2 [9, 9] [0, 0, 0] f).length - 3) = .ok r ∧
      allBytes (fun _ => 7) r [1] = .ok [[10, 11], [30]] ∧ allBytes (fun _ => 7) r [5] = .ok [] := by
  have hd : (buildE (fun _ => 7) List.length 3 [([1], [10, 11]), ([2], []), ([1], [30])]).toBool = true := by
    decide +kernel
  cases hf : buildE (fun _ => 7) List.length 3 [([1], [10, 11]), ([2], []), ([1], [30])] with
  | error e => rw [hf] at hd; cases hd
  | ok f =>
    rcases hash_lookup_bytes _ _ _ f hf [72, 83, 72, 51] [9, 9] [0, 0, 0] 2 rfl (by omega) (by simp) rfl
      with ⟨r, hr, hall⟩
    exact ⟨f, rfl, r, hr, by rw [hall]; exact congrArg _ (by decide), by rw [hall]; exact congrArg _ (by decide)⟩

end WM.C20
