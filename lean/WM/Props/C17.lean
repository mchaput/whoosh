import WM.Lemmas.Analysis
import WM.Spec.CodecIndex
/-!
C17 — index- and query-time analysis agree: documents are findable by their own words.

Model: `WM/Model/Analysis.lean`.  The theorems cover the analyzers built from the shipped
regular-expression tokenizers (default pattern, space separated, comma separated, `\S+`), `IDTokenizer`,
`NgramTokenizer` and the filters Lowercase / Strip / Pass / Stop / Ngram / BiWord / text-rewriting /
Stem / Multi / DelimitedAttribute; every other
shipped analyzer is covered by the end-to-end relation test only (level `other`).

The filter classes the hypotheses name (`Filter.wordwise`, `dropsStops`, `modeFree`, `textwise`), `textFun` and
`TextsSub` are defined in `WM/Lemmas/Analysis.lean`, each with its step lemma.
-/
namespace WM.C17
open WM.Analysis

/-- `C17.offsets`: for an analyzer made of one of the regular-expression tokenizers and any
    sequence of Lowercase / Strip / Pass / Stop / text-rewriting filters, every token's character
    offsets delimit its source (`text[startchar:endchar]`, transformed by the chain's text
    functions, is the token's text), `startchar < endchar ≤ len(text)`, and tokens do not overlap. -/
theorem offsets (tb : Tables) (p : Pat) (fs : List Filter) (mode : Mode) (text : List CChar)
    (hfs : ∀ f ∈ fs, Filter.wordwise f = true) :
    List.Pairwise (fun a b : Token => a.endchar ≤ b.startchar) (analyze tb (.regex p) fs mode text) ∧
    ∀ t ∈ analyze tb (.regex p) fs mode text,
      t.startchar < t.endchar ∧ t.endchar ≤ text.length ∧
      t.text = textFun tb fs ((slice text t.startchar t.endchar).map (·.code)) := by
  have := inv_chain tb mode hfs (inv_tokenizer p text)
  exact ⟨this.spans, fun t ht => and_assoc.1 (this.tok t ht)⟩

/-- instance of `offsets` for a text-rewriting filter: `"Ab cd"` through
    `RegexTokenizer | ReverseTextFilter` (a `mapText`): offsets still delimit the source -/
example :
    let tb : Tables := { lower := fun c => [c], space := fun c => c = 32 }
    let ch (c : Nat) : CChar := ⟨c, c ≠ 32, c = 32, [c]⟩
    analyze tb (.regex .default) [.mapText List.reverse] .index ([65, 98, 32, 99, 100].map ch)
      = [{ text := [98, 65], pos := 0, startchar := 0, endchar := 2 },
         { text := [100, 99], pos := 1, startchar := 3, endchar := 5 }] := by
  decide +kernel

/-- `C17.offsets_delimited`: for an analyzer made of one of the regular-expression tokenizers, a
    `DelimitedAttributeFilter` with a delimiter of *any* length directly behind it, and then any
    sequence of Lowercase / Strip / Pass / Stop / text-rewriting filters: every token's character
    offsets delimit its source (`text[startchar:endchar]`, transformed by the chain's text
    functions, is the token's text - the delimiter and the attribute are outside the range),
    `startchar ≤ endchar ≤ len(text)` (a token that begins with the delimiter is empty), and the
    tokens do not overlap. -/
theorem offsets_delimited (tb : Tables) (p : Pat) (d : Str) (fs : List Filter) (mode : Mode) (text : List CChar)
    (hfs : ∀ f ∈ fs, Filter.wordwise f = true) :
    List.Pairwise (fun a b : Token => a.endchar ≤ b.startchar)
      (analyze tb (.regex p) (.delimited d :: fs) mode text) ∧
    ∀ t ∈ analyze tb (.regex p) (.delimited d :: fs) mode text,
      t.startchar ≤ t.endchar ∧ t.endchar ≤ text.length ∧
      t.text = textFun tb fs ((slice text t.startchar t.endchar).map (·.code)) := by
  have := inv_chain tb mode hfs (inv_delimited d (inv_tokenizer p text))
  exact ⟨this.spans, fun t ht => and_assoc.1 (this.tok t ht)⟩

/-- instance: `"fox::noun x"` through `RegexTokenizer(r"\S+") | DelimitedAttributeFilter("::") |
    LowercaseFilter()`: `fox` keeps the range 0..3 (not 0..4: the whole two-character delimiter is
    outside), `x` is untouched; and `"::x"` leaves an empty token with the empty range 0..0 -/
example :
    let tb : Tables := { lower := fun c => if 65 ≤ c ∧ c ≤ 90 then [c + 32] else [c], space := fun c => c = 32 }
    let ch (c : Nat) : CChar := ⟨c, (65 ≤ c ∧ c ≤ 90) ∨ (97 ≤ c ∧ c ≤ 122), c = 32, tb.lower c⟩
    analyze tb (.regex .nonspace) [.delimited [58, 58], .lowercase] .index
        ([70, 111, 120, 58, 58, 110, 111, 117, 110, 32, 120].map ch)
      = [{ text := [102, 111, 120], pos := 0, startchar := 0, endchar := 3 },
         { text := [120], pos := 1, startchar := 10, endchar := 11 }]
    ∧ analyze tb (.regex .nonspace) [.delimited [58, 58]] .index ([58, 58, 120].map ch)
      = [{ text := [], pos := 0, startchar := 0, endchar := 0 }] := by
  decide +kernel

/-- `C17.positions`: token positions strictly increase in order of appearance, and the
    `StopFilter` (renumbering or not, with `removestops`) keeps that. -/
theorem positions (tb : Tables) (p : Pat) (fs : List Filter) (mode : Mode) (text : List CChar)
    (hfs : ∀ f ∈ fs, Filter.dropsStops f = true) :
    List.Pairwise (fun a b : Token => a.pos < b.pos) (analyze tb (.regex p) fs mode text) := by
  have h0 : List.Pairwise (fun a b : Token => a.pos < b.pos) (regexTokenizer p text) :=
    List.pairwise_map.1 (spansToTokens_pos text _ 0 ▸ List.pairwise_lt_range')
  exact List.foldlRecOn (motive := fun ts => List.Pairwise _ ts) fs _ h0
    fun _ h f hf => pos_step tb mode (hfs f hf) h

/-- instance: `"The a.b x"` through `StandardAnalyzer` (lowercase + stop, renumbering): one token
    `a.b` at position 1 with offsets 4..7; and the reason for the `removestops` hypothesis of
    `positions`: with `removestops=False` (the highlighter's setting) a renumbering stop filter
    hands out positions 0, 1, 2, 1 -/
example :
    let tb : Tables := { lower := fun c => if 65 ≤ c ∧ c ≤ 90 then [c + 32] else [c], space := fun c => c = 32 }
    let ch (c : Nat) : CChar := ⟨c, (65 ≤ c ∧ c ≤ 90) ∨ (97 ≤ c ∧ c ≤ 122), c = 32, tb.lower c⟩
    let stop (rs : Bool) : Filter := .stop ⟨[[116, 104, 101]], 2, none, true, rs⟩
    analyze tb (.regex .default) [.lowercase, stop true] .index ([84, 104, 101, 32, 97, 46, 98, 32, 120].map ch)
      = [{ text := [97, 46, 98], pos := 1, startchar := 4, endchar := 7 }]
    ∧ (analyze tb (.regex .default) [stop false] .index
          ([97, 98, 32, 120, 32, 121, 32, 99, 100].map ch)).map (·.pos) = [0, 1, 2, 1] := by
  decide +kernel

/-- C17, mode agreement for mode-independent chains: the analyzer yields the very same tokens at index
    and at query time. -/
theorem mode_agree_chain (tb : Tables) (tk : Tokenizer) (fs : List Filter) (text : List CChar)
    (htk : Tokenizer.modeFree tk = true) (hfs : ∀ f ∈ fs, Filter.modeFree f = true) :
    analyze tb tk fs .query text = analyze tb tk fs .index text :=
  List.foldl_rel (r := Eq) (runTokenizer_mode htk ..) fun f hf _ _ h => h ▸ runFilter_mode tb (hfs f hf) ..

theorem textsSub_ngramwords (tb : Tables) (tk : Tokenizer) (pre : List Filter) (min max : Nat) (at_ : At)
    (text : List CChar) (htk : Tokenizer.modeFree tk = true) (hpre : ∀ f ∈ pre, Filter.modeFree f = true)
    (hmm : min ≤ max) :
    TextsSub (analyze tb tk (pre ++ [.ngram min max at_]) .query text)
             (analyze tb tk (pre ++ [.ngram min max at_]) .index text) :=
  textsSub_pipeline tb tk pre [] (.ngram min max at_) text (mode_agree_chain tb tk pre text htk hpre)
    (ngramFilter_textsSub min max hmm at_) (fun _ h => nomatch h)

/-- C17, mode agreement for n-grams: the grams `NgramFilter` cuts out of a token at query time (only the
    longest size) are among the grams it cuts at index time (all sizes), for every `at` mode; the
    same for `NgramTokenizer`. -/
theorem mode_agree_ngrams (min max : Nat) (hmin : 1 ≤ min) (hmm : min ≤ max) :
    (∀ (at_ : At) (ts : List Token) (g : Token), g ∈ ngramFilter min max at_ .query ts →
        ∃ g' ∈ ngramFilter min max at_ .index ts, g'.text = g.text) ∧
    (∀ (text : List CChar) (g : Token), g ∈ ngramTokenizer min max .query text →
        g ∈ ngramTokenizer min max .index text) :=
  ⟨ngramFilter_textsSub min max hmm, ngramTokenizer_query_subset min max⟩

/-- C17, mode agreement for an analyzer with a `MultiFilter` (the one shipped component, besides the
    n-gram ones, whose output depends on `mode`): a mode-free chain, then
    `MultiFilter(index=fi, query=fq)`, then text-wise filters.  If the query branch only produces
    texts the index branch produces from the same tokens (`hbr`: what the two `IntraWordFilter`
    settings of the documentation are meant to satisfy), every query-time token text of a text is
    an index-time token text of it.  `runFilter` hands the *stream's* mode to the chosen branch. -/
theorem mode_agree_multi (tb : Tables) (tk : Tokenizer) (pre post : List Filter) (fi fq : Filter)
    (text : List CChar) (htk : Tokenizer.modeFree tk = true) (hpre : ∀ f ∈ pre, Filter.modeFree f = true)
    (hpost : ∀ f ∈ post, Filter.textwise f = true)
    (hbr : ∀ ts, TextsSub (runFilter tb .query fq ts) (runFilter tb .index fi ts)) :
    TextsSub (analyze tb tk (pre ++ .multi fi fq :: post) .query text)
             (analyze tb tk (pre ++ .multi fi fq :: post) .index text) := by
  refine textsSub_pipeline tb tk pre post _ text (mode_agree_chain tb tk pre text htk hpre) (fun ts => ?_) hpost
  cases ts with
  | nil => exact fun _ h => nomatch h
  | cons t rest => exact hbr (t :: rest)

/-- instance of `hbr`: both branches the same `NgramFilter` (it cuts fewer grams at query time) -/
example (tb : Tables) (min max : Nat) (hmin : 1 ≤ min) (hmm : min ≤ max) (at_ : At) :
    ∀ ts, TextsSub (runFilter tb .query (.ngram min max at_) ts) (runFilter tb .index (.ngram min max at_) ts) :=
  ngramFilter_textsSub min max hmm at_

/-- the mode is a real parameter of the model: `MultiFilter(index=LowercaseFilter())` (query
    mode falls back to `PassFilter`) analyses `"Ab"` into `ab` at index time and `Ab` at query
    time - the query-time token does not find the document; and an empty stream stays empty -/
example :
    let tb : Tables := { lower := fun c => if 65 ≤ c ∧ c ≤ 90 then [c + 32] else [c], space := fun c => c = 32 }
    let ch (c : Nat) : CChar := ⟨c, (65 ≤ c ∧ c ≤ 90) ∨ (97 ≤ c ∧ c ≤ 122), c = 32, tb.lower c⟩
    (analyze tb (.regex .default) [.multi .lowercase .pass] .index ([65, 98].map ch)).map (·.text) = [[97, 98]] ∧
    (analyze tb (.regex .default) [.multi .lowercase .pass] .query ([65, 98].map ch)).map (·.text) = [[65, 98]] ∧
    analyze tb (.regex .default) [.multi .lowercase .pass] .index [] = [] := by
  decide +kernel

/-- a term query matches the document iff the term has postings -/
def termMatches (ix : List Token) (w : Str) : Prop := positionsOf ix w ≠ []

/-- a phrase matches iff its words occur at consecutive positions -/
def phraseMatches (ix : List Token) (ws : List Str) : Prop :=
  ∃ p, ∀ i (h : i < ws.length), (p + i) ∈ positionsOf ix ws[i]

theorem termMatches_iff {ix : List Token} {w : Str} : termMatches ix w ↔ ∃ t ∈ ix, t.text = w := by
  constructor
  · intro h
    obtain ⟨p, hp⟩ := List.exists_mem_of_ne_nil _ h
    obtain ⟨t, ht, _⟩ := List.mem_map.1 hp
    exact ⟨t, (List.mem_filter.1 ht).1, of_decide_eq_true (List.mem_filter.1 ht).2⟩
  · rintro ⟨t, ht, rfl⟩
    exact List.ne_nil_of_mem (mem_positionsOf ht)

/-- `C17.findable`: with `ix` the tokens recorded for a document at index time,
    (1) the term query for each of them matches (and its recorded characters are the token's
        offsets);
    (2) if the query-time tokens of the same text are index-time tokens (`mode_agree_*`), the
        conjunction of their term queries matches;
    (3) the phrase made of tokens at consecutive positions matches. -/
theorem findable (ix : List Token) :
    (∀ t ∈ ix, termMatches ix t.text ∧ (t.pos, t.startchar, t.endchar) ∈ charactersOf ix t.text) ∧
    (∀ q : List Token, (∀ g ∈ q, ∃ g' ∈ ix, g'.text = g.text) → ∀ g ∈ q, termMatches ix g.text) ∧
    (∀ run : List Token, (∀ t ∈ run, t ∈ ix) →
        (∀ i (h : i < run.length), run[i].pos = (run.head?.map (·.pos)).getD 0 + i) →
        phraseMatches ix (run.map (·.text))) := by
  refine ⟨fun t ht => ⟨termMatches_iff.2 ⟨t, ht, rfl⟩, ?_⟩, fun q hq g hg => termMatches_iff.2 (hq g hg), ?_⟩
  · exact List.mem_map.2 ⟨t, List.mem_filter.2 ⟨ht, decide_eq_true rfl⟩, rfl⟩
  · intro run hin hpos
    refine ⟨(run.head?.map (·.pos)).getD 0, fun i hi => ?_⟩
    rw [List.length_map] at hi
    rw [List.getElem_map, ← hpos i hi]
    exact mem_positionsOf (hin _ (List.getElem_mem hi))

/-- `C17.findable` for mode-free chains (Standard/Simple/Keyword/ID/Regex analyzers …): the
    query-time tokens are the index-time tokens, so each of them, and their conjunction, matches. -/
theorem findable_chain (tb : Tables) (tk : Tokenizer) (fs : List Filter) (text : List CChar)
    (htk : Tokenizer.modeFree tk = true) (hfs : ∀ f ∈ fs, Filter.modeFree f = true) :
    ∀ g ∈ analyze tb tk fs .query text, termMatches (analyze tb tk fs .index text) g.text :=
  fun g hg => termMatches_iff.2 ⟨g, mode_agree_chain tb tk fs text htk hfs ▸ hg, rfl⟩

/-- `C17.findable` for the shipped n-gram word analyzers (`NgramWordAnalyzer`, NGRAMWORDS fields):
    a mode-free chain followed by an `NgramFilter`.  Every token of the query-time analysis of a
    text is the text of an index-time token of the same text, so the term query of each — and
    hence their conjunction — matches the document. -/
theorem findable_ngramwords (tb : Tables) (tk : Tokenizer) (pre : List Filter) (min max : Nat) (at_ : At)
    (text : List CChar) (htk : Tokenizer.modeFree tk = true) (hpre : ∀ f ∈ pre, Filter.modeFree f = true)
    (hmin : 1 ≤ min) (hmm : min ≤ max) :
    ∀ g ∈ analyze tb tk (pre ++ [.ngram min max at_]) .query text,
      termMatches (analyze tb tk (pre ++ [.ngram min max at_]) .index text) g.text :=
  fun g hg => termMatches_iff.2 (textsSub_ngramwords tb tk pre min max at_ text htk hpre hmm g hg)

/-- `C17.findable` for an analyzer with a `MultiFilter` as in `mode_agree_multi`: the term query of
    every query-time token matches the document indexed from the same text. -/
theorem findable_multi (tb : Tables) (tk : Tokenizer) (pre post : List Filter) (fi fq : Filter)
    (text : List CChar) (htk : Tokenizer.modeFree tk = true) (hpre : ∀ f ∈ pre, Filter.modeFree f = true)
    (hpost : ∀ f ∈ post, Filter.textwise f = true)
    (hbr : ∀ ts, TextsSub (runFilter tb .query fq ts) (runFilter tb .index fi ts)) :
    ∀ g ∈ analyze tb tk (pre ++ .multi fi fq :: post) .query text,
      termMatches (analyze tb tk (pre ++ .multi fi fq :: post) .index text) g.text :=
  fun g hg => termMatches_iff.2 (mode_agree_multi tb tk pre post fi fq text htk hpre hpost hbr g hg)

/-- `C17.highlight`: for any fragment `[fstart, fend)` and any list of matches with
    `startchar ≤ endchar` (in any order, overlapping or not), the excerpt `format_fragment`
    produces, with the markup removed, is one contiguous slice of the text starting at the
    fragment's start, and every marked span is `text[startchar:endchar]` of one of the matches. -/
theorem highlight (text : Str) (ms : List (Nat × Nat)) (fstart fend : Nat)
    (h : ∀ m ∈ ms, m.1 ≤ m.2) :
    (∃ e, stripMarkup (formatFragment text ms fstart fend) = slice text fstart e) ∧
    (∀ s, Piece.marked s ∈ formatFragment text ms fstart fend → ∃ m ∈ ms, s = slice text m.1 m.2) := by
  obtain ⟨hle, hst⟩ := formatLoop_strip text ms fstart h
  constructor
  · refine ⟨max fend (formatLoop text ms fstart).2, ?_⟩
    simp only [formatFragment, stripMarkup_append, hst, stripMarkup, List.append_nil]
    -- the closing plain piece runs up to `fend`, or is empty when the last match ends beyond it
    rcases Nat.le_total (formatLoop text ms fstart).2 fend with hl | hl
    · rw [slice_append_slice text hle hl, Nat.max_eq_left hl]
    · rw [slice_empty text hl, List.append_nil, Nat.max_eq_right hl]
  · intro s hs
    simp only [formatFragment, List.mem_append, List.mem_singleton] at hs
    rcases hs with hs | hs
    · exact formatLoop_marked text ms fstart s hs
    · cases hs

/-- instance: text "ab cd ef", matches cd and ef, fragment 1..8 -/
example : formatFragment [97, 98, 32, 99, 100, 32, 101, 102] [(3, 5), (6, 8)] 1 8
    = [.plain [98, 32], .marked [99, 100], .plain [32], .marked [101, 102], .plain []] := by decide

/-- the token as the posting writer of C10 receives it (`enc`: the text as a Python string) -/
def toCodec (enc : Str → String) (boost : Rat) (t : Token) : WM.Codec.Token :=
  { text := enc t.text, pos := t.pos, startchar := t.startchar, endchar := t.endchar, boost := boost }

theorem mem_specPostings (fmt : WM.Codec.Fmt) (fb : Rat) {docs : List WM.Codec.DocIn} {d : WM.Codec.DocIn}
    (hd : d ∈ docs) {o : WM.Codec.Token} (ho : o ∈ d.toks) :
    ∃ p, (d.docnum, p) ∈ WM.Codec.specPostings fmt fb docs o.text ∧ o.pos ∈ p.positions ∧
      (o.pos, o.startchar, o.endchar) ∈ p.chars := by
  have hocc : o ∈ WM.Codec.occ d.toks o.text := List.mem_filter.2 ⟨ho, beq_self_eq_true _⟩
  have hne := List.isEmpty_eq_false_iff_exists_mem.2 ⟨o, hocc⟩
  exact ⟨_, List.mem_filterMap.2 ⟨d, hd, if_neg (hne ▸ Bool.false_ne_true)⟩, List.mem_map_of_mem hocc,
    List.mem_map_of_mem hocc⟩

/-- `C17.findable` against the posting lists C10 specifies (`WM.Codec.specPostings`, which C10
    proves the codec stores and reads back): a document whose field was analysed into `ix` is in
    the posting list of every one of its tokens' texts, with that token's position and character
    range; so is every query-time token whose text is an index-time token's text; and the words
    of a run of tokens at consecutive positions have postings at consecutive positions (what a
    phrase query asks for). -/
theorem findable_postings (enc : Str → String) (fmt : WM.Codec.Fmt) (fb bo : Rat)
    (docs : List WM.Codec.DocIn) (d : WM.Codec.DocIn) (hd : d ∈ docs)
    (ix : List Token) (hix : d.toks = ix.map (toCodec enc bo)) :
    (∀ t ∈ ix, ∃ p, (d.docnum, p) ∈ WM.Codec.specPostings fmt fb docs (enc t.text) ∧
        (t.pos : Int) ∈ p.positions ∧
        ((t.pos : Int), (t.startchar : Int), (t.endchar : Int)) ∈ p.chars) ∧
    (∀ q : List Token, (∀ g ∈ q, ∃ g' ∈ ix, g'.text = g.text) →
        ∀ g ∈ q, ∃ p, (d.docnum, p) ∈ WM.Codec.specPostings fmt fb docs (enc g.text)) ∧
    (∀ run : List Token, (∀ t ∈ run, t ∈ ix) → ∀ p0 : Nat,
        (∀ i (h : i < run.length), run[i].pos = p0 + i) →
        ∀ i (h : i < run.length), ∃ p, (d.docnum, p) ∈ WM.Codec.specPostings fmt fb docs (enc run[i].text) ∧
          ((p0 + i : Nat) : Int) ∈ p.positions) := by
  have key (t : Token) (ht : t ∈ ix) :=
    mem_specPostings fmt fb hd (o := toCodec enc bo t) (hix ▸ List.mem_map_of_mem ht)
  refine ⟨key, ?_, ?_⟩
  · intro q hq g hg
    obtain ⟨g', hg', he⟩ := hq g hg
    obtain ⟨p, hp, _⟩ := key g' hg'
    exact ⟨p, he ▸ hp⟩
  · intro run hin p0 hpos i hi
    obtain ⟨p, hp, hpp, _⟩ := key run[i] (hin _ (List.getElem_mem hi))
    exact ⟨p, hp, hpos i hi ▸ hpp⟩

/-- `findable_postings` composed with the analysis model, mode-free chains (Standard/Simple/
    Keyword/ID/Regex analyzers ...): every token of the query-time analysis of a text has the
    document indexed from that text in its posting list. -/
theorem findable_postings_chain (tb : Tables) (tk : Tokenizer) (fs : List Filter) (text : List CChar)
    (htk : Tokenizer.modeFree tk = true) (hfs : ∀ f ∈ fs, Filter.modeFree f = true)
    (enc : Str → String) (fmt : WM.Codec.Fmt) (fb bo : Rat)
    (docs : List WM.Codec.DocIn) (d : WM.Codec.DocIn) (hd : d ∈ docs)
    (hix : d.toks = (analyze tb tk fs .index text).map (toCodec enc bo)) :
    ∀ g ∈ analyze tb tk fs .query text,
      ∃ p, (d.docnum, p) ∈ WM.Codec.specPostings fmt fb docs (enc g.text) ∧ (g.pos : Int) ∈ p.positions := by
  intro g hg
  rw [mode_agree_chain tb tk fs text htk hfs] at hg
  obtain ⟨p, hp, hpp, _⟩ := (findable_postings enc fmt fb bo docs d hd _ hix).1 g hg
  exact ⟨p, hp, hpp⟩

/-- the same for the n-gram word analyzers (`NgramWordAnalyzer`, NGRAMWORDS fields) -/
theorem findable_postings_ngramwords (tb : Tables) (tk : Tokenizer) (pre : List Filter) (min max : Nat) (at_ : At)
    (text : List CChar) (htk : Tokenizer.modeFree tk = true) (hpre : ∀ f ∈ pre, Filter.modeFree f = true)
    (hmin : 1 ≤ min) (hmm : min ≤ max)
    (enc : Str → String) (fmt : WM.Codec.Fmt) (fb bo : Rat)
    (docs : List WM.Codec.DocIn) (d : WM.Codec.DocIn) (hd : d ∈ docs)
    (hix : d.toks = (analyze tb tk (pre ++ [.ngram min max at_]) .index text).map (toCodec enc bo)) :
    ∀ g ∈ analyze tb tk (pre ++ [.ngram min max at_]) .query text,
      ∃ p, (d.docnum, p) ∈ WM.Codec.specPostings fmt fb docs (enc g.text) :=
  (findable_postings enc fmt fb bo docs d hd _ hix).2.1 _ (textsSub_ngramwords tb tk pre min max at_ text htk hpre hmm)

end WM.C17
