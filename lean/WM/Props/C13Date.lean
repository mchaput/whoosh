import WM.Lemmas.NumericDate
import WM.Props.C13
/-! C13 — DATETIME end to end: the calendar, partial dates (`adatetime` floor/ceil),
    `DATETIME.parse_range` / `parse_query`, `long_to_datetime`; BOOLEAN indexing against querying;
    column values of integer and DATETIME fields. -/
namespace WM.C13
open WM.Numeric WM.NumericSpec WM.NumericDate

/-- **`datetime_to_long` orders datetimes** — from `(year, month, day, hour, minute, second,
    microsecond)` through `toordinal` (proleptic Gregorian calendar, leap years) to microseconds:
    for all valid datetimes of years 1..9999 the count is strictly monotone in the order of
    datetimes, is a normalised timedelta, and lies in the DATETIME field's domain. -/
theorem civil_order (a b : Civil) (ha : a.valid) (hb : b.valid) :
    (civilToLong a < civilToLong b ↔ civilLt a b = true) ∧
    (civilToTD a).normal ∧ inDomain 64 true (civilToLong a) ∧
    (0 ≤ civilToLong a ∧ civilToLong a < 2 ^ 63) :=
  ⟨civilToLong_lt_iff a b ha hb, civilToTD_normal a ha, civilToLong_inDomain a ha,
   by have := civilToLong_range a ha; omega⟩

/-- Feb 29th 2000 exists, is followed by March 1st, and `datetime.min` maps to 0. -/
example : (⟨2000, 2, 29, 23, 59, 59, 999999⟩ : Civil).valid ∧ ¬ (⟨1900, 2, 29, 0, 0, 0, 0⟩ : Civil).valid ∧
    civilToLong ⟨2000, 3, 1, 0, 0, 0, 0⟩ = civilToLong ⟨2000, 2, 29, 23, 59, 59, 999999⟩ + 1 ∧
    civilToLong ⟨1, 1, 1, 0, 0, 0, 0⟩ = 0 ∧ ordinal 9999 12 31 = 3652059 := by decide

/-- **`DateRange`/`NumericRange` on a DATETIME field, bounds and value as datetimes**: composition
    of `civil_order` with `range_query_int` (64 bits, signed, `shift_step = 8`). -/
theorem range_query_civil (lo hi : Option Civil) (sx ex : Bool) (t : Civil)
    (hlo : ∀ c, lo = some c → c.valid) (hhi : ∀ c, hi = some c → c.valid) (ht : t.valid) :
    ∃ subs ts, compileInt 8 true 8 (lo.map civilToLong) (hi.map civilToLong) sx ex = .ok subs ∧
      indexTerms 8 8 (toSortableInt 64 true (civilToLong t)).toNat = .ok ts ∧
      (matchesDoc subs ts = true ↔ inInterval civilLt lo hi sx ex t = true) := by
  rw [← inInterval_enc civilLt civilToLong Civil.valid
    (fun a b pa pb => (civilToLong_lt_iff a b pa pb).symm) lo hi sx ex t ht hlo hhi]
  exact range_query_int 8 8 (by decide) (by decide) true _ _ sx ex (civilToLong t)
    (forall_map_some hlo civilToLong_inDomain) (forall_map_some hhi civilToLong_inDomain)
    (civilToLong_inDomain t ht)

example : inInterval civilLt (some ⟨2000, 2, 29, 0, 0, 0, 0⟩) (some ⟨2000, 3, 1, 0, 0, 0, 0⟩) false true
    ⟨2000, 2, 29, 12, 0, 0, 0⟩ = true ∧
    inInterval civilLt (some ⟨2000, 2, 29, 0, 0, 0, 0⟩) (some ⟨2000, 3, 1, 0, 0, 0, 0⟩) false true
    ⟨2000, 3, 1, 0, 0, 0, 0⟩ = false := by decide

/-- **A partial date stands for a period**: whatever `DATETIME._parse_datestring` accepts (year 0000
    is rejected, with the `fix:` commit) is prefix-shaped and in range; `floor` and `ceil` succeed, are valid datetimes, and a
    valid datetime lies in `[floor, ceil]` iff it agrees with the parsed date on every specified
    attribute (month lengths and leap years included). -/
theorem partial_date_period (cs : List Nat) (p : ADT) (hp : parseDatestring cs = .ok p) :
    p.prefixShaped ∧
    ∃ f cl, p.floor = .ok f ∧ p.ceil = .ok cl ∧ f.valid ∧ cl.valid ∧ p.agrees f ∧ p.agrees cl ∧
      ∀ c : Civil, c.valid → ((civilLt c f = false ∧ civilLt cl c = false) ↔ p.agrees c) :=
  ⟨(parseDatestring_wf cs p hp).1, floor_ceil p (parseDatestring_wf cs p hp)⟩

/-- "200002" is February 2000: 1st 00:00:00.000000 … 29th 23:59:59.999999. -/
example : parseDatestring [2, 0, 0, 0, 0, 2] = .ok ⟨some 2000, some 2, none, none, none, none, none⟩ ∧
    (⟨some 2000, some 2, none, none, none, none, none⟩ : ADT).floor = .ok ⟨2000, 2, 1, 0, 0, 0, 0⟩ ∧
    (⟨some 2000, some 2, none, none, none, none, none⟩ : ADT).ceil = .ok ⟨2000, 2, 29, 23, 59, 59, 999999⟩ ∧
    parseDatestring [2, 0, 0, 1, 0, 2, 3, 0] = .error .valueError ∧
    parseDatestring [2, 0, 0] = .error .valueError := by decide

/-- **One bound of `DATETIME.parse_range`**: it succeeds with the microsecond count of a valid
    datetime `c` of the period, chosen so that the comparison `NumericRange` then makes reads as
    a statement about the whole period: an exclusive start leaves every instant of the period out
    (`t` is later than all of them), an inclusive start takes the period in (`t` is not before all
    of them); symmetrically for the end. -/
theorem range_bound_period (cs : List Nat) (p : ADT) (hp : parseDatestring cs = .ok p)
    (lowerSide excl : Bool) :
    ∃ c : Civil, c.valid ∧ p.agrees c ∧ rangeBound cs lowerSide excl = .ok (civilToLong c) ∧
      ∀ t : Civil, t.valid →
        (inInterval civilLt (if lowerSide then some c else none) (if lowerSide then none else some c)
            excl excl t = true ↔
          (if lowerSide then
            (if excl then ∀ c', c'.valid → p.agrees c' → civilLt c' t = true
             else ∃ c', c'.valid ∧ p.agrees c' ∧ civilLt t c' = false)
           else
            (if excl then ∀ c', c'.valid → p.agrees c' → civilLt t c' = true
             else ∃ c', c'.valid ∧ p.agrees c' ∧ civilLt c' t = false))) := by
  obtain ⟨f, cl, hf, hcl, vf, vcl, af, acl, hper⟩ := floor_ceil p (parseDatestring_wf cs p hp)
  -- every datetime `c'` of the period lies between `f` and `cl`
  have lo := fun c' v' a' => ((hper c' v').2 a').1
  have hi := fun c' v' a' => ((hper c' v').2 a').2
  cases lowerSide <;> cases excl
  · -- inclusive end: ceil
    refine ⟨cl, vcl, acl, rangeBound_ok _ _ hp hcl, fun t ht => ?_⟩
    simp only [inInterval, Bool.false_eq_true, if_false, Bool.true_and, Bool.not_eq_true']
    exact ⟨fun h => ⟨cl, vcl, acl, h⟩, fun ⟨c', v', a', h'⟩ =>
      civilLt_false_trans ht v' vcl h' (hi c' v' a')⟩
  · -- exclusive end: floor
    refine ⟨f, vf, af, rangeBound_ok _ _ hp hf, fun t ht => ?_⟩
    simp only [inInterval, if_true]
    exact ⟨fun h c' v' a' => civilLt_of_lt_of_le ht vf v' h (lo c' v' a'), fun h => h f vf af⟩
  · -- inclusive start: floor
    refine ⟨f, vf, af, rangeBound_ok _ _ hp hf, fun t ht => ?_⟩
    simp only [inInterval, Bool.false_eq_true, if_false, if_true, Bool.and_true, Bool.not_eq_true']
    exact ⟨fun h => ⟨f, vf, af, h⟩, fun ⟨c', v', a', h'⟩ =>
      civilLt_false_trans vf v' ht (lo c' v' a') h'⟩
  · -- exclusive start: ceil
    refine ⟨cl, vcl, acl, rangeBound_ok _ _ hp hcl, fun t ht => ?_⟩
    simp only [inInterval, if_true, Bool.and_true]
    exact ⟨fun h c' v' a' => civilLt_of_le_of_lt v' vcl ht (hi c' v' a') h, fun h => h cl vcl acl⟩

/-- `{2000 TO …`: the exclusive start "2000" is the last microsecond of the year 2000. -/
example : rangeBound [2, 0, 0, 0] true true = .ok (civilToLong ⟨2000, 12, 31, 23, 59, 59, 999999⟩) ∧
    rangeBound [2, 0, 0, 0] true false = .ok (civilToLong ⟨2000, 1, 1, 0, 0, 0, 0⟩) := by decide

/-- **`DATETIME.parse_range` as a whole**: with both bound strings parseable the result
    is `NumericRange(a, b, startexcl, endexcl)` whose compiled query matches a document holding the
    datetime `t` iff `t` lies in the interval of datetimes `lo … hi`, where `lo`/`hi` are the
    period ends `range_bound_period` describes; two absent bounds give `Every`. -/
theorem parse_range_datetime (start end_ : Option (List Nat)) (sx ex : Bool) (t : Civil) (ht : t.valid)
    (hs : ∀ cs, start = some cs → ∃ p, parseDatestring cs = .ok p)
    (he : ∀ cs, end_ = some cs → ∃ p, parseDatestring cs = .ok p) :
    (start = none ∧ end_ = none ∧ parseRange start end_ sx ex = .ok none) ∨
    ∃ (lo hi : Option Civil) (subs : List Sub) (ts : List (List Nat)),
      (∀ c, lo = some c → c.valid) ∧ (∀ c, hi = some c → c.valid) ∧
      (lo.isSome = start.isSome) ∧ (hi.isSome = end_.isSome) ∧
      (∀ cs c, start = some cs → lo = some c → rangeBound cs true sx = .ok (civilToLong c)) ∧
      (∀ cs c, end_ = some cs → hi = some c → rangeBound cs false ex = .ok (civilToLong c)) ∧
      parseRange start end_ sx ex = .ok (some (lo.map civilToLong, hi.map civilToLong)) ∧
      compileInt 8 true 8 (lo.map civilToLong) (hi.map civilToLong) sx ex = .ok subs ∧
      indexTerms 8 8 (toSortableInt 64 true (civilToLong t)).toNat = .ok ts ∧
      (matchesDoc subs ts = true ↔ inInterval civilLt lo hi sx ex t = true) := by
  -- the datetime each present bound stands for
  have bound : ∀ (o : Option (List Nat)) (lower excl : Bool),
      (∀ cs, o = some cs → ∃ p, parseDatestring cs = .ok p) →
      ∃ b : Option Civil, (∀ c, b = some c → c.valid) ∧ b.isSome = o.isSome ∧
        (∀ cs c, o = some cs → b = some c → rangeBound cs lower excl = .ok (civilToLong c)) ∧
        optBound o lower excl = .ok (b.map civilToLong) := by
    intro o lower excl ho
    cases o with
    | none => exact ⟨none, nofun, rfl, nofun, rfl⟩
    | some cs =>
      obtain ⟨p, hp⟩ := ho cs rfl
      obtain ⟨c, vc, _, hrb, _⟩ := range_bound_period cs p hp lower excl
      exact ⟨some c, forall_eq_some vc, rfl, by rintro _ _ ⟨⟩ ⟨⟩; exact hrb,
        by simp only [optBound, hrb]; rfl⟩
  obtain ⟨lo, vlo, ilo, rlo, elo⟩ := bound start true sx hs
  obtain ⟨hi, vhi, ihi, rhi, ehi⟩ := bound end_ false ex he
  by_cases hnone : start = none ∧ end_ = none
  · left
    obtain ⟨rfl, rfl⟩ := hnone
    exact ⟨rfl, rfl, rfl⟩
  · right
    obtain ⟨subs, ts, h1, h2, h3⟩ := range_query_civil lo hi sx ex t vlo vhi ht
    refine ⟨lo, hi, subs, ts, vlo, vhi, ilo, ihi, rlo, rhi, ?_, h1, h2, h3⟩
    rw [parseRange_eq _ _ _ _ hnone, elo, ehi]
    rfl

/-- Hypotheses satisfiable: `[200002 TO 2001}`. -/
example : (∃ p, parseDatestring [2, 0, 0, 0, 0, 2] = .ok p) ∧
    parseRange (some [2, 0, 0, 0, 0, 2]) (some [2, 0, 0, 1]) false true =
      .ok (some (some (civilToLong ⟨2000, 2, 1, 0, 0, 0, 0⟩), some (civilToLong ⟨2001, 1, 1, 0, 0, 0, 0⟩))) := by
  exact ⟨⟨⟨some 2000, some 2, none, none, none, none, none⟩, by decide⟩, by decide⟩

/-- **`DATETIME.parse_query` of a partial date**: the query is the inclusive range
    `[floor, ceil]`, which matches exactly the documents whose datetime agrees with the partial
    date on every specified attribute. -/
theorem parse_query_datetime (cs : List Nat) (p : ADT) (hp : parseDatestring cs = .ok p)
    (hamb : p.ambiguous = true) (t : Civil) (ht : t.valid) :
    ∃ f cl subs ts, parseQuery cs = .ok (.range (civilToLong f) (civilToLong cl)) ∧
      compileInt 8 true 8 (some (civilToLong f)) (some (civilToLong cl)) false false = .ok subs ∧
      indexTerms 8 8 (toSortableInt 64 true (civilToLong t)).toNat = .ok ts ∧
      (matchesDoc subs ts = true ↔ p.agrees t) := by
  obtain ⟨f, cl, hf, hcl, vf, vcl, af, acl, hper⟩ := floor_ceil p (parseDatestring_wf cs p hp)
  obtain ⟨subs, ts, h1', h2, h3⟩ := range_query_civil (some f) (some cl) false false t
    (forall_eq_some vf) (forall_eq_some vcl) ht
  refine ⟨f, cl, subs, ts, ?_, h1', h2, ?_⟩
  · rw [parseQuery_ok hp hf hcl, if_pos hamb]
  · rw [h3, ← hper t ht]
    simp [inInterval]

example : parseQuery [2, 0, 0, 0, 0, 2] =
    .ok (.range (civilToLong ⟨2000, 2, 1, 0, 0, 0, 0⟩) (civilToLong ⟨2000, 2, 29, 23, 59, 59, 999999⟩)) ∧
    parseQuery [2, 0, 0, 1, 0, 2, 2, 9] = .ok .error := by decide

/-- **`DATETIME.parse_query` never raises** (after the `fix:` commit that makes `_parse_datestring`
    reject year 0000): an unparseable string gives the error query, a partial date the range
    `[floor, ceil]`, a full timestamp the term of that instant — `floor()`/`ceil()`, which are
    called outside the `try`, cannot fail on a parsed date. -/
theorem parse_query_total (cs : List Nat) : ∃ q, parseQuery cs = .ok q := by
  cases hp : parseDatestring cs with
  | error e => exact ⟨.error, by simp only [parseQuery, hp]⟩
  | ok p =>
    obtain ⟨f, cl, hf, hcl, _⟩ := floor_ceil p (parseDatestring_wf cs p hp)
    exact ⟨_, parseQuery_ok hp hf hcl⟩

/-- Year 0000 is an unparseable date, not an exception out of `parse_query`. -/
example : parseQuery [0, 0, 0, 0] = .ok .error ∧ parseDatestring [0, 0, 0, 0, 0, 1] = .error .valueError := by
  decide

/-- **`long_to_datetime ∘ datetime_to_long = id`** on every valid datetime, through the inverse
    calendar (`_ord2ymd`: 400/100/4/1-year cycles and the month estimate), which is proved, not trusted. -/
theorem datetime_roundtrip (c : Civil) (hc : c.valid) : longToCivil (civilToLong c) = some c := by
  have e : longToTD (civilToLong c) = civilToTD c := longToTD_tdToUsecs _ (civilToTD_normal c hc)
  have hb := ordinal_pos hc.dateOk
  have hm := ordinal_le_max hc.dateOk hc.2.1
  obtain ⟨f1, f2, f3⟩ := seconds_split (h := c.hour) hc.2.2.2.2.2.2.2.1 hc.2.2.2.2.2.2.2.2.1
  unfold longToCivil
  rw [e]
  simp only [civilToTD]
  have hcond : (0 : Int) ≤ (ordinal c.year c.month c.day : Int) - 1 ∧
      (ordinal c.year c.month c.day : Int) - 1 ≤ 3652058 := by constructor <;> omega
  have e1 : ((ordinal c.year c.month c.day : Int) - 1).toNat + 1 = ordinal c.year c.month c.day := by
    omega
  refine (if_pos hcond).trans ?_
  rw [e1, ord2ymd_ordinal c hc]
  simp only [Int.toNat_natCast, f1, f2, f3]

example : longToCivil (civilToLong ⟨2000, 2, 29, 23, 59, 59, 999999⟩) = some ⟨2000, 2, 29, 23, 59, 59, 999999⟩ ∧
    ord2ymd 730179 = (2000, 2, 29) ∧ ord2ymd 3652059 = (9999, 12, 31) ∧ ord2ymd 1 = (1, 1, 1) ∧
    longToCivil (-1) = none := by decide

/-- **BOOLEAN fields match exactly** (after the `fix:` commit): a document indexed with the value
    `v` owns one term; the query `parse_query(q)` (`q ≠ "*"`) matches it iff `v` and `q` have the same
    truth value under the one reading `_obj_to_bool` — for bools, objects, the true/false words and
    every other string; `"*"` matches every document that has the field. -/
theorem boolean_match (v q : BIn) :
    (boolIndex v).length = 1 ∧
    (q ≠ .star → (boolParseQuery q).matchesTerms (boolIndex v) = (objToBool v == objToBool q)) ∧
    (boolParseQuery .star).matchesTerms (boolIndex v) = true := by
  refine ⟨rfl, fun hq => ?_, rfl⟩
  -- the query is a term for the truth value of `q`, the document's term stands for that of `v`
  have e : boolParseQuery q = .term (objToBool q) := by
    cases q <;> first | rfl | exact absurd rfl hq
  rw [e]
  show ([boolToBytes (.obj (objToBool v))].any (· == boolToBytes (.obj (objToBool q)))) = _
  rw [List.any_cons, List.any_nil, Bool.or_false, Bool.eq_iff_iff, beq_iff_eq, beq_iff_eq,
    boolToBytes_inj]

/-- **The pinned tree disagreed with itself**: a string outside the word lists ("garbage") was
    indexed under `f` but queried as `t` — the document never matched its own value. -/
theorem boolean_old_disagrees :
    (boolParseQuery (.strOther true)).matchesTerms [boolToBytesOld (.strOther true)] = false ∧
    (boolParseQuery (.strOther true)).matchesTerms (boolIndex (.strOther true)) = true := by decide

example : boolToBytes .strTrue = [116] ∧ boolToBytes (.strOther false) = [102] ∧
    boolParseQuery .star = .every ∧ boolParseQuery .strFalse = .term false := by decide

/-- **Column order is value order** (feeds C14's sorting by a numeric field): on an integer field
    `to_column_value` accepts exactly the domain, lands in `[0, 2^bits)` (the column's unsigned
    typecode), is strictly monotone and inverted by `from_column_value`; on a DATETIME field the
    column holds the microsecond count itself — in `[0, 2^63)`, strictly monotone in the order of
    datetimes, and `from_column_value` returns the same instant. -/
theorem column_order (n : Nat) (hn : 0 < n) (signed : Bool) :
    (∀ x, toColumnInt n signed x =
      if inDomain n signed x then .ok (toSortableInt n signed x) else .error .valueError) ∧
    (∀ x, inDomain n signed x → 0 ≤ toSortableInt n signed x ∧ toSortableInt n signed x < 2 ^ n ∧
      fromColumnInt n signed (toSortableInt n signed x) = x) ∧
    (∀ x y, toSortableInt n signed x < toSortableInt n signed y ↔ x < y) ∧
    (∀ a b : Civil, a.valid → b.valid →
      (toColumnDatetime a < toColumnDatetime b ↔ civilLt a b = true) ∧
      0 ≤ toColumnDatetime a ∧ toColumnDatetime a < 2 ^ 63 ∧
      fromColumnDatetime (toColumnDatetime a) = civilToTD a) := by
  refine ⟨fun x => prepareInt_bind n signed x _, (int_sortable n hn signed).2.1, toSortableInt_lt n signed,
    fun a b ha hb => ?_⟩
  · have h := civil_order a b ha hb
    exact ⟨h.1, h.2.2.2.1, h.2.2.2.2, longToTD_tdToUsecs (civilToTD a) h.2.1⟩

example : toColumnInt 8 true (-128) = .ok 0 ∧ toColumnInt 8 true 127 = .ok 255 ∧
    toColumnInt 8 true 128 = .error .valueError ∧ fromColumnInt 8 true 255 = 127 := by decide

end WM.C13
