import WM.Lemmas.ParserEval
import WM.Lemmas.ParserClean
import WM.Lemmas.ParserIdentity
import WM.Lemmas.ParserTag
/-!
C16 — the query parser accepts any input and honours the documented language.

Model: `WM/Model/Parser.lean` (the filter pipeline on the tagged node list, `query()` of the group
nodes), spec: `WM/Spec/Parser.lean` (expression trees, their token lists, their meaning).
-/
namespace WM.C16
open WM.Parser

/-- `C16.total` (filters): for *every* parser configuration (any set and order of the thirteen
    modelled filters, any operator table, schema, multi-field/copy-field/alias maps) and *every*
    node list — flat or not, well-formed or not — `filterize` returns a syntax tree.  Since the
    model performs every Python index expression through `pyGet/pySet/pyDel` (which answer
    `IndexError` out of range, with Python's negative-index rule), this says that no index access
    in the mirrored filters can be out of bounds and no loop can fail. -/
theorem total_filterize (c : Cfg) (ns : List Node) : ∃ t, filterize c ns = .ok t :=
  applyFilters_ok c (priorized c.filters) (.group c.group ns 1)

/-- `do_gtlt` with the guard `if i < lasti and newgroup:` (with `if i < lasti:` alone it answers
    `IndexError` on a comparison sign at the start of a group, `>"`): the list comes back without
    the dangling sign. -/
example : gtltStep [.gtlt .gt, .text (.phrase 1) [] none 1] 0 [] = .ok (0, []) := rfl

/-- the parser configuration reduced to the filters that decide the shape of the tree:
    `do_groups` (priority 0), `remove_whitespace` (500), `do_operators` (600) with the default
    operator taggers; `gk` is the parser's `group` (AndGroup or OrGroup) -/
def coreCfg (gk : GK) : Cfg :=
  { group := gk, defField := none, schema := none, removeUnknown := true, ops := defaultOps,
    mfFields := [], mfGroup := .or, copyMap := [], copyGroup := none, aliases := [],
    filters := [(.rmws, 100 + 400), (.groups, 0), (.operators, 600)] }

theorem coreCfg_priorized (gk : GK) : priorized (coreCfg gk).filters = [.groups, .rmws, .operators] := rfl

/-- `C16.precedence`, structural form: for every sequence of well-formed expressions of the
    documented language (NOT tightest, then AND, OR, ANDNOT, ANDMAYBE, REQUIRE, then juxtaposition;
    parentheses), written down as the tagger would deliver it (`toksSeq`), the filter pipeline
    builds exactly the intended tree `outSeq`. -/
theorem precedence (gk : GK) (items : List Expr) (hwf : ∀ e ∈ items, e.wf = true) :
    filterize (coreCfg gk) (toksSeq items) = .ok (outSeq gk items) := by
  have hs := stripParen_wf items hwf
  unfold filterize
  rw [coreCfg_priorized]
  simp only [applyFilters, applyFilter, coreCfg, doGroups_seq gk items hwf, rmWs_linSeq gk _ hs,
    doOperators_linSeq gk _ hs]
  rfl

/-- `C16.precedence`, meaning: the tree built for a well-formed query selects, for every
    assignment of matching documents to the leaves, exactly the documents its reading selects
    (composition with C01/C15 gives the statement about the index). -/
theorem precedence_meaning (gk : GK) (hgk : gk = .and ∨ gk = .or) (items : List Expr)
    (hwf : ∀ e ∈ items, e.wf = true) (v : Node → Bool) :
    Node.eval v (outSeq gk items) = evalSeq gk v items := by
  rw [← evalSeq_stripParen]
  exact eval_group_seq hgk v _ (fun c hc => out_eval gk hgk v c (stripParen_wf items hwf c hc)) 1

/-- a concrete non-trivial instance: `a OR b AND NOT c d` under an AND-group parser is
    `And([Or([a, And([b, Not(c)])]), d])` -/
example :
    let a := Node.text .word [97] none 1
    let b := Node.text .word [98] none 1
    let c := Node.text .word [99] none 1
    let d := Node.text .word [100] none 1
    let q := [Expr.op .or [.atom a, .op .and [.atom b, .not (.atom c)]], .atom d]
    (∀ e ∈ q, e.wf = true) ∧
    outSeq .and q = .group .and [.group .or [a, .group .and [b, .group .not [c] 1] 1] 1, d] 1 := by
  refine ⟨?_, ?_⟩
  · intro e he
    simp only [List.mem_cons, List.not_mem_nil, or_false] at he
    rcases he with rfl | rfl
    · simp [wf_op, wf_not, wf_atom, GK.lvl, Expr.level, Node.isLeaf]
    · simp [wf_atom, Node.isLeaf]
  · simp [outSeq, stripParen, out_op_cons, out_atom, out_not, combineL, GK.merging, Node.groupOf?]

/-- `C16.fields`: in `do_fieldnames`, a field prefix `name:` (a field of the schema when the parser
    has a schema and removes unknown names; any name for a schema-less parser or with
    `remove_unknown=False`, where the first loop of `do_fieldnames` does not run) directly
    followed by a node `x` that is neither whitespace nor another prefix gives its name to exactly
    that node — to all of it (`setFieldname` descends into a group and sets every descendant that
    has no field of its own, `override=False`) and to nothing else: the nodes before the prefix and
    the nodes after `x` come out exactly as they do when the pair is not there. -/
theorem fields (c : Cfg) (k : GK) (b : Rat) (pre post : List Node) (name orig : Str) (x : Node)
    (hw : x.isWs = false) (hf : x.isFname = false)
    (hknown : c.removeUnknown = true → c.schemaTruthy = true →
      knownNames c (pre ++ .fname name orig :: x :: post)) :
    ∃ P x' Q,
      doFieldnames c (.group k pre b) = .ok (.group k P b) ∧
      doFieldnames c x = .ok x' ∧
      doFieldnames c (.group k post b) = .ok (.group k Q b) ∧
      doFieldnames c (.group k (pre ++ .fname name orig :: x :: post) b)
        = .ok (.group k (P ++ setFieldname name false x' :: Q) b) := by
  have hkpre : c.removeUnknown = true → c.schemaTruthy = true → knownNames c pre :=
    fun h1 h2 n hn => hknown h1 h2 n (by simp [hn])
  have hkpost : c.removeUnknown = true → c.schemaTruthy = true → knownNames c post :=
    fun h1 h2 n hn => hknown h1 h2 n (by simp [hn])
  refine ⟨fieldsScan (pre.map (fieldsOut c)), fieldsOut c x, fieldsScan (post.map (fieldsOut c)), ?_, ?_, ?_, ?_⟩
  · rw [doFieldnames_group, stage1_map_fieldsOut c pre hkpre]
  · exact doFieldnames_eq_fieldsOut c x
  · rw [doFieldnames_group, stage1_map_fieldsOut c post hkpost]
  · rw [doFieldnames_group, stage1_map_fieldsOut c _ hknown]
    have hx := fieldsOut_props c x hw hf
    simp only [List.map_append, List.map_cons]
    rw [fieldsOut_nongroup c (n := .fname name orig) rfl, fieldsScan_scope _ _ _ _ _ hx.1 hx.2]

/-- `fields` applies to a schema-less parser (`QueryParser(name, None)`) with no condition on the names -/
example (c : Cfg) (hs : c.schemaTruthy = false) (k : GK) (b : Rat) (pre post : List Node) (name orig : Str)
    (x : Node) (hw : x.isWs = false) (hf : x.isFname = false) :
    ∃ P x' Q, doFieldnames c (.group k pre b) = .ok (.group k P b) ∧ doFieldnames c x = .ok x' ∧
      doFieldnames c (.group k post b) = .ok (.group k Q b) ∧
      doFieldnames c (.group k (pre ++ .fname name orig :: x :: post) b)
        = .ok (.group k (P ++ setFieldname name false x' :: Q) b) :=
  fields c k b pre post name orig x hw hf (fun _ h => by rw [hs] at h; cases h)

/-- instance (the scan behind `fields`): `a t:b d` — only `b` gets the field; a prefix followed
    by whitespace becomes a word again -/
example :
    fieldsScan [.text .word [97] none 1, .ws, .fname [116] [116, 58], .text .word [98] none 1, .ws,
                .fname [107] [107, 58], .ws, .text .word [100] none 1]
      = [.text .word [97] none 1, .ws, .text .word [98] (some [116]) 1, .ws,
         .text .word [107, 58] none 1, .ws, .text .word [100] none 1] := by
  simp [fieldsScan, fnRev, fnToWord, toWord, setFieldname, Node.isWs]

/-- outcome of the query stage that the property allows: a query (or None) or QueryParserError -/
def allowed (r : Except Err (Option Q)) : Prop := (∃ q, r = .ok q) ∨ r = .error .qpe

/-- the leaves' own `query()` raises at most `QueryParserError` (with the `fix:`es in `RangeNode.query`,
    `PhraseNode.query` and `term_query` this holds for the shipped field types; the end-to-end run
    checks it) -/
def leavesOk (o : Node → LeafRes) : Prop := ∀ n e, o n = .err e → e = .qpe

/-- `allowed` at any result type: a value or `QueryParserError` -/
def OkOrQpe {α} (r : Except Err α) : Prop := (∃ a, r = .ok a) ∨ r = .error .qpe

theorem OkOrQpe.ok {α} (a : α) : OkOrQpe (.ok a) := .inl ⟨a, rfl⟩

theorem OkOrQpe.bind {α β} {r : Except Err α} {f : α → Except Err β} (hr : OkOrQpe r) (hf : ∀ a, OkOrQpe (f a)) :
    OkOrQpe (r >>= f) := by
  rcases hr with ⟨a, rfl⟩ | rfl
  · exact hf a
  · exact .inr rfl

theorem OkOrQpe.mapM {α β} {f : α → Except Err β} {l : List α} (h : ∀ x ∈ l, OkOrQpe (f x)) : OkOrQpe (l.mapM f) := by
  induction l with
  | nil => exact .ok []
  | cons a t ih =>
    rw [List.forall_mem_cons] at h
    rw [List.mapM_cons]
    exact h.1.bind fun y => (ih h.2).bind fun ys => .ok (y :: ys)

/-- `C16.total` (query stage), partial: on a clean tree the `query()` methods of the group nodes
    (`GroupNode.query`, `BinaryGroup.query` with its `assert len(nodes) <= 2`, `Wrapper.query`)
    produce a query or propagate a leaf's `QueryParserError`; `IndexError`, `AssertionError` and
    `NotImplementedError` are impossible. -/
theorem total_query_partial (o : Node → LeafRes) (ho : leavesOk o) (t : Node) :
    clean t = true → allowed (query o t) := by
  show _ → OkOrQpe (query o t)
  rw [clean_eq_allNodes]
  induction t using Node.childrenInd with
  | leaf n h =>
    intro hc
    rw [allNodes_nongroup h] at hc
    have hl : n.isLeaf = true := by cases n <;> first | rfl | cases hc | cases h
    rw [query_leaf o hl]
    split
    · exact .ok _
    · exact .ok _
    · next e he => rw [ho _ e he]; exact .inr rfl
  | group k ns b ih =>
    intro hc
    rw [allNodes_group_iff] at hc
    have hch : ∀ x ∈ ns, OkOrQpe (query o x) := fun x hx => ih x hx (hc.2 x hx)
    rcases GK.kinds k with rfl | ⟨hb, hk⟩ | hk
    · cases ns with
      | nil => rw [query]; exact .ok _
      | cons n0 rest =>
        rw [query_not]
        refine (hch n0 List.mem_cons_self).bind fun r => ?_
        cases r with
        | none => exact .ok _
        | some q => simp only; split <;> exact .ok _
    · have hlen : ns.length ≤ 2 := by simpa [cleanAt, Node.hasQuery, binOK, hb] using hc.1
      rw [query_binary o hk]
      match ns, hlen, hch with
      | [], _, _ => exact .ok _
      | [a], _, hch =>
        refine (hch a List.mem_cons_self).bind fun qa => ?_
        cases qa <;> exact .ok _
      | [a, c], _, hch =>
        refine (hch a List.mem_cons_self).bind fun qa =>
          (hch c (List.mem_cons_of_mem _ List.mem_cons_self)).bind fun qc => ?_
        cases qa <;> cases qc <;> exact .ok _
    · rw [query_nary o hk]
      exact (OkOrQpe.mapM hch).bind fun qs => .ok _

/-- the filter sequence of `QueryParser(...)` with the default plug-in set (WhitespacePlugin is
    added twice by the constructor) -/
def defaultPipeline : List FilterId :=
  [.groups, .cleanBoost, .wildcards, .fieldnames, .rmws, .rmws, .boost, .operators]

/-- what the default taggers can produce: a flat list of words, wildcards, phrases, ranges,
    whitespace, field prefixes, brackets, the six default operators, boosts, `*:*` -/
def defaultTagged (n : Node) : Bool :=
  match n with
  | .text .word .. | .text .wild .. | .text (.phrase _) .. | .range .. | .ws | .fname .. | .opn | .cls
  | .bst .. | .every => true
  | .op t g la _ => la && defaultOps.any (fun o => o.t == t && o.g == g)
  | _ => false

theorem front {q : Node → Bool} (hq : Stable q) (c : Cfg) (hgrp : q (.group c.group [] 1) = true) (ns : List Node)
    (hns : ∀ n ∈ ns, n.isBracket = true ∨ n.allNodes (fun x => x.isFname || q x) = true) :
    ∃ k ns' b, applyFilters c [.groups, .cleanBoost, .wildcards, .fieldnames] (.group c.group ns 1)
        = .ok (.group k ns' b) ∧ (Node.group k ns' b).allNodes q = true := by
  have hq1 := hq.or Node.isFname fun _ _ _ => rfl
  obtain ⟨t3, e3, g3, h3⟩ := doWildcards_spec hq1 _ (cleanBoost_pres hq1 _ (doGroups_sweep hq1 c.group hgrp ns hns))
  rw [cleanBoost_isGroup, doGroups_isGroup] at g3
  obtain ⟨k, ns3, b, rfl⟩ := isGroup_iff.1 g3
  have h4 := fieldsOut_sweep hq c _ h3
  rw [fieldsOut_group] at h4
  exact ⟨k, _, b, by simp only [applyFilters, applyFilter, e3, doFieldnames_group], h4.resolve_left Bool.false_ne_true⟩

/-- the markers the second half of the default pipeline sweeps -/
def midOK (x : Node) : Bool := x.isWs || (x.isBst || (defaultOp x || plain x))

theorem stable_midOK : Stable midOK :=
  ((stable_plain.or defaultOp fun _ _ _ => rfl).or Node.isBst fun _ _ _ => rfl).or Node.isWs fun _ _ _ => rfl

theorem back (c : Cfg) (hops : c.ops = defaultOps) (t : Node) (g4 : t.isGroup = true)
    (h4 : t.allNodes midOK = true) :
    ∃ r, applyFilters c [.rmws, .rmws, .boost, .operators] t = .ok r ∧ clean r = true := by
  obtain ⟨k, ns, b, rfl⟩ := isGroup_iff.1 g4
  have hq6 := stable_plain.or defaultOp fun _ _ _ => rfl
  have h5 := rmWs_sweep (hq6.or Node.isBst fun _ _ _ => rfl) _ rfl h4
  rw [rmWs_group] at h5
  refine ⟨_, ?_, opsOut_clean _ (doBoost_isGroup _) (doBoost_sweep hq6 _ rfl h5)⟩
  simp only [applyFilters, applyFilter, hops, doOperators_eq_opsOut]
  rw [rmWs_idem, rmWs_group]

theorem defaultTagged_kinds {n : Node} (h : defaultTagged n = true) :
    n.isBracket = true ∨ n.allNodes (fun x => x.isFname || midOK x) = true := by
  cases n with
  | opn | cls => exact .inl rfl
  | text k => cases k <;> first | exact .inr rfl | cases h
  | op => exact .inr ((Bool.or_false _).trans h)
  | _ => first | exact .inr rfl | cases h

/-- `C16.total` for the default configuration (any schema, default field, AND- or OR-group or
    any other non-binary group class): for every flat list of nodes the default taggers can
    produce — in any order, balanced or not — `filterize` returns a tree in which every node has
    a `query()` and every binary group has at most two operands, so `query()` returns a query or
    raises the parser's own `QueryParserError` (coming from a leaf); `IndexError`, `AssertionError`
    and `NotImplementedError` are impossible in the modelled pipeline. -/
theorem total (c : Cfg) (hp : priorized c.filters = defaultPipeline) (hops : c.ops = defaultOps)
    (hgrp : c.group.hasBoost = true)
    (ns : List Node) (hns : ∀ n ∈ ns, defaultTagged n = true)
    (o : Node → LeafRes) (ho : leavesOk o) :
    ∃ t, filterize c ns = .ok t ∧ clean t = true ∧ allowed (query o t) := by
  obtain ⟨k, ns4, b, e4, h4⟩ := front stable_midOK c hgrp ns (fun n hn => defaultTagged_kinds (hns n hn))
  obtain ⟨r, er, hr⟩ := back c hops _ rfl h4
  exact ⟨r, (filterize_split (b := [.rmws, .rmws, .boost, .operators]) hp e4).trans er, hr,
    total_query_partial o ho r hr⟩

/-- the filter sequence of `MultifieldParser(...)` -/
def multifieldPipeline : List FilterId :=
  [.groups, .cleanBoost, .wildcards, .fieldnames, .multifield, .rmws, .rmws, .boost, .operators]

/-- `C16.total` for `MultifieldParser` (the group class of the per-field copies must not be a
    binary one; it is `OrGroup` by default). -/
theorem total_multifield (c : Cfg) (hp : priorized c.filters = multifieldPipeline) (hops : c.ops = defaultOps)
    (hgrp : c.group.hasBoost = true) (hmf : c.mfGroup.hasBoost = true)
    (ns : List Node) (hns : ∀ n ∈ ns, defaultTagged n = true)
    (o : Node → LeafRes) (ho : leavesOk o) :
    ∃ t, filterize c ns = .ok t ∧ clean t = true ∧ allowed (query o t) := by
  obtain ⟨k, ns4, b, e4, h4⟩ := front stable_midOK c hgrp ns (fun n hn => defaultTagged_kinds (hns n hn))
  obtain ⟨r, er, hr⟩ := back c hops (doMultifield c (.group k ns4 b)) (by rw [doMultifield_group]; rfl)
    (doMultifield_pres stable_midOK c hmf _ h4)
  exact ⟨r, (filterize_split (b := [.multifield, .rmws, .rmws, .boost, .operators]) hp e4).trans er, hr,
    total_query_partial o ho r hr⟩

/-- what the taggers of `SimpleParser` / `DisMaxParser` can produce: words, phrases, whitespace,
    plus and minus -/
def simpleTagged (n : Node) : Bool :=
  match n with
  | .text .word .. | .text (.phrase _) .. | .ws | .plus | .minus => true
  | _ => false

theorem simpleTagged_kinds {n : Node} (h : simpleTagged n = true) :
    n.allNodes (fun x => x.isWs || (x.isPM || plain x)) = true := by
  cases n with
  | text k => cases k <;> first | rfl | cases h
  | _ => first | rfl | cases h

/-- `C16.total` for `SimpleParser` (filters: remove_whitespace twice, do_plusminus) and
    `DisMaxParser` (do_multifield first), with `do_plusminus` in its recursive form. -/
theorem total_simple (c : Cfg) (multi : Bool)
    (hp : priorized c.filters = (if multi then [.multifield] else []) ++ [.rmws, .rmws, .plusminus])
    (hgrp : c.group.hasBoost = true) (hmf : c.mfGroup.hasBoost = true)
    (ns : List Node) (hns : ∀ n ∈ ns, simpleTagged n = true)
    (o : Node → LeafRes) (ho : leavesOk o) :
    ∃ t, filterize c ns = .ok t ∧ clean t = true ∧ allowed (query o t) := by
  have hq1 := stable_plain.or Node.isPM fun _ _ _ => rfl
  have hq0 := hq1.or Node.isWs fun _ _ _ => rfl
  have h0 : (Node.group c.group ns 1).allNodes (fun x => x.isWs || (x.isPM || plain x)) = true :=
    allNodes_group_iff.2 ⟨hgrp, fun n hn => simpleTagged_kinds (hns n hn)⟩
  -- the optional `do_multifield` keeps the root a group
  obtain ⟨k, ns1, b, e1, h1⟩ : ∃ k ns1 b,
      applyFilters c (if multi then [.multifield] else []) (.group c.group ns 1) = .ok (.group k ns1 b) ∧
      (Node.group k ns1 b).allNodes (fun x => x.isWs || (x.isPM || plain x)) = true := by
    cases multi
    · exact ⟨_, _, _, rfl, h0⟩
    · have := doMultifield_pres hq0 c hmf _ h0
      rw [doMultifield_group] at this
      exact ⟨_, _, _, by simp only [if_true, applyFilters, applyFilter, doMultifield_group], this⟩
  have h2 := rmWs_sweep hq1 _ rfl h1
  rw [rmWs_group] at h2
  have hclean := doPlusMinus_clean _ _ _ h2
  refine ⟨_, (filterize_split hp e1).trans ?_, hclean, total_query_partial o ho _ hclean⟩
  simp only [applyFilters, applyFilter]
  rw [rmWs_idem, rmWs_group]

/-- instance of the hypotheses: the default configuration's filter list sorts into
    `defaultPipeline` -/
example : priorized [(FilterId.rmws, 500), (.rmws, 500), (.fieldnames, 100), (.wildcards, 50), (.groups, 0),
    (.operators, 600), (.cleanBoost, 0), (.boost, 510)] = defaultPipeline := rfl

/-- instances: the filter lists of `SimpleParser` and `DisMaxParser` sort into the pipelines of
    `total_simple`, that of `MultifieldParser` into `multifieldPipeline` -/
example : priorized [(FilterId.rmws, 500), (.rmws, 500), (.plusminus, 510)] = [] ++ [.rmws, .rmws, .plusminus] ∧
    priorized [(FilterId.rmws, 500), (.rmws, 500), (.plusminus, 510), (.multifield, 110)]
      = [.multifield] ++ [.rmws, .rmws, .plusminus] ∧
    priorized [(FilterId.rmws, 500), (.rmws, 500), (.fieldnames, 100), (.wildcards, 50), (.groups, 0),
      (.operators, 600), (.cleanBoost, 0), (.boost, 510), (.multifield, 110)] = multifieldPipeline := ⟨rfl, rfl, rfl⟩

/-- `C16.precedence` for the *default* plug-in set: the other filters of the default pipeline
    (clean_boost, do_wildcards, do_fieldnames, the second remove_whitespace, do_boost) leave the
    tree of a well-formed expression without wildcard atoms alone, so the whole default pipeline
    builds the intended tree. -/
theorem precedence_default (c : Cfg) (hp : priorized c.filters = defaultPipeline) (hops : c.ops = defaultOps)
    (items : List Expr) (hwf : ∀ e ∈ items, e.wf = true)
    (hplain : ∀ e ∈ items, e.allAtoms (fun x => !x.isWild) = true) :
    filterize c (toksSeq items) = .ok (outSeq c.group items) := by
  have hs := stripParen_wf items hwf
  have hsp := stripParen_forall (fun _ h => by rwa [Expr.allAtoms, all_map_id] at h) items hplain
  let t1 : Node := .group c.group (linSeq c.group [.ws] 0 (stripParen items)) 1
  have hq1 : t1.allNodes quiet = true :=
    allNodes_group_iff.2 ⟨rfl, linSeq_quiet _ _ (fun e he => lin_quiet c.group e (hs e he) (hsp e he))⟩
  have hbst : t1.allNodes (fun x => !x.isBst) = true :=
    allNodes_mono (by intro x hx; simp only [quiet, Bool.and_eq_true] at hx; exact hx.1.1) t1 hq1
  have hfn : t1.allNodes (fun x => !x.isFname) = true :=
    allNodes_mono (by intro x hx; simp only [quiet, Bool.and_eq_true] at hx; exact hx.1.2) t1 hq1
  have hwd : t1.allNodes (fun x => !x.isWild) = true :=
    allNodes_mono (by intro x hx; simp only [quiet, Bool.and_eq_true] at hx; exact hx.2) t1 hq1
  have e1 : doGroups c.group (toksSeq items) = t1 := doGroups_seq c.group items hwf
  have e2 := cleanBoost_id t1 hbst
  have e3 := doWildcards_id t1 hwd
  have e4 := doFieldnames_id c t1 hfn
  let t5 : Node := .group c.group (linSeq c.group [] 0 (stripParen items)) 1
  have e5 : rmWs t1 = t5 := rmWs_linSeq c.group _ hs
  have e6 : rmWs t5 = t5 := e5 ▸ rmWs_idem t1
  have e7 : doBoost t5 = t5 := doBoost_id t5 (e5 ▸ rmWs_pres stable_notBst _ rfl hbst)
  unfold filterize
  rw [hp]
  simp only [defaultPipeline, applyFilters, applyFilter, e1, e2, e3, e4, e5, e6, e7, hops,
    show doOperators defaultOps t5 = _ from doOperators_linSeq c.group _ hs]
  rfl

/-- C16, comparison signs (`GtLtPlugin`): the range node `make_range` builds for `field:<rel>text` selects exactly the
    values the comparison reads as (`num` interprets the end-point texts; `=<` is `<=`, `=>` is
    `>=`). -/
theorem gtlt_meaning (num : Str → Int) (t : Str) (rel : Rel) (x : Int) :
    (match makeRange t rel with
     | .range s e sx ex _ => inRange (s.map num) (e.map num) sx ex x
     | _ => false) = Rel.holds rel x (num t) := by
  cases rel <;> simp [makeRange, inRange, Rel.holds]

/-- C16, wildcards (`WildcardPlugin`): whenever `do_wildcards` turns a wildcard node into a prefix node
    (`toPrefix`), the prefix selects exactly the terms the glob selects. -/
theorem wildcard_prefix_sound (t p : Str) (f f' : Option Str) (b b' : Rat)
    (h : toPrefix (.text .wild t f b) = .text .prefix p f' b') (s : List Nat) :
    globMatch t s = p.isPrefixOf s := by
  obtain ⟨rfl, hp⟩ := toPrefix_prefix h
  exact globMatch_prefix p hp s

/-- instances: `n:=<5` reads `n ≤ 5`; `al*` is a prefix, `b*a*` stays a wildcard -/
example : makeRange [53] .el = .range none (some [53]) false false none ∧
    toPrefix (.text .wild [97, 108, 42] none 1) = .text .prefix [97, 108] none 1 ∧
    toPrefix (.text .wild [98, 42, 97, 42] none 1) = .text .wild [98, 42, 97, 42] none 1 :=
  ⟨rfl, rfl, rfl⟩

/-- `C16.precedence`, end to end in the model: for a well-formed query all of whose leaves yield a
    query, `query()` on the tree the pipeline builds returns a query object, `parse` keeps it
    (`finish`), and it selects exactly the documents the reading of the expression selects. -/
theorem precedence_query (gk : GK) (hgk : gk = .and ∨ gk = .or) (items : List Expr) (hne : items ≠ [])
    (hwf : ∀ e ∈ items, e.wf = true) (o : Node → LeafRes) (v : Node → Bool) (w : Nat → Bool)
    (ho : ∀ n, n.isLeaf = true → ∃ id, o n = .q id true ∧ w id = v n) :
    ∃ q, query o (outSeq gk items) = .ok (some q) ∧ finish (some q) = q ∧
      Q.eval w q = evalSeq gk v items := by
  obtain ⟨q, hq, ht, he⟩ := WM.Parser.query_meaning o v w ho _ (outSeq_full gk hgk items hne hwf)
  exact ⟨q, hq, by simp [finish, ht], by rw [he, precedence_meaning gk hgk items hwf v]⟩

/-- `C16.precedence`, query stage (`WM.Parser.query_meaning` with its conclusion spelt out): on a
    tree whose groups have the operands their class needs and whose leaves all yield a query,
    `GroupNode.query` / `BinaryGroup.query` / `Wrapper.query` return a truthy query object that
    selects exactly the documents the tree's reading (`Node.eval`) selects. -/
theorem query_meaning (o : Node → LeafRes) (v : Node → Bool) (w : Nat → Bool)
    (ho : ∀ n, n.isLeaf = true → ∃ id, o n = .q id true ∧ w id = v n) (t : Node) (hf : t.full = true) :
    ∃ q, query o t = .ok (some q) ∧ q.truthy = true ∧ Q.eval w q = Node.eval v t :=
  WM.Parser.query_meaning o v w ho t hf

/-! The `None` cases of the group nodes' `query()` (a leaf yields `None` when the analyzer removes
    all of its text, e.g. a stop word): they are where the tree's reading and the query part. -/

/-- `NOT <nothing>` is nothing (not "everything") -/
theorem query_not_none (o : Node → LeafRes) (n0 : Node) (rest : List Node) (b : Rat)
    (h : query o n0 = .ok none) : query o (.group .not (n0 :: rest) b) = .ok none := by
  rw [query_not, h]; rfl

/-- a binary group with one operand that yields nothing is the other operand: `a ANDNOT <nothing>`
    is `a`, and `<nothing> ANDNOT b` is `b` (not "nothing") -/
theorem query_binary_none (o : Node → LeafRes) (k : GK) (hk : k = .andnot ∨ k = .andmaybe ∨ k = .require)
    (a c : Node) (b : Rat) (q : Q) :
    (query o a = .ok (some q) → query o c = .ok none → query o (.group k [a, c] b) = .ok (some q)) ∧
    (query o a = .ok none → query o c = .ok (some q) → query o (.group k [a, c] b) = .ok (some q)) ∧
    (query o a = .ok none → query o c = .ok none → query o (.group k [a, c] b) = .ok (some .null)) := by
  have hk' : 4 ≤ k.lvl := by rcases hk with rfl | rfl | rfl <;> decide
  refine ⟨?_, ?_, ?_⟩ <;> intro h1 h2 <;> simp only [query_binary o hk', h1, h2] <;> rfl

/-- And/Or/DisMax drop the members that yield nothing -/
theorem query_compound_none (o : Node → LeafRes) (k : GK) (hk : k = .and ∨ k = .or ∨ k = .dismax)
    (ns : List Node) (b : Rat) (rs : List (Option Q)) (h : ns.mapM (query o) = .ok rs) :
    query o (.group k ns b) = .ok (some (.compound k (rs.filterMap id) b)) := by
  rw [query_nary o (by rcases hk with rfl | rfl | rfl <;> rfl), h]; rfl

/-- `C16.total` (tagging), exceptions: `tag()` returns a node list for every string and every
    list of taggers whose matches are non-empty; the brackets, white space and operator taggers of
    the shipped plug-ins are modelled and satisfy this outright (`Tagger.Forward` is `True` for
    them, `lit ≠ []` for an operator), for the other taggers (real regular expressions) it is the
    hypothesis that their match is not the empty string.  Whatever the taggers do, the only
    exception the loop can raise is its own "did not move cursor forward" `Exception`. -/
theorem tag_total (tgs : List Tagger) (text : List QChar) :
    ((∀ t ∈ tgs, t.Forward) → ∃ out, tag tgs text = .ok out) ∧
    (∀ e, tag tgs text = .error e → e = .other) :=
  ⟨fun hf => tagLoop_ok tgs text hf 0 0 [], fun e h => tagLoop_err tgs text 0 0 [] e h⟩

/-- `C16.total` (tagging), losslessness: the character ranges of the returned nodes tile the string
    (consecutive, non-empty, from 0 to `len(text)`; so the nodes' source texts concatenate to the
    input), and every node is either the `WordNode` of the text between two matches or the answer of
    the first tagger (in priority order) that matches at the place where the node starts. -/
theorem tag_lossless (tgs : List Tagger) (text : List QChar) (hb : ∀ t ∈ tgs, t.Bounded text)
    (out : List Tagged) (h : tag tgs text = .ok out) :
    Tiles 0 out text.length ∧ sourceOf text out = text ∧ ∀ x ∈ out, FromTag tgs text x := by
  obtain ⟨h1, h2⟩ := tagLoop_spec tgs text hb 0 0 [] out 0 ⟨rfl, nofun⟩ (Nat.le_refl _) (Nat.zero_le _) h
  refine ⟨h1, ?_, h2⟩
  have := (Tiles_source text 0 text.length out h1).2
  simpa using this

/-- every node of the tagged list satisfies `P` as soon as words do and every tagger's answers do -/
theorem tag_kinds (P : Node → Bool) (hword : ∀ t, P (.text .word t none 1) = true)
    (tgs : List Tagger) (text : List QChar) (hb : ∀ t ∈ tgs, t.Bounded text)
    (hP : ∀ t ∈ tgs, ∀ p h, t.matchAt text p = some h → P h.node = true)
    (out : List Tagged) (h : tag tgs text = .ok out) : ∀ n ∈ out.map (·.node), P n = true := by
  intro n hn
  obtain ⟨x, hx, rfl⟩ := List.mem_map.1 hn
  rcases (tag_lossless tgs text hb out h).2.2 x hx with he | ⟨hit, hfh, he⟩
  · rw [he]; exact hword _
  · obtain ⟨t, ht, hm⟩ := firstHit_mem hfh
    rw [he]; exact hP t ht _ _ hm

/-- what the tag loop needs to know about the taggers of the default plug-in set: brackets, white
    space, left-associative operators of the six default (class, group) pairs; any other tagger
    answers with one of the node kinds of `defaultTagged` -/
def defaultTagger : Tagger → Prop
  | .opn | .cls | .ws => True
  | .op _ _ _ t g la => la = true ∧ defaultOps.any (fun o => o.t == t && o.g == g) = true
  | .ext f => ∀ p h, f p = some h → defaultTagged h.node = true

theorem defaultTagger_hits {t : Tagger} (ht : defaultTagger t) (text : List QChar) (p : Nat) (h : TagHit)
    (hm : t.matchAt text p = some h) : defaultTagged h.node = true := by
  cases t with
  | opn | cls | ws =>
    obtain ⟨_, hh⟩ := Option.ite_none_right_eq_some.1 hm
    cases hh
    rfl
  | op lit a b t g la =>
    obtain ⟨_, hh⟩ := Option.ite_none_right_eq_some.1 hm
    cases hh
    exact Bool.and_eq_true_iff.2 ht
  | ext f => exact ht p h hm

/-- `C16.total` from the query *string* for the default plug-in set: the hypothesis `hns` of
    `total` ("the taggers emit a flat list of the default node kinds") is discharged by the model
    of `tag()`; what remains assumed is, per tagger that is not modelled (a real regular
    expression), that its match is non-empty, ends inside the string and creates a node of its
    own kind. -/
theorem total_text (c : Cfg) (hp : priorized c.filters = defaultPipeline) (hops : c.ops = defaultOps)
    (hgrp : c.group.hasBoost = true) (tgs : List Tagger) (text : List QChar)
    (hfw : ∀ t ∈ tgs, t.Forward) (hb : ∀ t ∈ tgs, t.Bounded text) (hk : ∀ t ∈ tgs, defaultTagger t)
    (o : Node → LeafRes) (ho : leavesOk o) :
    ∃ out, tag tgs text = .ok out ∧ Tiles 0 out text.length ∧
      ∃ t, filterize c (out.map (·.node)) = .ok t ∧ clean t = true ∧ allowed (query o t) := by
  obtain ⟨out, hout⟩ := (tag_total tgs text).1 hfw
  have hns := tag_kinds defaultTagged (fun _ => rfl) tgs text hb
    (fun t ht p h hm => defaultTagger_hits (hk t ht) text p h hm) out hout
  exact ⟨out, hout, (tag_lossless tgs text hb out hout).1, total c hp hops hgrp _ hns o ho⟩

/-- the same for `SimpleParser` / `DisMaxParser` (taggers: white space, and the not-modelled plus /
    minus and phrase taggers) -/
theorem total_text_simple (c : Cfg) (multi : Bool)
    (hp : priorized c.filters = (if multi then [.multifield] else []) ++ [.rmws, .rmws, .plusminus])
    (hgrp : c.group.hasBoost = true) (hmf : c.mfGroup.hasBoost = true)
    (fs : List (Nat → Option TagHit)) (text : List QChar)
    (hfw : ∀ f ∈ fs, (Tagger.ext f).Forward) (hb : ∀ f ∈ fs, (Tagger.ext f).Bounded text)
    (hk : ∀ f ∈ fs, ∀ p h, f p = some h → simpleTagged h.node = true)
    (pre post : List (Nat → Option TagHit)) (hfs : fs = pre ++ post)
    (o : Node → LeafRes) (ho : leavesOk o) :
    ∃ out, tag (pre.map .ext ++ .ws :: post.map .ext) text = .ok out ∧ Tiles 0 out text.length ∧
      ∃ t, filterize c (out.map (·.node)) = .ok t ∧ clean t = true ∧ allowed (query o t) := by
  subst hfs
  have all : ∀ {P : Tagger → Prop}, P .ws → (∀ f ∈ pre ++ post, P (.ext f)) →
      ∀ t ∈ pre.map Tagger.ext ++ Tagger.ws :: post.map Tagger.ext, P t := by
    intro P hws hf
    rw [List.forall_mem_append] at hf
    rw [List.forall_mem_append, List.forall_mem_cons, List.forall_mem_map, List.forall_mem_map]
    exact ⟨hf.1, hws, hf.2⟩
  have hb' := all (P := fun t => t.Bounded text) trivial hb
  obtain ⟨out, hout⟩ := (tag_total _ text).1 (all (P := Tagger.Forward) trivial hfw)
  have hns := tag_kinds simpleTagged (fun _ => rfl) _ text hb'
    (all (P := fun t => ∀ p h, t.matchAt text p = some h → simpleTagged h.node = true)
      (fun p h hm => by rw [ws_hit hm]; rfl) hk) out hout
  exact ⟨out, hout, (tag_lossless _ text hb' out hout).1, total_simple c multi hp hgrp hmf _ hns o ho⟩

/-- instance: `a AND (b)` through the modelled taggers alone (no tagger for words: the text between
    matches becomes `WordNode`s): seven nodes that tile the nine characters -/
example :
    let ch (c : Nat) : QChar := ⟨c, c = 32⟩
    let tgs : List Tagger := [.ws, .opn, .cls, .op [65, 78, 68] false false .inf .and true]
    (∀ t ∈ tgs, t.Forward) ∧ (∀ t ∈ tgs, defaultTagger t) ∧
    tag tgs ([97, 32, 65, 78, 68, 32, 40, 98, 41].map ch)
      = .ok [⟨.text .word [97] none 1, 0, 1⟩, ⟨.ws, 1, 2⟩, ⟨.op .inf .and true [65, 78, 68], 2, 5⟩, ⟨.ws, 5, 6⟩,
             ⟨.opn, 6, 7⟩, ⟨.text .word [98] none 1, 7, 8⟩, ⟨.cls, 8, 9⟩] := by
  refine ⟨?_, ?_, ?_⟩
  · intro t ht
    simp only [List.mem_cons, List.not_mem_nil, or_false] at ht
    rcases ht with rfl | rfl | rfl | rfl <;> simp [Tagger.Forward]
  · intro t ht
    simp only [List.mem_cons, List.not_mem_nil, or_false] at ht
    rcases ht with rfl | rfl | rfl | rfl <;> simp [defaultTagger, defaultOps]
  · simp [tag, tagLoop, firstHit, Tagger.matchAt, codeAt, spaceAt, spaceRun, litAt, opBefore, inter]

/-- the exception of the loop is reachable: a tagger that matches the empty string -/
example : tag [.ext fun p => some ⟨.ws, p, true⟩] [⟨97, false⟩] = .error .other := by
  rw [tag, tagLoop]
  rfl

end WM.C16
