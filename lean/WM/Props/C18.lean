import WM.Lemmas.IndexMp
import WM.Lemmas.IndexBuffered
import WM.Lemmas.IndexStorage
/-!
# C18 — writer front-ends are interchangeable

`mp`: MpWriter / SerialMpWriter (any assignment of documents to sub-writers, merged or
multi-segment), `buffered`: BufferedWriter, `async`: AsyncWriter, `storage`: a TOC written and read
back through any storage that satisfies the map laws (`Store`; files themselves stay abstract, the real
back-ends are compared end to end by the check).
-/
namespace WM.C18
open WM.Dict WM.Index

/-- **The sub-writers.** Running a sub-writer (`subWriter`: `add_document` one by one on an empty
segment writer) on documents of the schema never raises; its per-document data are the documents in
arrival order and its posting pool their postings.  Hence for every assignment the list of
sub-writer results `SubsOf sc assign subs` exists. -/
theorem subWriter_eq (sc : Schema) :
    (∀ ds : List DocRec, (∀ d ∈ ds, d.fits sc = true) →
      ∃ w, subWriter sc ds = .ok w ∧ w.schema = sc ∧ w.ndocs = ds ∧ w.pool = allPostings ds ∧ w.segs = []) ∧
    (∀ assign : List (List DocRec), (∀ ds ∈ assign, ∀ d ∈ ds, d.fits sc = true) → ∃ subs, SubsOf sc assign subs) :=
  ⟨fun ds h => ⟨_, subWriter_ok sc ds h, rfl, rfl, rfl, rfl⟩, fun assign h => ⟨_, (subsOf_iff sc assign h _).mpr rfl⟩⟩

/-- **mp (merged).** For *every* assignment of the added documents to sub-writers (`assign`, one
list per sub-writer in arrival order — i.e. every outcome of the scheduling and batching, empty
sub-writers included) and the writers `subs` the sub-processes produce for it (`SubsOf`: the `i`-th
is the result of running `subWriter` on the `i`-th list), the commit succeeds, writes a well-formed
TOC and the index holds the old content plus exactly the added documents. -/
theorem mp (w : Writer) (hwf : w.WF) (hfits : ∀ d ∈ w.ndocs, d.fits w.schema = true)
    (hna : w.added = false → w.ndocs = []) (plan : Plan) (hplan : PlanOK plan)
    (assign : List (List DocRec)) (hfit : ∀ ds ∈ assign, ∀ d ∈ ds, d.fits w.schema = true)
    (subs : List Writer) (hsubs : SubsOf w.schema assign subs) :
    ∃ t', w.mpCommit subs plan = .ok t' ∧ t'.WF ∧ t'.schema = w.schema ∧
      t'.content.Perm (contentOf w.schema w.segs ++ w.ndocs ++ assign.flatten) := by
  rw [(subsOf_iff w.schema assign hfit subs).mp hsubs]
  exact Writer.mpCommit_spec w hwf hfits hna plan hplan assign hfit

/-- **mp (multi-segment).** Adopting the sub-writers' segments instead of merging them gives the
same content, for every assignment and the sub-writers produced for it. -/
theorem mp_multisegment (w : Writer) (hwf : w.WF) (hfits : ∀ d ∈ w.ndocs, d.fits w.schema = true)
    (hna : w.added = false → w.ndocs = []) (plan : Plan) (hplan : PlanOK plan)
    (assign : List (List DocRec)) (hfit : ∀ ds ∈ assign, ∀ d ∈ ds, d.fits w.schema = true)
    (subs : List Writer) (hsubs : SubsOf w.schema assign subs) :
    ∃ t', w.mpCommitMulti subs plan = .ok t' ∧ t'.WF ∧ t'.schema = w.schema ∧
      t'.content.Perm (contentOf w.schema w.segs ++ w.ndocs ++ assign.flatten) := by
  rw [(subsOf_iff w.schema assign hfit subs).mp hsubs]
  exact Writer.mpCommitMulti_spec w hwf hfits hna plan hplan assign hfit

/-- Hence the assignment is invisible: two schedules that hand out the same documents (in any
    grouping, any order) give the same content, merged or multi-segment, and the same as the
    plain writer adding them one after the other. -/
theorem mp_assignment_invisible (w : Writer) (hwf : w.WF) (hfits : ∀ d ∈ w.ndocs, d.fits w.schema = true)
    (hna : w.added = false → w.ndocs = []) (plan1 plan2 : Plan) (h1 : PlanOK plan1) (h2 : PlanOK plan2)
    (a1 a2 : List (List DocRec)) (hf1 : ∀ ds ∈ a1, ∀ d ∈ ds, d.fits w.schema = true)
    (hf2 : ∀ ds ∈ a2, ∀ d ∈ ds, d.fits w.schema = true) (hperm : a1.flatten.Perm a2.flatten)
    (s1 s2 : List Writer) (hs1 : SubsOf w.schema a1 s1) (hs2 : SubsOf w.schema a2 s2) :
    ∃ t1 t2, w.mpCommit s1 plan1 = .ok t1 ∧ w.mpCommitMulti s2 plan2 = .ok t2 ∧ t1.content.Perm t2.content := by
  obtain ⟨t1, e1, _, _, c1⟩ := mp w hwf hfits hna plan1 h1 a1 hf1 s1 hs1
  obtain ⟨t2, e2, _, _, c2⟩ := mp_multisegment w hwf hfits hna plan2 h2 a2 hf2 s2 hs2
  exact ⟨t1, t2, e1, e2, c1.trans ((List.Perm.append_left _ hperm).trans c2.symm)⟩

/-- **async.** Replaying the recorded calls on the writer obtained later is, by construction, the
    session those calls make on the index as committed at that moment. -/
theorem async (tAtLock : Toc) (events : List Op) (plan : Plan) :
    asyncReplay tAtLock events plan = tAtLock.session events (.commit plan) := rfl

/-- **buffered (adds, flushes, close).** A buffered writer in a consistent state (`BInv`: the
underlying writer has nothing pending, the RAM segment is well-formed, `bufferedcount = 0` only when
the RAM segment is empty) receives any number of `add_document` calls: every call succeeds —
flushing through `add_reader` + `commit` + a new writer whenever the limit is reached —, after
every call the writer's own reader holds exactly what it held before plus the new document
(committed + buffered), and `close()` commits a well-formed index holding all of them. -/
theorem buffered_adds_partial (b : Buffered) (hi : BInv b) (docs : List DocRec)
    (hf : ∀ d ∈ docs, d.fits b.writer.schema = true) :
    (∀ d, d.fits b.writer.schema = true →
      ∃ b1, b.addDocument d = .ok b1 ∧ BInv b1 ∧ b1.content.Perm (b.content ++ [d])) ∧
    ∃ b', docs.foldlM (fun b d => b.addDocument d) b = .ok b' ∧ BInv b' ∧ b'.content.Perm (b.content ++ docs) ∧
      ∃ t, b'.close = .ok t ∧ t.WF ∧ t.content.Perm (b.content ++ docs) := by
  obtain ⟨b', h1, hi', hc'⟩ := Buffered.adds_spec b hi docs hf
  obtain ⟨t, h2, wft, _, hct⟩ := Buffered.close_spec b' hi'
  refine ⟨fun d hd => ?_, b', h1, hi', hc', t, h2, wft, hct.trans hc'⟩
  obtain ⟨b1, h1, hi1, _, hc1⟩ := Buffered.addDocument_spec b hi d hd
  exact ⟨b1, h1, hi1, hc1⟩

/-- **buffered.** Start from a buffered writer that agrees with a dictionary state (`BRel`: the
invariant `BInv`, same schema, its own reader shows the dictionary's documents) and make any
sequence of `add_document` / `update_document` / `delete_by_term` / `delete_by_query` calls on it
(`Buffered.step`; failing calls included; flushes through `add_reader` + `commit` + a new writer
wherever the limit says).  After every call the writer's own reader holds exactly the dictionary
after the same calls (`flatStep`: every call sees committed *and* buffered documents, so buffered
documents can be deleted and replaced), and `close()` commits a well-formed index holding the same.
Side conditions (`BRunOK`): `update_document` is unambiguous, a document has at most one posting
per term (for the count of `delete_by_term`); deletion by number is left to the check. -/
theorem buffered (b : Buffered) (sp : State) (h : BRel b sp) (ops : List Op) (hok : BRunOK sp ops) :
    BRel (ops.foldl Buffered.step b) (ops.foldl flatStep sp) ∧
    ∃ t, (ops.foldl Buffered.step b).close = .ok t ∧ t.WF ∧ t.content.Perm (ops.foldl flatStep sp).docs := by
  induction ops generalizing b sp with
  | nil =>
    obtain ⟨t, h1, wft, _, hc⟩ := Buffered.close_spec b h.inv
    exact ⟨h, t, h1, wft, hc.trans h.docs⟩
  | cons o r ih => exact ih _ _ (buffered_step b sp h o hok.1) hok.2

/-- the same, one call at a time (so "at every point of any interleaving") -/
theorem buffered_step_sim (b : Buffered) (sp : State) (h : BRel b sp) (op : Op) (hok : BOpOK sp op) :
    BRel (b.step op) (flatStep sp op) := buffered_step b sp h op hok

/-- **storage.** Storage is modelled apart from the writer (`saveToc` / `loadToc`; `Writer.commit`
returns the TOC and calls neither): over any back-end satisfying the map laws
(`Store.Lawful`: reading a name returns what was last written under it, writing one name does not
disturb another) what `saveToc` writes for a TOC (segments under fresh names, then the TOC) is what
`loadToc` reads — schema, generation and segments, hence content, counts, postings and every later
writer session.  `RamStorage` (a dictionary) and a directory (names to files) are instances. -/
theorem storage {σ : Type} (st : Store σ) (hl : st.Lawful) (s : σ) (tocName : Nat) (names : List Nat) (t : Toc)
    (hn : names.Nodup) (hlen : names.length = t.segs.length) (htoc : tocName ∉ names) :
    loadToc st (saveToc st s tocName names t) tocName = some t ∧
    (loadToc st (saveToc st s tocName names t) tocName).map Toc.content = some t.content :=
  ⟨storage_roundtrip st hl s tocName names t hn hlen htoc, by rw [storage_roundtrip st hl s tocName names t hn hlen htoc]; rfl⟩

theorem storage_instances : ramStore.Lawful ∧ dirStore.Lawful := ⟨ramStore_lawful, dirStore_lawful⟩

/-! ### non-vacuity -/

namespace Ex
def sc : Schema := { fields := [0], uniques := [] }
def doc (key t : Nat) : DocRec :=
  { key := key, fields := [{ fld := 0, stored := some key, toks := [⟨t, 1, 0⟩, ⟨t + 1, 2, 0⟩], len := 3, col := none,
                             vec := none, ukey := none }] }
def seg : Seg := { docs := [doc 0 3, doc 1 3], posts := [⟨0, 3, 0, 1, 0⟩, ⟨0, 3, 1, 1, 0⟩, ⟨0, 4, 0, 2, 0⟩, ⟨0, 4, 1, 2, 0⟩],
                   deleted := [1] }
def w : Writer := { schema := sc, segs := [seg], gen := 1, ndocs := [], pool := [], added := false }
theorem w_wf : w.WF :=
  ⟨List.forall_mem_singleton.2 ⟨by decide, by decide, by decide +kernel, by decide +kernel⟩, by decide⟩
end Ex

/-- the hypotheses of `mp` hold for a writer over a segment with a deletion and three documents
    dealt to three sub-writers, one of which gets nothing: the sub-writers run (`SubsOf`), and the
    merged segment numbers the documents 1, 2, 3 after the copied live document -/
example : Ex.w.WF ∧ (∀ ds ∈ [[Ex.doc 5 7], [], [Ex.doc 6 7, Ex.doc 7 9]], ∀ d ∈ ds, d.fits Ex.w.schema = true) ∧
    (∃ subs, SubsOf Ex.w.schema [[Ex.doc 5 7], [], [Ex.doc 6 7, Ex.doc 7 9]] subs ∧
      ((Ex.w.mpCommit subs planOptimize).toOption.map (fun t => t.segs.map (fun s => s.docs.map (·.key)))) = some [[0, 5, 6, 7]]) :=
  ⟨Ex.w_wf, by decide,
   [[Ex.doc 5 7], [], [Ex.doc 6 7, Ex.doc 7 9]].map (subResult Ex.sc),
   .cons rfl (.cons rfl (.cons rfl .nil)), by decide +kernel⟩

/-- `BRel` / `BRunOK` are inhabited: a buffered writer opened on the index of `Ex.w` (one live, one
    deleted document), limit 2, one document already buffered; then add, delete by term, add -/
example : BRel { writer := Ex.w, ram := { docs := [Ex.doc 9 5], posts := [⟨0, 5, 0, 1, 0⟩, ⟨0, 6, 0, 2, 0⟩], deleted := [] },
                 count := 1, limit := 2, plan := planMergeSmall }
               { schema := Ex.sc, docs := [Ex.doc 0 3, Ex.doc 9 5] } ∧
    BRunOK { schema := Ex.sc, docs := [Ex.doc 0 3, Ex.doc 9 5] } [.add (Ex.doc 4 3), .delBy (.term 0 4), .add (Ex.doc 5 8)] :=
  ⟨⟨⟨Ex.w_wf, ⟨by decide, by decide, by decide +kernel, by decide +kernel⟩, by decide, rfl, rfl, by decide, planMergeSmall_ok⟩,
    rfl, by decide +kernel⟩,
   ⟨trivial, (by show ∀ c ∈ _, termCount _ 0 4 c ≤ 1; decide +kernel), trivial, trivial⟩⟩

/-- `storage` on the dictionary back-end: a TOC with the two-document segment survives the round trip -/
example : (loadToc ramStore (saveToc ramStore [] 0 [7] { schema := Ex.sc, segs := [Ex.seg], gen := 3 }) 0).map
    (fun t => (t.schema, t.gen, t.segs)) = some (Ex.sc, 3, [Ex.seg]) := by decide +kernel

end WM.C18
