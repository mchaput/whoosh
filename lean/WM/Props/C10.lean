import WM.Lemmas.CodecWF
import WM.Lemmas.CodecInline
/-!
# C10 — postings, term statistics and vectors read back exactly what was indexed
(block layer: `W3PostingsWriter`, `W3LeafMatcher`, `W3TermInfo`.  The value codecs of `formats.py`,
vectors and the path from documents to blocks are in `C10Formats.lean`, the byte layout of
`W3TermInfo` in `C10Bytes.lean`, statistics over several segments in `C10Multi.lean`.)

All theorems but `terminfo_through_bytes` (document numbers) are generic in the id kind `c.ids`;
`docIds_lawful`/`termIds_lawful` instantiate them for document numbers (delta coded) and for vector
term texts.  `c.f32` (float32 storage) is an
arbitrary function.
-/
namespace WM.C10
open WM.Codec

variable {ι μ : Type}

/-- `delta_decode ∘ delta_encode = id` on every integer list (ascending or not). -/
theorem delta_roundtrip (ns : List Int) : deltaDecode (deltaEncode ns) = ns :=
  deltaDecode_encode ns

example : deltaEncode [3, 7, 7, 20] = [3, 4, 0, 13] ∧ deltaDecode [3, 4, 0, 13] = [3, 7, 7, 20] := by
  decide

theorem ids_lawful : docIds.Lawful ∧ termIds.Lawful := ⟨docIds_lawful, termIds_lawful⟩

/-- **Blocks round-trip.**  For every block limit ≥ 1 and every non-empty posting list that is not
    inlined (ids need not even ascend): the writer succeeds; decoding the written blocks yields the
    list (weights as stored, values as the format's fixed size dictates); every block but the last
    holds exactly `blocklimit` postings and is unflagged, the last one is flagged and holds between
    1 and `blocklimit`; a cursor opened on the blocks is well-formed and denotes the list. -/
theorem blocks_roundtrip (c : Cfg ι μ) (hk : c.ids.Lawful) (ps : List (Posting ι))
    (hbl : 1 ≤ c.blocklimit) (hne : ps ≠ [])
    (hni : c.inlinelimit ≤ ps.length ∨ c.blocklimit < ps.length)
    (hvalid : ∀ p ∈ ps, c.ids.valid p.id = true) (hval : ValuesOk c.fixedsize ps)
    (hu : LengthsUniform ps) :
    ∃ bs b ti, writeTerm c ps = .ok (bs ++ [b], ti) ∧
      decodeBlocks c.ids c.fixedsize (bs ++ [b]) = .ok (ps.map (expected c)) ∧
      (∀ x ∈ bs, x.info.count = c.blocklimit ∧ x.last = false) ∧
      (b.last = true ∧ 1 ≤ b.info.count ∧ b.info.count ≤ c.blocklimit) ∧
      ∃ m, Leaf.open (bs ++ [b]) = .ok m ∧ m.WF c.ids c.fixedsize ∧
        den c.ids c.fixedsize m = .ok (ps.map (expected c)) := by
  obtain ⟨bs, b, hw, hbs, hb⟩ := writeTerm_spec c hbl ps hne hni hvalid hu
  obtain ⟨hfull, hremle, hremne⟩ := split_shape c.blocklimit hbl ps
  obtain ⟨hdec, m, hopen, hmwf, hden, -⟩ := split_read hk hval hbs hb
  refine ⟨bs, b, _, hw, hdec, ?_, ?_, m, hopen, hmwf, hden⟩
  · exact hbs.forall (fun _ _ hb hl => ⟨hb.count_eq.trans hl, hb.last_eq⟩) hfull
  · have hpos : 0 < (split c.blocklimit ps).2.length := List.length_pos_iff.mpr (hremne hne)
    exact ⟨hb.last_eq, by rw [hb.count_eq]; exact hpos, by rw [hb.count_eq]; exact hremle⟩

/-- The hypotheses of `blocks_roundtrip` are satisfiable: three postings, block limit 2 (two
    blocks), variable-size values. -/
example :
    let c : Cfg Int (List Int) :=
      { ids := docIds, f32 := id, blocklimit := 2, compression := 3, inlinelimit := 1, fixedsize := none }
    let ps : List (Posting Int) := [⟨1, 1, [7], some 3⟩, ⟨4, 2, [8, 8], some 5⟩, ⟨9, 1, [9], some 2⟩]
    1 ≤ c.blocklimit ∧ ps ≠ [] ∧ c.inlinelimit ≤ ps.length ∧ (∀ p ∈ ps, c.ids.valid p.id = true) ∧
      ValuesOk c.fixedsize ps ∧ LengthsUniform ps ∧
      (split c.blocklimit ps).1.map List.length = [2] ∧ (split c.blocklimit ps).2.length = 1 := by
  refine ⟨by decide, by simp, by decide, by decide, ?_, Or.inl (by decide), by decide, by decide⟩
  intro p hp
  simp only [List.mem_cons, List.not_mem_nil, or_false] at hp
  rcases hp with rfl | rfl | rfl <;> simp

/-- **Block info.**  Each written block records the true aggregates of its chunk of the list:
    the chunks are those of `split` (consecutive runs of `blocklimit` postings), and a block's
    count, last id, max weight and min/max length bytes are those of its chunk. -/
theorem block_info (c : Cfg ι μ) (ps : List (Posting ι))
    (hbl : 1 ≤ c.blocklimit) (hne : ps ≠ [])
    (hni : c.inlinelimit ≤ ps.length ∨ c.blocklimit < ps.length)
    (hvalid : ∀ p ∈ ps, c.ids.valid p.id = true) (hu : LengthsUniform ps) :
    ∃ bs b ti, writeTerm c ps = .ok (bs ++ [b], ti) ∧
      BlocksOf c (split c.blocklimit ps).1 bs ∧ BlockOf c true (split c.blocklimit ps).2 b ∧
      (split c.blocklimit ps).1.flatten ++ (split c.blocklimit ps).2 = ps := by
  obtain ⟨bs, b, hw, hbs, hb⟩ := writeTerm_spec c hbl ps hne hni hvalid hu
  exact ⟨bs, b, _, hw, hbs, hb, split_flatten _ _⟩

/-- What `BlockOf` records, spelled out: count, last id, max weight, length bytes. -/
theorem block_info_fields (c : Cfg ι μ) (last : Bool) (ch : List (Posting ι)) (b : DiskBlock ι μ)
    (h : BlockOf c last ch b) :
    b.last = last ∧ b.info.count = ch.length ∧ ch.getLast?.map (·.id) = some b.info.lastId ∧
      b.info.maxWeight = maxW c.f32 ch ∧ b.info.comp = c.compression ∧
      b.info.minLenByte = lengthToByte (minLen ch) ∧
      b.info.maxLenByte = lengthToByte (some (maxLen ch)) := by
  obtain ⟨lp, hl, rfl⟩ := h
  simp [encodeBlock, hl]

/-- `maxW`, `maxLen` and `minLen` bound every posting and are attained (or are the start value
    0 / 0 / `None`); `length_to_byte` is monotone. -/
theorem aggregates_meaning (f32 : Rat → Rat) (ch : List (Posting ι)) :
    ((∀ p ∈ ch, f32 p.weight ≤ maxW f32 ch) ∧ (maxW f32 ch = 0 ∨ ∃ p ∈ ch, f32 p.weight = maxW f32 ch)) ∧
    ((∀ p ∈ ch, ∀ l, p.length = some l → l ≤ maxLen ch) ∧
      (maxLen ch = 0 ∨ ∃ p ∈ ch, p.length = some (maxLen ch))) ∧
    (match minLen ch with
      | none => ∀ p ∈ ch, truthy p.length = false
      | some m => 0 < m ∧ (∃ p ∈ ch, p.length = some m) ∧
          ∀ p ∈ ch, ∀ l, p.length = some l → 0 < l → m ≤ l) ∧
    (∀ a b, a ≤ b → lengthToByte (some a) ≤ lengthToByte (some b)) :=
  ⟨maxW_spec f32 ch, maxLen_spec ch, minLen_spec ch, lengthToByte_mono⟩

/-- **Term info.**  The statistics returned by `finish_postings` are the aggregates of the whole
    list: df, Σ stored weights, min/max length, max weight, first and last id (`tiOf`). -/
theorem terminfo (c : Cfg ι μ) (ps : List (Posting ι))
    (hbl : 1 ≤ c.blocklimit) (hne : ps ≠ [])
    (hni : c.inlinelimit ≤ ps.length ∨ c.blocklimit < ps.length)
    (hvalid : ∀ p ∈ ps, c.ids.valid p.id = true) (hu : LengthsUniform ps) :
    ∃ blocks, writeTerm c ps = .ok (blocks, { tiOf c ps with extent := some blocks.length }) := by
  obtain ⟨bs, b, hw, _, _⟩ := writeTerm_spec c hbl ps hne hni hvalid hu
  exact ⟨bs ++ [b], by simpa using hw⟩

example : (tiOf (ι := Int) (μ := List Int)
    { ids := docIds, f32 := id, blocklimit := 2, compression := 3, inlinelimit := 1, fixedsize := none }
    [⟨1, 1, [7], some 3⟩, ⟨4, 2, [8, 8], some 5⟩, ⟨9, 1, [9], some 2⟩]).df = 3 := by decide

/-- **Inlining rule** (`finish_postings` with its call of `set_inlined` spelled correctly): a list shorter than `inlinelimit` that fits one block
    is stored in the term info: nothing goes to the posting file, statistics are the aggregates. -/
theorem inline_roundtrip (c : Cfg ι μ) (ps : List (Posting ι)) (hne : ps ≠ [])
    (hin : ps.length < c.inlinelimit) (hle : ps.length ≤ c.blocklimit)
    (hvalid : ∀ p ∈ ps, c.ids.valid p.id = true) :
    writeTerm c ps = .ok ([], { tiOf c ps with
      inlined := some (ps.map (·.id), ps.map (fun p => c.f32 p.weight), storedValues ps) }) :=
  writeTerm_inline c ps hne hin hle hvalid

/-- **Inlined read path.**  Reading the inlined tuple back through `ListMatcher` (what
    `W3Codec.postings_reader` builds for an inlined term info) shows the posting list: ids, stored
    weights and values — the empty byte string for a value-less format, where the block reader
    shows `None`.  Together with `blocks_roundtrip`: the list read back does not depend on whether
    it was inlined. -/
theorem inline_read (c : Cfg ι μ) (ps : List (Posting ι)) (hne : ps ≠ [])
    (hin : ps.length < c.inlinelimit) (hle : ps.length ≤ c.blocklimit)
    (hvalid : ∀ p ∈ ps, c.ids.valid p.id = true) (hv : InlineValuesOk c.fixedsize ps) :
    ∃ ti ids ws vs, writeTerm c ps = .ok ([], ti) ∧ ti.inlined = some (ids, ws, vs) ∧
      inlinedRead ids ws vs = .ok (ps.map fun p => (p.id, c.f32 p.weight, p.value)) ∧
      ∀ p ∈ ps, (expected c p).id = p.id ∧ (expected c p).weight = c.f32 p.weight ∧
        ((expected c p).value = some p.value ∨ (c.fixedsize = some 0 ∧ p.value = [])) := by
  refine ⟨_, _, _, _, writeTerm_inline c ps hne hin hle hvalid, rfl, inlinedRead_spec c ps hv, ?_⟩
  intro p hp
  refine ⟨rfl, rfl, ?_⟩
  unfold expected
  cases hfs : c.fixedsize with
  | none => left; rfl
  | some n =>
    cases n with
    | zero =>
      right
      simp only [InlineValuesOk, hfs] at hv
      exact ⟨rfl, hv p hp⟩
    | succ m => left; rfl

example :
    let c : Cfg Int (List Int) :=
      { ids := docIds, f32 := id, blocklimit := 4, compression := 3, inlinelimit := 3, fixedsize := some 0 }
    let ps : List (Posting Int) := [⟨7, 1, [], none⟩, ⟨9, 2, [], none⟩]
    ps ≠ [] ∧ ps.length < c.inlinelimit ∧ ps.length ≤ c.blocklimit ∧ InlineValuesOk c.fixedsize ps ∧
      storedValues ps = [] ∧ inlinedValue (storedValues ps) 1 = .ok [] := by
  refine ⟨by simp, by decide, by decide, ?_, by decide, rfl⟩
  intro p hp
  simp only [List.mem_cons, List.not_mem_nil, or_false] at hp
  rcases hp with rfl | rfl <;> rfl

/-- **Term info as `reader.term_info` observes it** (`W3TermInfo.from_bytes(to_bytes())`): for a
    posting list of document numbers none of which is the `0xffffffff` NO_ID sentinel, the
    statistics that come back are df, first and last id unchanged, total and max weight through
    `struct "f"` (`f32`), and the min/max length through the length byte
    (`byte_to_length (length_to_byte ·)`, `None → 0`). -/
theorem terminfo_through_bytes (c : Cfg Int (List Int)) (ps : List (Posting Int)) (n : Nat)
    (hids : ∀ p ∈ ps, p.id ≠ 4294967295) :
    ∃ t', TermInfo.throughBytes c.f32 { tiOf c ps with extent := some n } = .ok t' ∧
      t'.df = ps.length ∧ t'.weight = c.f32 (sumW c.f32 ps) ∧ t'.maxweight = c.f32 (maxW c.f32 ps) ∧
      t'.minid = ps.head?.map (·.id) ∧ t'.maxid = ps.getLast?.map (·.id) ∧ t'.extent = some n ∧
      some t'.maxlength = byteToLength (lengthToByte (some (maxLen ps))) ∧
      t'.minlength = byteToLength (minLenByte (minLen ps)) := by
  obtain ⟨mx, hmx⟩ := byteToLength_lengthToByte (some (maxLen ps))
  obtain ⟨mn, hmn⟩ := byteToLength_lengthToByte (minLen ps)
  rw [← minLenByte_eq] at hmn
  have hno : ∀ o : Option (Posting Int), (∀ a, o = some a → a ∈ ps) →
      unNoId (o.map (·.id)) = o.map (·.id) := fun o ho => unNoId_of_ne _ fun x hx => by
    obtain ⟨a, ha, rfl⟩ := Option.map_eq_some_iff.mp hx
    exact hids a (ho a ha)
  refine ⟨{ weight := c.f32 (sumW c.f32 ps), df := ps.length, minlength := some mn, maxlength := mx
            maxweight := c.f32 (maxW c.f32 ps), minid := ps.head?.map (·.id)
            maxid := ps.getLast?.map (·.id), extent := some n, inlined := none },
    ?_, rfl, rfl, rfl, rfl, rfl, rfl, ?_, ?_⟩
  · simp only [TermInfo.throughBytes, tiOf, hmn, hmx, hno _ fun _ => List.mem_of_mem_head?,
      hno _ fun _ => List.mem_of_getLast?]
  · simp only [hmx]
  · simp only [hmn]

/-- **The block cursor refines the list cursor** (1): reads show the head of `den`, `is_active`
    is "`den` is not empty". -/
theorem leaf_refines_read (k : IdKind ι μ) (fs : Option Nat) (m : Leaf ι μ) (h : m.WF k fs) :
    (m.isActive = true → ∃ e rest, den k fs m = .ok (e :: rest) ∧ m.id k = .ok e.id ∧
        m.weight = .ok e.weight ∧ m.value fs = .ok e.value) ∧
    (m.isActive = false → den k fs m = .ok []) :=
  ⟨fun ha => by
      obtain ⟨e, he, hid, hw, hv⟩ := h.rest_active ha
      exact ⟨e, _, by rw [h.den_eq, he], hid, hw, hv⟩,
    fun ha => by rw [h.den_eq, h.rest_inactive ha]⟩

/-- (2) `next()` is `tail`. -/
theorem leaf_refines_next (k : IdKind ι μ) (fs : Option Nat) (m : Leaf ι μ) (h : m.WF k fs)
    (ha : m.isActive = true) :
    ∃ m' b, m.next = .ok (m', b) ∧ m'.WF k fs ∧
      ∃ e rest, den k fs m = .ok (e :: rest) ∧ den k fs m' = .ok rest := by
  obtain ⟨⟨m', b⟩, hn, hwf, ht⟩ := h.next ha
  obtain ⟨e, he, -⟩ := h.rest_active ha
  exact ⟨m', b, hn, hwf, e, _, by rw [h.den_eq, he], by rw [hwf.den_eq, ht, he, List.tail_cons]⟩

/-- (3) `skip_to(t)` is `dropWhile (id < t)`, provided no id of a block exceeds the block's
    recorded last id (true for what the writer produces from a non-descending list, below). -/
theorem leaf_refines_skip_to (k : IdKind ι μ) (fs : Option Nat) (m : Leaf ι μ) (h : m.WF k fs)
    (ha : m.isActive = true) (hb : BoundedByLastId k fs m.blocks) (htr : k.LeLtTrans) (t : ι)
    (L : List (Entry ι)) (hden : den k fs m = .ok L) :
    ∃ m', m.skipTo k t = .ok m' ∧ m'.WF k fs ∧
      den k fs m' = .ok (L.dropWhile (fun e => k.lt e.id t)) :=
  h.skipTo ha hb htr t L hden

/-- (4) `skip_to_quality(q)` only passes over entries of blocks whose quality is `≤ q`. -/
theorem leaf_refines_skip_to_quality (k : IdKind ι μ) (fs : Option Nat) (m : Leaf ι μ)
    (h : m.WF k fs) (quality : BlockInfo ι → Rat) (minq : Rat) (L : List (Entry ι))
    (hden : den k fs m = .ok L) :
    ∃ m' cnt pre L', m.skipToQuality quality minq = .ok (m', cnt) ∧ m'.WF k fs ∧
      den k fs m' = .ok L' ∧ L = pre ++ L' ∧
      (∀ e ∈ pre, ∃ b es, b ∈ m.blocks ∧ quality b.info ≤ minq ∧ blockEntries k fs b = .ok es ∧ e ∈ es) ∧
      (m'.isActive = true → minq < quality m'.cur.info) :=
  h.skipToQuality quality minq L hden

/-- (5) The blocks written for a non-descending list satisfy the side condition of (3). -/
theorem leaf_refines (c : Cfg ι μ) (hk : c.ids.Lawful) (hirr : ∀ x, c.ids.lt x x = false)
    (ps : List (Posting ι)) (hbl : 1 ≤ c.blocklimit) (hne : ps ≠ [])
    (hni : c.inlinelimit ≤ ps.length ∨ c.blocklimit < ps.length)
    (hvalid : ∀ p ∈ ps, c.ids.valid p.id = true) (hval : ValuesOk c.fixedsize ps)
    (hu : LengthsUniform ps) (hs : NonDescending c.ids ps) :
    ∃ blocks ti m, writeTerm c ps = .ok (blocks, ti) ∧ Leaf.open blocks = .ok m ∧
      m.WF c.ids c.fixedsize ∧ den c.ids c.fixedsize m = .ok (ps.map (expected c)) ∧
      BoundedByLastId c.ids c.fixedsize m.blocks := by
  obtain ⟨bs, b, hw, hbs, hb⟩ := writeTerm_spec c hbl ps hne hni hvalid hu
  obtain ⟨-, m, hopen, hmwf, hden, hbd⟩ := split_read hk hval hbs hb
  exact ⟨bs ++ [b], _, m, hw, hopen, hmwf, hden, hbd hirr hs⟩

theorem ids_orders : docIds.LeLtTrans ∧ (∀ x, docIds.lt x x = false) ∧
    termIds.LeLtTrans ∧ (∀ x, termIds.lt x x = false) :=
  ⟨docIds_leLtTrans, docIds_lt_irrefl, termIds_leLtTrans, termIds_lt_irrefl⟩

end WM.C10
