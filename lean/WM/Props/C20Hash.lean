import WM.Lemmas.HashLookup
import WM.Lemmas.HashOrdered
import WM.Lemmas.HashFormats
/-!
C20 (hash files): a hash file read back is the map that was written — for **any** hash function,
any key/value sequence (duplicate keys, empty keys/values, colliding hashes, equal low bytes),
any start offset; ordered files answer "closest key at or after k" and iterate from it.

The writers are `buildE` / `buildOrderedE`: `HashWriter` / `OrderedHashWriter` **with the limits of
the struct formats** (`!ii` lengths < 2^31, `!Iq` hash < 2^32 and position < 2^63, `!qi` table
position < 2^63 and slot count < 2^31, position index < 2^63).  Inside the limits the theorems hold
for every input (`hf : … = .ok f`); outside them the writer raises (`hash_writer_rejects`,
`ordered_writer_rejects`).  The ordered reader reads its positions from the bytes the retyped
`GrowableArray` wrote (`getPos` = `readItem` on `GA.toBytes`), for whichever typecode H/i/I/q the
offsets forced.  The statements for any file with the parts `build` produces (Nat positions, no
bounds but positions below 2^63 for the ordered reader) are `all_built` … in
`WM/Lemmas/HashLookup.lean` and `closestKey_built`, `itemsFrom_built` in `WM/Lemmas/HashOrdered.lean`.
-/
namespace WM.C20
open WM.HashFile

/-- `HashWriter.close()` always completes: the open-addressing insertion loop finds a free slot
    within `numslots` probes for every bucket (the `2n` slots are never full). -/
theorem hash_build_total {α} (hash : Key → Nat) (vlen : α → Nat) (so : Nat) (kvs : List (Key × α)) :
    ∃ f, build hash vlen so kvs = some f := (build_spec hash vlen so kvs).imp fun _ h => h.1

/-- When a file is written, every number in it fits its struct format: key/value lengths below 2^31,
    hash values below 2^32, record positions below 2^63, slot counts below 2^31.  (The converse, for
    lengths and hash values, is `hash_writer_rejects`.) -/
theorem hash_writer_formats {α} (hash : Key → Nat) (vlen : α → Nat) (so : Nat) (kvs : List (Key × α))
    (f : File α) (hf : buildE hash vlen so kvs = .ok f) :
    (∀ kv ∈ kvs, kv.1.length < 2 ^ 31 ∧ vlen kv.2 < 2 ^ 31 ∧ hash kv.1 < 2 ^ 32) ∧
      (∀ r ∈ f.recs, r.pos < 2 ^ 63) ∧ (∀ t ∈ f.tables, t.length < 2 ^ 31) := by
  have w := written_of_buildE hf
  refine ⟨fun kv hkv => ?_, fun r hr => (w.recs r hr).2.2.2, w.tabs⟩
  obtain ⟨r, hr, hk, hv⟩ := w.built.recs_of_kvs hkv
  have := w.recs r hr
  rw [hk, hv] at this
  exact ⟨this.1, this.2.1, this.2.2.1⟩

/-- Beyond the formats the writer raises `struct.error`: a key or value of 2^31 bytes or more, or a
    hash function returning 2^32 or more. -/
theorem hash_writer_rejects {α} (hash : Key → Nat) (vlen : α → Nat) (so : Nat) (kvs : List (Key × α))
    (h : ∃ kv ∈ kvs, 2 ^ 31 ≤ kv.1.length ∨ 2 ^ 31 ≤ vlen kv.2 ∨ 2 ^ 32 ≤ hash kv.1) :
    buildE hash vlen so kvs = .error .struct := by
  obtain ⟨f, hf, hbuilt, _⟩ := build_spec hash vlen so kvs
  unfold buildE
  rw [hf]
  refine if_neg fun hfo => ?_
  obtain ⟨kv, hkv, hbad⟩ := h
  obtain ⟨r, hr, hk, hv⟩ := hbuilt.recs_of_kvs hkv
  have := (formatsOk_facts hbuilt hfo).1 r hr
  rw [hk, hv] at this
  omega

/-- `list(reader.all(k))` are the values written under `k`, in insertion order; absent keys give `[]`. -/
theorem hash_lookup {α} (hash : Key → Nat) (vlen : α → Nat) (so : Nat) (kvs : List (Key × α))
    (f : File α) (hf : buildE hash vlen so kvs = .ok f) (key : Key) :
    all hash f key = kvs.filterMap (fun kv => if kv.1 = key then some kv.2 else none) :=
  all_built (built_of_buildE hf) key

/-- `reader.get(k)` / `reader[k]` is the first value written under `k`; `k in reader` iff written. -/
theorem hash_get_contains {α} (hash : Key → Nat) (vlen : α → Nat) (so : Nat) (kvs : List (Key × α))
    (f : File α) (hf : buildE hash vlen so kvs = .ok f) (key : Key) :
    WM.HashFile.get hash f key = (kvs.find? (fun kv => kv.1 == key)).map (·.2)
      ∧ (containsKey hash f key = true ↔ key ∈ kvs.map (·.1)) :=
  get_contains_built (built_of_buildE hf) key

/-- Iterating the file (`items()`, `keys()`, `__iter__`) yields the pairs in insertion order. -/
theorem hash_items {α} (hash : Key → Nat) (vlen : α → Nat) (so : Nat) (kvs : List (Key × α))
    (f : File α) (hf : buildE hash vlen so kvs = .ok f) : items vlen f = kvs :=
  items_built (built_of_buildE hf)

/-- `OrderedHashWriter.add` raises `ValueError` unless the keys strictly ascend from above `b""`;
    in particular an empty first key is rejected. -/
theorem ordered_writer_rejects {α} (hash : Key → Nat) (vlen : α → Nat) (so : Nat) (kvs : List (Key × α))
    (h : ¬ (([] : Key) :: kvs.map (·.1)).Pairwise (· < ·)) :
    buildOrderedE hash vlen so kvs = .error .value := by
  unfold buildOrderedE
  have : ¬ orderedKeysOk [] (kvs.map (·.1)) = true := fun ho => h ((orderedKeysOk_iff _ _).mp ho)
  rw [if_neg this]

/-- What an accepted ordered file satisfies: ascending non-empty keys, everything within the
    formats, and the position index read back from its stored bytes is the list of key positions
    (whatever typecode it was retyped to). -/
theorem ordered_writer_formats {α} (hash : Key → Nat) (vlen : α → Nat) (so : Nat) (kvs : List (Key × α))
    (f : File α) (hf : buildOrderedE hash vlen so kvs = .ok f) :
    (kvs.map (·.1)).Pairwise (· < ·) ∧ (∀ kv ∈ kvs, kv.1 ≠ []) ∧ buildE hash vlen so kvs = .ok f ∧
      f.indexLen = kvs.length ∧ ∀ k (hk : k < f.recs.length), getPos f k = some (f.recs[k]).pos := by
  have hE := buildE_of_buildOrderedE hf
  have w := written_of_buildE hE
  have hp := List.pairwise_cons.mp ((orderedKeysOk_iff _ _).mp (buildOrderedE_ok hf).1)
  obtain ⟨_, hl, hg⟩ := index_readback w.built fun r hr => (w.recs r hr).2.2.2
  refine ⟨hp.2, fun kv hkv hnil => ?_, hE, hl.trans w.built.length_recs, hg⟩
  have := hp.1 kv.1 (List.mem_map.mpr ⟨kv, hkv, rfl⟩)
  rw [hnil] at this
  exact List.lt_irrefl _ this

/-- `closest_key(k)`: the first key at or after `k`. -/
theorem ordered_closest_key {α} (hash : Key → Nat) (vlen : α → Nat) (so : Nat) (kvs : List (Key × α))
    (f : File α) (hf : buildOrderedE hash vlen so kvs = .ok f) (key : Key) :
    closestKey f key = .ok ((kvs.map (·.1)).find? (fun k => !decide (k < key))) :=
  let ⟨hb, hpos, hord⟩ := buildOrderedE_built hf
  closestKey_built hb hpos hord key

/-- `items_from(k)` / `keys_from(k)`: the pairs from the first key at or after `k` to the end. -/
theorem ordered_items_from {α} (hash : Key → Nat) (vlen : α → Nat) (so : Nat) (kvs : List (Key × α))
    (f : File α) (hf : buildOrderedE hash vlen so kvs = .ok f) (key : Key) :
    itemsFrom vlen f key = .ok (kvs.dropWhile (fun kv => decide (kv.1 < key))) :=
  let ⟨hb, hpos, hord⟩ := buildOrderedE_built hf
  itemsFrom_built hb hpos hord key

/-- Non-vacuity: colliding keys under a constant hash (one bucket, every probe collides),
    duplicates and an empty key; the checked writer accepts and the reader answers in insertion
    order. -/
example : ∃ f, buildE (fun _ => 7) (fun (v : Nat) => v) 0 [([1], 10), ([2], 20), ([1], 30), ([], 0)] = .ok f
    ∧ all (fun _ => 7) f [1] = [10, 30] ∧ all (fun _ => 7) f [] = [0] ∧ all (fun _ => 7) f [9] = [] := by
  have hd : (buildE (fun _ => 7) (fun (v : Nat) => v) 0 [([1], 10), ([2], 20), ([1], 30), ([], 0)]).toBool = true := by
    decide +kernel
  cases hf : buildE (fun _ => 7) (fun (v : Nat) => v) 0 [([1], 10), ([2], 20), ([1], 30), ([], 0)] with
  | error e => rw [hf] at hd; cases hd
  | ok f =>
    refine ⟨f, rfl, ?_, ?_, ?_⟩ <;> rw [hash_lookup _ _ _ _ f hf] <;> decide

/-- an ordered file whose offsets start beyond 2^16 (index retyped to `i`) is accepted … -/
example : (buildOrderedE (fun k => k.length) (fun (v : Nat) => v) 70000 [([1], 3), ([1, 0], 0), ([2], 1)]).toBool = true
    ∧ ((buildOrderedE (fun k => k.length) (fun (v : Nat) => v) 70000 [([1], 3), ([1, 0], 0), ([2], 1)]).toOption.map
        (·.indexTC)) = some .i := by decide +kernel
/-- … an empty first key, a repeated key and a 2^32 hash value are rejected. -/
example : buildOrderedE (fun _ => 1) (fun (v : Nat) => v) 0 [([], 3)] = .error .value
    ∧ buildOrderedE (fun _ => 1) (fun (v : Nat) => v) 0 [([1], 3), ([1], 4)] = .error .value
    ∧ buildE (fun _ => 2 ^ 32) (fun (v : Nat) => v) 0 [([1], 3)] = .error .struct := by
  refine ⟨ordered_writer_rejects _ _ _ _ (by decide), ordered_writer_rejects _ _ _ _ (by decide),
    hash_writer_rejects _ _ _ _ ⟨([1], 3), by simp, by decide⟩⟩

end WM.C20
