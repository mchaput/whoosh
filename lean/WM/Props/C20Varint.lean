import WM.Lemmas.Varint
/-! C20 (number codecs): variable-length integers decode to what was encoded. -/
namespace WM.C20
open WM.Varint

theorem encode_bytes (n : Nat) : ∀ b ∈ encode n, b < 256 := by
  fun_induction encode n with
  | case1 i h => intro b hb; rw [List.mem_singleton] at hb; omega
  | case2 i h ih =>
    intro b hb
    rcases List.mem_cons.mp hb with rfl | hb
    · omega
    · exact ih b hb

/-- Varint round-trip with an arbitrary unread suffix (so lists of varints decode one by one). -/
theorem varint_roundtrip (n : Nat) (rest : List Nat) :
    decode (encode n ++ rest) = some (n, rest) :=
  decode_encode n rest

theorem zigzag_roundtrip (i : Int) : unzigzag (zigzag i) = i := by
  unfold zigzag
  split
  · next h =>
    -- `i = k ≥ 0` is sent to the even number `2 k`
    obtain ⟨k, rfl⟩ := Int.eq_ofNat_of_zero_le h
    have e : (2 * (k : Int)).toNat = 2 * k := Int.toNat_natCast (2 * k)
    rw [e, unzigzag, if_pos (Nat.mul_mod_right 2 k), Nat.mul_div_cancel_left k (by decide)]
  · next h =>
    -- `i = -(k + 1) < 0` is sent to the odd number `2 k + 1`
    obtain ⟨k, rfl⟩ := Int.eq_negSucc_of_lt_zero (Int.not_le.mp h)
    have e : (-(2 * Int.negSucc k) - 1).toNat = 2 * k + 1 := by omega
    rw [e, unzigzag, if_neg (by rw [Nat.mul_add_mod]; decide), Nat.mul_add_div (by decide), Int.negSucc_eq, Int.neg_add]
    rfl
theorem signed_varint_roundtrip (i : Int) (rest : List Nat) :
    decodeSigned (encodeSigned i ++ rest) = some (i, rest) := by
  simp [decodeSigned, encodeSigned, varint_roundtrip, zigzag_roundtrip]

/-- A number of two digits, and decoding with an unread suffix. -/
example : encode 300 = [172, 2] ∧ decode [172, 2, 9] = some (300, [9]) := by
  constructor
  · rw [encode]; simp; rw [encode]; simp
  · decide

end WM.C20
