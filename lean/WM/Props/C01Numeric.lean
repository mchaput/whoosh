import WM.Lemmas.SearchNumeric
import WM.Props.C01
/-!
C01 ∘ C13 — a `NumericRange` on an integer NUMERIC field answers the documents holding a value in the
interval: the value-level reading `Query.numRange` of `WM/Spec/Search.lean` (which `compile` takes verbatim)
is what the *compiled* query — `Or` of `Term`/`TermRange` sub-queries over the tier terms, under
`ConstantScoreQuery` (`NumericRange._compile_query`, C13's `compileInt`) — answers through the term-level
part of the model (term postings, TermRange expansion against the lexicon, union, constant score).
-/
namespace WM.C01
open WM.Search WM.Compile

/-- **NumericRange, composed with C13.**  For an integer NUMERIC field (`w ∈ 1..32` bytes, any signedness and
    shift step) and bounds in the field's domain, `_compile_query` succeeds; on every document that indexes
    the field faithfully (`IntFieldDoc`: its terms are the tier terms `NUMERIC.index` writes for its values —
    C13 `indexTermsList`), the compiled query is satisfied iff one of the document's values lies in the
    interval, i.e. iff the value-level `numRange` is; hence on a segment of such documents the matcher lists
    of the compiled query and of `numRange` have the same documents: the live documents with a value in the
    interval (`matcher_den` for the compiled query, through term postings, the TermRange expansion, the union
    and the constant-score wrapper). -/
theorem numeric_range_compiled (w step : Nat) (hw : 0 < w) (hw' : 8 * w ≤ 256) (signed : Bool) (f : String)
    (start end_ : Option Int) (sx ex : Bool) (b : Rat) (hb : 0 < b)
    (hs : ∀ a, start = some a → WM.Numeric.inDomain (8 * w) signed a)
    (he : ∀ a, end_ = some a → WM.Numeric.inDomain (8 * w) signed a) :
    ∃ subs, WM.Numeric.compileInt w signed step start end_ sx ex = .ok subs ∧
      (∀ d, IntFieldDoc w step signed f d →
        sat (compiledRange f subs b) d =
          sat (.numRange f (start.map (fun a : Int => (a : Rat))) (end_.map (fun a : Int => (a : Rat))) sx ex b) d) ∧
      ∀ (ls : LeafScore) (so : ShapeOracle) (s : Segment) (ctx : Ctx), ValidOracle so → PosLeaf ls s →
        (∀ i ∈ s.live, IntFieldDoc w step signed f (s.doc i)) →
        (compile ls so s ctx (compiledRange f subs b)).map (·.id) =
          s.live.filter (fun i => ((s.doc i).nums f).any
            (inRange (start.map (fun a : Int => (a : Rat))) (end_.map (fun a : Int => (a : Rat))) sx ex)) ∧
        (compile ls so s ctx (compiledRange f subs b)).map (·.id) =
          (compile ls so s ctx
            (.numRange f (start.map (fun a : Int => (a : Rat))) (end_.map (fun a : Int => (a : Rat))) sx ex b)).map (·.id) := by
  obtain ⟨subs, hsubs, -, hmulti⟩ :=
    WM.Numeric.range_query_int_answers w step hw hw' signed start end_ sx ex hs he
  have hsat : ∀ d, IntFieldDoc w step signed f d →
      sat (compiledRange f subs b) d =
        sat (.numRange f (start.map (fun a : Int => (a : Rat))) (end_.map (fun a : Int => (a : Rat))) sx ex b) d := by
    intro d ⟨xs, ts, hdom, hnums, hts, hmem⟩
    obtain ⟨ts', h2, h3⟩ := hmulti xs hdom
    rw [hts] at h2; cases h2
    rw [sat_compiledRange, WM.Numeric.matchesDoc_congr subs hmem]
    simp only [sat, hnums, List.any_map, Function.comp_def, inRange_int]
    rw [Bool.eq_iff_iff, h3, List.any_eq_true]
  refine ⟨subs, hsubs, hsat, fun ls so s ctx hso hleaf hdocs => ?_⟩
  have h1 := matcher_den ls so s hso hleaf (compiledRange f subs b) (posQ_compiledRange f subs hb) ctx
  have hfil : s.live.filter (fun i => sat (compiledRange f subs b) (s.doc i)) =
      s.live.filter (fun i => ((s.doc i).nums f).any
        (inRange (start.map (fun a : Int => (a : Rat))) (end_.map (fun a : Int => (a : Rat))) sx ex)) :=
    List.filter_congr (fun i hi => by rw [hsat _ (hdocs i hi)]; rfl)
  refine ⟨by rw [h1, hfil], ?_⟩
  rw [h1, hfil]
  simp [compile, List.map_map, Function.comp_def]

/-- non-vacuity: an unsigned 8-bit field with shift step 4; a document holding the value 200 (tier terms
    `[0, 0xC8]` and `[4, 0x0C]`), the range `[100 TO 250]` compiles to three sub-queries -/
example : WM.Numeric.inDomain (8 * 1) false 200 ∧
    WM.Numeric.indexTermsList 1 4 ([200].map fun x => (WM.Numeric.toSortableInt (8 * 1) false x).toNat) =
      .ok [[0, 200], [4, 12]] ∧
    IntFieldDoc 1 4 false "n" ⟨[⟨"n", 1, [⟨[0, 200], 0, 1⟩, ⟨[4, 12], 0, 1⟩], [200]⟩]⟩ ∧
    (WM.Numeric.compileInt 1 false 4 (some 100) (some 250) false false).toOption.map List.length = some 3 := by
  have h1 : WM.Numeric.inDomain (8 * 1) false 200 := by decide
  have h2 : WM.Numeric.indexTermsList 1 4 ([200].map fun x => (WM.Numeric.toSortableInt (8 * 1) false x).toNat) =
      .ok [[0, 200], [4, 12]] := ok_of_toOption (by decide +kernel)
  refine ⟨h1, h2, ⟨[200], [[0, 200], [4, 12]], ?_, by decide +kernel, h2, fun _ => Iff.rfl⟩, by decide +kernel⟩
  intro x hx
  simp only [List.mem_singleton] at hx
  subst hx; exact h1

end WM.C01
