import WM.Lemmas.AllIds
import WM.Lemmas.FaithfulReads
/-!
# C11 — every matcher is a faithful forward cursor over its result list

`den s m` (Layer S, `WM/Spec/Den.lean` + `WM/Model/MatcherTree.lean`) is the remaining result list
of the matcher tree `m` of shape `s`; `WF s m` is the invariant of DESIGN Appendix E; `ops s` are
the operations mirrored from whoosh.  All statements are for every shape (every tree of ListMatcher,
W3 block leaf, Null, Union, DisjunctionMax, Intersection, AndNot, AndMaybe, Require, boost, Filter,
Inverse, ConstantScore, MultiMatcher and ArrayUnionMatcher nodes), every state and every argument.
Those about the other reads (second part) assume `WFR` instead of `WF`: it is `False` at an ArrayUnionMatcher node,
and `reads_wf` derives it from `WF` for trees without MultiMatcher and ArrayUnionMatcher nodes.
-/
namespace WM.C11
open WM.Matcher

/-- ids strictly increase -/
theorem sorted (s : Shape) (m : St s) (h : WF s m) : Asc (den s m) :=
  (tree_faithful s).asc m h

/-- `is_active()` says exactly whether something is left -/
theorem active_iff (s : Shape) (m : St s) (h : WF s m) : (ops s).isActive m = true ↔ den s m ≠ [] :=
  (tree_faithful s).active m h

/-- `id()` and `score()` read the head of the remaining list; `next()` drops exactly the head,
    never raises on an active matcher and preserves the invariant and the complete list -/
theorem refine_next (s : Shape) (m : St s) (h : WF s m) (ha : (ops s).isActive m = true) :
    ∃ x r L m', den s m = (x, r) :: L ∧ (ops s).id m = .ok x ∧ (ops s).score m = .ok r ∧
      (ops s).next m = .ok m' ∧ WF s m' ∧ den s m' = L ∧ full s m' = full s m :=
  (tree_faithful s).next_active h ha

/-- `skip_to(t)` lands on the first entry with id ≥ t -/
theorem refine_skipTo (s : Shape) (m : St s) (t : Nat) (h : WF s m) (ha : (ops s).isActive m = true) :
    ∃ m', (ops s).skipTo m t = .ok m' ∧ WF s m' ∧ den s m' = dropBelow t (den s m) ∧
      full s m' = full s m :=
  (tree_faithful s).skipTo_active t h ha

/-- … and does not move when `t` is not beyond the current id -/
theorem skipTo_noop (s : Shape) (m : St s) (t x : Nat) (h : WF s m) (ha : (ops s).isActive m = true)
    (hid : (ops s).id m = .ok x) (ht : t ≤ x) :
    ∃ m', (ops s).skipTo m t = .ok m' ∧ den s m' = den s m := by
  obtain ⟨r, L, hd⟩ := ((tree_faithful s).head_iff h x).2 ⟨ha, hid⟩
  exact Yields.mono (refine_skipTo s m t h ha) fun m' g => by rw [g.2.1, hd]; exact dropBelow_of_le_head ht

/-- `reset()` returns to the complete list -/
theorem reset (s : Shape) (m : St s) (h : WF s m) :
    ∃ m', (ops s).reset m = .ok m' ∧ WF s m' ∧ den s m' = full s m ∧ full s m' = full s m :=
  (tree_faithful s).reset m h

/-- every operation preserves the invariant (collected from the statements above) -/
theorem wf_preserved (s : Shape) (m : St s) (h : WF s m) :
    (∀ m', (ops s).isActive m = true → (ops s).next m = .ok m' → WF s m') ∧
    (∀ t m', (ops s).isActive m = true → (ops s).skipTo m t = .ok m' → WF s m') ∧
    (∀ m', (ops s).reset m = .ok m' → WF s m') := by
  refine ⟨fun m' ha hn => ?_, fun t m' ha hs => (Yields.of_eq (refine_skipTo s m t h ha) hs).1,
    fun m' hr => (Yields.of_eq (reset s m h) hr).1⟩
  obtain ⟨⟨x, r⟩, L, hd⟩ := List.exists_cons_of_ne_nil ((active_iff s m h).1 ha)
  exact (Yields.of_eq ((tree_faithful s).next m x r L h hd) hn).1

/-- `IntersectionMatcher(a, b)`, `AndNotMatcher(a, b)`, `AndMaybeMatcher(a, b)`, `RequireMatcher(a, b)`,
    `FilterMatcher(c, ids, exclude, boost)`, `InverseMatcher(c, limit, missing, weight, id)` built from
    well-formed sub-matchers in **any** relative position never raise, are well formed and mean what
    Layer S says (`UnionMatcher`, `DisjunctionMaxMatcher`, boost and constant-score wrappers do not
    move their sub-matchers: their `WF` is the conjunction of the sub-matchers' by definition). -/
theorem constructors_wf (a b : Any) (ha : WF a.1 a.2) (hb : WF b.1 b.2) :
    (∃ m, mkInter a b = .ok m ∧ WF m.1 m.2 ∧ m.den = interWith (· + ·) a.den b.den) ∧
    (∃ m, mkAndNot a b = .ok m ∧ WF m.1 m.2 ∧ m.den = diff a.den b.den) ∧
    (∃ m, mkAndMaybe a b = .ok m ∧ WF m.1 m.2 ∧ m.den = leftJoin a.den b.den) ∧
    (∃ m, mkRequire a b = .ok m ∧ WF m.1 m.2 ∧ m.den = interWith (fun s _ => s) a.den b.den) ∧
    (∀ ids excl boost, ∃ m, mkFilter a ids excl boost = .ok m ∧ WF m.1 m.2 ∧
        m.den = scale boost (keepIds ids excl a.den)) ∧
    (∀ limit missing w i, ∃ m, mkInverse a limit missing w i = .ok m ∧ WF m.1 m.2 ∧
        m.den = complement i limit missing a.den w) :=
  ⟨mkInter_spec treeInv_WF ha hb, mkAndNot_spec treeInv_WF ha hb, mkAndMaybe_spec treeInv_WF ha hb,
    mkRequire_spec treeInv_WF ha hb, mkFilter_spec ha, mkInverse_spec ha⟩

/-- `MultiMatcher(matchers, idoffsets)` over well-formed sub-matchers of one class whose complete lists, each
    shifted by its offset, ascend through the segments (and whose remaining lists are parts of the complete
    ones - any state the sub-matchers were stepped to): well formed, and it means the concatenation of the
    shifted remaining lists (Layer S `shift`, `++`). -/
theorem multi_constructor_wf (c : Shape) (segs : List (St c × Nat)) (hw : ∀ s ∈ segs, WF c s.1)
    (hsub : ∀ s ∈ segs, IdSub (den c s.1) (full c s.1)) (hasc : Asc (Multi.denOf (full c) segs)) :
    WF (.multi c) (mkMulti c segs).2 ∧ (mkMulti c segs).den = Multi.denOf (den c) segs :=
  mkMulti_spec c segs hw hsub hasc

/-- `ArrayUnionMatcher(submatchers, doccount, boost, partsize)` over well-formed sub-matchers of one class with
    positive scores (the class tells documents from empty buffer cells by `a[i] > 0`), a positive boost and a
    positive part size: never raises, is well formed and means the boosted union of the sub-matchers' lists
    below `doccount` (Layer S `sumDens`, `scale`, `below`). -/
theorem aunion_constructor_wf (c : Shape) (subs : List (St c)) (dc : Nat) (boost : Rat) (ps : Nat)
    (hw : ∀ s ∈ subs, WF c s) (hb : 0 < boost) (hps : 0 < ps)
    (hdp : ∀ s ∈ subs, ∀ p ∈ den c s, 0 < p.2) (hfp : ∀ s ∈ subs, ∀ p ∈ full c s, 0 < p.2) :
    ∃ m, mkAUnion c subs dc boost ps = .ok m ∧ WF m.1 m.2 ∧
      m.den = below dc (sumDens (subs.map fun s => scale boost (den c s))) :=
  mkAUnion_spec c subs dc boost ps hw hb hps hdp hfp

/-- `replace()` with no quality threshold never raises, returns a well-formed tree (possibly of another
    shape: exhausted sub-matchers are shed) and preserves the remaining list - for every well-formed tree,
    whatever its scores and boosts -/
theorem replace0 (s : Shape) (m : St s) (h : WF s m) :
    ∃ c r, replace s m 0 = .ok (c, r) ∧ WF r.1 r.2 ∧ r.den = den s m ∧ (c = false → r = ⟨s, m⟩) := by
  obtain ⟨⟨c, r⟩, h1, h2⟩ := replace0_spec s m h
  exact ⟨c, r, h1, h2.inv, h2.eq0 rfl, h2.same⟩

/-- the base-class `all_ids()` generator (step; `replace()` every tenth step) yields exactly the ids of
    the remaining list, i.e. equals stepping - in every state of every tree -/
theorem all_ids_base (m : Any) (h : WF m.1 m.2) : allIds m = .ok (m.den.map (·.1)) :=
  allIds_spec m h

/-- `all_ids()` as each class defines it (`allIdsO`: the overrides of `ListMatcher`, `IntersectionMatcher`
    (also behind `RequireMatcher`), `WrappingMatcher`/`ConstantScoreWrapperMatcher`, `FilterMatcher`,
    `MultiMatcher`, `ArrayUnionMatcher`, `NullMatcher`; the base generator elsewhere) never raises and yields a strictly ascending
    list that contains every id still to come and only ids of the complete list - in any state.  Hypothesis
    `AllIdsPre`: at the sub-matchers whose `all_ids()` yields the remaining ids (the base generator,
    `ArrayUnionMatcher`) the remaining list is part of the complete list; that is so in every state reached by cursor operations (`all_ids_pre_preserved`). -/
theorem all_ids (s : Shape) (m : St s) (h : WF s m) (hp : AllIdsPre s m) :
    ∃ L, allIdsO s m = .ok L ∧ L.Pairwise (· < ·) ∧ (∀ p ∈ den s m, p.1 ∈ L) ∧
      (∀ x ∈ L, ∃ r, (x, r) ∈ full s m) :=
  Yields.mono (allIdsO_spec s m h hp) fun _ g =>
    ⟨g.asc, fun _ hp => g.lower (List.mem_map_of_mem hp), fun _ hx => mem_ids.1 (g.upper hx)⟩

/-- … hence on a matcher at its start (nothing consumed: remaining list = complete list) every class's own
    `all_ids()` equals stepping -/
theorem all_ids_fresh (s : Shape) (m : St s) (h : WF s m) (hp : AllIdsPre s m) (hf : den s m = full s m) :
    allIdsO s m = .ok ((den s m).map (·.1)) :=
  allIdsO_fresh s m h hp hf

/-- "the remaining list is part of the complete list" survives `next`, `skip_to` and `reset` (any shape) -/
theorem all_ids_pre_preserved (s : Shape) (m : St s) (h : WF s m) (hs : IdSub (den s m) (full s m)) :
    (∀ m', den s m ≠ [] → (ops s).next m = .ok m' → IdSub (den s m') (full s m')) ∧
    (∀ t m', den s m ≠ [] → (ops s).skipTo m t = .ok m' → IdSub (den s m') (full s m')) ∧
    (∀ m', (ops s).reset m = .ok m' → IdSub (den s m') (full s m')) :=
  ⟨fun m' hne hn => idSub_next s m m' h hs hne hn, fun t m' hne hn => idSub_skipTo s m m' t h hs hne hn,
    fun m' hn => idSub_reset s m m' h hn⟩

/-- Whatever program of `next`/`skip_to`/`reset` calls is allowed on the list model runs without
    error on the matcher and leaves it well formed on exactly the list the model predicts: the state
    reached - hence everything read there (`id`, `score`, `is_active`) - depends only on the list
    position, not on the calls used to reach it. -/
theorem program (s : Shape) (prog : List Cmd) (m : St s) (h : WF s m) (F L : Den)
    (hs : runSpec prog (full s m, den s m) = some (F, L)) :
    ∃ m', run s prog m = .ok m' ∧ WF s m' ∧ den s m' = L ∧ full s m' = F :=
  (tree_faithful s).program prog m h F L hs

/-- … the same with `replace()` (no threshold) anywhere in the program: the replacement may be a tree of another
    shape, the list it stands on is still the one the list model predicts.  (`copy()` is the identity on model
    values; `skip_to_quality`/`replace(q)` are not path-independent by design - their contract is C12
    `skip_keeps`/`replace_keeps_partial`.) -/
theorem program_replace (prog : List CmdR) (m : Any) (h : WF m.1 m.2) (L : Den)
    (hs : runSpecR prog m.den = some L) : ∃ m', runR prog m = .ok m' ∧ WF m'.1 m'.2 ∧ m'.den = L := by
  refine program_sim runR.eq_1 runR.eq_2 runSpecR.eq_1 runSpecR.eq_2 (fun m L => WF m.1 m.2 ∧ m.den = L) ?_
    prog m _ L ⟨h, rfl⟩ hs
  rintro c ⟨s, m⟩ _ L ⟨h, rfl⟩ hs
  cases c with
  | next =>
    cases hd : den s m with
    | nil => rw [Any.den, hd] at hs; cases hs
    | cons p L =>
      rw [Any.den, hd] at hs
      cases hs
      exact ((tree_faithful s).next_step h hd).bind fun m' g => .ok ⟨g.wf, g.den_eq⟩
  | skipTo t =>
    cases hd : den s m with
    | nil => rw [Any.den, hd] at hs; cases hs
    | cons p L =>
      rw [Any.den, hd] at hs
      cases hs
      exact ((tree_faithful s).skipTo_step t h (hd ▸ List.cons_ne_nil _ _)).bind fun m' g => .ok ⟨g.wf, hd ▸ g.den_eq⟩
  | replace0 =>
    cases hs
    exact (replace0_spec s m h).bind fun _ g => .ok ⟨g.inv, g.eq0 rfl⟩

/-! ## the other reads of an entry: `weight()` and the number of `matching_terms()`

`opsR k s` is the operation table of the tree with `score` replaced by the read `k`, `denR k s m` the remaining list
of `(id, read)` entries (Layer S list algebra, `WM/Model/MatcherReads.lean`), `WFR k s` the invariant `WF` with the
reads' lists in the alignment conditions. -/

/-- the reads do not influence the cursor: the table of a read has the cursor operations of the tree itself -/
theorem reads_move_alike (k : Rd) (s : Shape) :
    (opsR k s).isActive = (ops s).isActive ∧ (opsR k s).id = (ops s).id ∧ (opsR k s).next = (ops s).next ∧
      (opsR k s).skipTo = (ops s).skipTo ∧ (opsR k s).reset = (ops s).reset :=
  let ⟨h1, h2, h3, h4, h5, _⟩ := tree_moveEq k s
  ⟨h1, h2, h3, h4, h5⟩

/-- a well-formed tree without MultiMatcher/ArrayUnionMatcher nodes is well formed for both reads, and a tree well
    formed in both senses stands on the same document in `den` and in `denR` -/
theorem reads_wf (k : Rd) (s : Shape) (m : St s) (hp : plain s = true) (h : WF s m) :
    WFR k s m ∧ (∀ x r L, den s m = (x, r) :: L → ∃ w L', denR k s m = (x, w) :: L') ∧
      (∀ x w L', denR k s m = (x, w) :: L' → ∃ r L, den s m = (x, r) :: L) :=
  have hr := wfr_of_wf k s m hp h
  ⟨hr, fun x r L hd => (same_head k s m h hr x).1 ⟨r, L, hd⟩, fun x w L' hd => (same_head k s m h hr x).2 ⟨w, L', hd⟩⟩

/-- on an active matcher the read returns the value of the head entry, and `next()` (of the tree) drops exactly
    that entry from the reads' list too -/
theorem read_next (k : Rd) (s : Shape) (m : St s) (h : WFR k s m) (ha : (ops s).isActive m = true) :
    ∃ x w L m', denR k s m = (x, w) :: L ∧ (ops s).id m = .ok x ∧ read k s m = .ok w ∧
      (ops s).next m = .ok m' ∧ WFR k s m' ∧ denR k s m' = L ∧ fullR k s m' = fullR k s m :=
  (tree_faithful_read k s).next_active h ha

/-- `skip_to(t)` lands on the first entry with id ≥ t of the reads' list too -/
theorem read_skipTo (k : Rd) (s : Shape) (m : St s) (t : Nat) (h : WFR k s m) (ha : (ops s).isActive m = true) :
    ∃ m', (ops s).skipTo m t = .ok m' ∧ WFR k s m' ∧ denR k s m' = dropBelow t (denR k s m) ∧
      fullR k s m' = fullR k s m :=
  (tree_faithful_read k s).skipTo_active t h ha

/-- path independence of the reads: whatever program of `next`/`skip_to`/`reset` calls is allowed on the list
    model runs without error on the matcher (the same run as in `program`) and leaves it on exactly the list of
    `(id, read)` entries the model predicts - so `weight()` and the number of `matching_terms()` read there are
    those of the head entry, whatever calls led to it. -/
theorem program_reads (k : Rd) (s : Shape) (prog : List Cmd) (m : St s) (h : WFR k s m) (F L : Den)
    (hs : runSpec prog (fullR k s m, denR k s m) = some (F, L)) :
    ∃ m', run s prog m = .ok m' ∧ WFR k s m' ∧ denR k s m' = L ∧ fullR k s m' = F ∧
      ∀ x w L', L = (x, w) :: L' → (ops s).id m' = .ok x ∧ read k s m' = .ok w := by
  have FR := tree_faithful_read k s
  refine (FR.program prog m h F L hs).mono ?_
  rintro m' ⟨g2, rfl, g4⟩
  exact ⟨g2, rfl, g4, fun x w L' hL => ⟨FR.id m' x w L' g2 hL, FR.score m' x w L' g2 hL⟩⟩

/-- `AndMaybe([1, 5, 9] weights 1 2 3, [1, 5] weights 1 1)` under a boost of 2: the lists of weights and of
    matching-term counts; after `next, next` the matcher stands on document 9, beyond the optional side's last
    posting - where the pinned `AndMaybeMatcher.weight()` raised IndexError (repaired) -/
def exReads : St (.boost (.andMaybe .list .list)) :=
  ⟨⟨⟨[1, 5, 9], [1, 2, 3], 0, true⟩, ⟨[1, 5], [1, 1], 0, true⟩⟩, 2⟩

example : plain (.boost (.andMaybe .list .list)) = true ∧ WF _ exReads := by
  refine ⟨rfl, ⟨by decide, rfl⟩, ⟨by decide, rfl⟩, ?_⟩
  intro x r La y s Lb h1 h2
  cases h1; cases h2; exact Nat.le_refl _

example : denR .weight _ exReads = [(1, 4), (5, 6), (9, 6)] ∧ denR .terms _ exReads = [(1, 2), (5, 2), (9, 1)] ∧
    ((run _ [.next, .next] exReads).bind (read .weight _)).toOption = some 6 ∧
    ((run _ [.skipTo 7] exReads).bind (read .terms _)).toOption = some 1 ∧
    runSpec [.next, .next] ([(1, 4), (5, 6), (9, 6)], [(1, 4), (5, 6), (9, 6)]) =
      some ([(1, 4), (5, 6), (9, 6)], [(9, 6)]) := by decide +kernel

/-! ## concrete trees: what the constructors build and what operations, programs and `all_ids()` return on them -/

/-- `AndNot([5, 9], [3, 5])` - the example from DESIGN §6.3 on which the pinned tree leaks document 5 -/
def exAndNot : R Any :=
  mkAndNot ⟨.list, ⟨[5, 9], [1, 1], 0, true⟩⟩ ⟨.list, ⟨[3, 5], [1, 1], 0, true⟩⟩

example : denOf exAndNot = some ([(9, 1)], true) := by decide +kernel

example : WF .list (⟨[5, 9], [1, 1], 0, true⟩ : ListM) := by
  show ListM.WF _
  exact ⟨by decide, rfl⟩

/-- the base `all_ids()` loop on that tree -/
example : (exAndNot.bind allIds).toOption = some [9] := by decide +kernel

/-- an `ArrayUnionMatcher` (part size 4, 40 documents) over two lists: stepping, `skip_to(9)`, `reset()` -/
def exAUnion : R Any :=
  mkAUnion .list [⟨[1, 5, 9], [1, 2, 3], 0, true⟩, ⟨[2, 5, 30], [1, 2, 3], 0, true⟩] 40 1 4

example : denOf exAUnion = some ([(1, 1), (2, 1), (5, 4), (9, 3), (30, 3)], true) := by decide +kernel

example : (exAUnion.bind fun m => (ops m.1).skipTo m.2 9 |>.map (den m.1)).toOption = some [(9, 3), (30, 3)] := by
  decide +kernel

/-- a `MultiMatcher` over two segments (offsets 0 and 30), inside an intersection -/
def exMulti : R Any :=
  mkInter (mkMulti .list [(⟨[5, 9], [1, 2], 0, true⟩, 0), (⟨[2, 7], [3, 1], 0, true⟩, 30)])
    ⟨.list, ⟨[9, 32, 40], [1, 1, 1], 0, true⟩⟩

example : denOf exMulti = some ([(9, 3), (32, 4)], true) := by decide +kernel

/-- programs on that composite (`next`, `skip_to(10)`, `replace()`; `next`, `reset`, `skip_to(10)`) end on the list the model
    predicts -/
example : (exMulti.bind (runR [.next, .skipTo 10, .replace0])).toOption.map (·.den) = some [(32, 4)] ∧
    runSpecR [.next, .skipTo 10, .replace0] [(9, 3), (32, 4)] = some [(32, 4)] := by decide +kernel

example : (exMulti.bind fun m => (run m.1 [.next, .reset, .skipTo 10] m.2).map (den m.1)).toOption = some [(32, 4)] ∧
    runSpec [.next, .reset, .skipTo 10] ([(9, 3), (32, 4)], [(9, 3), (32, 4)]) = some ([(9, 3), (32, 4)], [(32, 4)]) := by
  decide +kernel

/-- `IntersectionMatcher.all_ids` over `MultiMatcher.all_ids` and `ListMatcher.all_ids` on it -/
example : (exMulti.bind fun m => allIdsO m.1 m.2).toOption = some [9, 32] := by decide +kernel

end WM.C11
