import WM.Lemmas.IdSetsMulti
import WM.Lemmas.IdSetsPool
/-!
C20 (doc-id sets): every id-set class behaves as a finite set of naturals.

The abstraction of a `BitSet`/`OnDiskBitSet` is `iter bits` (what `__iter__` yields), of a
`SortedIntSet` its `data` array, of a `ReverseIdSet`/`MultiIdSet` their `iter`.  Most theorems have
the shape `abstraction (operation of the model) = operation of WM.Spec.IdSet on the abstraction`;
what an operation needs of its input (bytes below 256 for `__len__`/`__bool__`, a well-formed wrapped
set, ids below `limit`) is a hypothesis, and where the code does something else the theorem says what.
`WM.Spec.IdSet.Sorted` (= strictly ascending) is the canonical-form invariant.
-/
namespace WM.C20
open WM.IdSets
open WM.Spec.IdSet (Sorted)
namespace S
export WM.Spec.IdSet (insert erase union inter diff invert ofList first last before after)
end S

/-! ## BaseBitSet / BitSet / OnDiskBitSet -/

/-- Ordered iteration: strictly ascending, no duplicates. -/
theorem bitset_iter_sorted (bits : Bits) : Sorted (iter bits) := sorted_iter bits

/-- Membership agrees with iteration. -/
theorem bitset_mem (bits : Bits) (i : Nat) : i ∈ iter bits ↔ contains bits i = true := mem_iter

/-- An `OnDiskBitSet` over `file[basepos : basepos+count]` has exactly the members whose bit is set
    in the file. -/
theorem ondisk_mem (file : List Nat) (basepos count i : Nat) :
    i ∈ iter (onDisk file basepos count) ↔
      i / 8 < count ∧ ∃ b, file[basepos + i / 8]? = some b ∧ b.testBit (i % 8) = true := by
  rw [mem_iter, contains_eq]
  unfold onDisk
  rw [List.getElem?_take, List.getElem?_drop]
  by_cases h : i / 8 < count
  · simp only [h, ↓reduceIte, true_and]
    cases file[basepos + i / 8]? <;> simp
  · simp [h]

/-- `BitSet.to_disk` writes the byte array verbatim; an `OnDiskBitSet` (or `BitSet.from_disk`) over
    that range of the file — whatever precedes and follows it — is the same byte array, hence the
    same set under every `BaseBitSet` query. -/
theorem bitset_to_disk_ondisk (pre bits post : Bits) :
    onDisk (pre ++ bits ++ post) pre.length bits.length = bits ∧
      iter (onDisk (pre ++ bits ++ post) pre.length bits.length) = iter bits := by
  have h : onDisk (pre ++ bits ++ post) pre.length bits.length = bits := by
    unfold onDisk
    rw [List.append_assoc, List.drop_left, List.take_left]
  exact ⟨h, by rw [h]⟩

theorem bitset_add (bits : Bits) (i : Nat) : iter (add bits i) = S.insert i (iter bits) := iter_add bits i

theorem bitset_discard (bits : Bits) (i : Nat) : iter (discard bits i) = S.erase i (iter bits) :=
  iter_discard bits i

/-- `BitSet(source, size)` holds exactly the members of `source`, whatever `size` was given. -/
theorem bitset_ofSource (source : List Nat) (sized : Bool) (size : Nat) :
    iter (ofSource source sized size) = S.ofList source := iter_ofSource source sized size

theorem bitset_update (bits : Bits) (o : Other) : iter (update bits o) = S.union (iter bits) o.items :=
  iter_update bits o

theorem bitset_intersection_update (bits : Bits) (o : Other) :
    iter (intersectionUpdate bits o) = S.inter (iter bits) o.items :=
  iter_intersectionUpdate bits o

theorem bitset_difference_update (bits : Bits) (o : Other) :
    iter (differenceUpdate bits o) = S.diff (iter bits) o.items :=
  iter_differenceUpdate bits o

theorem bitset_union (bits : Bits) (o : Other) : iter (union bits o) = S.union (iter bits) o.items :=
  iter_union bits o

theorem bitset_intersection (bits : Bits) (o : Other) :
    iter (intersection bits o) = S.inter (iter bits) o.items :=
  iter_intersection bits o

theorem bitset_difference (bits : Bits) (o : Other) :
    iter (difference bits o) = S.diff (iter bits) o.items :=
  iter_difference bits o

/-- `invert_update(size)` / `invert(size)` (fixed code): never raises, and the result is the
    complement inside `[0, size)` — for every `size`, also beyond or below the current array. -/
theorem bitset_invert (bits : Bits) (size : Nat) :
    ∃ r, invertUpdate bits size = .ok r ∧ iter r = S.invert size (iter bits) :=
  iter_invertUpdate bits size

theorem bitset_clear (bits : Bits) : iter (clear bits) = [] := iter_clear bits

/-- Trimming trailing zero bytes does not change the set. -/
theorem bitset_trim (bits : Bits) : iter (trim bits) = iter bits :=
  iter_bits_eq (sorted_iter bits) fun x => by rw [contains_trim, mem_iter]

/-- Resizing keeps exactly the members that still fit. -/
theorem bitset_resize (bits : Bits) (n : Nat) :
    iter (resize bits n) = (iter bits).filter (fun x => decide (x / 8 < bytesForBits n)) :=
  iter_bits_eq (List.Pairwise.filter _ (sorted_iter bits)) fun x => by
    rw [contains_resize, List.mem_filter, mem_iter, Bool.and_eq_true]

theorem bitset_len (bits : Bits) (h : ∀ b ∈ bits, b < 256) : len bits = .ok (iter bits).length :=
  len_spec bits h

theorem bitset_bool (bits : Bits) (h : ∀ b ∈ bits, b < 256) : nonzero bits = true ↔ iter bits ≠ [] :=
  nonzero_spec bits h

/-- `before(i)`: greatest member `< i`, for every integer `i` (negative, past the end). -/
theorem bitset_before (bits : Bits) (i : Int) : IdSets.before bits i = .ok (S.before (iter bits) i) :=
  before_spec bits i
/-- `after(i)`: least member `> i`. -/
theorem bitset_after (bits : Bits) (i : Int) : IdSets.after bits i = .ok (S.after (iter bits) i) :=
  after_spec bits i
theorem bitset_first (bits : Bits) : first bits = .ok (S.first (iter bits)) := by
  unfold first
  rw [after_spec]
  congr 1
  unfold WM.Spec.IdSet.after WM.Spec.IdSet.first
  cases iter bits with
  | nil => rfl
  | cons a t =>
    rw [List.find?_cons, decide_eq_true (by omega : (a : Int) > -1)]; rfl
theorem bitset_last (bits : Bits) : IdSets.last bits = .ok (S.last (iter bits)) := by
  unfold IdSets.last
  rw [before_spec]
  congr 1
  unfold WM.Spec.IdSet.before WM.Spec.IdSet.last
  congr 1
  rw [List.filter_eq_self]
  intro x hx
  have := contains_lt (mem_iter.mp hx)
  simp only [decide_eq_true_eq]; omega

/-- Non-vacuity: a resize (bit 9 does not fit one byte), a trim, a cross-byte search. -/
example : add [5] 9 = [5, 2] ∧ iter (add [5] 9) = [0, 2, 9]
    ∧ iter (ofSource [30, 1, 1] true 0) = [1, 30] := by decide
example : logic (· &&& ·) [5, 2, 0] [1] = [1] := by simp [logic, zipLongest, trim]
example : IdSets.after [5, 0, 0, 64] 2 = .ok (some 30) := by rw [bitset_after]; exact congrArg _ (by decide)
example : IdSets.before [5, 0, 0, 64] 30 = .ok (some 2) := by rw [bitset_before]; exact congrArg _ (by decide)
example : ∃ r, invertUpdate [5, 255] 4 = .ok r ∧ iter r = [1, 3] := by
  rcases bitset_invert [5, 255] 4 with ⟨r, h1, h2⟩
  exact ⟨r, h1, by rw [h2]; decide⟩

/-! ## `BitSet._logic` over byte arrays of any length, and programs over a pool of sets

`_logic(obj, op, other)` is the engine behind `BitSet ∘ BitSet` union / intersection / difference,
the operator forms and `intersection_update` / `difference_update`.  The two byte arrays may have
any lengths — in particular zero, which a `BitSet` has exactly when it is the trimmed result of an
earlier `_logic` call or comes from `from_bytes(b"")`. -/

theorem bitset_logic_or (a b : Bits) : iter (logic (· ||| ·) a b) = S.union (iter a) (iter b) :=
  iter_logic_or a b
theorem bitset_logic_and (a b : Bits) : iter (logic (· &&& ·) a b) = S.inter (iter a) (iter b) :=
  iter_logic_and a b
theorem bitset_logic_andnot (a b : Bits) : iter (logic andNot a b) = S.diff (iter a) (iter b) :=
  iter_logic_andNot a b
/-- the result of `_logic` is trimmed (no trailing zero byte), whatever the operands. -/
theorem bitset_logic_trimmed (op : Nat → Nat → Nat) (a b : Bits) : (logic op a b).getLast? ≠ some 0 :=
  trim_getLast _
/-- AND with a zero-length right operand empties the left one (it is *not* returned unchanged). -/
theorem bitset_logic_and_empty (a : Bits) : logic (· &&& ·) a [] = [] := by
  unfold logic
  rw [zipLongest_nil_right]
  have : (a.map fun x => x &&& 0 &&& 255) = List.replicate a.length 0 := by
    apply List.ext_getElem <;> simp
  rw [this, trim_zeros]

example : logic andNot [5, 2] [5, 2] = [] ∧ logic (· &&& ·) [5, 2, 0] [] = []
    ∧ logic (· ||| ·) [] [0, 4, 0] = [0, 4] ∧ logic andNot [7] [] = [7] := by
  simp [logic, zipLongest, trim, andNot]

/-- One step of a program over a pool of `BitSet` / `SortedIntSet` registers — binary methods and
    operator forms between any two registers (results fed back on either side), the in-place
    variants, `add/discard/clear/invert/copy`, fresh sets — is the set operation on the abstractions
    of the registers; a program naming a missing register is rejected by both. -/
theorem idset_pool_step (p : Pool) (hok : p.Ok) (op : PoolOp) (hd : op.InDomain p) :
    Refines (p.step op) (WM.Spec.IdSet.SPool.step (p.map Inner.iter) op) :=
  pool_step_refines p hok op hd

/-- … and so is every program. -/
theorem idset_pool_run (p : Pool) (ops : List PoolOp) (hok : p.Ok) (hd : p.DomAll ops) :
    Refines (p.run ops) (WM.Spec.IdSet.SPool.run (p.map Inner.iter) ops) :=
  pool_run_refines ops p hok hd

/-- Non-vacuity: `r2 = r0 - r1` trims to a zero-length array, `r0 &= r2` then empties `r0`. -/
example : Pool.run [.bits [5, 2], .bits [5, 2, 0], .bits [9]] [.bin .diff 2 0 1, .upd .inter 0 2]
    = .ok [.bits [], .bits [5, 2, 0], .bits []] := by
  simp [Pool.run, Pool.step, Pool.reg, Pool.assign, Inner.bin, Inner.upd, Inner.asOther, difference,
    intersectionUpdate, logic, zipLongest, trim, andNot, bind, Except.bind]
example : Pool.Ok [.bits [5, 2], .bits [5, 2, 0], .sorted [1, 4]] := by
  intro s hs
  simp only [List.mem_cons, List.not_mem_nil, or_false] at hs
  rcases hs with rfl | rfl | rfl
  · trivial
  · trivial
  · show Sorted [1, 4]; unfold Sorted; decide

/-! ## SortedIntSet (`data` strictly ascending is the class invariant) -/

theorem sis_ofSource (source : List Nat) :
    sisOfSource source = S.ofList source ∧ Sorted (sisOfSource source) :=
  ⟨rfl, WM.Spec.IdSet.sorted_ofList⟩

theorem sis_contains {data : List Nat} (h : Sorted data) (i : Nat) :
    sisContains data i = .ok (decide (i ∈ data)) := sisContains_spec h i
theorem sis_add {data : List Nat} (h : Sorted data) (i : Nat) :
    sisAdd data i = .ok (S.insert i data) := sisAdd_spec h i
theorem sis_discard {data : List Nat} (h : Sorted data) (i : Nat) :
    sisDiscard data i = .ok (S.erase i data) := sisDiscard_spec h i
theorem sis_before {data : List Nat} (h : Sorted data) (i : Int) :
    sisBefore data i = .ok (S.before data i) := sisBefore_spec h i
theorem sis_after {data : List Nat} (h : Sorted data) (i : Int) :
    sisAfter data i = .ok (S.after data i) := sisAfter_spec h i
theorem sis_first_last (data : List Nat) :
    sisFirst data = S.first data ∧ sisLast data = S.last data := ⟨rfl, rfl⟩
theorem sis_update {data : List Nat} (h : Sorted data) (o : Other) :
    sisUpdate data o = .ok (S.union data o.items) := sisUpdate_spec h o
theorem sis_intersection (data : List Nat) (o : Other) :
    sisIntersection data o = S.inter data o.items := filter_other data o
theorem sis_difference (data : List Nat) (o : Other) :
    sisDifference data o = S.diff data o.items := filter_not_other data o

/-- The invariant is kept by every mutator (so the hypotheses above are always available). -/
theorem sis_invariant {data : List Nat} (h : Sorted data) (i : Nat) (o : Other) :
    Sorted (S.insert i data) ∧ Sorted (S.erase i data) ∧ Sorted (S.union data o.items)
      ∧ Sorted (S.inter data o.items) ∧ Sorted (S.diff data o.items) :=
  ⟨WM.Spec.IdSet.sorted_insert h, WM.Spec.IdSet.sorted_erase h, WM.Spec.IdSet.sorted_union h,
   WM.Spec.IdSet.sorted_inter h, WM.Spec.IdSet.sorted_diff h⟩

/-- Full statement for `invert(size)` on a `SortedIntSet` (the generic `DocIdSet.invert_update`):
    false for the code as it is — recorded finding. -/
def sis_invert_full : Prop :=
  ∀ (data : List Nat) (size : Nat), Sorted data → sisInvertUpdate data size = .ok (S.invert size data)

/-- What the generic loop does: toggles `[0,size)`, keeps members `≥ size`. -/
theorem sis_invert_exact {data : List Nat} (h : Sorted data) (size : Nat) :
    ∃ r, sisInvertUpdate data size = .ok r ∧ Sorted r ∧
      ∀ x, x ∈ r ↔ (x < size ∧ x ∉ data) ∨ (size ≤ x ∧ x ∈ data) := sisInvertUpdate_exact h size

/-- Proved part: when every member is below `size` the result is the complement in `[0,size)`. -/
theorem sis_invert_partial {data : List Nat} (h : Sorted data) (size : Nat)
    (hlt : ∀ x ∈ data, x < size) : sisInvertUpdate data size = .ok (S.invert size data) :=
  sisInvertUpdate_of_lt h size hlt

/-- The concrete witness of the finding: `SortedIntSet([1,2,9]).invert(5)` keeps 9. -/
example : ¬ sis_invert_full := by
  intro hfull
  have hs : Sorted [1, 2, 9] := by unfold Sorted; decide
  have hm := ((sisInvertUpdate_exact hs 5).of_eq (hfull [1, 2, 9] 5 hs)).2
  have h9 := (hm 9).mpr (Or.inr ⟨by omega, by simp⟩)
  rw [WM.Spec.IdSet.mem_invert] at h9
  omega

example : sisAdd [1, 5, 9] 7 = .ok [1, 5, 7, 9] := by
  rw [sis_add (by unfold Sorted; decide)]; exact congrArg _ (by decide)
example : sisAfter [1, 5, 9] 5 = .ok (some 9) := by
  rw [sis_after (by unfold Sorted; decide)]; exact congrArg _ (by decide)

/-! ## ReverseIdSet (wrapped set well-formed; ids below `limit`, as its docstring requires) -/

theorem rev_iter (r : Rev) (h : r.inner.WF) : r.iter = S.invert r.limit r.inner.iter ∧ Sorted r.iter := by
  rw [Rev.iter_spec r h.ok]; exact ⟨rfl, WM.Spec.IdSet.sorted_invert⟩
theorem rev_contains (r : Rev) (h : r.inner.WF) (i : Nat) (hi : i < r.limit) :
    r.contains i = .ok (decide (i ∈ r.iter)) := by
  rw [Rev.contains_exact r h.ok i, Rev.iter_spec r h.ok]
  congr 1
  by_cases hm : i ∈ r.inner.iter <;> simp [WM.Spec.IdSet.mem_invert, hm, hi]
theorem rev_first (r : Rev) : r.first = S.first r.iter := rfl
theorem rev_last (r : Rev) (h : r.inner.WF) : r.last = .ok (S.last r.iter) := by
  rw [Rev.iter_spec r h.ok]; exact revLastLoop_spec r.inner h.ok r.limit
theorem rev_len (r : Rev) (h : r.inner.WF) (hlim : ∀ x ∈ r.inner.iter, x < r.limit) :
    r.len = .ok (r.iter.length : Int) := by
  rw [Rev.len_exact r h, Rev.iter_spec r h.ok]
  have hin : (List.range r.limit).filter (fun x => r.inner.iter.contains x) = r.inner.iter :=
    WM.Spec.IdSet.sorted_ext (List.Pairwise.filter _ List.pairwise_lt_range) h.ok.sorted_iter fun x => by
      rw [List.mem_filter, List.mem_range, List.contains_iff_mem]
      exact ⟨fun hx => hx.2, fun hx => ⟨hlim x hx, hx⟩⟩
  have hcount := (List.filter_append_perm (fun x => r.inner.iter.contains x) (List.range r.limit)).length_eq
  rw [List.length_append, hin, List.length_range] at hcount
  unfold WM.Spec.IdSet.invert
  congr 1
  omega
theorem rev_add (r : Rev) (h : r.inner.WF) (n : Nat) (hn : n < r.limit) :
    ∃ r', r.add n = .ok r' ∧ r'.inner.WF ∧ r'.limit = r.limit ∧ r'.iter = S.insert n r.iter :=
  Rev.add_spec r h n hn
theorem rev_discard (r : Rev) (h : r.inner.WF) (n : Nat) :
    ∃ r', r.discard n = .ok r' ∧ r'.inner.WF ∧ r'.limit = r.limit ∧ r'.iter = S.erase n r.iter :=
  Rev.discard_spec r h n

/-- Without the precondition: `i in r` is "not in the wrapped set" for **every** `i`, so every id
    `≥ limit` outside the wrapped set is reported as a member although iteration never yields it. -/
theorem rev_contains_exact (r : Rev) (h : r.inner.WF) (i : Nat) :
    r.contains i = .ok (!decide (i ∈ r.inner.iter)) := Rev.contains_exact r h.ok i
theorem rev_contains_out_of_range (r : Rev) (h : r.inner.WF) (i : Nat) (hi : r.limit ≤ i)
    (hni : i ∉ r.inner.iter) : r.contains i = .ok true ∧ i ∉ r.iter := by
  refine ⟨by rw [Rev.contains_exact r h.ok i]; simp [hni], ?_⟩
  rw [Rev.iter_spec r h.ok, WM.Spec.IdSet.mem_invert]
  omega
/-- Without the precondition: `len(r)` is `limit - len(idset)` (wrong, possibly negative, as soon
    as the wrapped set has a member `≥ limit`). -/
theorem rev_len_exact (r : Rev) (h : r.inner.WF) :
    r.len = .ok ((r.limit : Int) - (r.inner.iter.length : Int)) := Rev.len_exact r h
/-- `add(n)` with `n ≥ limit`: only the wrapped set loses `n`; iteration is unchanged (but
    `n in r` becomes true by `rev_contains_out_of_range`). -/
theorem rev_add_out_of_range (r : Rev) (h : r.inner.WF) (n : Nat) (hn : r.limit ≤ n) :
    ∃ r', r.add n = .ok r' ∧ r'.inner.WF ∧ r'.limit = r.limit ∧ r'.iter = r.iter ∧
      r'.inner.iter = S.erase n r.inner.iter := by
  refine (Inner.discard_spec r.inner h.ok n).map ?_
  rintro s' ⟨hok', hwf, hiter⟩
  refine ⟨hwf h, rfl, ?_, hiter⟩
  rw [Rev.iter_spec _ hok', Rev.iter_spec r h.ok]
  exact hiter ▸ WM.Spec.IdSet.invert_erase_of_le hn

/-- inherited `update` (ids below `limit`) and `difference_update`: union and difference.  Each inherited loop
    refines the fold of its body (`foldE_refines`); `limit` is carried in the invariant. -/
theorem rev_update (r : Rev) (h : r.inner.WF) (o : Other) (ho : ∀ x ∈ o.items, x < r.limit) :
    ∃ r', r.update o = .ok r' ∧ r'.inner.WF ∧ r'.limit = r.limit ∧ r'.iter = S.union r.iter o.items := by
  obtain ⟨r', h1, h2, h3, h4⟩ := Rev.foldE_refines Rev.add (fun a n => S.insert n a) o.items r h
    fun q hq hl n hn => Rev.add_spec q hq n (hl ▸ ho n hn)
  exact ⟨r', h1, h2, h3, by rw [h4, WM.Spec.IdSet.foldl_insert_eq_union _ (rev_iter r h).2]⟩
theorem rev_difference_update (r : Rev) (h : r.inner.WF) (o : Other) :
    ∃ r', r.differenceUpdate o = .ok r' ∧ r'.inner.WF ∧ r'.limit = r.limit ∧ r'.iter = S.diff r.iter o.items := by
  obtain ⟨r', h1, h2, h3, h4⟩ := Rev.foldE_refines Rev.discard (fun a n => S.erase n a) o.items r h
    fun q hq _ n _ => Rev.discard_spec q hq n
  exact ⟨r', h1, h2, h3, by rw [h4, WM.Spec.IdSet.foldl_erase_eq_diff]⟩

/-- inherited `intersection_update` (`for n in self: if n not in other: self.discard(n)`): intersection -/
theorem rev_intersection_update (r : Rev) (h : r.inner.WF) (o : Other) :
    ∃ r', r.intersectionUpdate o = .ok r' ∧ r'.inner.WF ∧ r'.limit = r.limit ∧ r'.iter = S.inter r.iter o.items := by
  obtain ⟨r', h1, h2, h3, h4⟩ := Rev.foldE_refines (fun acc n => if o.contains n then .ok acc else acc.discard n)
    (fun a n => if o.contains n then a else S.erase n a) r.iter r h fun q hq _ n _ => by
      by_cases hc : o.contains n = true
      · rw [if_pos hc, if_pos hc]; exact .ok ⟨hq, rfl, rfl⟩
      · rw [if_neg hc, if_neg hc]; exact Rev.discard_spec q hq n
  exact ⟨r', h1, h2, h3, by rw [h4, WM.Spec.IdSet.foldl_erase_unless_self, filter_other]⟩
example : ∃ r', (Rev.mk (.sorted [2, 5]) 8).intersectionUpdate (.list [7, 3, 5, 0] true) = .ok r' ∧
    r'.iter = [0, 3, 7] := by
  rcases rev_intersection_update (Rev.mk (.sorted [2, 5]) 8) (by unfold Inner.WF Sorted; decide)
    (.list [7, 3, 5, 0] true) with ⟨r', h1, _, _, h4⟩
  exact ⟨r', h1, by rw [h4]; decide⟩

/-- Full statement for the rest of the set API of `ReverseIdSet` — false: recorded findings. -/
def rev_api_full : Prop := ∀ (r : Rev) (i : Int), r.inner.WF →
  r.before i = .ok (S.before r.iter i) ∧ r.after i = .ok (S.after r.iter i) ∧
    ∃ c, r.copy = .ok c ∧ c.iter = r.iter
/-- What the code does instead: `before/after/copy` — and `union/intersection/difference/invert`,
    which begin with `self.copy()` — raise `NotImplementedError` (inherited `DocIdSet` defaults). -/
theorem rev_unsupported (r : Rev) (i : Int) (o : Other) (n : Nat) :
    r.before i = .error .notImpl ∧ r.after i = .error .notImpl ∧ r.copy = .error .notImpl ∧
      r.union o = .error .notImpl ∧ r.intersection o = .error .notImpl ∧
      r.difference o = .error .notImpl ∧ r.invert n = .error .notImpl :=
  ⟨rfl, rfl, rfl, rfl, rfl, rfl, rfl⟩
example : ¬ rev_api_full := by
  intro h
  have := (h (Rev.mk (.sorted []) 3) 1 (by unfold Inner.WF Sorted; decide)).1
  cases this

/-- concrete witnesses of the out-of-range behaviour: `9 in ReverseIdSet({2}, 8)` although 9 is not
    iterated; `len` of a set wrapping `{2, 11}` with limit 3 is 1 while two ids are iterated. -/
example : (Rev.mk (.bits [4]) 8).contains 9 = .ok true ∧ 9 ∉ (Rev.mk (.bits [4]) 8).iter :=
  rev_contains_out_of_range (Rev.mk (.bits [4]) 8) (by unfold Inner.WF; decide) 9 (by decide) (by decide)
example : (Rev.mk (.sorted [2, 11]) 3).len = .ok 1 ∧ (Rev.mk (.sorted [2, 11]) 3).iter = [0, 1] :=
  ⟨by rw [rev_len_exact _ (by unfold Inner.WF Sorted; decide)]; rfl, by decide⟩

example : (Rev.mk (.sorted [2, 5]) 8).iter = [0, 1, 3, 4, 6, 7] := by decide
example : Inner.WF (.sorted [2, 5]) := by unfold Inner.WF Sorted; decide

/-! ## MultiIdSet (serial sub-sets, `Multi.WF`) -/

theorem multi_iter_sorted (m : Multi) (h : m.WF) : Sorted m.iter := Multi.sorted_iter m h
theorem multi_contains (m : Multi) (h : m.WF) (item : Nat) :
    m.contains item = .ok (decide (item ∈ m.iter)) := Multi.contains_spec m h item
theorem multi_len (m : Multi) (h : m.WF) : m.len = .ok m.iter.length := by
  unfold Multi.len Multi.iter
  rw [Multi.len_aux m.sets m.offsets h.len_eq h.wf 0]
  simp

/-- Full statement for `first/last/before/after/copy` of `MultiIdSet` — false: recorded findings. -/
def multi_api_full : Prop := ∀ (m : Multi) (i : Int), m.WF →
  m.first = .ok (S.first m.iter) ∧ m.last = .ok (S.last m.iter) ∧
    m.before i = .ok (S.before m.iter i) ∧ m.after i = .ok (S.after m.iter i) ∧
    ∃ c, m.copy = .ok c ∧ c.iter = m.iter
/-- What the code does: they raise `NotImplementedError`, and so do `union/intersection/difference/
    invert` (through `copy()`); `MultiIdSet` is documented read-only, so there are no mutators. -/
theorem multi_unsupported (m : Multi) (i : Int) (o : Other) (n : Nat) :
    m.first = .error .notImpl ∧ m.last = .error .notImpl ∧ m.before i = .error .notImpl ∧
      m.after i = .error .notImpl ∧ m.copy = .error .notImpl ∧ m.union o = .error .notImpl ∧
      m.intersection o = .error .notImpl ∧ m.difference o = .error .notImpl ∧
      m.invert n = .error .notImpl :=
  ⟨rfl, rfl, rfl, rfl, rfl, rfl, rfl, rfl, rfl⟩

example : (Multi.mk [.sorted [1, 2], .sorted [0, 3]] [0, 10]).iter = [1, 2, 10, 13] := by decide

theorem multi_wf_witness : (Multi.mk [.sorted [1, 2], .sorted [0, 3]] [0, 10]).WF where
  len_eq := rfl
  nonempty := by decide
  first := rfl
  mono := fun i j hij hj => by
    have hp : ([0, 10] : List Nat).Pairwise (· ≤ ·) := by decide
    rcases Nat.eq_or_lt_of_le hij with rfl | hlt
    · exact Nat.le_refl _
    · exact List.pairwise_iff_getElem.mp hp i j _ hj hlt
  fits := fun k hk _ => by
    obtain rfl : k = 0 := by simp at hk; omega
    decide +revert
  wf := fun s hs => by
    simp only [List.mem_cons, List.not_mem_nil, or_false] at hs
    rcases hs with rfl | rfl <;> (unfold Inner.WF Sorted; decide)

example : (Multi.mk [.sorted [1, 2], .sorted [0, 3]] [0, 10]).WF := multi_wf_witness

example : ¬ multi_api_full := fun h => nomatch (h _ 0 multi_wf_witness).1

end WM.C20
