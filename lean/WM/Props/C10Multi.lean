import WM.Lemmas.CodecMulti
/-! C10 — term statistics asked through a reader over several segments (`MultiReader.term_info` →
`reading.combine_terminfos`) are the true aggregates of the term's whole posting list. -/
namespace WM.C10
open WM.Codec

/-- **Term statistics over several segments.**  Give `combine_terminfos` the statistics of the term in
    each segment that contains it (each the aggregates of that segment's non-empty posting list, with
    segment-relative document numbers) together with the segment's document offset: the result is the
    aggregates — document frequency, total weight, min/max length, max weight, smallest/largest id — of
    the concatenated posting list in the numbering of the reader over all segments.  For every number
    of segments (one segment takes the in-place branch) and any offsets. -/
theorem multi_terminfo (segs : List (List MP × Int)) (hne : segs ≠ []) (hseg : ∀ s ∈ segs, s.1 ≠ []) :
    combineTerminfos (segs.map fun s => (aggStats s.1, s.2)) = some (aggStats (segs.flatMap shiftSeg)) := by
  rw [combineTerminfos_eq _ (by simpa using hne)]
  -- what the shift to global document numbers does to the three columns of a segment
  have hw : ∀ s : List MP × Int, (shiftSeg s).map (·.weight) = s.1.map (·.weight) :=
    fun s => List.map_map
  have hl : ∀ s : List MP × Int, (shiftSeg s).map (·.length) = s.1.map (·.length) :=
    fun s => List.map_map
  have hid : ∀ s : List MP × Int, (shiftSeg s).map (·.id) = (s.1.map (·.id)).map (· + s.2) :=
    fun s => by rw [shiftSeg, List.map_map, List.map_map]; rfl
  have hcol : ∀ {α : Type} (proj : MP → α), ∀ s ∈ segs, (shiftSeg s).map proj ≠ [] :=
    fun proj s hs => by simpa [shiftSeg] using hseg s hs
  -- every statistic is per segment the fold of a column of the shifted segment
  congr 1
  unfold combineGen aggStats
  congr 1
  · rw [List.map_map, List.map_flatMap]
    exact foldl_map_flatMap (· + ·) Rat.add_assoc 0 Rat.zero_add Rat.add_zero _ segs _
      (fun s _ => (congrArg (fun l => l.foldl (· + ·) 0) (hw s)).symm)
  · rw [List.map_map, List.length_flatMap, List.sum_eq_foldl_nat]
    exact congrArg (fun l => l.foldl (· + ·) 0) (List.map_congr_left fun s _ => (List.length_map _).symm)
  · rw [List.map_map, List.map_flatMap]
    exact fold1_map_flatMap min Nat.min_assoc 0 _ segs hne (hcol _) _
      (fun s _ => (congrArg (fold1 min 0) (hl s)).symm)
  · rw [List.map_map, List.map_flatMap]
    exact fold1_map_flatMap max Nat.max_assoc 0 _ segs hne (hcol _) _
      (fun s _ => (congrArg (fold1 max 0) (hl s)).symm)
  · rw [List.map_map, List.map_flatMap]
    exact fold1_map_flatMap wStep wStep_assoc 0 _ segs hne (hcol _) _
      (fun s _ => (congrArg (fold1 wStep 0) (hw s)).symm)
  · rw [List.map_map, List.map_flatMap]
    exact fold1_map_flatMap min Int.min_assoc 0 _ segs hne (hcol _) _ (fun s hs => by
      rw [hid, fold1_map_hom min (· + s.2) (fun a b => Int.min_add_right a b s.2) 0 _
        (by simpa using hseg s hs)]; rfl)
  · rw [List.map_map, List.map_flatMap]
    exact fold1_map_flatMap max Int.max_assoc 0 _ segs hne (hcol _) _ (fun s hs => by
      rw [hid, fold1_map_hom max (· + s.2) (fun a b => Int.max_add_right a b s.2) 0 _
        (by simpa using hseg s hs)]; rfl)

/-- `combine_terminfos` evaluated: on two segments (offsets 0 and 3, the general branch), and on a
    single segment at offset 4 (the one-element branch); the ids are shifted exactly once. -/
example : combineTerminfos [(aggStats [⟨0, 1, 3⟩, ⟨2, 2, 5⟩], 0), (aggStats [⟨1, (1 : Rat) / 2, 2⟩], 3)]
    = some { weight := (7 : Rat) / 2, df := 3, minlength := 2, maxlength := 5, maxweight := 2, minid := 0, maxid := 4 } ∧
    combineTerminfos [(aggStats [⟨1, 1, 2⟩, ⟨2, 3, 7⟩], 4)]
    = some { weight := 4, df := 2, minlength := 2, maxlength := 7, maxweight := 3, minid := 5, maxid := 6 } := by
  decide +kernel

end WM.C10
