import WM.Lemmas.CodecAgg
import WM.Lemmas.CodecBytes
/-!
# C10, byte level — the term info record read back from its bytes

`reader.term_info`, `reader.frequency` and `reader.doc_frequency` never see the `W3TermInfo` object
the writer built, only the bytes `to_bytes()` put into the terms table.  The theorem below ties the
byte layout (`struct "!BfIBBfII"`, then the extent `!q !i` or the inlined pickle) to
`TermInfo.throughBytes`, the lossy conversion `terminfo_through_bytes` is stated with.
-/
namespace WM.C10
open WM.Codec
open WM.Columns (unbe)

/-- **`W3TermInfo.from_bytes ∘ to_bytes`, and the fixed-position readers.**  Whenever `to_bytes`
    succeeds (it does when `df` and the ids fit an unsigned 32-bit and the extent a signed
    64/32-bit number — second part), parsing the bytes gives back the posting reference unchanged
    and the statistics `TermInfo.throughBytes` describes (weights through float32, lengths through
    the length byte, `None`/`0xffffffff` ids as the sentinel); `read_weight`, `read_doc_freq`,
    `read_min_and_max_length`, `read_max_weight` read the same numbers at their fixed offsets
    1, 5, 9/10 and 11 without unpacking the record. -/
theorem terminfo_bytes (packF : Rat → Bytes) (unpackF : Bytes → Rat) (f32 : Rat → Rat)
    (hlen : ∀ w, (packF w).length = 4) (hrt : ∀ w, unpackF (packF w) = f32 w)
    (t : TermInfo Int) (ref : PostRef) :
    (∀ bs, tiToBytes packF t ref = some bs →
      ∃ p tb, tiFromBytes unpackF bs = some (p, ref) ∧ TermInfo.throughBytes f32 t = .ok tb ∧
        p.weight = tb.weight ∧ p.df = tb.df ∧ p.minlength = tb.minlength ∧ p.maxlength = tb.maxlength ∧
        p.maxweight = tb.maxweight ∧ p.minid = tb.minid ∧ p.maxid = tb.maxid ∧
        tiReadWeight unpackF bs = tb.weight ∧ tiReadDocFreq bs = tb.df ∧
        tiReadMinMaxLength bs = (tb.minlength, some tb.maxlength) ∧ tiReadMaxWeight unpackF bs = tb.maxweight) ∧
    ((t.df < 4294967296 ∧ (∀ i, t.minid = some i → 0 ≤ i ∧ i < 4294967296) ∧
      (∀ i, t.maxid = some i → 0 ≤ i ∧ i < 4294967296) ∧
      (∀ o l, ref = .extent o l → -(2 : Int) ^ 63 ≤ o ∧ o < 2 ^ 63 ∧ -(2 : Int) ^ 31 ≤ l ∧ l < 2 ^ 31)) →
      ∃ bs, tiToBytes packF t ref = some bs) := by
  constructor
  · intro bs h
    obtain ⟨df, mn, mx, post, hdf, hmn, hmx, hpost, rfl⟩ := tiToBytes_eq_some.mp h
    obtain ⟨ldf, vdf⟩ := packU32_spec hdf
    obtain ⟨lmn, vmn⟩ := packU32_spec hmn
    obtain ⟨lmx, vmx⟩ := packU32_spec hmx
    obtain ⟨mnl, hmnl⟩ := byteToLength_lengthToByte t.minlength
    obtain ⟨mxl, hmxl⟩ := byteToLength_lengthToByte (some t.maxlength)
    rw [← minLenByte_eq] at hmnl
    obtain ⟨hfrom, r1, r2, r3, r4⟩ := ti_record unpackF ref.flag (minLenByte t.minlength)
      (lengthToByte (some t.maxlength)) (packF t.weight) df (packF t.maxweight) mn mx post
      (hlen _) ldf (hlen _) lmn lmx
    have hfrom := hfrom hmnl hmxl
    rw [PostRef.bytes_spec hpost] at hfrom
    have hdfn : unbe df = t.df := by omega
    refine ⟨_, { t with weight := f32 t.weight, minlength := some mnl, maxlength := mxl,
                        maxweight := f32 t.maxweight, minid := unNoId t.minid, maxid := unNoId t.maxid },
      hfrom, by simp only [TermInfo.throughBytes, hmnl, hmxl], ?_⟩
    refine ⟨hrt _, hdfn, rfl, rfl, hrt _, unNoId_idOrSentinel _ _ vmn, unNoId_idOrSentinel _ _ vmx, ?_⟩
    exact ⟨r1.trans (hrt _), r2.trans hdfn, r3.trans (by rw [hmnl, hmxl]), r4.trans (hrt _)⟩
  · rintro ⟨hdf, hmn, hmx, hext⟩
    have hid : ∀ o : Option Int, (∀ i, o = some i → 0 ≤ i ∧ i < 4294967296) →
        ∃ b, packU32 (idOrSentinel o) = some b := by
      intro o ho
      cases o with
      | none => exact ⟨_, packU32_eq_some.mpr ⟨by decide, rfl⟩⟩
      | some i => exact ⟨_, packU32_eq_some.mpr ⟨ho i rfl, rfl⟩⟩
    obtain ⟨mn, hmn⟩ := hid t.minid hmn
    obtain ⟨mx, hmx⟩ := hid t.maxid hmx
    obtain ⟨post, hpost⟩ : ∃ b, ref.bytes = some b := by
      cases ref with
      | inlined q => exact ⟨_, rfl⟩
      | extent o l =>
        obtain ⟨a, b, c, d⟩ := hext o l rfl
        obtain ⟨x, ho⟩ : ∃ x, packSigned 8 o = some x := ⟨_, if_pos ⟨a, b⟩⟩
        obtain ⟨y, hl⟩ : ∃ y, packSigned 4 l = some y := ⟨_, if_pos ⟨c, d⟩⟩
        exact ⟨x ++ y, by simp only [PostRef.bytes, ho, hl]; rfl⟩
    exact ⟨_, tiToBytes_eq_some.mpr
      ⟨_, mn, mx, post, packU32_eq_some.mpr ⟨⟨by omega, by omega⟩, rfl⟩, hmn, hmx, hpost, rfl⟩⟩

end WM.C10
