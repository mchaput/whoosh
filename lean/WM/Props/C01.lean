import WM.Lemmas.SearchIndex
import WM.Lemmas.SearchWF
/-!
C01 — search returns exactly the documents that satisfy the query (list level).

`compile` is the list each per-segment matcher tree enumerates (`WM/Model/Compile.lean`), `sat` the
documented meaning, `answer` what a search must return (`WM/Spec/Search.lean`).  Hypotheses:

* `ValidOracle so` — whatever binary tree the implementation builds over the clauses of a compound
  (`make_binary_tree`, `make_weighted_tree`: any shape, any order), its leaves are the clauses;
* `PosQ q`, `PosLeaf ls s` — boosts and leaf scores are positive (the array union decides
  membership by `score > 0`, `ListMatcher(all_weights=0)` scores 1: see the negative example for the former).

The empty term is a term like any other (an ID field whose value is "" indexes it): the expansion
of a multi-term query in `MultiTerm.matcher` includes it, so the theorems need no hypothesis about it.
In one corner the specification itself differs from the code: `TermRange(start=None, startexcl=True)`
skips the empty term (`TermRange._btexts` compares with `b""`), `TermPred.test (.range none _ true _)`
accepts it; the theorems relate model and specification and hold there too, the tie to the code does not.
-/
namespace WM.C01
open WM.Search WM.Compile

/-- The ids of the list compiled for a segment are exactly the live documents of the segment that
    satisfy the query — in every search context (scored or not, `needs_current` or not), for every
    binary tree shape over the clauses, and for each `Or` strategy the implementation may pick. -/
theorem matcher_den (ls : LeafScore) (so : ShapeOracle) (s : Segment) (hso : ValidOracle so)
    (hleaf : PosLeaf ls s) (q : Query) (hq : PosQ q) (ctx : Ctx) :
    (compile ls so s ctx q).map (·.id) = s.live.filter (fun i => sat q (s.doc i)) :=
  (compile_same ls so s hso hleaf q hq ctx).1.trans (segHits_ids ls q s)

/-- Running one matcher per segment and shifting by the segment offsets (`Collector.run`,
    `Searcher.docs_for_query`) yields exactly `answer`: the live documents of the whole index that
    satisfy the query, in ascending global doc-number order. -/
theorem segments (ls : LeafScore) (so : ShapeOracle) (hso : ValidOracle so) (idx : Index)
    (hok : IndexOK ls idx) (q : Query) (hq : PosQ q) (ctx : Ctx) :
    (run ls so ctx q idx).map (·.id) = answer q idx :=
  (runFrom_same ls so hso q hq ctx idx 0 hok).1.trans (hits_ids ls q idx)

/-- The matched set does not depend on the search context or on the tree shapes: two runs with
    arbitrary contexts `(needs_current, scored)` — the ones behind scored stepping, `terms=True`,
    unscored collection and `docs_for_query`'s boolean context — and arbitrary valid shape oracles
    return the same id list, namely `answer` (first conjunct; the second, its length, is a corollary
    of `segments`).  The third conjunct is a fact about the specification only: `rankAll` (the order a
    scored search must return) is a permutation of `answer`.  `limit`, `sortedby`, filters and the
    `Query.docs` overrides (`Require.docs`, `AndMaybe.docs`) are not parameters of this statement: they
    are compared on the real code by the end-to-end run (and are C05/C14's theorems). -/
theorem paths_agree (ls : LeafScore) (so so' : ShapeOracle) (hso : ValidOracle so) (hso' : ValidOracle so')
    (idx : Index) (hok : IndexOK ls idx) (q : Query) (hq : PosQ q) (ctx ctx' : Ctx) :
    (run ls so ctx q idx).map (·.id) = (run ls so' ctx' q idx).map (·.id) ∧
    (run ls so ctx q idx).length = (answer q idx).length ∧
    ((rankAll ls q idx).map (·.id)).Perm (answer q idx) := by
  have h1 := segments ls so hso idx hok q hq ctx
  exact ⟨h1.trans (segments ls so' hso' idx hok q hq ctx').symm,
    (List.length_map _).symm.trans (congrArg List.length h1), hits_ids ls q idx ▸ (rankAll_perm ls q idx).map (·.id)⟩

/-- **`Query.docs` overrides.**  `Require.docs` evaluates `And([a, b])`, `AndMaybe.docs` evaluates its first
    operand (recursively through that operand's own `docs`), all other classes their own matcher in the
    boolean context: the query actually evaluated (`docsForm q`) has the same answer as `q`, and running
    its per-segment matchers in the boolean context yields exactly `answer q idx`.  (The real method runs
    one matcher on the top-level searcher; for a multi-segment reader that is a `MultiMatcher` over the
    per-segment postings — the matcher family's `multi` node, C11 `multi_constructor_wf` — here the run is
    segment by segment.) -/
theorem docs_overrides (ls : LeafScore) (so : ShapeOracle) (hso : ValidOracle so) (idx : Index)
    (hok : IndexOK ls idx) (q : Query) (hq : PosQ q) :
    answer (docsForm q) idx = answer q idx ∧
    (run ls so boolCtx (docsForm q) idx).map (·.id) = answer q idx := by
  have hans : answer (docsForm q) idx = answer q idx := hitsFrom_ids_congr (docsForm_spec q).1 _ _ idx 0
  exact ⟨hans, (segments ls so hso idx hok (docsForm q) ((docsForm_spec q).2 hq) boolCtx).trans hans⟩

/-! ### the hypotheses are satisfiable: a two-segment index with a deletion -/

def tok (t : Nat) (p : Nat) : Token := ⟨[t], p, 1⟩
def exSeg1 : Segment := ⟨[⟨[⟨"t", 1, [tok 98 0, tok 99 1], []⟩]⟩, ⟨[⟨"t", 2, [tok 97 0, tok 98 1], []⟩]⟩,
                          ⟨[⟨"t", 1, [tok 97 0], []⟩]⟩], [2]⟩
def exSeg2 : Segment := ⟨[⟨[⟨"t", 1, [tok 97 0, tok 99 3], []⟩]⟩, ⟨[⟨"t", 1, [tok 98 0], []⟩]⟩], []⟩
def exIdx : Index := [exSeg1, exSeg2]
def exQ : Query := .andNot (.or [.term "t" [97] 2, .phrase "t" [[97], [99]] 3 1, .multi "t" (.pfx [98]) 1 true] 1)
                     (.term "t" [99] 1)

theorem exIdx_wf : ∀ s ∈ exIdx, wfSegment s = true := by decide +kernel

theorem exIdx_ok : IndexOK freqLeaf exIdx := fun s hs => posLeaf_freq (exIdx_wf s hs)

theorem exQ_pos : PosQ exQ := posQ_of_posQuery exQ (by decide)

theorem exQ_hits : hits freqLeaf exQ exIdx = [⟨1, 5⟩, ⟨4, 1⟩] := by decide +kernel

example : IndexOK freqLeaf exIdx ∧ PosQ exQ ∧ ValidOracle balancedOracle ∧
    answer exQ exIdx = [1, 4] ∧
    (run freqLeaf balancedOracle ⟨false, true⟩ exQ exIdx).map (·.id) = [1, 4] :=
  have h : answer exQ exIdx = [1, 4] := congrArg (List.map Hit.id) exQ_hits
  ⟨exIdx_ok, exQ_pos, balancedOracle_valid, h,
   (segments freqLeaf balancedOracle balancedOracle_valid exIdx exIdx_ok exQ exQ_pos _).trans h⟩

/-- `docs_overrides` on a query where the overrides matter: `(aa ANDMAYBE cc) REQUIRE bb` is evaluated as
    `And([aa ANDMAYBE cc, bb])` -/
example : docsForm (.andMaybe (.require (.term "t" [97] 1) (.term "t" [98] 1)) (.term "t" [99] 1)) =
      .and [.term "t" [97] 1, .term "t" [98] 1] 1 ∧
    answer (.andMaybe (.require (.term "t" [97] 1) (.term "t" [98] 1)) (.term "t" [99] 1)) exIdx = [1] :=
  ⟨rfl, by decide +kernel⟩

/-! ### the positivity hypothesis is needed: a zero boost makes the array union drop documents
(`ArrayUnionMatcher` keeps a document only if its accumulated score is positive — except the first
of each part): three clauses in a scored, `needs_current=False` context -/

def zq : Query := .or [.term "t" [99] 0, .term "t" [120] 1, .term "t" [121] 1] 1
def zSeg : Segment := ⟨[⟨[⟨"t", 1, [tok 99 0], []⟩]⟩, ⟨[⟨"t", 1, [tok 99 0], []⟩]⟩], []⟩

example : (compile freqLeaf balancedOracle zSeg ⟨false, true⟩ zq).map (·.id) = [0] ∧
    zSeg.live.filter (fun i => sat zq (zSeg.doc i)) = [0, 1] ∧ ¬ PosQ zq :=
  ⟨by decide +kernel, by decide +kernel, fun h => Rat.lt_irrefl h.2.1⟩

end WM.C01
