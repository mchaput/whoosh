import WM.Lemmas.ListCorrector
import WM.Lemmas.FuzzyIndex
import WM.Lemmas.FuzzyMerge
import WM.Lemmas.LevEval
/-!
C19 - fuzzy matching and spelling suggestions are exact with respect to edit distance.

Specification: `WM.Edit.lev`, `WM.Edit.osa` (the documented distance), `WM.Edit.within`.
Model: `WM/Model/Lev.lean` (mirrors the whoosh code after the `fix:` commits of this family, which it names).
Strings of real characters are `Valid` (every code point is a Unicode scalar value: ≤ U+10FFFF
and not a surrogate); lexicons are `SortedLex` (code point order) resp. `SortedBytes` (the order of
the stored UTF-8 keys - the same order: `utf8_order`).

The chain, for all words / lexicons / limits / `d` / `p`: the DP routines compute `lev` / `osa`; the
Levenshtein NFA, its DFA and `next_valid_string` give the automaton path, which returns exactly
`within lev` (also over the byte-ordered dictionary); the generic multi-segment path returns exactly
`within osa`.  The property itself ("same for one segment or many, w.r.t. the documented distance") is
FALSE of the code: `single_segment_misses_transposition` is the witness, `multi_eq_single_partial`
holds under the hypothesis that excludes the recorded defect; for suggestions `suggest_partial` holds
and `suggest_returns_word`, `suggest_ignores_distance` witness the two recorded defects.
-/
namespace WM.C19
open WM.Edit WM.Lev

/-! ### Specification sanity -/

/-- The specification recursion `lev` computes the minimum cost of an edit script of insertions,
    deletions and substitutions. -/
theorem lev_min_script (a b : List Nat) (n : Nat) :
    lev a b ≤ n ↔ ∃ m, m ≤ n ∧ Script false a b m := ed_le_iff false a b n

/-- `osa` computes the minimum cost of a script that may also swap adjacent characters. -/
theorem osa_min_script (a b : List Nat) (n : Nat) :
    osa a b ≤ n ↔ ∃ m, m ≤ n ∧ Script true a b m := ed_le_iff true a b n

example : lev [1, 2, 3] [2, 1, 3] = 2 ∧ osa [1, 2, 3] [2, 1, 3] = 1 := by
  rw [lev_eq_dp, osa_eq_dp]; decide +kernel

/-- Transpositions only help. -/
theorem osa_le_lev (a b : List Nat) : osa a b ≤ lev a b := WM.Edit.osa_le_lev a b

/-- Both distances are symmetric (the code measures `distance(term, word)`, the automaton is built
    from the word and reads the term). -/
theorem dist_symm (a b : List Nat) : lev a b = lev b a ∧ osa a b = osa b a :=
  ⟨ed_symm false a b, ed_symm true a b⟩

/-- A common prefix can be stripped (why "share a prefix, then compare" is well defined). -/
theorem dist_strip_prefix (p a b : List Nat) :
    lev (p ++ a) (p ++ b) = lev a b ∧ osa (p ++ a) (p ++ b) = osa a b :=
  ⟨ed_append_left_same false p a b, ed_append_left_same true p a b⟩

/-! ### `support/levenshtein.py` -/

/-- `levenshtein(seq1, seq2)` returns the Levenshtein distance (and raises nothing). -/
theorem dp_lev (s1 s2 : List Nat) : levenshtein s1 s2 none = some (lev s1 s2) :=
  dp_none false s1 s2

/-- `damerau_levenshtein(seq1, seq2)` (= `distance`) returns the optimal-string-alignment
    distance. -/
theorem dp_osa (s1 s2 : List Nat) : damerauLevenshtein s1 s2 none = some (osa s1 s2) :=
  dp_none true s1 s2

/-- With a limit the result is the distance cut at `limit + 1`: the early exit returns
    `limit + 1` only when the true distance exceeds the limit, so `result ≤ limit` decides
    `distance ≤ limit` and a result within the limit is the exact distance. -/
theorem dp_lev_limit (s1 s2 : List Nat) (l : Nat) :
    ∃ r, levenshtein s1 s2 (some l) = some r ∧ min r (l + 1) = min (lev s1 s2) (l + 1) ∧
      (r ≤ l ↔ lev s1 s2 ≤ l) ∧ (r ≤ l → r = lev s1 s2) := dp_some false s1 s2 l

theorem dp_osa_limit (s1 s2 : List Nat) (l : Nat) :
    ∃ r, damerauLevenshtein s1 s2 (some l) = some r ∧ min r (l + 1) = min (osa s1 s2) (l + 1) ∧
      (r ≤ l ↔ osa s1 s2 ≤ l) ∧ (r ≤ l → r = osa s1 s2) := dp_some true s1 s2 l

/-- The early exit really engages: six deletions against limit 1 are reported as 2. -/
example : levenshtein [1, 2, 3, 4, 5, 6] [] (some 1) = some 2 ∧ lev [1, 2, 3, 4, 5, 6] [] = 6 := by
  rw [lev_eq_dp]; decide +kernel

/-! ### `automata/lev.py`, `automata/fsa.py`: the NFA -/

/-- A state `(i, e)` reachable on input `u` has `e ≤ k`, and - behind the required prefix -
    `e` is at least the Levenshtein distance between the first `i` characters of the term and `u`,
    which starts with the required prefix; inside the required prefix `u` is the term's prefix. -/
theorem nfa_reach_sound (term : List Nat) (k p : Nat) (u : List Nat) (i e : Nat)
    (h : (i, e) ∈ (levenshteinAutomaton term k p).run u) :
    e ≤ k ∧ i ≤ term.length ∧
      ((i < min p term.length ∧ e = 0 ∧ u = term.take i) ∨
       (min p term.length ≤ i ∧ term.take (min p term.length) <+: u ∧ lev (term.take i) u ≤ e)) :=
  sound_run (isLev term k p) u (i, e) h

/-- Conversely the state `(i, lev (term.take i) u)` *is* reached whenever that distance is within
    `k` and `u` starts with the required prefix. -/
theorem nfa_reach_complete (term : List Nat) (k p : Nat) (u : List Nat) (i : Nat)
    (hp : min p term.length ≤ i) (hi : i ≤ term.length)
    (hpre : term.take (min p term.length) <+: u) (hd : lev (term.take i) u ≤ k) :
    (i, lev (term.take i) u) ∈ (levenshteinAutomaton term k p).run u :=
  (complete_run (isLev term k p) u).2 i hp hi hpre hd

/-- **Acceptance**: the Levenshtein NFA built for `word` accepts `t` iff `t` passes the filter of
    `within lev`: shares the prefix of length `p` and `lev t word ≤ k`. -/
theorem nfa (word : List Nat) (k p : Nat) (t : List Nat) :
    (levenshteinAutomaton word k p).accept t = (sharePrefix p t word && decide (lev t word ≤ k)) :=
  nfa_accept_eq word k p t

example : (levenshteinAutomaton [97, 98, 99] 1 1).accept [97, 99] = true := by
  rw [nfa, lev_eq_dp]; decide +kernel

/-- **Subset construction** (`NFA.to_dfa` with ANY/default arcs): the construction ends within
    the model's fuel (the states it meets are pairwise different subsets of the NFA states) and the
    DFA accepts exactly the strings the NFA accepts (both proved for every NFA:
    `WM.Lev.NFA.toDfa_terminates`, `WM.Lev.NFA.toDfa_accept`); for the Levenshtein automaton that
    is the `within lev` filter. -/
theorem dfa (word : List Nat) (k p : Nat) :
    ∃ d, (levenshteinAutomaton word k p).toDfa = some d ∧
      ∀ t, d.accept (some d.initial) t = (sharePrefix p t word && decide (lev t word ≤ k)) :=
  lev_toDfa word k p

/-- **Lexicographic successor**: `next_valid_string` of the DFA of a Levenshtein automaton (for a
    word of real characters) always returns, and returns the least accepted string of real
    characters at or after its argument (`None` when there is none). -/
theorem next_valid (word : List Nat) (k p : Nat) (hv : Valid word) (d : DFA)
    (h : (levenshteinAutomaton word k p).toDfa = some d) :
    NextValidSpec (fun t => d.accept (some d.initial) t) (d.nextValidString (levChain word k)) :=
  lev_nextValidSpec word k p hv d h

/-! ### `codec/base.py`: the walk -/

/-- **The walk is exact given a correct successor function** (`NextValidSpec`: it returns the
    least accepted string at or after its argument; `next_valid` discharges this for the DFA of a
    Levenshtein automaton). -/
theorem walk (acc : List Nat → Bool) (nv : List Nat → Except Err (Option (List Nat)))
    (hnv : NextValidSpec acc nv) (lex : List (List Nat)) (hv : ∀ t, t ∈ lex → Valid t)
    (hs : SortedLex lex) :
    findMatches nv lex = .ok (lex.filter acc) := findMatches_spec acc nv hnv lex hv hs

/-- The hypothesis is satisfiable (and the walk then really skips): the successor function of the
    language `{[2]}`. -/
example :
    let acc : List Nat → Bool := fun t => t == [2]
    let nv : List Nat → Except Err (Option (List Nat)) :=
      fun s => .ok (if lexLe s [2] then some [2] else none)
    NextValidSpec acc nv ∧ findMatches nv [[1], [2], [3]] = .ok [[2]] := by
  intro acc nv
  refine ⟨fun s _ => ?_, rfl⟩
  have hacc : ∀ t, acc t = true → t = [2] := fun t h => by simpa [acc] using h
  cases h : lexLe s [2] with
  | true =>
    refine Or.inr ⟨[2], by simp only [nv, h]; rfl, rfl, (lexLe_iff _ _).mp h, fun t _ _ ht => ?_, by decide⟩
    rw [hacc t ht]; exact List.le_refl _
  | false =>
    refine Or.inl ⟨by simp only [nv, h]; rfl, fun t _ hst => ?_⟩
    cases hat : acc t with
    | false => rfl
    | true => rw [hacc t hat, ← lexLe_iff, h] at hst; cases hst

/-! ### `reading.py`: the two `terms_within` paths -/

/-- **Multi-segment path** (`IndexReader.terms_within`): exactly the lexicon terms that share the
    prefix and are within the documented (optimal string alignment) distance. -/
theorem terms_within_multi (lex : List (List Nat)) (w : List Nat) (d p : Nat) :
    termsWithinBase lex w d p = .ok (within osa lex w d p) := by
  unfold termsWithinBase within sharePrefix
  rw [baseLoop_eq, List.filter_filter]
  congr 1
  apply List.filter_congr
  intro t _
  rw [Bool.and_comm]

/-- **Single-segment path** (`SegmentReader.terms_within`): exactly the lexicon terms that share
    the prefix and are within *plain Levenshtein* distance of the word - for every word and
    sorted lexicon of real characters, every `d` and `p`; in particular the automaton is built,
    the walk terminates and nothing raises. -/
theorem terms_within_single (lex : List (List Nat)) (w : List Nat) (d p : Nat) (hw : Valid w)
    (hv : ∀ t, t ∈ lex → Valid t) (hs : SortedLex lex) :
    termsWithinSeg lex w d p = .ok (within lev lex w d p) :=
  termsWithinSeg_eq lex w d p hw hv hs

/-! ### Code points vs bytes -/

/-- **UTF-8 byte order is code point order** (for every pair of strings; no range restriction is
    needed for the order), so a term dictionary sorted by key bytes is sorted by code points. -/
theorem utf8_order (s t : List Nat) : (utf8 s < utf8 t ↔ s < t) ∧ (utf8 s ≤ utf8 t ↔ s ≤ t) :=
  ⟨utf8_lt_iff s t, utf8_le_iff s t⟩

/-- ... in particular for non-BMP and surrogate-adjacent characters, where UTF-16 code unit order
    would differ: U+FFFF < U+10000 and U+D7FF < U+E000 as bytes. -/
example : utf8 [0xFFFF] = [0xEF, 0xBF, 0xBF] ∧ utf8 [0x10000] = [0xF0, 0x90, 0x80, 0x80] ∧
    utf8 [0xD7FF] = [0xED, 0x9F, 0xBF] ∧ utf8 [0xE000] = [0xEE, 0x80, 0x80] ∧
    utf8 [0x10FFFF] = [0xF4, 0x8F, 0xBF, 0xBF] ∧ utf8 [0x7F, 0x80, 0x7FF, 0x800] =
      [0x7F, 0xC2, 0x80, 0xDF, 0xBF, 0xE0, 0xA0, 0x80] := by
  decide +kernel

/-- The encoding is injective (the stored key determines the term). -/
theorem utf8_injective (s t : List Nat) (h : utf8 s = utf8 t) : s = t := WM.Lev.utf8_injective h

/-- **The byte-level cursor**: `cur.find(term)` - encode, first key `≥` in byte order, decode -
    raises nothing for a term of real characters and lands on the first term `≥ term` in code
    point order; stated for any strictly monotone encoding and for UTF-8.  A string with a
    surrogate cannot be looked up (`UnicodeEncodeError`). -/
theorem cursor_bytes (lex : List (List Nat)) (term : List Nat) :
    (∀ enc : List Nat → List Nat, (∀ s t, enc s < enc t ↔ s < t) →
      (lex.find? fun t => lexLe (enc term) (enc t)) = cursorFind lex term) ∧
    (Valid term → cursorFindBytes lex term = .ok (cursorFind lex term)) ∧
    cursorFindBytes lex [97, 0xD800] = .error .encodeError :=
  ⟨fun enc henc => cursor_enc enc henc lex term, cursorFindBytes_eq lex, cursorFindBytes_surrogate lex⟩

/-- **Single-segment path over the byte-ordered term dictionary**: walking the Levenshtein DFA in
    code point order against a cursor that compares UTF-8 bytes returns exactly the lexicon terms
    that share the prefix and are within plain Levenshtein distance - no `UnicodeEncodeError`
    (after "fix: DFA.find_next_edge steps over the surrogate block"), no term skipped. -/
theorem terms_within_single_bytes (lex : List (List Nat)) (w : List Nat) (d p : Nat) (hw : Valid w)
    (hv : ∀ t, t ∈ lex → Valid t) (hs : SortedBytes lex) :
    termsWithinSegBytes lex w d p = .ok (within lev lex w d p) :=
  termsWithinSegBytes_eq lex w d p hw hv hs

/-- A lexicon in byte order with 2-, 3- and 4-byte characters on both sides of the surrogate
    block; the walk for `a` within distance 1 steps over `a\ud7ff` ... `a\U00010000`. -/
example : termsWithinSegBytes [[97, 0xD7FF], [97, 0xE000, 0xE9], [97, 0x10000], [98]] [97] 1 0 =
    .ok [[97, 0xD7FF], [97, 0x10000], [98]] := by
  rw [terms_within_single_bytes _ _ _ _ (by decide) (by decide) (by decide)]
  simp only [within, lev_eq_dp]; decide +kernel

/-! ### `reading.py`: the multi-segment reader's merged term list, `expand_prefix` -/

/-- **`MultiReader._merge_terms`** (behind `MultiReader.terms_from/lexicon/expand_prefix`): over
    the strictly sorted term lists of the segments the heap merge ends (the model's fuel is never
    used up), raises nothing and yields the strictly sorted union - every term of every segment,
    once. -/
theorem merge_terms (segs : List (List (List Nat))) (hs : ∀ lex, lex ∈ segs → SortedLex lex) :
    ∃ m, mergeTerms segs = .ok m ∧ SortedLex m ∧ ∀ t, t ∈ m ↔ ∃ lex, lex ∈ segs ∧ t ∈ lex :=
  mergeTerms_spec segs hs

/-- Three segments with overlapping terms (and an empty one): each term comes out once, in order. -/
example : mergeTerms [[[97], [98, 97]], [], [[97], [97, 98]], [[98, 97], [99]]] =
    .ok [[97], [97, 98], [98, 97], [99]] := by rfl

/-- **`MultiReader.expand_prefix`**: merging the segments' `terms_from(prefix)` and stopping at the
    first term that does not start with the prefix yields exactly the terms of the merged list that
    start with it (they are contiguous: `WM.Lev.prefix_convex`). -/
theorem expand_prefix_multi (segs : List (List (List Nat))) (pre : List Nat)
    (hs : ∀ lex, lex ∈ segs → SortedLex lex) :
    ∃ m, mergeTerms segs = .ok m ∧
      expandPrefixMulti segs pre = .ok (m.filter fun t => pre.isPrefixOf t) := by
  obtain ⟨m, hm, _, _⟩ := mergeTerms_spec segs hs
  exact ⟨m, hm, expandPrefixMulti_spec segs pre hs m hm⟩

/-- The early exit really cuts: `c` follows the `b…` terms and is never looked at. -/
example : expandPrefixMulti [[[97], [98, 97]], [[98], [99]]] [98] = .ok [[98], [98, 97]] := by rfl

/-- **Multi-segment path from the segments** (`MultiReader.terms_within`: merge of the segments'
    `terms_from`, `expand_prefix`, distance filter): the result is `within osa` of the merged term
    list, which is the strictly sorted union of the segment term lists.  Composes `merge_terms`,
    `expand_prefix_multi` and `terms_within_multi`. -/
theorem terms_within_multi_index (segs : List (List (List Nat))) (w : List Nat) (d p : Nat)
    (hs : ∀ lex, lex ∈ segs → SortedLex lex) :
    ∃ m, mergeTerms segs = .ok m ∧ SortedLex m ∧ (∀ t, t ∈ m ↔ ∃ lex, lex ∈ segs ∧ t ∈ lex) ∧
      termsWithinMulti segs w d p = .ok (within osa m w d p) ∧
      ∀ t, t ∈ within osa m w d p ↔
        (∃ lex, lex ∈ segs ∧ t ∈ lex) ∧ sharePrefix p t w = true ∧ osa t w ≤ d := by
  obtain ⟨m, hm, hsm, hmem⟩ := mergeTerms_spec segs hs
  refine ⟨m, hm, hsm, hmem, ?_, ?_⟩
  · unfold termsWithinMulti
    rw [expandPrefixMulti_spec segs (w.take p) hs m hm]
    exact terms_within_multi m w d p
  · intro t
    unfold within
    rw [List.mem_filter, hmem, Bool.and_eq_true, decide_eq_true_eq]

/-- Two segments, the transposition neighbour `ba` lives in the second one: the multi-segment path
    returns it (documented distance 1), and `c` of the first segment is cut by the bound. -/
example : termsWithinMulti [[[97, 98], [99]], [[98, 97]]] [97, 98] 1 0 = .ok [[97, 98], [98, 97]] := by
  decide +kernel

/-- **The same for every segment layout** (multi-segment path): two layouts of the same set of
    terms give the same `terms_within` result - as lists, in the same order. -/
theorem terms_within_multi_layout (segs segs' : List (List (List Nat))) (w : List Nat) (d p : Nat)
    (hs : ∀ lex, lex ∈ segs → SortedLex lex) (hs' : ∀ lex, lex ∈ segs' → SortedLex lex)
    (hsame : ∀ t, (∃ lex, lex ∈ segs ∧ t ∈ lex) ↔ (∃ lex, lex ∈ segs' ∧ t ∈ lex)) :
    termsWithinMulti segs w d p = termsWithinMulti segs' w d p := by
  obtain ⟨m, _, hsm, hmem, h, _⟩ := terms_within_multi_index segs w d p hs
  obtain ⟨m', _, hsm', hmem', h', _⟩ := terms_within_multi_index segs' w d p hs'
  have : m = m' := pairwise_ext List.lt_asymm hsm hsm' (fun t => by rw [hmem, hmem', hsame])
  rw [h, h', this]

/-- One segment `{a, ab, b}` against the three segments `{ab}`, `{a, b}`, `{b}`. -/
example : termsWithinMulti [[[97], [97, 98], [98]]] [97] 1 0 =
    termsWithinMulti [[[97, 98]], [[97], [98]], [[98]]] [97] 1 0 := by
  apply terms_within_multi_layout _ _ _ _ _ (by decide) (by decide)
  intro t
  rw [← List.mem_flatten]
  revert t
  decide

/-- Full statement of "the same for one segment or many". -/
def multi_eq_single_full : Prop :=
  ∀ (lex : List (List Nat)) (w : List Nat) (d p : Nat), Valid w → (∀ t, t ∈ lex → Valid t) → SortedLex lex →
    termsWithinSeg lex w d p = termsWithinBase lex w d p

/-- `_partial`: the two paths agree when no term of the lexicon is closer to the word by
    transpositions than without them - the hypothesis that excludes the recorded defect.  The
    full statement `multi_eq_single_full` is false: `single_segment_misses_transposition`. -/
theorem multi_eq_single_partial (lex : List (List Nat)) (w : List Nat) (d p : Nat) (hw : Valid w)
    (hv : ∀ t, t ∈ lex → Valid t) (hs : SortedLex lex)
    (hsame : ∀ t, t ∈ lex → sharePrefix p t w = true → (osa t w ≤ d ↔ lev t w ≤ d)) :
    termsWithinSeg lex w d p = termsWithinBase lex w d p := by
  rw [terms_within_single lex w d p hw hv hs, terms_within_multi]
  congr 1
  unfold within
  apply List.filter_congr
  intro t ht
  cases hsp : sharePrefix p t w with
  | false => simp
  | true => simp [hsame t ht hsp]

/-- The hypothesis of `multi_eq_single_partial` is satisfiable on a lexicon where the bound
    really cuts. -/
example : termsWithinSeg [[97], [97, 98, 99], [98, 98, 98]] [97, 98] 1 1 =
    termsWithinBase [[97], [97, 98, 99], [98, 98, 98]] [97, 98] 1 1 ∧
    termsWithinBase [[97], [97, 98, 99], [98, 98, 98]] [97, 98] 1 1 = .ok [[97], [97, 98, 99]] := by
  constructor
  · apply multi_eq_single_partial _ _ _ _ (by decide) (by decide) (by decide)
    simp only [lev_eq_dp, osa_eq_dp]; decide +kernel
  · decide +kernel

/-- **One optimized segment vs. the same terms in any segment layout** (`_partial`, the property's
    "the same for one segment or many" over real layouts): the automaton path on the single segment
    that holds the merged term list agrees with the multi-segment path over the layout, when no
    term is closer to the word by transpositions than without them (the hypothesis that excludes the
    recorded defect; without it `single_segment_misses_transposition`).  Composes
    `terms_within_multi_index`, `multi_eq_single_partial` and `terms_within_multi`. -/
theorem layout_eq_optimized_partial (segs : List (List (List Nat))) (w : List Nat) (d p : Nat) (hw : Valid w)
    (hv : ∀ lex, lex ∈ segs → ∀ t, t ∈ lex → Valid t) (hs : ∀ lex, lex ∈ segs → SortedLex lex)
    (hsame : ∀ lex, lex ∈ segs → ∀ t, t ∈ lex → sharePrefix p t w = true → (osa t w ≤ d ↔ lev t w ≤ d)) :
    ∃ m, mergeTerms segs = .ok m ∧ termsWithinSeg m w d p = termsWithinMulti segs w d p := by
  obtain ⟨m, hm, hsm, hmem, htw, _⟩ := terms_within_multi_index segs w d p hs
  refine ⟨m, hm, ?_⟩
  rw [htw, ← terms_within_multi m w d p]
  apply multi_eq_single_partial m w d p hw _ hsm
  · intro t ht hsp
    obtain ⟨lex, hl, htl⟩ := (hmem t).mp ht
    exact hsame lex hl t htl hsp
  · intro t ht
    obtain ⟨lex, hl, htl⟩ := (hmem t).mp ht
    exact hv lex hl t htl

/-- The hypotheses are satisfiable on a layout where the bound really cuts: `{a, bbb}`, `{abc, bbb}`. -/
example : ∃ m, mergeTerms [[[97], [98, 98, 98]], [[97, 98, 99], [98, 98, 98]]] = .ok m ∧
    termsWithinSeg m [97, 98] 1 1 = termsWithinMulti [[[97], [98, 98, 98]], [[97, 98, 99], [98, 98, 98]]] [97, 98] 1 1 := by
  apply layout_eq_optimized_partial _ _ _ _ (by decide) (by decide) (by decide)
  simp only [lev_eq_dp, osa_eq_dp]; decide +kernel

/-- The single-segment path never returns a term outside the documented ball (it can only miss
    terms): `within lev ⊆ within osa`. -/
theorem single_subset_documented (lex : List (List Nat)) (w : List Nat) (d p : Nat) (t : List Nat)
    (h : t ∈ within lev lex w d p) : t ∈ within osa lex w d p := by
  unfold within at h ⊢
  rw [List.mem_filter] at h ⊢
  refine ⟨h.1, ?_⟩
  simp only [Bool.and_eq_true, decide_eq_true_eq] at h ⊢
  exact ⟨h.2.1, Nat.le_trans (osa_le_lev t w) h.2.2⟩

/-- **The property is false of the single-segment path**: `ba` is one transposition away from `ab`
    (documented distance 1) but the automaton built for `ab`, `k = 1` rejects it; the
    multi-segment path returns it. -/
theorem single_segment_misses_transposition :
    osa [98, 97] [97, 98] = 1 ∧ (levenshteinAutomaton [97, 98] 1 0).accept [98, 97] = false ∧
      termsWithinSeg [[98, 97]] [97, 98] 1 0 = .ok [] ∧
      termsWithinBase [[98, 97]] [97, 98] 1 0 = .ok [[98, 97]] := by
  rw [nfa, terms_within_single _ _ _ _ (by decide) (by decide) (by decide), terms_within_multi]
  simp only [within, lev_eq_dp, osa_eq_dp]; decide +kernel

/-- Hence "the same for one segment or many" is false of the code. -/
theorem not_multi_eq_single : ¬ multi_eq_single_full := by
  intro h
  have h1 := h [[98, 97]] [97, 98] 1 0 (by decide) (by decide) (by decide)
  obtain ⟨_, _, h2, h3⟩ := single_segment_misses_transposition
  rw [h2, h3] at h1
  cases h1

/-! ### `query/terms.py`: fuzzy term queries -/

/-- **Fuzzy term query on one segment**: the hits are exactly the documents that contain a
    term sharing the prefix and within *plain Levenshtein* distance of the word (the
    documented distance is `osa`: same recorded defect as `terms_within_single`).  `lex` is the sorted term list
    of the documents. -/
theorem fuzzy_query (lex : List (List Nat)) (docs : List (List (List Nat))) (w : List Nat) (d p : Nat)
    (hw : Valid w) (hv : ∀ t, t ∈ lex → Valid t) (hs : SortedLex lex)
    (hlex : ∀ t, t ∈ lex ↔ ∃ doc, doc ∈ docs ∧ t ∈ doc) :
    fuzzyDocsSeg lex docs w d p = .ok ((docs.zipIdx.filter fun x => x.1.any fun t =>
      (sharePrefix p t w && decide (lev t w ≤ d))).map (·.2)) := by
  unfold fuzzyDocsSeg
  rw [terms_within_single lex w d p hw hv hs]
  exact congrArg Except.ok
    (fuzzyDocsOf_filter docs lex _ fun doc hd t ht => (hlex t).mpr ⟨doc, hd, ht⟩)

/-- The hypotheses of `fuzzy_query` are satisfiable, and the result is not trivial: of the
    documents `[ab]`, `[ba, b]`, `[]` only the first two contain a term within distance 1 of
    `ab` - `b` (one deletion); `ba` alone would not have matched. -/
example : fuzzyDocsSeg [[97, 98], [98], [98, 97]] [[[97, 98]], [[98, 97], [98]], []] [97, 98] 1 0 = .ok [0, 1] := by
  rw [fuzzy_query _ _ _ _ _ (by decide) (by decide) (by decide) (by decide)]
  simp only [lev_eq_dp]; decide +kernel

/-- A segment: its sorted term list (of real characters) is the set of terms of its documents. -/
def SegOK (s : List (List Nat) × List (List (List Nat))) : Prop :=
  (∀ t, t ∈ s.1 → Valid t) ∧ SortedLex s.1 ∧ ∀ t, t ∈ s.1 ↔ ∃ doc, doc ∈ s.2 ∧ t ∈ doc

instance (s : List (List Nat) × List (List (List Nat))) : Decidable (SegOK s) := by
  unfold SegOK; infer_instance

/-- **Fuzzy term query on a multi-segment index** (what `Searcher.search(FuzzyTerm)` observes):
    the union over the segments - the hits are exactly the documents, in global numbering, that
    contain a term sharing the prefix and within plain Levenshtein distance.  Same
    deviation from the documented `osa` as `fuzzy_query` (the expansion is done per segment with
    the automaton, also on multi-segment indexes). -/
theorem fuzzy_query_index (w : List Nat) (d p : Nat) (hw : Valid w) :
    ∀ (segs : List (List (List Nat) × List (List (List Nat)))) (off : Nat), (∀ s, s ∈ segs → SegOK s) →
      fuzzyDocsIndex w d p segs off =
        .ok ((((segs.flatMap (·.2)).zipIdx off).filter fun x => x.1.any fun t =>
          (sharePrefix p t w && decide (lev t w ≤ d))).map (·.2)) := by
  intro segs
  induction segs with
  | nil => intro off _; rfl
  | cons s rest ih =>
    intro off hok
    obtain ⟨lex, docs⟩ := s
    obtain ⟨hv, hs, hlex⟩ := hok (lex, docs) (by simp)
    rw [fuzzyDocsIndex, fuzzy_query lex docs w d p hw hv hs hlex]
    simp only
    rw [ih (off + docs.length) (fun s hs => hok s (List.mem_cons_of_mem _ hs))]
    simp only [Except.map, List.flatMap_cons, List.zipIdx_append, List.filter_append, List.map_append,
      List.map_map]
    congr 2
    exact filter_zipIdx_shift docs off (fun doc => doc.any fun t =>
      sharePrefix p t w && decide (lev t w ≤ d))

/-- **`Query.docs` of a fuzzy term query on a multi-segment index** (the query evaluated against
    the top-level searcher: one expansion through the `MultiReader`): the documents, in global
    numbering, that contain a term sharing the prefix and within the *documented* distance `osa` -
    exactly what the property demands.  Composes `terms_within_multi_index` with the union matcher. -/
theorem fuzzy_query_docs_top (w : List Nat) (d p : Nat)
    (segs : List (List (List Nat) × List (List (List Nat)))) (h2 : 2 ≤ segs.length)
    (hok : ∀ s, s ∈ segs → SegOK s) :
    fuzzyDocsTop w d p segs =
      .ok (((segs.flatMap (·.2)).zipIdx.filter fun x => x.1.any fun t =>
        (sharePrefix p t w && decide (osa t w ≤ d))).map (·.2)) := by
  obtain ⟨m, _, _, hmem, htw, _⟩ := terms_within_multi_index (segs.map (·.1)) w d p (by
    intro lex hl
    obtain ⟨s, hs, rfl⟩ := List.mem_map.mp hl
    exact (hok s hs).2.1)
  unfold fuzzyDocsTop
  split
  · simp at h2
  · rw [htw]
    refine congrArg Except.ok (fuzzyDocsOf_filter _ m _ fun doc hd t ht => ?_)
    obtain ⟨s, hs, hds⟩ := List.mem_flatMap.mp hd
    exact (hmem t).mpr ⟨s.1, List.mem_map.mpr ⟨s, hs, rfl⟩, ((hok s hs).2.2 t).mpr ⟨doc, hds, ht⟩⟩

/-- **The access paths disagree** on a multi-segment index: for the documents `[ba]`, `[b]` (first
    segment) and `[ab]` (second), `FuzzyTerm("ab", maxdist=1).docs(searcher)` is `[0, 1, 2]` (the
    documented ball: `ba` is one transposition away) while `searcher.search(...)` returns the
    documents `[1, 2]` (`fuzzy_query_index`: every segment is expanded with the plain Levenshtein
    automaton).  Same root cause as `single_segment_misses_transposition`. -/
theorem fuzzy_access_paths_disagree :
    fuzzyDocsTop [97, 98] 1 0 [([[98], [98, 97]], [[[98, 97]], [[98]]]), ([[97, 98]], [[[97, 98]]])] = .ok [0, 1, 2] ∧
    fuzzyDocsIndex [97, 98] 1 0 [([[98], [98, 97]], [[[98, 97]], [[98]]]), ([[97, 98]], [[[97, 98]]])] 0 = .ok [1, 2] := by
  rw [fuzzy_query_docs_top _ _ _ _ (by decide) (by decide),
    fuzzy_query_index _ _ _ (by decide) _ _ (by decide)]
  simp only [lev_eq_dp, osa_eq_dp]; decide +kernel

/-- Two segments: the document `[ab]` of the second segment is hit as number 2; `[ba]` (one
    transposition away) is not. -/
example : fuzzyDocsIndex [97, 98] 1 0
    [([[98], [98, 97]], [[[98, 97]], [[98]]]), ([[97, 98]], [[[97, 98]]])] 0 = .ok [1, 2] :=
  fuzzy_access_paths_disagree.2

/-! ### `spelling.py`: suggestions -/

/-- Full statement for suggestions (multi-segment path): existing terms within the documented
    distance that share the prefix, never the word itself, ordered by closeness then frequency,
    and the `limit` cut keeps the best ones.  FALSE of the code (witnesses below). -/
def suggest_full : Prop :=
  ∀ (lex : List (List Nat)) (freq : List Nat → Nat) (w : List Nat) (limit d p : Nat) (terms r : List (List Nat)),
    0 < limit → termsWithinBase lex w d p = .ok terms → suggest terms freq limit d = .ok r →
      (∀ t, t ∈ r → t ∈ within osa lex w d p ∧ t ≠ w) ∧
      r.Pairwise (fun s t => osa s w < osa t w ∨ (osa s w = osa t w ∧ freq t ≤ freq s)) ∧
      (∀ t, t ∈ within osa lex w d p → t ≠ w → t ∉ r → ∀ s, s ∈ r →
        osa s w < osa t w ∨ (osa s w = osa t w ∧ freq t ≤ freq s))

/-- `_partial`: what does hold - every suggestion is a term of the lexicon within the documented
    distance that shares the prefix, and exactly `min limit (number of such terms)` are returned.
    Missing for `suggest_full`: the word itself is not removed and the score ignores the distance
    (both recorded as findings; the code is wrong, witnesses below). -/
theorem suggest_partial (lex : List (List Nat)) (freq : List Nat → Nat) (w : List Nat)
    (limit d p : Nat) (hl : 0 < limit) :
    ∃ r, (termsWithinBase lex w d p >>= fun terms => suggest terms freq limit d) = .ok r ∧
      (∀ t, t ∈ r → t ∈ within osa lex w d p) ∧
      r.length = min limit (within osa lex w d p).length := by
  obtain ⟨r, hr, hlen, hmem⟩ := suggest_spec (within osa lex w d p) freq limit d hl
  exact ⟨r, by rw [terms_within_multi]; exact hr, hmem, hlen⟩

/-- `limit = 1` of two candidates: one suggestion. -/
example : ∃ r, (termsWithinBase [[97], [98]] [97] 1 0 >>= fun terms => suggest terms (fun _ => 2) 1 1) = .ok r ∧
    r.length = 1 := by
  obtain ⟨r, h1, _, h3⟩ := suggest_partial [[97], [98]] (fun _ => 2) [97] 1 1 0 (by omega)
  refine ⟨r, h1, h3.trans ?_⟩
  simp only [within, osa_eq_dp]; decide +kernel

/-- Same through the single-segment path: the suggestions are terms within plain Levenshtein
    distance (hence within the documented one). -/
theorem suggest_single_partial (lex : List (List Nat)) (freq : List Nat → Nat) (w : List Nat)
    (limit d p : Nat) (hl : 0 < limit) (hw : Valid w) (hv : ∀ t, t ∈ lex → Valid t)
    (hs : SortedLex lex) :
    ∃ r, (termsWithinSeg lex w d p >>= fun terms => suggest terms freq limit d) = .ok r ∧
      (∀ t, t ∈ r → t ∈ within osa lex w d p) ∧
      r.length = min limit (within lev lex w d p).length := by
  obtain ⟨r, hr, hlen, hmem⟩ := suggest_spec (within lev lex w d p) freq limit d hl
  exact ⟨r, by rw [terms_within_single lex w d p hw hv hs]; exact hr,
    fun t ht => single_subset_documented lex w d p t (hmem t ht), hlen⟩

/-- **Suggestions return the queried word** when it is a term: `suggest("a")` on the lexicon
    `{a}` is `["a"]`. -/
theorem suggest_returns_word :
    (termsWithinBase [[97]] [97] 1 0 >>= fun terms => suggest terms (fun _ => 1) 5 1) = .ok [[97]] := by
  decide +kernel

/-- Hence the full statement about suggestions is false of the code. -/
theorem not_suggest_full : ¬ suggest_full := by
  intro h
  have hs := suggest_returns_word
  rw [terms_within_multi] at hs
  exact ((h _ _ _ 5 1 0 _ _ (by omega) (terms_within_multi ..) hs).1 [97] (List.mem_singleton_self _)).2 rfl

/-- **Suggestions are ranked by frequency, not by closeness**: for the word `a`, `aab` (distance
    2, frequency 3) is listed before `b` (distance 1, frequency 1). -/
theorem suggest_ignores_distance :
    (suggest [[97, 97, 98], [98]] (fun t => if t = [98] then 1 else 3) 5 2).toOption =
        some [[97, 97, 98], [98]] ∧
      osa [98] [97] < osa [97, 97, 98] [97] := by
  simp only [osa_eq_dp]; decide +kernel

/-! ### `spelling.py`: `ListCorrector`, `SimpleQueryCorrector` (`Searcher.correct_query`) -/

/-- **`ListCorrector.suggest`** on a sorted word list: the call succeeds, returns at most `limit`
    words, and every one of them is a non-empty word of the list that shares the prefix and is
    within plain Levenshtein - hence within the documented - distance.  (`_partial` with respect to
    the property: like the index path it measures `lev`, so transposition neighbours are missed -
    `list_corrector_misses_transposition` - and the word itself is not excluded.) -/
theorem list_corrector_partial (wl : List (List Nat)) (w : List Nat) (limit maxdist p : Nat)
    (hl : 0 < limit) (hw : Valid w) (hv : ∀ t, t ∈ wl → Valid t) (hs : SortedLex wl) :
    ∃ r, listSuggest wl w limit maxdist p = .ok r ∧ r.length ≤ limit ∧
      ∀ t, t ∈ r → t ≠ [] ∧ t ∈ within lev wl w maxdist p ∧ t ∈ within osa wl w maxdist p := by
  obtain ⟨r, hr, hlen, hmem⟩ := listSuggest_spec wl w limit maxdist p hl hw hv hs
  exact ⟨r, hr, hlen, fun t ht =>
    ⟨(hmem t ht).1, (hmem t ht).2, single_subset_documented wl w maxdist p t (hmem t ht).2⟩⟩

/-- `ListCorrector(["ba"]).suggest("ab", maxdist=1)` is empty although `ba` is one (documented)
    edit away. -/
theorem list_corrector_misses_transposition :
    listSuggest [[98, 97]] [97, 98] 5 1 0 = .ok [] ∧ osa [98, 97] [97, 98] = 1 := by
  obtain ⟨ho, hacc, _, _⟩ := single_segment_misses_transposition
  obtain ⟨r, hr, _, hmem⟩ := listSuggest_spec [[98, 97]] [97, 98] 5 1 0 (by decide)
    (by decide) (by decide) (by decide)
  refine ⟨?_, ho⟩
  cases r with
  | nil => exact hr
  | cons t r =>
    obtain ⟨ht, hq⟩ := List.mem_filter.mp (hmem t (List.mem_cons_self ..)).2
    cases List.mem_singleton.mp ht
    exact absurd (hacc.symm.trans ((nfa ..).trans hq)) Bool.false_ne_true

/-- **`MultiCorrector`** over any sub-correctors and any merge operator `op` (given the items the
    sub-correctors' `_suggestions` yield): the call succeeds, no word is suggested twice (a word
    several correctors propose is merged into one item), exactly `min limit (number of distinct
    proposed words)` suggestions come back, and each was proposed by one of the sub-correctors. -/
theorem multi_corrector (op : Rat → Rat → Rat) (itemss : List (List (Rat × List Nat))) (limit : Nat)
    (hl : 0 < limit) :
    ∃ r, suggestItems (multiSuggestions op itemss) limit = .ok r ∧ r.Nodup ∧
      r.length = min limit (multiSuggestions op itemss).length ∧
      ((multiSuggestions op itemss).map (·.2)).Nodup ∧
      ∀ t, t ∈ r → ∃ items, items ∈ itemss ∧ ∃ a, a ∈ items ∧ a.2 = t := by
  obtain ⟨hnd, hmem⟩ := multiSuggestions_spec op itemss
  obtain ⟨r, hr, hlen, hin, hnodup⟩ := suggestItems_spec (multiSuggestions op itemss) limit hl
  refine ⟨r, hr, hnodup hnd, hlen, hnd, fun t ht => ?_⟩
  obtain ⟨a, ha, rfl⟩ := hin t ht
  exact (hmem a.2).mp (List.mem_map.mpr ⟨a, ha, rfl⟩)

/-- `b` is proposed by both sub-correctors (scores -2 and -1): it comes back once, with `max` in
    front of `a`. -/
example : suggestItems (multiSuggestions max [[(-2, [98])], [(-3/2, [97]), (-1, [98])]]) 5 = .ok [[98], [97]] := by
  decide +kernel

/-- **`MultiCorrector([reader.corrector(field), ListCorrector(wl)], op)`** on a multi-segment
    reader, any `op`: succeeds, at most `limit` suggestions, none twice, and every one is a term of
    the field or a word of the list that shares the prefix and is within the documented distance.
    `_partial` like the sub-correctors: ranking and self-exclusion are the recorded defects. -/
theorem multi_corrector_partial (op : Rat → Rat → Rat) (lex wl : List (List Nat)) (freq : List Nat → Nat)
    (w : List Nat) (limit d p : Nat) (hl : 0 < limit) (hw : Valid w) (hv : ∀ t, t ∈ wl → Valid t)
    (hs : SortedLex wl) :
    ∃ r, multiSuggest op [readerItems (termsWithinBase lex w d p) freq d, listItems wl w d p] limit = .ok r ∧
      r.length ≤ limit ∧ r.Nodup ∧
      ∀ t, t ∈ r → t ∈ within osa lex w d p ∨ t ∈ within osa wl w d p := by
  obtain ⟨items, hitems, hok⟩ := listItems_spec wl w d p hw hv hs
  obtain ⟨r, hr, hnd, hlen, _, hmem⟩ :=
    multi_corrector op [suggestions (within osa lex w d p) freq d, items] limit hl
  refine ⟨r, ?_, by rw [hlen]; exact Nat.min_le_left _ _, hnd, ?_⟩
  · unfold multiSuggest readerItems
    rw [terms_within_multi, hitems]
    exact hr
  · intro t ht
    obtain ⟨its, hits, a, ha, rfl⟩ := hmem t ht
    simp only [List.mem_cons, List.not_mem_nil, or_false] at hits
    rcases hits with rfl | rfl
    · exact Or.inl (mem_suggestions _ freq d a ha)
    · exact Or.inr (single_subset_documented wl w d p a.2 (hok a ha).2)

/-- The hypotheses are satisfiable: the field has `ab` and `b`, the list `ab` and `ac`; the word is
    `aa`, distance 1, prefix 1 (`ab` is proposed by both sub-correctors). -/
example : ∃ r, multiSuggest max [readerItems (termsWithinBase [[97, 98], [98]] [97, 97] 1 1) (fun _ => 2) 1,
    listItems [[97, 98], [97, 99]] [97, 97] 1 1] 5 = .ok r ∧ r.length ≤ 5 ∧ r.Nodup := by
  obtain ⟨r, h1, h2, h3, _⟩ := multi_corrector_partial max [[97, 98], [98]] [[97, 98], [97, 99]] (fun _ => 2)
    [97, 97] 5 1 1 (by decide) (by decide) (by decide) (by decide)
  exact ⟨r, h1, h2, h3⟩

/-- **`Searcher.correct_query` / `SimpleQueryCorrector`** for one query word, multi-segment
    reader: the word is either left alone or replaced by a term of the field that shares the
    first `p` characters and is within the documented distance `d` (never by anything else -
    whatever the frequencies).  `_partial`: that the replacement is the *closest* such term is
    false (`suggest_ignores_distance`), and it can be the word itself (`suggest_returns_word`). -/
theorem correct_query_partial (lex : List (List Nat)) (freq : List Nat → Nat) (w : List Nat) (d p : Nat) :
    ∃ r, correctToken (termsWithinBase lex w d p >>= fun terms => suggest terms freq 5 d) w = .ok r ∧
      (r = w ∨ r ∈ within osa lex w d p) := by
  obtain ⟨sugs, hs, hmem, _⟩ := suggest_partial lex freq w 5 d p (by omega)
  exact hs ▸ correctToken_ok w hmem

/-- The same through a single-segment reader and through a `ListCorrector`. -/
theorem correct_query_single_partial (lex : List (List Nat)) (freq : List Nat → Nat) (w : List Nat)
    (d p : Nat) (hw : Valid w) (hv : ∀ t, t ∈ lex → Valid t) (hs : SortedLex lex) :
    (∃ r, correctToken (termsWithinSeg lex w d p >>= fun terms => suggest terms freq 5 d) w = .ok r ∧
      (r = w ∨ r ∈ within osa lex w d p)) ∧
    (∃ r, correctToken (listSuggest lex w 5 d p) w = .ok r ∧ (r = w ∨ r ∈ within osa lex w d p)) := by
  constructor
  · obtain ⟨sugs, h1, hmem, _⟩ := suggest_single_partial lex freq w 5 d p (by omega) hw hv hs
    exact h1 ▸ correctToken_ok w hmem
  · obtain ⟨sugs, h1, _, hmem⟩ := list_corrector_partial lex w 5 d p (by omega) hw hv hs
    exact h1 ▸ correctToken_ok w fun t ht => (hmem t ht).2.2

/-- The hypotheses are satisfiable and the correction is a real one: `ac` is corrected to `ab`
    (distance 1) with the required prefix `a`, not to the more frequent `bc`. -/
example : correctToken (termsWithinBase [[97, 98], [98, 99]] [97, 99] 1 1 >>= fun terms =>
    suggest terms (fun t => if t = [98, 99] then 9 else 1) 5 1) [97, 99] = .ok [97, 98] := by
  decide +kernel

end WM.C19
