import WM.Lemmas.IndexStats
import WM.Lemmas.IndexGroup
import WM.Lemmas.IndexLayout
import WM.Lemmas.IndexPartition
/-!
# C06 — segment layout is invisible

The logical content of an index (the multiset of visible live documents, from which lexicon,
postings, lengths, vectors, columns and every query answer derive) depends only on the
document-level operations, not on how commits were split or which merge policy ran.
-/
namespace WM.C06
open WM.Dict WM.Index

def emptyToc (sc : Schema) : Toc := { schema := sc, segs := [], gen := 0 }

/-- the reference build: one writer adds the documents, one optimised commit -/
def buildOnce (sc : Schema) (docs : List DocRec) : Except Err Toc :=
  (emptyToc sc).session (docs.map .add) (.commit planOptimize)

/-- The single optimised build of a list of documents that fit the schema succeeds and holds
    exactly those documents. -/
theorem buildOnce_content (sc : Schema) (docs : List DocRec) (h : ∀ d ∈ docs, d.fits sc = true) :
    ∃ tref, buildOnce sc docs = .ok tref ∧ tref.WF ∧ tref.schema = sc ∧ tref.content.Perm docs := by
  have hrel : Rel (emptyToc sc) { schema := sc, docs := [] } := ⟨rfl, by simp [emptyToc, Toc.content, contentOf]⟩
  have hwf : (emptyToc sc).WF := by intro s hs; simp [emptyToc] at hs
  have hspec := Writer.specOps_adds_of_fits (emptyToc sc).writer docs h
  obtain ⟨t', h1, wf', rel'⟩ := session_sim (emptyToc sc) _ hwf hrel (docs.map .add) (.commit planOptimize) .commit
    (EndRel.commit _ planOptimize_ok) (RunOK_adds _ _ _)
  rw [hspec, State.session_adds] at rel'
  exact ⟨t', h1, wf', rel'.schema.symm, rel'.docs⟩

/-- **content.** Whatever the history — any partition of the calls into writer sessions, any merge
choice at each commit (NO_MERGE, MERGE_SMALL, OPTIMIZE, any custom policy that re-arranges, CLEAR),
cancelled sessions in between — the index holds, as a multiset of visible documents, exactly what
the single optimised build of the dictionary's final documents holds. -/
theorem content (t : Toc) (sp : State) (hwf : t.WF) (h : Rel t sp)
    (hist : List (List Op × Ending × SEnd)) (hok : HistOK t sp hist) :
    ∃ t' sp' tref, lockstep t sp hist = .ok (t', sp') ∧ buildOnce sp'.schema sp'.docs = .ok tref ∧
      t'.WF ∧ tref.WF ∧ t'.schema = tref.schema ∧ t'.content.Perm tref.content := by
  obtain ⟨⟨t', sp'⟩, h1, wf', rel'⟩ := history_sim t sp hwf h hist hok
  obtain ⟨tref, h2, wfr, hs, hc⟩ := buildOnce_content sp'.schema sp'.docs rel'.docs_fit
  exact ⟨t', sp', tref, h1, h2, wf', wfr, by rw [hs, rel'.schema], rel'.docs.trans hc.symm⟩

/-- **postings_content.** The term index is determined by the content.  (1) `iter_postings()` of a
whole well-formed index (deleted documents filtered) is, as a multiset, exactly the postings of the
visible data of the live documents at their global numbers.  (2) Hence two well-formed indexes with
the same schema and the same content (any two layouts — e.g. `t'` and `tref` of `content`) hold
the same multiset of (field, term, weight, value) postings.  (3) The posting read path:
`reader.postings(f, t)` yields exactly the numbers of the live documents carrying the term. -/
theorem postings_content :
    (∀ (t : Toc), t.WF → (globalPosts t.schema t.segs 0).Perm
        ((liveGlobal t.segs 0).flatMap (fun q => docPostings (restrict t.schema q.1) q.2))) ∧
    (∀ (t1 t2 : Toc), t1.WF → t2.WF → t1.schema = t2.schema → t1.content.Perm t2.content →
      ((globalPosts t1.schema t1.segs 0).map (fun p => (p.fld, p.term, p.w, p.v))).Perm
        ((globalPosts t2.schema t2.segs 0).map (fun p => (p.fld, p.term, p.w, p.v)))) ∧
    (∀ (t : Toc), t.WF → ∀ f tm n, n ∈ t.postingDocs f tm ↔
      ∃ q ∈ liveGlobal t.segs 0, q.2 = n ∧ (restrict t.schema q.1).hasTerm f tm = true) :=
  ⟨fun t hwf => globalPosts_perm t.schema t.segs 0 hwf,
   fun t1 t2 h1 h2 _ hc => (globalPosts_content t1 h1).trans
     (((hc.flatMap_right _).map _).trans (globalPosts_content t2 h2).symm),
   fun t hwf f tm n => mem_docsForQuery_term t.schema f tm t.segs hwf n⟩

/-- **partition_invisible.** The partition of the additions into commits is invisible.
(1) At the level of the specification: any two ways of cutting the same list of added documents
into committed sessions reach the same dictionary state.  (2) For the index: the same, each session
committed under its own re-arranging merge policy — both histories succeed, stay well-formed and
hold the same documents.  (3) Within a history: after any calls `ops`, adding `adds` in the same
writer session or committing first and adding them through a second writer gives the same
content. -/
theorem partition_invisible :
    (∀ (sp : State) (p1 p2 : List (List DocRec)), p1.flatten = p2.flatten → sp.addSessions p1 = sp.addSessions p2) ∧
    (∀ (t : Toc) (sp : State), t.WF → Rel t sp → ∀ (p1 p2 : List (List DocRec × Plan)),
      (∀ x ∈ p1, PlanOK x.2) → (∀ x ∈ p2, PlanOK x.2) →
      (∀ x ∈ p1, ∀ d ∈ x.1, d.fits sp.schema = true) → (∀ x ∈ p2, ∀ d ∈ x.1, d.fits sp.schema = true) →
      (p1.map (·.1)).flatten = (p2.map (·.1)).flatten →
      ∃ ta tb, t.history (p1.map (fun x => (x.1.map Op.add, Ending.commit x.2))) = .ok ta ∧
        t.history (p2.map (fun x => (x.1.map Op.add, Ending.commit x.2))) = .ok tb ∧
        ta.WF ∧ tb.WF ∧ ta.schema = tb.schema ∧ ta.content.Perm tb.content) ∧
    (∀ (t : Toc) (sp : State), t.WF → Rel t sp → ∀ (ops : List Op) (adds : List DocRec) (p p1 p2 : Plan),
      PlanOK p → PlanOK p1 → PlanOK p2 → RunOK t.writer sp.open_ ops →
      ∃ ta tb, t.history [(ops ++ adds.map .add, .commit p)] = .ok ta ∧
        t.history [(ops, .commit p1), (adds.map .add, .commit p2)] = .ok tb ∧
        ta.WF ∧ tb.WF ∧ ta.schema = tb.schema ∧ ta.content.Perm tb.content) :=
  ⟨State.addSessions_partition,
   fun t sp hwf h p1 p2 h1 h2 hf1 hf2 hs => by
     obtain ⟨ta, ea, wfa, rela⟩ := history_adds t sp hwf h p1 h1 hf1
     obtain ⟨tb, eb, wfb, relb⟩ := history_adds t sp hwf h p2 h2 hf2
     rw [State.addSessions_partition sp _ _ hs] at rela
     exact ⟨ta, tb, ea, eb, wfa, wfb, by rw [← rela.schema, ← relb.schema], rela.docs.trans relb.docs.symm⟩,
   session_split_adds⟩

/-- **postings_renumber.** `add_reader` of a well-formed segment never raises; the postings it
feeds to the pool are the segment's live postings of schema fields with each doc number `i`
replaced by `docmap[i]` (`newnum`: `base` + the rank of `i` among the live numbers), and they are
exactly the postings of the copied (restricted) documents under their new numbers. -/
theorem postings_renumber (sc : Schema) (s : Seg) (base : Nat) (hwf : s.WF) :
    (s.livePosts sc).mapM (renumber s base)
        = some ((s.livePosts sc).map (fun p => { p with doc := newnum s base p.doc })) ∧
    ((s.livePosts sc).map (fun p => { p with doc := newnum s base p.doc })).Perm
        (allPostings (s.liveDocs.map (restrict sc)) base) ∧
    (∀ q j, (q, j) ∈ s.liveIdx.zipIdx → newnum s base q.2 = base + j) := by
  obtain ⟨h1, h2⟩ := livePosts_renumber sc s base hwf.posts
  exact ⟨h1, h2, newnum_eq s base⟩

/-- After any commit every segment's term index is *the* sorted posting list of its per-document
    data (so merged postings are the old ones, renumbered, in order). -/
theorem postings_canonical (s : Seg) (hwf : s.WF) : s.posts = (allPostings s.docs).mergeSort Posting.le :=
  (Posting.sortOrder.mergeSort_eq hwf.posts hwf.sorted).symm

/-- **stats.** Without deleted documents, document frequency, total term weight, total field
length and document count (hence every score) are functions of the multiset of live documents:
two indexes with the same schema and the same content agree on them, whatever their layouts. -/
theorem stats (t1 t2 : Toc) (h1 : t1.WF) (h2 : t2.WF) (n1 : NoDeletions t1) (n2 : NoDeletions t2)
    (hs : t1.schema = t2.schema) (hc : t1.content.Perm t2.content) (f tm : Nat) (hf : t1.schema.has f = true) :
    t1.docFrequency f tm = t2.docFrequency f tm ∧ t1.termWeight f tm = t2.termWeight f tm ∧
    t1.fieldLength f = t2.fieldLength f ∧ t1.docCount = t2.docCount := by
  have hf2 : t2.schema.has f = true := hs ▸ hf
  refine ⟨?_, ?_, ?_, ?_⟩
  · rw [docFrequency_eq_sum t1 h1 n1 f tm hf, docFrequency_eq_sum t2 h2 n2 f tm hf2]
    exact (hc.map _).sum_nat
  · rw [termWeight_eq_sum t1 h1 n1 f tm hf, termWeight_eq_sum t2 h2 n2 f tm hf2]
    exact (hc.map _).sum_nat
  · rw [fieldLength_eq_sum t1 n1 f hf, fieldLength_eq_sum t2 n2 f hf2]
    exact (hc.map _).sum_nat
  · rw [Toc.docCount_eq t1 h1, Toc.docCount_eq t2 h2]
    exact hc.length_eq

/-- **optimize_purges.** After `commit(optimize=True)` there is at most one segment, it has no
deleted documents, and neither its per-document data nor its term index mention a field that is
not in the schema (removed fields are physically gone). -/
theorem optimize_purges (w : Writer) (hwf : w.WF) (hfits : ∀ d ∈ w.ndocs, d.fits w.schema = true) (t' : Toc)
    (h : w.commitPlan planOptimize = .ok t') :
    t'.segs.length ≤ 1 ∧ NoDeletions t' ∧
    (∀ s ∈ t'.segs, (∀ d ∈ s.docs, d.fits t'.schema = true) ∧ ∀ p ∈ s.posts, t'.schema.has p.fld = true) := by
  obtain ⟨w1, h1, wf1⟩ := Writer.addReaders_ok w w.segs hwf hwf.segs
  cases (Writer.commitPlan_of_addReaders planOptimize h1).symm.trans h
  have hdocs := Writer.addReaders_fits h1 hfits
  have hseg : ∀ s ∈ (if w1.added then [] ++ [w1.finalizeSegment] else []), s = w1.finalizeSegment := by
    intro s hs
    split at hs
    · exact List.mem_singleton.mp hs
    · cases hs
  refine ⟨by simp only [planOptimize]; split <;> simp, fun s hs => hseg s hs ▸ rfl, fun s hs => ?_⟩
  rw [hseg s hs]
  refine ⟨hdocs, fun p hp => ?_⟩
  -- a posting of the flushed segment is a posting of one of the writer's documents; these fit the schema, so
  -- restricting them to the schema drops no posting
  obtain ⟨q, hq, hpq⟩ := List.mem_flatMap.mp ((wf1.pool.mem_iff).mp ((List.mergeSort_perm _ _).mem_iff.mp hp))
  rw [← restrict_of_fits _ _ (hdocs q.1 (List.mem_of_getElem? (List.mem_zipIdx_iff_getElem?.mp hq))),
    docPostings_restrict] at hpq
  exact (List.mem_filter.mp hpq).2

/-- **layout_invisible.** Take two indexes that hold the same documents in different layouts
(both related to one dictionary state), run the same layout-free calls (everything except
deletion by doc number) on a writer of each, and end the two sessions under two *different* merge
policies: both commits succeed and the results are again two layouts of one and the same
dictionary state.  (Iterating this over sessions compares whole histories.) -/
theorem layout_invisible (t1 t2 : Toc) (sp : State) (h1 : t1.WF) (h2 : t2.WF) (r1 : Rel t1 sp) (r2 : Rel t2 sp)
    (ops : List Op) (hfree : ∀ op ∈ ops, op.layoutFree = true) (e1 e2 : Ending) (se : SEnd)
    (he1 : EndRel e1 se) (he2 : EndRel e2 se)
    (hok1 : RunOK t1.writer sp.open_ ops) (hok2 : RunOK t2.writer sp.open_ ops) :
    ∃ t1' t2' sp', t1.session ops e1 = .ok t1' ∧ t2.session ops e2 = .ok t2' ∧ t1'.WF ∧ t2'.WF ∧
      t1'.schema = t2'.schema ∧ t1'.content.Perm t2'.content ∧ Rel t1' sp' ∧ Rel t2' sp' := by
  obtain ⟨t1', s1, w1, rel1⟩ := session_sim t1 sp h1 r1 ops e1 se he1 hok1
  obtain ⟨t2', s2, w2, rel2⟩ := session_sim t2 sp h2 r2 ops e2 se he2 hok2
  have hs : t1.writer.specOps ops = t2.writer.specOps ops :=
    specOps_layoutFree ops t1.writer t2.writer (Toc.writer_wf t1 h1) (Toc.writer_wf t2 h2)
      (by simp [Toc.writer, ← r1.schema, ← r2.schema]) rfl hfree
  rw [← hs] at rel2
  exact ⟨t1', t2', _, s1, s2, w1, w2, by rw [← rel1.schema, ← rel2.schema], rel1.docs.trans rel2.docs.symm, rel1, rel2⟩

/-- **group_adjacent.** (1) Documents a writer adds consecutively (a `start_group`/`end_group`
block, for the plain writer any consecutive run) are adjacent and in order in the segment it
commits, under every merge policy; (2) documents adjacent among the live documents of a segment
are adjacent, in the same order, after the next commit of any writer — in that segment when the
policy leaves it alone, in the merged one when it goes through `add_reader`; (3) deleting
documents keeps the remaining members of an adjacent run adjacent. -/
theorem group_adjacent :
    (∀ (w : Writer) (plan : Plan) (t' : Toc), w.commitPlan plan = .ok t' → (w.added = false → w.ndocs = []) →
      ∀ pre g post : List DocRec, w.ndocs = pre ++ g ++ post → g ≠ [] → ∃ s ∈ t'.segs, g <:+: s.liveDocs) ∧
    (∀ (w : Writer) (plan : Plan) (t' : Toc), w.commitPlan plan = .ok t' →
      ∀ s, (s ∈ (plan w.segs).1 ∨ s ∈ (plan w.segs).2) → ∀ g : List DocRec, g <:+: s.liveDocs →
        ∃ s' ∈ t'.segs, g.map (restrict w.schema) <:+: s'.liveDocs.map (restrict w.schema)) ∧
    (∀ (s : Seg) (l : Nat) (G : List (DocRec × Nat)), G <:+: s.liveIdx →
      G.filter (fun p => p.2 != l) <:+: (s.deleteDocument l true).liveIdx) :=
  ⟨fun _ _ _ => group_commit, fun _ _ _ => group_merge, fun s l _ hG => liveIdx_delete s l ▸ hG.filter _⟩

/-- **group_history.** The composition of (1) and (2) over a history: a writer adds the block `g`
(between other documents) and commits; afterwards any number of writers add documents and commit,
each under its own re-arranging merge policy (NO_MERGE, MERGE_SMALL, OPTIMIZE, …) — through every
one of these merges the members of `g` stay adjacent and in order among the live documents of one
segment of the final index.  (Sessions that delete or change the schema after the group was
committed are covered by the single-step facts (2), (3) only.) -/
theorem group_history (t : Toc) (pre g post : List DocRec) (hne : g ≠ []) (plan : Plan) (t1 : Toc)
    (h1 : t.session ((pre ++ g ++ post).map .add) (.commit plan) = .ok t1)
    (hfit : ∀ d ∈ pre ++ g ++ post, d.fits t.schema = true)
    (later : List (List DocRec × Plan)) (hp : ∀ x ∈ later, PlanOK x.2) (t2 : Toc)
    (h2 : t1.history (later.map (fun x => (x.1.map Op.add, Ending.commit x.2))) = .ok t2) :
    t2.schema = t.schema ∧ ∃ s ∈ t2.segs, g.map (restrict t.schema) <:+: s.liveDocs.map (restrict t.schema) :=
  WM.Index.group_history t pre g post hne plan t1 h1 hfit later hp t2 h2

/-! ### non-vacuity -/

namespace Ex
def sc : Schema := { fields := [0, 1], uniques := [] }
def doc (key t : Nat) : DocRec :=
  { key := key, fields := [{ fld := 0, stored := some key, toks := [⟨t, 1, 0⟩, ⟨t + 1, 2, 0⟩], len := 3, col := none,
                             vec := none, ukey := none },
                           { fld := 2, stored := none, toks := [⟨9, 1, 0⟩], len := 1, col := none, vec := none,
                             ukey := none }] }
/-- a segment with a deleted document and a field (2) that is no longer in the schema -/
def seg : Seg :=
  { docs := [doc 0 3, doc 1 3, doc 2 5],
    posts := [⟨0, 3, 0, 1, 0⟩, ⟨0, 3, 1, 1, 0⟩, ⟨0, 4, 0, 2, 0⟩, ⟨0, 4, 1, 2, 0⟩, ⟨0, 5, 2, 1, 0⟩, ⟨0, 6, 2, 2, 0⟩,
              ⟨2, 9, 0, 1, 0⟩, ⟨2, 9, 1, 1, 0⟩, ⟨2, 9, 2, 1, 0⟩],
    deleted := [1] }
theorem seg_wf : seg.WF := ⟨by decide, by decide, by decide +kernel, by decide +kernel⟩
def segA : Seg := { docs := [restrict sc (doc 0 3)], posts := [⟨0, 3, 0, 1, 0⟩, ⟨0, 4, 0, 2, 0⟩], deleted := [] }
def segB : Seg := { docs := [restrict sc (doc 2 3)], posts := [⟨0, 3, 0, 1, 0⟩, ⟨0, 4, 0, 2, 0⟩], deleted := [] }
def segBA : Seg := { docs := [restrict sc (doc 2 3), restrict sc (doc 0 3)],
                     posts := [⟨0, 3, 0, 1, 0⟩, ⟨0, 3, 1, 1, 0⟩, ⟨0, 4, 0, 2, 0⟩, ⟨0, 4, 1, 2, 0⟩], deleted := [] }
def tTwo : Toc := { schema := sc, segs := [segA, segB], gen := 2 }
def tOne : Toc := { schema := sc, segs := [segBA], gen := 1 }
def spTwo : State := { schema := sc, docs := [restrict sc (doc 0 3), restrict sc (doc 2 3)] }
def calls : List Op := [.add (restrict sc (doc 7 8)), .delBy (.pred (fun d => d.key == 0)), .add (restrict sc (doc 8 8))]

theorem segA_wf : segA.WF := ⟨by decide, by decide, by decide +kernel, by decide +kernel⟩
theorem segB_wf : segB.WF := ⟨by decide, by decide, by decide +kernel, by decide +kernel⟩
theorem segBA_wf : segBA.WF := ⟨by decide, by decide, by decide +kernel, by decide +kernel⟩

theorem tTwo_wf : tTwo.WF := List.forall_mem_cons.2 ⟨segA_wf, List.forall_mem_singleton.2 segB_wf⟩
theorem tOne_wf : tOne.WF := List.forall_mem_singleton.2 segBA_wf
theorem toc_wf : ({ schema := sc, segs := [seg], gen := 3 } : Toc).WF := List.forall_mem_singleton.2 seg_wf

theorem tTwo_rel : Rel tTwo spTwo := ⟨rfl, by decide +kernel⟩
theorem tOne_rel : Rel tOne spTwo := ⟨rfl, by decide +kernel⟩
end Ex

/-- `postings_renumber` on a segment with a deletion: old numbers 0, 2 become 10, 11; the removed
    field's postings are dropped. -/
example : (Ex.seg.livePosts Ex.sc).mapM (renumber Ex.seg 10)
    = some [⟨0, 3, 10, 1, 0⟩, ⟨0, 4, 10, 2, 0⟩, ⟨0, 5, 11, 1, 0⟩, ⟨0, 6, 11, 2, 0⟩] := by decide +kernel

/-- `stats`: two layouts of the same two documents (two segments / one merged segment). -/
example : ∃ t1 t2 : Toc, t1.WF ∧ t2.WF ∧ NoDeletions t1 ∧ NoDeletions t2 ∧ t1.schema = t2.schema ∧
    t1.content.Perm t2.content ∧ t1.segs.length ≠ t2.segs.length ∧ t1.docFrequency 0 3 = 2 :=
  ⟨Ex.tTwo, Ex.tOne, Ex.tTwo_wf, Ex.tOne_wf, by unfold NoDeletions; decide, by unfold NoDeletions; decide,
   rfl, Ex.tTwo_rel.docs.trans Ex.tOne_rel.docs.symm, by decide, by decide⟩

/-- `optimize_purges` / `content`: a writer over the segment above (one deletion, one removed
    field) is well-formed; the history hypotheses are inhabited (see also `WM.C07`). -/
example : ({ schema := Ex.sc, segs := [Ex.seg], gen := 3 } : Toc).writer.WF ∧
    Rel { schema := Ex.sc, segs := [Ex.seg], gen := 3 } { schema := Ex.sc, docs := [restrict Ex.sc (Ex.doc 2 5), restrict Ex.sc (Ex.doc 0 3)] } ∧
    HistOK { schema := Ex.sc, segs := [Ex.seg], gen := 3 } { schema := Ex.sc, docs := [restrict Ex.sc (Ex.doc 2 5), restrict Ex.sc (Ex.doc 0 3)] }
      [([.delBy (.term 0 5), .add (restrict Ex.sc (Ex.doc 7 8))], .commit planOptimize, .commit)] :=
  ⟨Toc.writer_wf _ Ex.toc_wf,
   ⟨rfl, by decide +kernel⟩,
   ⟨EndRel.commit _ planOptimize_ok, ⟨trivial, trivial, trivial⟩, fun _ _ => trivial⟩⟩

/-- `layout_invisible` is not vacuous: the two layouts of the `stats` example are related to one
    dictionary state, the calls (add, delete by query, add) are layout-free and admissible on both;
    under OPTIMIZE on one and NO_MERGE on the other the layouts differ and the documents agree. -/
example : Ex.tTwo.WF ∧ Ex.tOne.WF ∧ Rel Ex.tTwo Ex.spTwo ∧ Rel Ex.tOne Ex.spTwo ∧
    (∀ op ∈ Ex.calls, op.layoutFree = true) ∧
    RunOK Ex.tTwo.writer Ex.spTwo.open_ Ex.calls ∧ RunOK Ex.tOne.writer Ex.spTwo.open_ Ex.calls ∧
    (Ex.tTwo.session Ex.calls (.commit planOptimize)).toOption.map (fun t => t.segs.map (fun s => s.liveDocs.map (·.key)))
      = some [[7, 8, 2]] ∧
    (Ex.tOne.session Ex.calls (.commit planNoMerge)).toOption.map (fun t => t.segs.map (fun s => s.liveDocs.map (·.key)))
      = some [[2], [7, 8]] :=
  ⟨Ex.tTwo_wf, Ex.tOne_wf, Ex.tTwo_rel, Ex.tOne_rel, by decide,
   ⟨trivial, trivial, trivial, trivial⟩, ⟨trivial, trivial, trivial, trivial⟩, by decide +kernel, by decide +kernel⟩

/-- `group_adjacent` (1)+(2) on a concrete writer: over the segment with a deletion, the writer adds
    the block 5, 6 between two other documents; after an optimising commit the block is adjacent,
    after the live documents 0, 2 of the old segment (which stay adjacent too). -/
example : let w : Writer := { schema := Ex.sc, segs := [Ex.seg], gen := 3,
                              ndocs := [restrict Ex.sc (Ex.doc 4 1), restrict Ex.sc (Ex.doc 5 1), restrict Ex.sc (Ex.doc 6 1),
                                        restrict Ex.sc (Ex.doc 7 1)],
                              pool := allPostings [restrict Ex.sc (Ex.doc 4 1), restrict Ex.sc (Ex.doc 5 1),
                                                   restrict Ex.sc (Ex.doc 6 1), restrict Ex.sc (Ex.doc 7 1)],
                              added := true }
    w.ndocs = [restrict Ex.sc (Ex.doc 4 1)] ++ [restrict Ex.sc (Ex.doc 5 1), restrict Ex.sc (Ex.doc 6 1)] ++ [restrict Ex.sc (Ex.doc 7 1)] ∧
    (w.commitPlan planOptimize).toOption.map (fun t => t.segs.map (fun s => s.liveDocs.map (·.key))) = some [[4, 5, 6, 7, 0, 2]] ∧
    (w.commitPlan planNoMerge).toOption.map (fun t => t.segs.map (fun s => s.liveDocs.map (·.key))) = some [[0, 2], [4, 5, 6, 7]] := by
  decide +kernel

/-- `partition_invisible` (2) is not vacuous: on the two-segment index above (well-formed and
    related to `Ex.spTwo`, see the `layout_invisible` example above) three documents added in one commit, or as
    1 + 2 under different policies, satisfy the hypotheses. -/
example : let d7 := restrict Ex.sc (Ex.doc 7 8); let d8 := restrict Ex.sc (Ex.doc 8 8); let d9 := restrict Ex.sc (Ex.doc 9 1)
    let p1 : List (List DocRec × Plan) := [([d7, d8, d9], planMergeSmall)]
    let p2 : List (List DocRec × Plan) := [([d7], planNoMerge), ([d8, d9], planOptimize)]
    (∀ x ∈ p1, PlanOK x.2 ∧ ∀ d ∈ x.1, d.fits Ex.spTwo.schema = true) ∧
    (∀ x ∈ p2, PlanOK x.2 ∧ ∀ d ∈ x.1, d.fits Ex.spTwo.schema = true) ∧
    (p1.map (·.1)).flatten = (p2.map (·.1)).flatten :=
  ⟨List.forall_mem_singleton.2 ⟨planMergeSmall_ok, by decide⟩,
   List.forall_mem_cons.2 ⟨⟨planNoMerge_ok, by decide⟩, List.forall_mem_singleton.2 ⟨planOptimize_ok, by decide⟩⟩, rfl⟩

/-- **readd_after_optimize.** After `commit(optimize=True)` a field name that is not in the schema
is *fresh* again: no live document of the committed index carries data of it, so the freshness
hypothesis `OpOK (.addField f _)` under which `WM.C07.refines_dict` covers `add_field` holds for
the next writer — `remove_field f`, an optimising commit, `add_field f` refines the dictionary
(the old documents do not get their old values of `f` back), whatever the layout was before. -/
theorem readd_after_optimize (w : Writer) (hwf : w.WF) (hfits : ∀ d ∈ w.ndocs, d.fits w.schema = true) (t' : Toc)
    (h : w.commitPlan planOptimize = .ok t') (ss : Sess) (f : Nat) (u : Bool) (hf : t'.schema.has f = false) :
    OpOK t'.writer ss (.addField f u) := by
  obtain ⟨_, _, hp⟩ := optimize_purges w hwf hfits t' h
  show ∀ q ∈ liveGlobal t'.segs 0, q.1.hasField f = false
  intro q hq
  obtain ⟨s, hs, hd⟩ := liveGlobal_mem_docs t'.segs 0 q hq
  exact fits_hasField_false _ _ _ ((hp s hs).1 q.1 hd) hf

/-- non-vacuity: the writer over `Ex.seg` (whose documents still carry the removed field 2) commits
    with OPTIMIZE, field 2 is not in the schema, and before that commit the hypothesis fails. -/
example : let w := ({ schema := Ex.sc, segs := [Ex.seg], gen := 3 } : Toc).writer
    (∃ t', w.commitPlan planOptimize = .ok t' ∧ t'.schema.has 2 = false) ∧
    ¬ OpOK w ({ schema := Ex.sc, docs := [] } : State).open_ (.addField 2 false) := by
  obtain ⟨t', ht', _⟩ := Writer.commitPlan_ok (({ schema := Ex.sc, segs := [Ex.seg], gen := 3 } : Toc).writer) planOptimize
    (Toc.writer_wf _ Ex.toc_wf) (planOptimize_ok.sub _)
  exact ⟨⟨t', ht', by rw [Writer.commitPlan_schema ht']; decide⟩,
    fun h => absurd (h (Ex.doc 0 3, 0) (by decide +kernel)) (by decide +kernel)⟩

end WM.C06
