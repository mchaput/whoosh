import WM.Props.C08
import WM.Lemmas.NumericField
/-!
# C08 — iteration, and sort keys, agree with indexed reads

`list(reader)` is what sorting/faceting code and `load()` use instead of `reader[d]`; for the
readers whose `__iter__` is a different algorithm from `__getitem__` (VarBytes: running position
instead of the offsets array; Multi: concatenation instead of bisection; Fixed/Numeric: the
`i < count` test) the theorems below state that iteration yields exactly the rows.
-/
namespace WM.C08
open WM.Columns WM.Numeric

/-- **VarBytesColumn, iteration**: `list(reader)` is the list of rows — the supplied value for each
    document that has one, `b''` elsewhere — for every offsets cutoff (the iterator recomputes the
    positions from the lengths and never reads the stored offsets). -/
theorem varbytes_iter (allow : Bool) (cutoff : Nat) (adds : List (Nat × Bytes)) (doccount : Nat)
    (hinc : Increasing adds) (hwithin : Within adds doccount) (hsize : totalBytes adds < 4294967296) :
    ∃ file, varWrite allow cutoff adds doccount = .ok file ∧
      varIter file doccount = .ok (rowsOf [] adds doccount) := by
  obtain ⟨tail, so, hw, hopen⟩ := varWrite_open allow cutoff adds doccount hinc hwithin hsize
  refine ⟨_, hw, ?_⟩
  rw [varIter, hopen]
  exact congrArg Except.ok (varIterFrom_flatten [] (rowsOf [] adds doccount) tail)

example : varIterFrom [1, 2, 9, 9, 9] 0 [2, 0, 1] = [[1, 2], [], [9]] := by decide

/-- **MultiColumnReader, iteration**: `list(reader)` is, row for row, what `reader[d]` returns for
    `d = 0 … total-1` (segments without the column contribute their `doc_count_all` defaults). -/
theorem multi_iter {α : Type} (default : α) (segs : List (SegCol α)) :
    (multiIter default segs).length = (segs.map SegCol.len).sum ∧
    ∀ d, d < (segs.map SegCol.len).sum →
      ∃ v, multiGet default segs d = .ok v ∧ (multiIter default segs)[d]? = some v := by
  rw [multiIter_eq_flatten]
  exact ⟨by rw [List.length_flatten, map_length_expand], multi_value default segs⟩

example : multiIter (0 : Nat) [.rows [5, 6], .empty 2, .rows [7]] = [5, 6, 0, 0, 7] := rfl

/-- **Fixed-width readers, iteration** (`FixedBytesColumn`, `NumericColumn`): the `i < count`
    shortcut of `__iter__` yields the default exactly where `__getitem__` synthesises it. -/
theorem fixed_iter (k : Nat) (default : Bytes) (data : Bytes) (doccount : Nat) :
    fixIter k default (fixGet k default data) data doccount = (List.range doccount).map (fixGet k default data) :=
  fixIter_eq_map k default _ data doccount fun _ hi => if_pos hi

/-- The same for `NumericColumn.Reader` (`self[i]` unpacks, the shortcut yields the number
    `self._default`): equal whenever the default is packable. -/
theorem numeric_iter (c : NumCode) (default : Int) (hdr : c.lo ≤ default ∧ default ≤ c.hi) (data : Bytes)
    (doccount : Nat) :
    (fixIter c.size (.ok default) (numGet c default data) data doccount)
      = (List.range doccount).map (numGet c default data) := by
  obtain ⟨db, hdb, -, hu⟩ := c.pack_spec default hdr
  refine fixIter_eq_map c.size _ _ data doccount fun i hi => ?_
  simp only [numGet, hdb, fixGet, if_pos hi, hu]

/-- **Sort keys of an integer field order documents by value**: the sort key of a document is the
    *sortable* number of its value, negated under `reverse` (`NumericColumn.Reader.sort_key`); for
    any two values `x`, `y` the keys compare like `x`, `y` (reversed under `reverse`). -/
theorem int_sort_key_order (bits : Nat) (signed reverse : Bool) (x y : Int) :
    let kx := (if reverse then 0 - toSortableInt bits signed x else toSortableInt bits signed x)
    let ky := (if reverse then 0 - toSortableInt bits signed y else toSortableInt bits signed y)
    (kx < ky ↔ if reverse then y < x else x < y) := by
  have h := toSortableInt_lt bits signed
  cases reverse
  · simp only [Bool.false_eq_true, if_false]; exact h x y
  · simp only [if_true]
    rw [← h y x]; omega

example : numSortKey .B 255 true [5, 9] 1 = .ok (-9) ∧ numSortKey .B 255 false [5, 9] 3 = .ok 255 := ⟨rfl, rfl⟩

end WM.C08
