import WM.Lemmas.NumericFloat
import WM.Lemmas.NumericUnguarded
import WM.Lemmas.NumericDecimalDatetime
/-! C13 — numeric and date fields order and range-match exactly. -/
namespace WM.C13
open WM.Numeric WM.NumericSpec

/-- **`split_ranges` is exact** (for the loop with the two wrap tests): for every width, precision
    step and `start ≤ end` inside the domain, a value passes the shifted comparison of some
    emitted range iff it lies in `[start, end]` — for *every* natural `v`, not only `v < 2^n`. -/
theorem split_exact (n step : Nat) (hstep : 0 < step) (s e v : Nat) (hse : s ≤ e) (he : e < 2 ^ n) :
    (∃ r ∈ splitRanges n step hstep s e, r.test v = true) ↔ (s ≤ v ∧ v ≤ e) :=
  splitRanges_exact n step hstep s e v hse he

example : splitRanges 8 4 (by decide) 17 200
    = [⟨17, 31, 0⟩, ⟨192, 200, 0⟩, ⟨32, 191, 4⟩] := by
  simp [splitRanges, splitLoop, notMask, pyAnd]; decide

/-- The loop of the pinned tree (no wrap tests) is **not** exact: `split_ranges(8, 4, 0, 3)` emits
    `(0, 511, 4)` next to `(0, 3, 0)`, so the value 100 passes although it is outside `[0, 3]`.
    This is the defect the `fix:` commit repairs; `split_exact` is about the repaired loop. -/
theorem split_unguarded_wrong :
    ¬ (∀ v, (∃ r ∈ splitLoopUnguarded 8 4 (by decide) 0 3 0, r.test v = true) ↔ (0 ≤ v ∧ v ≤ 3)) := by
  intro h
  have := (h 100).1 ⟨⟨0, 511, 4⟩, by simp [splitLoopUnguarded, notMask, pyAnd]; decide, by decide⟩
  omega

/-- Every emitted range sits on an indexed precision level (`shift < n`, a multiple of `step`), its
    bounds are ordered and inside the `n`-bit domain, so the bytes of both bounds can be packed. -/
theorem split_shape (n step : Nat) (hstep : 0 < step) (hn : 0 < n) (s e : Nat) (hse : s ≤ e)
    (he : e < 2 ^ n) :
    ∀ r ∈ splitRanges n step hstep s e,
      r.shift % step = 0 ∧ r.shift < n ∧ r.lo ≤ r.hi ∧ r.hi < 2 ^ n :=
  splitRanges_shape n step hstep hn s e hse he

example : ∀ r ∈ splitRanges 8 4 (by decide) 17 200,
    r.shift % 4 = 0 ∧ r.shift < 8 ∧ r.lo ≤ r.hi ∧ r.hi < 2 ^ 8 :=
  split_shape 8 4 (by decide) (by decide) 17 200 (by decide) (by decide)

/-- **Integer sortable encoding**, every width `n > 0`, both signednesses: the field's domain is
    the documented one, `to_sortable` maps it bijectively onto `[0, 2^n)` with inverse
    `from_sortable`, and preserves `<`. -/
theorem int_sortable (n : Nat) (hn : 0 < n) (signed : Bool) :
    (minMaxInt n signed =
      if signed then (-(2 : Int) ^ (n - 1), 2 ^ (n - 1) - 1) else (0, 2 ^ n - 1)) ∧
    (∀ x, inDomain n signed x →
      0 ≤ toSortableInt n signed x ∧ toSortableInt n signed x < 2 ^ n ∧
      fromSortableInt n signed (toSortableInt n signed x) = x) ∧
    (∀ s : Int, 0 ≤ s → s < 2 ^ n →
      inDomain n signed (fromSortableInt n signed s) ∧
      toSortableInt n signed (fromSortableInt n signed s) = s) ∧
    (∀ x y, toSortableInt n signed x < toSortableInt n signed y ↔ x < y) := by
  refine ⟨minMaxInt_eq n hn signed, fun x hx => ?_, fun s h0 h1 => ?_, toSortableInt_lt n signed⟩
  · have := (inDomain_iff n signed x).mp hx
    exact ⟨this.1, this.2, fromSortable_toSortable n signed x⟩
  · have e := toSortable_fromSortable n signed s
    exact ⟨(inDomain_iff n signed _).mpr (by rw [e]; exact ⟨h0, h1⟩), e⟩

example : inDomain 8 true (-128) ∧ toSortableInt 8 true (-128) = 0 ∧ toSortableInt 8 true 127 = 255 ∧
    ¬ inDomain 8 true 128 := by decide

/-- **Float sortable encoding** on 64-bit patterns (signed fields): a bijection of `[0, 2^64)` with
    inverse `sortable_long_to_float`, under which `<` on sortable values is the IEEE total order
    of the patterns (numeric order on non-NaN values, `-0.0 < +0.0`). -/
theorem float_sortable :
    (∀ b, b < 2 ^ 64 → ∃ s : Nat, floatToSortable b true = .ok (s : Int) ∧ s < 2 ^ 64 ∧
      sortableToFloat (s : Int) true = .ok b) ∧
    (∀ s : Nat, s < 2 ^ 64 → ∃ b, b < 2 ^ 64 ∧ sortableToFloat (s : Int) true = .ok b ∧
      floatToSortable b true = .ok (s : Int)) ∧
    (∀ a b (sa sb : Int), a < 2 ^ 64 → b < 2 ^ 64 → floatToSortable a true = .ok sa →
      floatToSortable b true = .ok sb → (totalLt a b = true ↔ sa < sb)) := by
  refine ⟨fun b hb => ?_, fun s hs => ?_, fun a b sa sb ha hb hsa hsb => ?_⟩
  · obtain ⟨h, e⟩ := toNat_lt_two_pow (fsort_range b hb)
    exact ⟨_, by rw [e]; exact floatToSortable_signed b hb, h,
      by rw [e]; exact sortableToFloat_fsort b hb⟩
  · obtain ⟨b, hb, e⟩ := fsort_surj s hs
    exact ⟨b, hb, e ▸ sortableToFloat_fsort b hb, e ▸ floatToSortable_signed b hb⟩
  · rw [floatToSortable_signed a ha] at hsa
    rw [floatToSortable_signed b hb] at hsb
    cases hsa; cases hsb
    exact totalLt_iff_fsort a b ha hb

/-- -0.0 < +0.0 < smallest denormal, and the two zeros are encoded next to each other. -/
example : totalLt 0x8000000000000000 0 = true ∧ totalLt 0 1 = true ∧
    floatToSortable 0x8000000000000000 true = .ok 0x7fffffffffffffff ∧
    floatToSortable 0 true = .ok 0x8000000000000000 :=
  ⟨by decide, by decide, floatToSortable_signed _ (by decide), floatToSortable_signed _ (by decide)⟩

/-- Unsigned float fields: the encoding is the identity on patterns with a clear sign bit (hence
    order preserving, by the signed case) and rejects every pattern with the sign bit set. -/
theorem float_sortable_unsigned :
    (∀ b, b < 2 ^ 63 → floatToSortable b false = .ok (b : Int) ∧ sortableToFloat (b : Int) false = .ok b) ∧
    (∀ b, 2 ^ 63 ≤ b → b < 2 ^ 64 → floatToSortable b false = .error .valueError) := by
  constructor
  · intro b hb
    rw [floatToSortable_unsigned b (by omega), sortableToFloat_unsigned, if_pos hb, if_pos hb]
    exact ⟨rfl, rfl⟩
  · intro b h1 h2
    rw [floatToSortable_unsigned b h2, if_neg (by omega)]

/-- 1.0 is encoded as itself, -0.0 is rejected. -/
example : floatToSortable 0x3ff0000000000000 false = .ok 0x3ff0000000000000 ∧
    floatToSortable 0x8000000000000000 false = .error .valueError :=
  ⟨(float_sortable_unsigned.1 _ (by decide)).1, float_sortable_unsigned.2 _ (by decide) (by decide)⟩

/-- **Term bytes order**: `[shift] ++ bigEndian(width, x)` compares lexicographically like the pair
    `(shift, x)`; equal bytes mean equal pairs; unpacking returns the number. -/
theorem bytes_order (w s t x y : Nat) (hx : x < 256 ^ w) (hy : y < 256 ^ w) :
    (bytesLe (s :: beBytes w x) (t :: beBytes w y) = true ↔ (s < t ∨ (s = t ∧ x ≤ y))) ∧
    ((s :: beBytes w x) = (t :: beBytes w y) ↔ (s = t ∧ x = y)) ∧
    beValue (beBytes w x) = x ∧ (beBytes w x).length = w ∧ (∀ b ∈ beBytes w x, b < 256) :=
  ⟨bytesLe_term w s t x y hx hy, term_eq_iff w s t x y hx hy,
   by rw [beValue_beBytes, Nat.mod_eq_of_lt hx], beBytes_length w x, beBytes_lt w x⟩

example : beBytes 2 0x1234 = [0x12, 0x34] ∧ bytesLe [4, 0, 255] [4, 1, 0] = true ∧
    bytesLe [4, 1, 0] [0, 255, 255] = false := by decide

/-- **`tiered_ranges` on integer fields**: for every width, signedness, step (0 = untiered) and all
    sixteen combinations of open/closed × exclusive/inclusive ends — including empty intervals,
    `start > end` and ends at the domain limits — a value of the domain passes some emitted range
    iff it lies in the interval; every range sits on an indexed level inside the domain. -/
theorem tiered_int (n step : Nat) (hn : 0 < n) (signed : Bool) (start end_ : Option Int)
    (sx ex : Bool) (hs : ∀ a, start = some a → inDomain n signed a)
    (he : ∀ b, end_ = some b → inDomain n signed b) :
    (∀ x, inDomain n signed x →
      ((∃ r ∈ tieredInt n signed start end_ step sx ex,
          r.test (toSortableInt n signed x).toNat = true) ↔
        inInterval intLt start end_ sx ex x = true)) ∧
    (∀ r ∈ tieredInt n signed start end_ step sx ex,
      r.shift ∈ indexShifts n step ∧ r.lo ≤ r.hi ∧ r.hi < 2 ^ n) :=
  tiered_enc intLt (toSortableInt n signed) (inDomain n signed) n step hn
    (fun x => (inDomain_iff n signed x).mp) (fun a b _ _ => intLt_toSortable n signed a b) start end_ sx ex hs he

/-- `[None TO 0}` on an unsigned byte field is empty; `{max TO None]` too; `[0 TO 3]` is one range. -/
example : tieredInt 8 false none (some 0) 4 false true = [] ∧
    tieredInt 8 false (some 255) none 4 true false = [] ∧
    tieredInt 8 false (some 0) (some 3) 4 false false = [⟨0, 3, 0⟩] := by
  refine ⟨by decide, by decide, ?_⟩
  simp [tieredInt, tieredSortable, toSortableInt, splitRanges, splitLoop, notMask, pyAnd]
  decide

/-- **`tiered_ranges` on (signed) float fields**: never raises on 64-bit patterns, and a pattern
    passes some emitted range iff it lies in the interval under the IEEE total order — for all
    combinations of open/closed and exclusive/inclusive ends. -/
theorem tiered_float (step : Nat) (start end_ : Option Nat) (sx ex : Bool)
    (hs : ∀ a, start = some a → a < 2 ^ 64) (he : ∀ b, end_ = some b → b < 2 ^ 64) :
    ∃ rs, tieredFloat true start end_ step sx ex = .ok rs ∧
      (∀ b, b < 2 ^ 64 → ∀ sb : Int, floatToSortable b true = .ok sb →
        ((∃ r ∈ rs, r.test sb.toNat = true) ↔ inInterval totalLt start end_ sx ex b = true)) ∧
      (∀ r ∈ rs, r.shift ∈ indexShifts 64 step ∧ r.lo ≤ r.hi ∧ r.hi < 2 ^ 64) := by
  obtain ⟨hex, shape⟩ := tiered_enc totalLt fsort (· < 2 ^ 64) 64 step (by decide) fsort_range
    totalLt_iff_fsort start end_ sx ex hs he
  refine ⟨_, tieredFloat_eq true fsort _ step floatToSortable_signed start end_ sx ex hs he,
    fun b hb sb hsb => ?_, shape⟩
  rw [floatToSortable_signed b hb] at hsb
  cases hsb
  exact hex b hb

/-- Hypotheses are satisfiable: the interval `[-0.0, 1.0}` with the pattern of `+0.0` inside. -/
example : inInterval totalLt (some 0x8000000000000000) (some 0x3ff0000000000000) false true 0 = true ∧
    inInterval totalLt (some 0) (some 0x3ff0000000000000) false true 0x8000000000000000 = false := by decide

/-- **`NUMERIC.index`**: a (prepared, sortable) value `X` of a `w`-byte field owns exactly one term
    per precision level `sh ∈ xrange(0, 8w, step)` (only level 0 when `step = 0`), namely
    `[sh] ++ bigEndian(X >> sh)` — exactly the levels the emitted ranges test. -/
theorem index_terms (w step X : Nat) (hw : 8 * w ≤ 256) (hX : X < 256 ^ w) :
    ∃ ts, indexTerms w step X = .ok ts ∧
      ∀ t, t ∈ ts ↔ ∃ sh, (if step = 0 then sh = 0 else sh < 8 * w ∧ sh % step = 0) ∧
        t = sh :: beBytes w (X >>> sh) := by
  refine ⟨_, indexTerms_ok w step X hw hX, fun t => ?_⟩
  simp only [List.mem_map, mem_indexShifts, termOf]
  exact exists_congr fun sh => and_congr_right fun _ => eq_comm

example : indexTerms 1 4 0xAB = .ok [[0, 0xAB], [4, 0x0A]] := by
  rw [indexTerms_ok 1 4 0xAB (by decide) (by decide)]
  simp [indexShifts, shiftsFrom, termOf, beBytes]

/-- **`NumericRange` on an integer field** (`w ∈ 1..32` bytes, any signedness and step): with
    bounds in the domain, `_compile_query` succeeds, and a document whose field value is `x` — i.e.
    which owns the terms `NUMERIC.index` produces for `x` — is matched by the compiled `Or` of
    `Term`/`TermRange` sub-queries iff `x` lies in the interval. -/
theorem range_query_int (w step : Nat) (hw : 0 < w) (hw' : 8 * w ≤ 256) (signed : Bool)
    (start end_ : Option Int) (sx ex : Bool) (x : Int)
    (hs : ∀ a, start = some a → inDomain (8 * w) signed a)
    (he : ∀ b, end_ = some b → inDomain (8 * w) signed b) (hx : inDomain (8 * w) signed x) :
    ∃ subs ts, compileInt w signed step start end_ sx ex = .ok subs ∧
      indexTerms w step (toSortableInt (8 * w) signed x).toNat = .ok ts ∧
      (matchesDoc subs ts = true ↔ inInterval intLt start end_ sx ex x = true) := by
  obtain ⟨subs, hc, h1, -⟩ := range_query_int_answers w step hw hw' signed start end_ sx ex hs he
  obtain ⟨ts, ht, hi⟩ := h1 x hx
  exact ⟨subs, ts, hc, ht, hi⟩

/-- Hypotheses are satisfiable (unsigned byte field, `[0 TO 3]`, value 2 inside, 200 outside). -/
example : inDomain (8 * 1) false 0 ∧ inDomain (8 * 1) false 3 ∧ inDomain (8 * 1) false 200 ∧
    inInterval intLt (some 0) (some 3) false false 2 = true ∧
    inInterval intLt (some 0) (some 3) false false 200 = false := by decide

example : ∃ subs ts, compileInt 1 false 4 (some 0) (some 3) false false = .ok subs ∧
    indexTerms 1 4 (toSortableInt (8 * 1) false 200).toNat = .ok ts ∧
    (matchesDoc subs ts = true ↔ inInterval intLt (some 0) (some 3) false false 200 = true) :=
  range_query_int 1 4 (by decide) (by decide) false (some 0) (some 3) false false 200
    (forall_eq_some (by decide)) (forall_eq_some (by decide)) (by decide)

/-- A multi-valued document (`NUMERIC.index` on a list, shared tier terms emitted once) matches
    iff at least one of its values lies in the interval. -/
theorem range_query_multi (w step : Nat) (hw : 0 < w) (hw' : 8 * w ≤ 256) (signed : Bool)
    (start end_ : Option Int) (sx ex : Bool) (xs : List Int)
    (hs : ∀ a, start = some a → inDomain (8 * w) signed a)
    (he : ∀ b, end_ = some b → inDomain (8 * w) signed b)
    (hxs : ∀ x ∈ xs, inDomain (8 * w) signed x) :
    ∃ subs ts, compileInt w signed step start end_ sx ex = .ok subs ∧
      indexTermsList w step (xs.map fun x => (toSortableInt (8 * w) signed x).toNat) = .ok ts ∧
      (matchesDoc subs ts = true ↔ ∃ x ∈ xs, inInterval intLt start end_ sx ex x = true) := by
  obtain ⟨subs, hc, -, h2⟩ := range_query_int_answers w step hw hw' signed start end_ sx ex hs he
  obtain ⟨ts, ht, hi⟩ := h2 xs hxs
  exact ⟨subs, ts, hc, ht, hi⟩

example : ∃ subs ts, compileInt 2 true 4 (some (-5)) none true false = .ok subs ∧
    indexTermsList 2 4 ([-5, 7, -32768].map fun x => (toSortableInt (8 * 2) true x).toNat) = .ok ts ∧
    (matchesDoc subs ts = true ↔ ∃ x ∈ [-5, 7, -32768], inInterval intLt (some (-5)) none true false x = true) :=
  range_query_multi 2 4 (by decide) (by decide) true (some (-5)) none true false [-5, 7, -32768]
    (forall_eq_some (by decide)) nofun (by decide)

/-- **`NumericRange` on a signed float field**: for all 64-bit patterns as bounds and value (NaNs
    included, ordered by the total order), compilation succeeds and the document matches iff its
    value lies in the interval. -/
theorem range_query_float (step : Nat) (start end_ : Option Nat) (sx ex : Bool) (b : Nat)
    (hs : ∀ a, start = some a → a < 2 ^ 64) (he : ∀ a, end_ = some a → a < 2 ^ 64)
    (hb : b < 2 ^ 64) :
    ∃ subs ts sb, compileFloat true step start end_ sx ex = .ok subs ∧
      floatToSortable b true = .ok sb ∧ indexTerms 8 step sb.toNat = .ok ts ∧
      (matchesDoc subs ts = true ↔ inInterval totalLt start end_ sx ex b = true) := by
  obtain ⟨subs, hc, h1, -⟩ := range_query_float_answers step start end_ sx ex hs he
  obtain ⟨ts, ht, hi⟩ := h1 b hb
  exact ⟨subs, ts, fsort b, hc, floatToSortable_signed b hb, ht, hi⟩

example : ∃ subs ts sb, compileFloat true 4 (some 0x8000000000000000) none true false = .ok subs ∧
    floatToSortable 0 true = .ok sb ∧ indexTerms 8 4 sb.toNat = .ok ts ∧
    (matchesDoc subs ts = true ↔ inInterval totalLt (some 0x8000000000000000) none true false 0 = true) :=
  range_query_float 4 (some 0x8000000000000000) none true false 0
    (forall_eq_some (by decide)) nofun (by decide)

/-- The same on an unsigned float field, whose domain is the patterns with a clear sign bit. -/
theorem range_query_float_unsigned (step : Nat) (start end_ : Option Nat) (sx ex : Bool) (b : Nat)
    (hs : ∀ a, start = some a → a < 2 ^ 63) (he : ∀ a, end_ = some a → a < 2 ^ 63)
    (hb : b < 2 ^ 63) :
    ∃ subs ts, compileFloat false step start end_ sx ex = .ok subs ∧
      floatToSortable b false = .ok (b : Int) ∧ indexTerms 8 step b = .ok ts ∧
      (matchesDoc subs ts = true ↔ inInterval totalLt start end_ sx ex b = true) := by
  have hf := fun b hb => (float_sortable_unsigned.1 b hb).1
  obtain ⟨subs, hc, h1, -⟩ := range_query_float_enc false (fun b => (b : Int))
    (fun a => a < 2 ^ 63) step hf prepareFloat_unsigned (fun b hb => by constructor <;> omega)
    totalLt_unsigned start end_ sx ex hs he
  obtain ⟨ts, ht, hi⟩ := h1 b hb
  exact ⟨subs, ts, hc, hf b hb, ht, hi⟩

example : (0x3ff0000000000000 : Nat) < 2 ^ 63 ∧ (0x7ff0000000000000 : Nat) < 2 ^ 63 := by decide

/-- **Out-of-domain values are rejected, never wrapped**: `prepare_number` accepts an integer iff
    it lies in the field's domain (`ValueError` otherwise); `to_bytes` (indexing) yields the term of
    the sortable value for accepted numbers and `ValueError` otherwise — `struct.error` is
    unreachable for a shift that fits a byte; a `NumericRange` with a bound outside the domain raises `ValueError`. -/
theorem reject (w : Nat) (hw : 0 < w) (hw' : 8 * w ≤ 256) (signed : Bool) :
    (∀ x, prepareInt (8 * w) signed x =
      if inDomain (8 * w) signed x then .ok x else .error .valueError) ∧
    (∀ x sh, sh < 256 → toBytesInt w signed x sh =
      if inDomain (8 * w) signed x then
        .ok (sh :: beBytes w ((toSortableInt (8 * w) signed x).toNat >>> sh))
      else .error .valueError) ∧
    (∀ step start end_ sx ex,
      ((∃ a, start = some a ∧ ¬ inDomain (8 * w) signed a) ∨
       (∃ b, end_ = some b ∧ ¬ inDomain (8 * w) signed b)) →
      compileInt w signed step start end_ sx ex = .error .valueError) := by
  refine ⟨prepareInt_eq (8 * w) signed, ?_, ?_⟩
  · intro x sh hsh
    refine (prepareInt_bind _ signed x _).trans (ite_congr rfl (fun hx => ?_) fun _ => rfl)
    exact sortableToBytes_ok w _ sh hsh
      (by rw [pow_256]; exact (toNat_lt_two_pow ((inDomain_iff _ signed x).mp hx)).1)
  · intro step start end_ sx ex h
    unfold compileInt
    rcases h with ⟨a, rfl, ha⟩ | ⟨b, rfl, hb⟩
    · simp [prepareInt_eq, ha, bind, Except.bind, Except.map]
    · cases start with
      | none => simp [prepareInt_eq, hb, bind, Except.bind, Except.map, pure, Except.pure]
      | some a =>
        by_cases ha : inDomain (8 * w) signed a
        · simp [prepareInt_eq, ha, hb, bind, Except.bind, Except.map]
        · simp [prepareInt_eq, ha, bind, Except.bind, Except.map]

example : prepareInt 8 false 256 = .error .valueError ∧ prepareInt 8 false 255 = .ok 255 ∧
    prepareInt 8 true (-129) = .error .valueError := ⟨rfl, rfl, rfl⟩

/-- Unsigned float fields reject every pattern with the sign bit set (negative numbers, `-0.0`,
    negative NaNs) with `ValueError` at indexing time. -/
theorem reject_float (b sh : Nat) (h1 : 2 ^ 63 ≤ b) (h2 : b < 2 ^ 64) :
    toBytesFloat false b sh = .error .valueError := by
  unfold toBytesFloat
  rw [prepareFloat_eq]
  -- whether `prepare_number` lets the pattern through (a negative NaN) or not, the outcome is the same
  split
  · rfl
  · simp only [bind, Except.bind]
    rw [floatToSortable_unsigned b h2, if_neg (by omega)]

example : toBytesFloat false 0x8000000000000000 0 = .error .valueError :=
  reject_float _ 0 (by decide) (by decide)

/-- **`datetime_to_long` / `long_to_datetime`** on (days, seconds, microseconds) triples: mutually
    inverse, and the microsecond count orders datetimes like the triples (so DATETIME ranges are
    integer ranges). -/
theorem datetime :
    (∀ t : TD, t.normal → longToTD (tdToUsecs t) = t) ∧
    (∀ x : Int, tdToUsecs (longToTD x) = x ∧ (longToTD x).normal) ∧
    (∀ t u : TD, t.normal → u.normal →
      (tdToUsecs t < tdToUsecs u ↔
        (t.days < u.days ∨ (t.days = u.days ∧ (t.seconds < u.seconds ∨
          (t.seconds = u.seconds ∧ t.micros < u.micros)))))) :=
  ⟨longToTD_tdToUsecs, tdToUsecs_longToTD,
    fun t u ht hu => (tdLt_iff t u ht hu).symm.trans decide_eq_true_iff⟩

example : longToTD 86400000001 = ⟨1, 0, 1⟩ ∧ tdToUsecs ⟨1, 0, 1⟩ = 86400000001 := by decide

/-- **Decimal fields** (`decimal_places = dc`): every stored integer `m` decodes to `m / 10^dc`
    and encodes back to `m` (so `unprepare ∘ prepare = id` on decimals with at most `dc` places,
    which are exactly the values `m / 10^dc`), and decoding preserves order. -/
theorem decimal (dc : Nat) :
    (∀ m : Int, decimalToInt dc (unprepareDecimal dc m) = m) ∧
    (∀ a b : Int, unprepareDecimal dc a < unprepareDecimal dc b ↔ a < b) :=
  ⟨decimalToInt_unprepare dc, unprepare_lt_iff dc⟩

example : decimalToInt 2 ((-5 : Rat) / 100) = -5 ∧ unprepareDecimal 2 (-5) = (-5 : Rat) / 100 := by
  constructor
  · have := decimalToInt_unprepare 2 (-5)
    simpa [unprepareDecimal] using this
  · simp [unprepareDecimal]

/-- The float range query against **numeric** membership (Python's `<`/`<=` on doubles), full
    statement: every pattern, every bound.  It is *false* (see `range_query_float_numeric_full_false`):
    the encoding orders patterns by the IEEE total order, so it tells `-0.0` from `+0.0` and gives
    NaNs a place. -/
def range_query_float_numeric_full : Prop :=
  ∀ (step : Nat) (start end_ : Option Nat) (sx ex : Bool) (b : Nat),
    (∀ a, start = some a → a < 2 ^ 64) → (∀ a, end_ = some a → a < 2 ^ 64) → b < 2 ^ 64 →
    ∀ subs ts sb, compileFloat true step start end_ sx ex = .ok subs →
      floatToSortable b true = .ok sb → indexTerms 8 step sb.toNat = .ok ts →
      (matchesDoc subs ts = true ↔ inIntervalNum start end_ sx ex b = true)

/-- **Float range query, numeric reading** (partial: the hypotheses exclude exactly the cases in
    which the total order and Python's comparison differ): if neither the document's value nor a
    bound is a NaN, and no bound is a zero of the opposite sign to a zero value, the document is
    matched iff `start <(=) value <(=) end` holds numerically. -/
theorem range_query_float_numeric_partial (step : Nat) (start end_ : Option Nat) (sx ex : Bool)
    (b : Nat) (hs : ∀ a, start = some a → a < 2 ^ 64) (he : ∀ a, end_ = some a → a < 2 ^ 64)
    (hb : b < 2 ^ 64) (hnan : isNaN b = false)
    (hs' : ∀ a, start = some a → isNaN a = false ∧ zeroClash a b = false)
    (he' : ∀ a, end_ = some a → isNaN a = false ∧ zeroClash a b = false) :
    ∃ subs ts sb, compileFloat true step start end_ sx ex = .ok subs ∧
      floatToSortable b true = .ok sb ∧ indexTerms 8 step sb.toNat = .ok ts ∧
      (matchesDoc subs ts = true ↔ inIntervalNum start end_ sx ex b = true) := by
  rw [← inInterval_total_eq_num start end_ sx ex b hnan hs' he']
  exact range_query_float step start end_ sx ex b hs he hb

/-- Hypotheses satisfiable: `[-1.5 TO 2.5}` with the value 1.0; and the excluded region is real:
    `-0.0` against the bound `+0.0` is a clash. -/
example : isNaN 0x3ff0000000000000 = false ∧ zeroClash 0xbff8000000000000 0x3ff0000000000000 = false ∧
    inIntervalNum (some 0xbff8000000000000) (some 0x4004000000000000) false true 0x3ff0000000000000 = true ∧
    zeroClash 0 0x8000000000000000 = true := by decide

/-- **The numeric reading fails on signed zeros and NaNs** (concrete, kernel-checked): a document
    holding `-0.0` is not matched by `[0.0 TO None]` although `-0.0 >= 0.0`; a document holding a
    (positive, quiet) NaN is matched by `[1.0 TO None]` although `nan >= 1.0` is false. -/
theorem range_query_float_numeric_full_false : ¬ range_query_float_numeric_full := by
  intro h
  -- the -0.0 document against [0.0 TO None]: both readings would be what the compiled query answers
  have hs : ∀ a, some 0 = some a → a < 2 ^ 64 := forall_eq_some (by decide)
  obtain ⟨subs, ts, sb, h1, h2, h3, h4⟩ :=
    range_query_float 4 (some 0) none false false 0x8000000000000000 hs nofun (by decide)
  exact absurd (h4.symm.trans (h 4 (some 0) none false false _ hs nofun (by decide) subs ts sb h1 h2 h3))
    (by decide)

/-- The NaN half of the same fact, stated on its own. -/
example : inInterval totalLt (some 0x3ff0000000000000) none false false 0x7ff8000000000000 = true ∧
    inIntervalNum (some 0x3ff0000000000000) none false false 0x7ff8000000000000 = false := by decide

/-- **`prepare_number` on Decimals is monotone** on arbitrary rationals (truncation towards zero
    never reverses the order of two values or bounds). -/
theorem decimal_monotone (dc : Nat) (p q : Rat) (h : p ≤ q) :
    decimalToInt dc p ≤ decimalToInt dc q := by
  rw [decimalToInt_eq, decimalToInt_eq]
  exact trunc_mono _ _ (Rat.mul_le_mul_of_nonneg_right h (Rat.le_of_lt (decScale_pos dc)))

/-- A range bound on a Decimal field is exact for every stored value, full statement: comparing
    the stored integers with the prepared (truncated) bound is the same as comparing the decoded
    Decimals with the bound itself.  False when the bound has more than `dc` places
    (see `decimal_bound_full_false`). -/
def decimal_bound_full : Prop :=
  ∀ (dc : Nat) (q : Rat) (x : Int),
    (decimalToInt dc q ≤ x ↔ q ≤ unprepareDecimal dc x) ∧
    (x ≤ decimalToInt dc q ↔ unprepareDecimal dc x ≤ q)

/-- **Decimal range bounds** (partial): for a bound `q` with *any* number of places, the truncated
    bound is exact as an **upper** bound when `q ≥ 0` and as a **lower** bound when `q ≤ 0`; and it
    is exact on both sides when `q` has at most `dc` places (`q = m / 10^dc`).  What is missing is a
    positive lower bound / negative upper bound with more than `dc` places: truncation towards zero
    moves it outwards. -/
theorem decimal_bound_partial (dc : Nat) (q : Rat) (x : Int) :
    (0 ≤ q → (x ≤ decimalToInt dc q ↔ unprepareDecimal dc x ≤ q)) ∧
    (q ≤ 0 → (decimalToInt dc q ≤ x ↔ q ≤ unprepareDecimal dc x)) ∧
    (∀ m : Int, q = unprepareDecimal dc m →
      (decimalToInt dc q ≤ x ↔ q ≤ unprepareDecimal dc x) ∧
      (x ≤ decimalToInt dc q ↔ unprepareDecimal dc x ≤ q)) := by
  refine ⟨?_, ?_, ?_⟩
  · intro h
    have h0 : 0 ≤ q * decScale dc := Rat.mul_nonneg h (Rat.le_of_lt (decScale_pos dc))
    rw [decimalToInt_eq, tdiv_num_den, if_pos h0, Rat.le_floor_iff, unprepare_le_iff]
  · intro h
    have h0 : q * decScale dc ≤ 0 := by
      have := Rat.mul_le_mul_of_nonneg_right h (Rat.le_of_lt (decScale_pos dc))
      rwa [Rat.zero_mul] at this
    rw [decimalToInt_eq, trunc_of_nonpos _ h0, Rat.ceil_le_iff, le_unprepare_iff]
  · intro m hm
    subst hm
    rw [decimalToInt_unprepare, le_unprepare_iff, unprepare_le_iff, unprepare_mul]
    exact ⟨Rat.intCast_le_intCast.symm, Rat.intCast_le_intCast.symm⟩

/-- `[0.005 TO …]` on a field with two decimal places admits the stored value `0.00`. -/
theorem decimal_bound_full_false : ¬ decimal_bound_full := by
  intro h
  exact absurd ((h 2 ((5 : Rat) / 1000) 0).1.1 (by decide +kernel)) (by decide +kernel)

/-- **`DateRange` on a DATETIME field** (64-bit signed, `shift_step = 8`): the composition of
    `datetime` with `range_query_int`.  For datetimes given as normalised
    `(days, seconds, microseconds)` triples whose microsecond counts lie in the field's domain, the
    compiled query matches a document iff its datetime lies in the interval in the order of
    datetimes (lexicographic on the triple). -/
theorem range_query_datetime (start end_ : Option TD) (sx ex : Bool) (t : TD)
    (hs : ∀ a, start = some a → a.normal ∧ inDomain 64 true (tdToUsecs a))
    (he : ∀ a, end_ = some a → a.normal ∧ inDomain 64 true (tdToUsecs a))
    (ht : t.normal ∧ inDomain 64 true (tdToUsecs t)) :
    ∃ subs ts, compileInt 8 true 8 (start.map tdToUsecs) (end_.map tdToUsecs) sx ex = .ok subs ∧
      indexTerms 8 8 (toSortableInt 64 true (tdToUsecs t)).toNat = .ok ts ∧
      (matchesDoc subs ts = true ↔ inInterval tdLt start end_ sx ex t = true) := by
  rw [← inInterval_enc tdLt tdToUsecs TD.normal tdLt_iff start end_ sx ex t ht.1
    (fun a ha => (hs a ha).1) (fun a ha => (he a ha).1)]
  exact range_query_int 8 8 (by decide) (by decide) true _ _ sx ex (tdToUsecs t)
    (forall_map_some hs fun _ h => h.2) (forall_map_some he fun _ h => h.2) ht.2

/-- Hypotheses satisfiable: `datetime.min` and a day later, one microsecond in between. -/
example : (⟨0, 0, 0⟩ : TD).normal ∧ inDomain 64 true (tdToUsecs ⟨1, 0, 0⟩) ∧
    inInterval tdLt (some ⟨0, 0, 0⟩) (some ⟨1, 0, 0⟩) true true ⟨0, 0, 1⟩ = true ∧
    inInterval tdLt (some ⟨0, 0, 0⟩) (some ⟨1, 0, 0⟩) true true ⟨1, 0, 0⟩ = false := by
  refine ⟨by simp [TD.normal], by decide, by decide, by decide⟩

/-- **`NumericRange` on a Decimal field** (`decimal_places = dc`, `w ∈ 1..32` bytes, any
    signedness and step): the composition of `decimal`, `prepare_number`'s truncation and
    `range_query_int`.  For *arbitrary* rational bounds whose prepared values lie in the domain,
    `_compile_query` succeeds and a document storing the scaled integer `x` (the Decimal
    `x / 10^dc`) is matched iff `x` lies between the *truncated* scaled bounds — the exact behaviour;
    and when every bound has at most `dc` places (`q = m / 10^dc`) this is membership of the
    document's Decimal value in the interval of the Decimal bounds themselves. -/
theorem range_query_decimal (w step dc : Nat) (hw : 0 < w) (hw' : 8 * w ≤ 256) (signed : Bool)
    (start end_ : Option Rat) (sx ex : Bool) (x : Int)
    (hs : ∀ q, start = some q → inDomain (8 * w) signed (decimalToInt dc q))
    (he : ∀ q, end_ = some q → inDomain (8 * w) signed (decimalToInt dc q))
    (hx : inDomain (8 * w) signed x) :
    ∃ subs ts, compileDecimal w signed step dc start end_ sx ex = .ok subs ∧
      indexTerms w step (toSortableInt (8 * w) signed x).toNat = .ok ts ∧
      (matchesDoc subs ts = true ↔
        inInterval intLt (start.map (decimalToInt dc)) (end_.map (decimalToInt dc)) sx ex x = true) ∧
      ((∀ q, start = some q → ∃ m : Int, q = unprepareDecimal dc m) →
       (∀ q, end_ = some q → ∃ m : Int, q = unprepareDecimal dc m) →
        (matchesDoc subs ts = true ↔
          inInterval ratLt start end_ sx ex (unprepareDecimal dc x) = true)) := by
  obtain ⟨subs, ts, h1, h2, h3⟩ := range_query_int w step hw hw' signed _ _ sx ex x
    (forall_map_some hs fun _ h => h) (forall_map_some he fun _ h => h) hx
  refine ⟨subs, ts, by rw [compileDecimal_eq]; exact h1, h2, h3, fun hS hE => ?_⟩
  -- on Decimals with at most `dc` places `decimalToInt dc` is an order embedding; `x` is the image of the document's value
  have hf : ∀ p q : Rat, (∃ m : Int, p = unprepareDecimal dc m) → (∃ m : Int, q = unprepareDecimal dc m) →
      (ratLt p q = true ↔ decimalToInt dc p < decimalToInt dc q) := by
    rintro _ _ ⟨a, rfl⟩ ⟨b, rfl⟩
    rw [decimalToInt_unprepare, decimalToInt_unprepare]
    exact decide_eq_true_iff.trans (unprepare_lt_iff dc a b)
  rw [h3, ← inInterval_enc ratLt (decimalToInt dc) _ hf start end_ sx ex _ ⟨x, rfl⟩ hS hE, decimalToInt_unprepare]

/-- Hypotheses satisfiable (two places, signed byte field, `{-0.05 TO 1.27]`): the stored `-5`
    (`-0.05`) is outside, `0` is inside; and a bound with three places (`0.005`) is truncated to the
    stored `0`, so `[0.005 TO …]` admits `0.00` — the recorded deviation, here in its exact form. -/
example : ∃ subs ts,
    compileDecimal 1 true 4 2 (some (unprepareDecimal 2 (-5))) (some (unprepareDecimal 2 127)) true false = .ok subs ∧
    indexTerms 1 4 (toSortableInt (8 * 1) true 0).toNat = .ok ts ∧
    (matchesDoc subs ts = true ↔
      inInterval ratLt (some (unprepareDecimal 2 (-5))) (some (unprepareDecimal 2 127)) true false
        (unprepareDecimal 2 0) = true) := by
  obtain ⟨subs, ts, h1, h2, _, h4⟩ := range_query_decimal 1 4 2 (by decide) (by decide) true
    (some (unprepareDecimal 2 (-5))) (some (unprepareDecimal 2 127)) true false 0
    (forall_eq_some (by rw [decimalToInt_unprepare]; decide))
    (forall_eq_some (by rw [decimalToInt_unprepare]; decide)) (by decide)
  exact ⟨subs, ts, h1, h2, h4 (forall_eq_some ⟨_, rfl⟩) (forall_eq_some ⟨_, rfl⟩)⟩

example : inInterval intLt ((some ((5 : Rat) / 1000)).map (decimalToInt 2)) none false false 0 = true ∧
    inInterval ratLt (some ((5 : Rat) / 1000)) none false false (unprepareDecimal 2 0) = false := by
  decide +kernel

/-- **Closed float range whose bounds are `==` in Python** (`start == end`, neither a NaN): by
    `pyEq_iff` the bounds are the same pattern or the two zeros, and the compiled query matches a
    document iff the encoded start is not above the encoded end and the document's value is one of
    the two bounds.  So `[x TO x]` is the point query for the pattern `x`, `[-0.0 TO 0.0]` matches
    exactly the documents holding `-0.0` **or** `+0.0`, and `[0.0 TO -0.0]` matches nothing: a single
    term lookup of `start` (numeric equality taken for encoding equality) is wrong on the zeros. -/
theorem range_query_float_equal_bounds (step a b v : Nat) (ha : a < 2 ^ 64) (hb : b < 2 ^ 64)
    (hv : v < 2 ^ 64) (heq : pyEq a b = true) :
    ∃ subs ts sb, compileFloat true step (some a) (some b) false false = .ok subs ∧
      floatToSortable v true = .ok sb ∧ indexTerms 8 step sb.toNat = .ok ts ∧
      (matchesDoc subs ts = true ↔ (totalLt b a = false ∧ (v = a ∨ v = b))) := by
  rw [← equal_bounds_total a b v ha hb hv heq]
  exact range_query_float step (some a) (some b) false false v (forall_eq_some ha) (forall_eq_some hb) hv

/-- Hypotheses satisfiable and both zero cases real: `-0.0 == 0.0`; `[-0.0 TO 0.0]` holds `+0.0`
    (which the term of `-0.0` alone does not select), `[0.0 TO -0.0]` does not hold `+0.0`. -/
example : pyEq 0x8000000000000000 0 = true ∧ pyEq 0 0x8000000000000000 = true ∧
    pyEq 0x3ff0000000000000 0x3ff0000000000000 = true ∧
    inInterval totalLt (some 0x8000000000000000) (some 0) false false 0 = true ∧
    inInterval totalLt (some 0x8000000000000000) (some 0x8000000000000000) false false 0 = false ∧
    inInterval totalLt (some 0) (some 0x8000000000000000) false false 0 = false := by decide

example : ∃ subs ts sb, compileFloat true 4 (some 0x8000000000000000) (some 0) false false = .ok subs ∧
    floatToSortable 0 true = .ok sb ∧ indexTerms 8 4 sb.toNat = .ok ts ∧
    (matchesDoc subs ts = true ↔
      (totalLt 0 0x8000000000000000 = false ∧ (0 = 0x8000000000000000 ∨ 0 = 0))) :=
  range_query_float_equal_bounds 4 0x8000000000000000 0 0 (by decide) (by decide) (by decide) (by decide)

/-- **A multi-valued document on a signed float field** (`NUMERIC(float).index` on a list: every
    value encoded by `float_to_sortable_long`, the tier terms of all values with shared terms
    emitted once) matches the compiled range query iff at least one of its values lies in the
    interval under the total order — for all patterns, steps, bounds and flags. -/
theorem range_query_float_multi (step : Nat) (start end_ : Option Nat) (sx ex : Bool) (bs : List Nat)
    (hs : ∀ a, start = some a → a < 2 ^ 64) (he : ∀ a, end_ = some a → a < 2 ^ 64)
    (hbs : ∀ b ∈ bs, b < 2 ^ 64) :
    ∃ subs sbs ts, compileFloat true step start end_ sx ex = .ok subs ∧
      bs.mapM (fun b => floatToSortable b true) = .ok sbs ∧
      indexTermsList 8 step (sbs.map Int.toNat) = .ok ts ∧
      (matchesDoc subs ts = true ↔ ∃ b ∈ bs, inInterval totalLt start end_ sx ex b = true) := by
  obtain ⟨subs, hc, -, h2⟩ := range_query_float_answers step start end_ sx ex hs he
  obtain ⟨ts, ht, hi⟩ := h2 bs hbs
  exact ⟨subs, bs.map fsort, ts, hc,
    mapM_eq_map (fun b hb => floatToSortable_signed b (hbs b hb)),
    by rw [List.map_map]; exact ht, hi⟩

example : ∃ subs sbs ts, compileFloat true 4 (some 0x8000000000000000) (some 0) false true = .ok subs ∧
    [0x3ff0000000000000, 0x8000000000000000, 0].mapM (fun b => floatToSortable b true) = .ok sbs ∧
    indexTermsList 8 4 (sbs.map Int.toNat) = .ok ts ∧
    (matchesDoc subs ts = true ↔ ∃ b ∈ [0x3ff0000000000000, 0x8000000000000000, 0],
      inInterval totalLt (some 0x8000000000000000) (some 0) false true b = true) :=
  range_query_float_multi 4 (some 0x8000000000000000) (some 0) false true
    [0x3ff0000000000000, 0x8000000000000000, 0]
    (forall_eq_some (by decide)) (forall_eq_some (by decide)) (by decide)

end WM.C13
