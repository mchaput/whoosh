import WM.Lemmas.ScoringMono
import WM.Lemmas.ReplaceRest
/-!
# C12 — quality bounds are true upper bounds on scores

`WQ PB s m`: the tree `m` is well formed (C11), scores are non-negative, block/term statistics of the posting
lists are true aggregates, the leaf scorers are monotone, every boost satisfies `PB` and every part whose
quality is consulted supports block quality.  `W0 PB` is the same without the support requirement.
All statements are for every shape (MultiMatcher and ArrayUnionMatcher nodes included; for the latter the
invariant also asks for positive scores and a positive boost, without which the class drops documents), state and
threshold (also 0, negative, above the maximum).
-/
namespace WM.C12
open WM.Matcher

/-- the side condition on boosts used by the bound and skip theorems: positive -/
abbrev Pos : Rat → Prop := fun b => 0 < b

theorem tree_qfaithfulPos (s : Shape) : QFaithful (ops s) (den s) (full s) (WQ Pos s) (W0 Pos s) :=
  tree_qfaithful Pos (fun _ h => h) s

/-- `supports_block_quality()` holds on the states the theorems below talk about -/
theorem supports (s : Shape) (m : St s) (h : WQ Pos s m) : (ops s).supportsBQ m = true :=
  (tree_qfaithfulPos s).sup m h

/-- `block_quality()` never raises and is at least the score of the current entry -/
theorem block (s : Shape) (m : St s) (h : WQ Pos s m) :
    ∃ q, (ops s).blockQuality m = .ok q ∧ ∀ x r L, den s m = (x, r) :: L → r ≤ q :=
  (tree_qfaithfulPos s).block m h

/-- `max_quality()` never raises and is at least every remaining score (no support needed: `replace()`
    consults it on every tree) -/
theorem max (s : Shape) (m : St s) (h : W0 Pos s m) :
    ∃ q, (ops s).maxQuality m = .ok q ∧ ∀ e ∈ den s m, e.2 ≤ q := by
  obtain ⟨q, h1, h2, -⟩ := (tree_qfaithfulPos s).max m h
  exact ⟨q, h1, h2⟩

/-- for a posting list, `block_quality()` bounds **every** entry of the current block and `max_quality()`
    every entry of the list, whenever the scorer is monotone (`QData.mono`) -/
theorem leaf_bound (m : LeafM) (h : LeafM.WF m) (d : LeafM.QData m) :
    (∀ p ∈ (m.blocks[m.b]'h.2.1).posts, m.sc p.weight p.length ≤ m.blockQualityV) ∧
    (∀ B ∈ m.blocks, ∀ p ∈ B.posts, m.sc p.weight p.length ≤ m.sc m.termMaxWeight m.termMinLength) := by
  refine ⟨fun p hp => ?_, fun B hB p hp => ?_⟩
  · rw [LeafM.blockQualityV_eq h.2.1]
    exact LeafM.entry_le_block d (List.getElem_mem _) hp
  · exact Rat.le_trans (LeafM.entry_le_block d hB hp) (LeafM.block_le_term d hB)

/-- `skip_to_quality(q)` never raises on an active matcher, preserves the invariant and passes over no entry
    scoring more than `q`: above `q` the remaining list is unchanged (nothing lost, invented or rescored), and
    what remains at or below `q` is dominated by the original list -/
theorem skip_keeps (s : Shape) (m : St s) (q : Rat) (h : WQ Pos s m) (ha : (ops s).isActive m = true) :
    ∃ m' k, (ops s).skipToQuality m q = .ok (m', k) ∧ WQ Pos s m' ∧
      hi q (den s m') = hi q (den s m) ∧ Dominated (den s m') (den s m) ∧ full s m' = full s m := by
  have Q := tree_qfaithfulPos s
  obtain ⟨⟨m', k⟩, h1, h2, h3, h4⟩ := Q.skipQ m q h ((Q.curQ.active m h).1 ha)
  exact ⟨m', k, h1, h2, h3.hi_eq, h3.dom, h4.full_eq⟩

/-- … in particular every entry scoring more than `q` survives with its score -/
theorem skip_keeps_mem (s : Shape) (m : St s) (q : Rat) (h : WQ Pos s m) (ha : (ops s).isActive m = true) :
    ∃ m' k, (ops s).skipToQuality m q = .ok (m', k) ∧ ∀ e ∈ den s m, q < e.2 → e ∈ den s m' := by
  obtain ⟨m', k, h1, -, h3, -, -⟩ := skip_keeps s m q h ha
  refine ⟨m', k, h1, fun e he hq => ?_⟩
  have : e ∈ hi q (den s m) := mem_hi.2 ⟨he, hq⟩
  rw [← h3] at this
  exact (mem_hi.1 this).1

/-- **the composition the top-N search relies on** (`collectors.py ScoredCollector.matches`: `while
    matcher.is_active(): [matcher.skip_to_quality(minscore)]; read id/score; matcher.next()`): for *every* schedule
    of `next()` and `skip_to_quality(q)` calls (issued while the matcher is active) whose thresholds never exceed `Q`,
    the walk never raises, keeps the invariant, and every entry of the original result list scoring more than `Q` is
    either **visited** (it was the current entry, with its true score, when a `next()` was issued) or still in the
    remaining list; conversely nothing above `Q` is invented or rescored, neither among the visited entries nor among
    the remaining ones. -/
theorem walk_keeps (s : Shape) (m : St s) (prog : List QOp) (Q : Rat) (h : WQ Pos s m)
    (hQ : ∀ q, QOp.skipq q ∈ prog → q ≤ Q) :
    ∃ m' v, runW s m prog = .ok (m', v) ∧ WQ Pos s m' ∧
      (∀ e ∈ den s m, Q < e.2 → e ∈ v ∨ e ∈ den s m') ∧
      (∀ e ∈ v, Q < e.2 → e ∈ den s m) ∧ (∀ e ∈ den s m', Q < e.2 → e ∈ den s m) ∧ full s m' = full s m := by
  obtain ⟨m', v, hr, hw, hk, hf⟩ := runWith_hi (tree_qfaithfulPos s) Q prog m h hQ
  have mem : ∀ e, e ∈ hi Q (den s m) ↔ e ∈ hi Q v ∨ e ∈ hi Q (den s m') := fun e => by rw [hk, List.mem_append]
  refine ⟨m', v, hr, hw, fun e he hq => ?_, fun e he hq => ?_, fun e he hq => ?_, hf⟩
  · exact ((mem e).1 (mem_hi.2 ⟨he, hq⟩)).imp (fun h => (mem_hi.1 h).1) fun h => (mem_hi.1 h).1
  · exact (mem_hi.1 ((mem e).2 (.inl (mem_hi.2 ⟨he, hq⟩)))).1
  · exact (mem_hi.1 ((mem e).2 (.inr (mem_hi.2 ⟨he, hq⟩)))).1

/-- the full statement: `replace(q)` removes no entry scoring more than `q`, whatever the (positive) boosts -/
def replace_keeps_full : Prop :=
  ∀ (s : Shape) (m : St s) (q : Rat), W0 Pos s m →
    ∃ c r, replace s m q = .ok (c, r) ∧ hi q r.den = hi q (den s m)

/-- **proved part**: for trees whose boosts lie in `(0, 1]`, `replace(q)` never raises, returns a well-formed
    tree and keeps every entry scoring above `q` unchanged (nothing lost, invented or rescored above `q`; what
    remains below is dominated by the original).  No block-quality support is needed (the collectors call
    `replace()` on every tree).  Missing for the full statement: boosts above 1 - there the code is wrong,
    see `replace_keeps_boost_counterexample`. -/
theorem replace_keeps_partial (s : Shape) (m : St s) (q : Rat) (h : W0 Unit01 s m) :
    ∃ c r, replace s m q = .ok (c, r) ∧ W0 Unit01 r.1 r.2 ∧ hi q r.den = hi q (den s m) ∧
      Dominated r.den (den s m) ∧ (q = 0 → r.den = den s m) := by
  obtain ⟨⟨c, r⟩, h1, h2⟩ := replace_spec s m q h
  exact ⟨c, r, h1, h2.inv, h2.keeps.hi_eq, h2.keeps.dom, h2.eq0⟩

/-- `WrappingMatcher(ListMatcher([6], [1.0]), boost=2.0)`: the only entry scores 2 … -/
def exBoost2 : St (.boost .list) := ⟨⟨[6], [1], 0, true⟩, 2⟩

/-- … and `replace(7/4)` drops it: `WrappingMatcher.replace` hands the threshold to the child unscaled
    (recorded finding; `tests/test_quality.py::test_replacements` pins the behaviour) -/
theorem replace_keeps_boost_counterexample :
    W0 Pos (.boost .list) exBoost2 ∧ den (.boost .list) exBoost2 = [(6, 2)] ∧
    ((replace (.boost .list) exBoost2 (7/4)).toOption.map fun out => hi (7/4) out.2.den) = some [] := by
  refine ⟨⟨⟨⟨by decide, rfl⟩, ?_⟩, by decide +kernel⟩, by decide +kernel, by decide +kernel⟩
  have : ∀ w ∈ ([1] : List Rat), 0 ≤ w := by decide +kernel
  exact this

example : ¬ replace_keeps_full := by
  intro h
  obtain ⟨c, r, h1, h2⟩ := h (.boost .list) exBoost2 (7/4) replace_keeps_boost_counterexample.1
  have h3 := replace_keeps_boost_counterexample.2.2
  rw [h1] at h3
  simp only [Except.toOption, Option.map_some, Option.some.injEq] at h3
  rw [h3, replace_keeps_boost_counterexample.2.1] at h2
  revert h2
  decide +kernel

/-- non-vacuity of `replace_keeps_partial`: a union of scored lists under a boost ≤ 1 is turned into an
    intersection, keeping exactly the entries above the threshold -/
def exUnionHalf : St (.boost (.union .list .list)) :=
  ⟨⟨⟨[1, 3], [1, 1], 0, true⟩, ⟨[3, 5], [1, 1], 0, true⟩⟩, 1/2⟩

/-- … it satisfies the hypothesis of `replace_keeps_partial` -/
example : W0 Unit01 _ exUnionHalf := by
  have nn : ∀ w ∈ ([1, 1] : List Rat), 0 ≤ w := by decide +kernel
  exact ⟨⟨⟨⟨by decide, rfl⟩, nn⟩, ⟨⟨by decide, rfl⟩, nn⟩⟩, by decide +kernel⟩

example : ((replace _ exUnionHalf (3/2)).toOption.map fun out => out.2.den) = some [(3, 1)] ∧
    den _ exUnionHalf = [(1, 1/2), (3, 1), (5, 1/2)] := by decide +kernel

/-! ## the shipped scorers that claim quality support are monotone (over `Rat`) -/

theorem bm25_mono {idf avgfl B K1 : Rat} (hidf : 0 ≤ idf) (havg : 0 < avgfl) (hB0 : 0 ≤ B) (hB1 : B ≤ 1)
    (hK : 0 ≤ K1) (tf tf' : Rat) (fl fl' : Nat) (h0 : 0 ≤ tf) (h1 : tf ≤ tf') (h2 : fl' ≤ fl) :
    bm25 idf avgfl B K1 tf fl ≤ bm25 idf avgfl B K1 tf' fl' :=
  WM.Matcher.bm25_mono hidf havg hB0 hB1 hK tf tf' fl fl' h0 h1 h2

theorem tfidf_mono {idf : Rat} (h : 0 ≤ idf) : Monotone2 (tfidfScore idf) := WM.Matcher.tfidf_mono h

theorem freq_mono : Monotone2 freqScore := WM.Matcher.freq_mono

/-- the composition: a posting list scored with BM25F (non-negative idf, positive average field length, `B` in
    [0, 1], non-negative `K1`) whose stored block/term statistics are true aggregates of non-negative weights
    satisfies `leaf_bound` - `block_quality()` bounds every entry of the block, `max_quality()` every entry of the list -/
theorem bm25_leaf_bound (m : LeafM) (h : LeafM.WF m) {idf avgfl B K1 : Rat} (hsc : m.sc = bm25 idf avgfl B K1)
    (hidf : 0 ≤ idf) (havg : 0 < avgfl) (hB0 : 0 ≤ B) (hB1 : B ≤ 1) (hK : 0 ≤ K1)
    (hblock : ∀ Bk ∈ m.blocks, ∀ p ∈ Bk.posts, p.weight ≤ Bk.maxWeight ∧ Bk.minLength ≤ p.length)
    (hterm : ∀ Bk ∈ m.blocks, Bk.maxWeight ≤ m.termMaxWeight ∧ m.termMinLength ≤ Bk.minLength)
    (hnn : ∀ Bk ∈ m.blocks, 0 ≤ Bk.maxWeight ∧ ∀ p ∈ Bk.posts, 0 ≤ p.weight) :
    (∀ p ∈ (m.blocks[m.b]'h.2.1).posts, m.sc p.weight p.length ≤ m.blockQualityV) ∧
    (∀ Bk ∈ m.blocks, ∀ p ∈ Bk.posts, m.sc p.weight p.length ≤ m.sc m.termMaxWeight m.termMinLength) := by
  refine leaf_bound m h ⟨hblock, hterm, hnn, ?_, ?_⟩
  · rw [hsc]
    exact WM.Matcher.bm25_mono hidf havg hB0 hB1 hK
  · intro Bk hBk p hp
    rw [hsc]
    exact WM.Matcher.bm25_nonneg hidf havg hB0 hB1 hK _ ((hnn Bk hBk).2 p hp)

/-! ## CoordMatcher (`Or(..., scale=c)`): the formulas only; the class itself is walked end-to-end -/

/-- `max_quality()`/`block_quality()` of `CoordMatcher` (`_sqr(child bound, termcount)`) bound the coordinated score
    `_sqr(child score, matching terms)`: the formula is monotone in both arguments (at least one term, `termcount ≠
    scale`) -/
theorem coord_bound {T c s S k : Rat} (hT : 1 ≤ T) (hc : T ≠ c) (hs : s ≤ S) (hk : k ≤ T) :
    coordSqr T c s k ≤ coordSqr T c S T :=
  coordSqr_mono hT hc hs hk

/-- the threshold handed to the child by the repaired `skip_to_quality`/`replace` (`_child_quality(q)`) is safe: a
    document whose child score is at or below it scores at most `q` here, however many terms match -/
theorem coord_threshold {T c q s k : Rat} (hT : 1 < T) (hc : T ≠ c) (hk : k ≤ T) (hs : s ≤ coordChild T c q) :
    coordSqr T c s k ≤ q :=
  WM.Matcher.coord_threshold hT hc hk hs

/-- … while the unconverted threshold (what the pinned tree hands down) is not: two terms, scale 1/2, threshold
    3/10 - a document with child score 3/10 (so passed over by the child) on which both terms match scores 67/180 -/
example : coordSqr 2 (1/2) (3/10) 2 = 67/180 ∧ ¬ coordSqr 2 (1/2) (3/10) 2 ≤ 3/10 := by decide +kernel

/-! ## non-vacuity -/

/-- `Intersection([1,3,5], [3,5,9])` of scored ListMatchers: the hypotheses hold … -/
def exInter : St (.inter .list .list) :=
  ⟨⟨[1, 3, 5], [1, 2, 1/2], 1, true⟩, ⟨[3, 5, 9], [1, 1, 4], 0, true⟩⟩

example : WQ Pos (.inter .list .list) exInter := by
  have nna : ∀ w ∈ ([1, 2, 1/2] : List Rat), 0 ≤ w := by decide +kernel
  have nnb : ∀ w ∈ ([1, 1, 4] : List Rat), 0 ≤ w := by decide +kernel
  refine ⟨⟨⟨⟨by decide, rfl⟩, nna⟩, rfl⟩, ⟨⟨⟨by decide, rfl⟩, nnb⟩, rfl⟩, ?_⟩
  intro x r La y s Lb h1 h2
  cases h1; cases h2; rfl

/-- … and the quantities are the expected ones: list `[(3, 3), (5, 3/2)]`, block quality 2 + 4 -/
example : den (.inter .list .list) exInter = [(3, 3), (5, 3/2)] ∧
    ((ops (.inter .list .list)).blockQuality exInter).toOption = some 6 := by decide +kernel

/-- a posting list of five postings in three blocks (blocklimit 2), Frequency scoring, cursor on the second
    posting of the first block -/
def exLeaf : LeafM :=
  { blocks := [⟨[⟨2, 1, 3⟩, ⟨5, 4, 7⟩], 5, 4, 3⟩, ⟨[⟨9, 2, 1⟩, ⟨11, 1, 2⟩], 11, 2, 1⟩, ⟨[⟨20, 6, 9⟩], 20, 6, 9⟩],
    sc := freqScore, termMaxWeight := 6, termMinLength := 1, b := 0, i := 1, atend := false }

theorem exLeaf_wf : LeafM.WF exLeaf := by
  refine ⟨⟨by decide, by decide, by decide⟩, by decide, Or.inr (by decide)⟩

theorem exLeaf_qdata : LeafM.QData exLeaf :=
  ⟨by decide +kernel, by decide +kernel, by decide +kernel, freq_mono, by decide +kernel⟩

example : WQ Pos .leaf exLeaf := ⟨exLeaf_wf, exLeaf_qdata⟩

/-- … `skip_to_quality(4)` passes over the rest of block 0 and block 1 and lands on (20, 6) -/
example : ((LeafM.ops.skipToQuality exLeaf 4).toOption.map fun r => (r.1.den, r.2)) = some ([(20, 6)], 2) ∧
    exLeaf.den = [(5, 4), (9, 2), (11, 1), (20, 6)] := by decide +kernel

/-- … and the walk `next(); skip_to_quality(4); next()` (hypotheses of `walk_keeps` with `Q = 4`: `exLeaf_wf`,
    `exLeaf_qdata`) visits (5, 4), passes over (9, 2) and (11, 1), visits (20, 6) and ends exhausted: the only entry
    above 4 was visited -/
example : ((runW .leaf exLeaf [.next, .skipq 4, .next]).toOption.map fun r => (r.1.den, r.2)) =
    some ([], [(5, 4), (20, 6)]) := by decide +kernel

/-- a `MultiMatcher` over two segments: `max_quality()` is the maximum over the sub-matchers that are left,
    `block_quality()` the current sub-matcher's, `replace(5/2)` passes over the first segment (its maximum is 2)
    and `skip_to_quality(2)` steps off it -/
def exMulti : Any := mkMulti .list [(⟨[5, 9], [1, 2], 0, true⟩, 0), (⟨[2, 7], [3, 1], 0, true⟩, 30)]

example : exMulti.den = [(5, 1), (9, 2), (32, 3), (37, 1)] ∧ exMulti.maxQuality.toOption = some 3 ∧
    ((ops exMulti.1).blockQuality exMulti.2).toOption = some 2 ∧
    ((exMulti.replace (5/2)).toOption.map (·.den)) = some [(32, 3), (37, 1)] ∧
    (((ops exMulti.1).skipToQuality exMulti.2 2).toOption.map fun r => den exMulti.1 r.1) = some [(32, 3), (37, 1)] := by
  decide +kernel

/-- an `ArrayUnionMatcher` (part size 4) over two lists: `block_quality()` is the best score of the buffered part,
    `max_quality()` also covers what the sub-matchers still hold, `skip_to_quality(3)` passes over the first part
    (best score 1) and lands on document 5 (score 4) -/
def exAUnion : R Any :=
  mkAUnion .list [⟨[1, 5, 9], [1, 2, 3], 0, true⟩, ⟨[2, 5, 30], [1, 2, 3], 0, true⟩] 40 1 4

example : (exAUnion.bind fun m => (ops m.1).blockQuality m.2).toOption = some 1 ∧
    (exAUnion.bind fun m => (ops m.1).maxQuality m.2).toOption = some 6 ∧
    (exAUnion.bind fun m => (ops m.1).skipToQuality m.2 3 |>.map fun r => den m.1 r.1).toOption =
      some [(5, 4), (9, 3), (30, 3)] := by decide +kernel

/-- BM25F with the default parameters satisfies the hypotheses of `bm25_mono` -/
example : bm25 2 10 (3/4) (6/5) 1 20 ≤ bm25 2 10 (3/4) (6/5) 3 5 :=
  bm25_mono (by decide +kernel) (by decide +kernel) (by decide +kernel) (by decide +kernel) (by decide +kernel)
    1 3 20 5 (by decide +kernel) (by decide +kernel) (by decide)

end WM.C12
