import WM.Props.C08
import WM.Props.C13
import WM.Lemmas.ColumnsField
/-!
# C08, field level — the value supplied for a sortable field comes back through its column

`add_document(f=v)` hands `field.to_column_value(v)` to the field's column writer;
`reader.column_reader(f)[d]` applies `field.from_column_value` to what the column reader returns.
The theorems below compose the column round-trips of `WM.Props.C08` with the conversions
(UTF-8 here, the sortable encodings of C13) so that the statement is about field values.
-/
namespace WM.C08
open WM.Columns WM.Numeric

/-- **UTF-8**: every Python string without lone surrogates (code points that are Unicode scalar
    values, including non-BMP ones and NUL) encodes, and strict decoding gives it back. -/
theorem utf8_roundtrip (s : List Nat) (hs : ∀ c ∈ s, isScalar c = true) :
    ∃ bs, utf8Encode s = .ok bs ∧ utf8Decode bs = .ok s :=
  let ⟨bs, h1, h2, _⟩ := WM.Columns.utf8_roundtrip s hs
  ⟨bs, h1, h2⟩

/-- U+1F600 (non-BMP), U+00E9, NUL and U+FFFF in one string; a lone surrogate is rejected by the
    encoder, an overlong form and an encoded surrogate by the decoder. -/
example : utf8Encode [0x1F600, 0xE9, 0, 0xFFFF] = .ok [0xF0, 0x9F, 0x98, 0x80, 0xC3, 0xA9, 0, 0xEF, 0xBF, 0xBF] ∧
    utf8Decode [0xF0, 0x9F, 0x98, 0x80, 0xC3, 0xA9, 0, 0xEF, 0xBF, 0xBF] = .ok [0x1F600, 0xE9, 0, 0xFFFF] ∧
    utf8Encode [0xD800] = .error .unicodeEncode ∧ utf8Decode [0xC0, 0x80] = .error .unicodeDecode ∧
    utf8Decode [0xED, 0xA0, 0x80] = .error .unicodeDecode := by
  exact ⟨rfl, rfl, rfl, rfl, rfl⟩

/-- **TEXT / ID / KEYWORD with the default column** (`VarBytesColumn()`): the unicode value
    supplied for a document is what `column_reader(f)[d]` returns; a document without a value
    reads as `u''`.  (Size: the column holds less than 2^32 bytes; a code point takes at most 4.) -/
theorem text_field_roundtrip (adds : List (Nat × List Nat)) (doccount : Nat)
    (hinc : Increasing adds) (hwithin : Within adds doccount)
    (hs : ∀ p ∈ adds, ∀ c ∈ p.2, isScalar c = true)
    (hsize : 4 * (adds.map fun p => p.2.length).sum < 4294967296) :
    ∃ cadds file, textFieldAdds adds = .ok cadds ∧ varWrite true 32768 cadds doccount = .ok file ∧
      ∀ d, d < doccount → textFieldRead file doccount d = .ok (cell [] adds d) := by
  obtain ⟨g, hg⟩ := exists_total [] WM.Columns.utf8_roundtrip
  have hsz : totalBytes (adds.map fun p => (p.1, g p.2)) ≤ 4 * (adds.map fun p => p.2.length).sum := by
    clear hinc hwithin hsize
    induction adds with
    | nil => exact Nat.le_refl _
    | cons p rest ih =>
      have h1 := (hg p.2 (hs p List.mem_cons_self)).2.2
      have h2 := ih (fun q hq => hs q (List.mem_cons_of_mem _ hq))
      simp only [totalBytes, List.map_cons, List.sum_cons, List.map_map] at h2 ⊢
      omega
  obtain ⟨file, hw, hr⟩ := varbytes_roundtrip true 32768 _ doccount (increasing_map g adds hinc)
    (within_map g adds doccount hwithin) (Nat.lt_of_le_of_lt hsz hsize)
  refine ⟨_, file, convAdds_ok utf8Encode g adds (fun p hp => (hg p.2 (hs p hp)).1), hw, fun d hd => ?_⟩
  rw [textFieldRead, hr d hd]
  exact cell_codec g utf8Decode .ok [] [] adds d rfl fun p hp => (hg p.2 (hs p hp)).2.1

/-- The hypotheses are satisfiable: a non-BMP string, a gap, an empty string. -/
example : Increasing ([(0, [0x1F600, 0x41]), (2, [])] : List (Nat × List Nat)) ∧
    Within ([(0, [0x1F600, 0x41]), (2, [])] : List (Nat × List Nat)) 4 ∧
    (∀ p ∈ ([(0, [0x1F600, 0x41]), (2, [])] : List (Nat × List Nat)), ∀ c ∈ p.2, isScalar c = true) ∧
    textFieldAdds [(0, [0x1F600, 0x41]), (2, [])] = .ok [(0, [0xF0, 0x9F, 0x98, 0x80, 0x41]), (2, [])] := by
  exact ⟨by unfold Increasing; decide, by unfold Within; decide, by decide, rfl⟩

theorem intToColumn_ok (bits : Nat) (signed : Bool) (x : Int) (hx : inDomain bits signed x) :
    intToColumn bits signed x = .ok (toSortableInt bits signed x) := by
  simp only [intToColumn, prepareInt_eq, if_pos hx]

theorem intFieldColumn_ok (bits : Nat) (signed : Bool) (default : Option Int) (code : NumCode)
    (hbits : sortableCode bits = some code) (hdef : ∀ d, default = some d → inDomain bits signed d) :
    ∃ cd, intFieldColumn bits signed default = .ok (code, cd) ∧ 0 ≤ cd ∧ cd < 2 ^ bits ∧
      fromSortableInt bits signed cd = intFieldDefault bits signed default := by
  obtain ⟨hn, hlo, hhi⟩ := sortableCode_spec bits code hbits
  have hpos : (0 : Int) < 2 ^ bits := Int.pow_pos (by decide)
  cases hd : default with
  | none =>
    refine ⟨code.hi, by simp only [intFieldColumn, hbits], by omega, by omega, ?_⟩
    simp only [intFieldDefault, intFromColumn, hhi]
  | some dv =>
    have hdv := hdef dv hd
    obtain ⟨h0, h1, h2⟩ := (WM.C13.int_sortable bits hn signed).2.1 dv hdv
    refine ⟨toSortableInt bits signed dv, ?_, h0, h1, by simp only [intFieldDefault, h2]⟩
    simp only [intFieldColumn, hbits, intToColumn_ok bits signed dv hdv]
    by_cases he : dv = code.hi
    · -- only an unsigned field has `typecode_max` in its range, and there `to_sortable` is the identity
      rw [if_pos he]
      cases signed with
      | false => simp [toSortableInt]
      | true =>
        exfalso
        unfold inDomain at hdv
        rw [minMaxInt_eq bits hn] at hdv
        simp only [if_true] at hdv
        have := two_pow_pred bits hn
        have hp : (0 : Int) < 2 ^ (bits - 1) := Int.pow_pos (by decide)
        omega
    · rw [if_neg he]

/-- **NUMERIC(int)** for every configuration `NUMERIC.__init__` accepts (`bits` 8/16/32/64, signed
    or not, `default=None` or a number of the field's range): the integer supplied for a document
    is what `column_reader(f)[d]` returns — through `prepare_number`, `to_sortable`, the
    `NumericColumn` of the sortable type code with default elision, and `from_sortable` — and a
    document without a value reads as the field's default (`max_value` when none was given). -/
theorem int_field_roundtrip (bits : Nat) (signed : Bool) (default : Option Int) (code : NumCode)
    (hbits : sortableCode bits = some code)
    (hdef : ∀ d, default = some d → inDomain bits signed d)
    (adds : List (Nat × Int)) (hinc : Increasing adds) (hv : ∀ p ∈ adds, inDomain bits signed p.2) :
    ∃ file, intFieldWrite bits signed default adds = .ok file ∧
      ∀ d, intFieldRead bits signed default file d = .ok (cell (intFieldDefault bits signed default) adds d) := by
  obtain ⟨hn, hlo, hhi⟩ := sortableCode_spec bits code hbits
  have hto := (WM.C13.int_sortable bits hn signed).2.1
  obtain ⟨cd, hcol, hcd0, hcd1, hcdv⟩ := intFieldColumn_ok bits signed default code hbits hdef
  have hconv := convAdds_ok (intToColumn bits signed) (toSortableInt bits signed) adds
    (fun p hp => intToColumn_ok bits signed p.2 (hv p hp))
  obtain ⟨file, hw, hr⟩ := numeric_map_roundtrip code (toSortableInt bits signed) cd adds hinc
    (by omega) (fun p hp => by obtain ⟨h0, h1, _⟩ := hto p.2 (hv p hp); omega)
  refine ⟨file, by simp only [intFieldWrite, hcol, hconv, hw], fun d => ?_⟩
  simp only [intFieldRead, hcol, hr d, intFromColumn]
  exact congrArg Except.ok (cell_codec (toSortableInt bits signed) (fromSortableInt bits signed) id cd _ adds d
    hcdv fun p hp => (hto p.2 (hv p hp)).2.2)

/-- The hypotheses are satisfiable at the limits of a signed 8-bit field, and the missing row of
    a field without an explicit default reads as `max_value`. -/
example : sortableCode 8 = some .B ∧ inDomain 8 true (-128) ∧ inDomain 8 true 127 ∧
    intFieldDefault 8 true none = 127 ∧ intFieldColumn 8 true (some (-128)) = .ok (.B, 0) ∧
    intFieldColumn 16 false (some 65535) = .ok (.H, 65535) ∧
    intFieldColumn 8 true (some 255) = .error .configError ∧ intFieldColumn 24 true none = .error .configError := by
  refine ⟨rfl, by decide, by decide, by decide, rfl, rfl, rfl, rfl⟩

theorem floatToColumn_ok (signed : Bool) (b : Nat)
    (h : b < 2 ^ 64 ∧ (signed = false → b < 2 ^ 63) ∧ prepareFloat signed b = .ok b) :
    ∃ s : Int, floatToColumn signed b = .ok s ∧ (NumCode.Q.lo ≤ s ∧ s ≤ NumCode.Q.hi) ∧
      floatFromColumn signed s = .ok b := by
  obtain ⟨hb, hu, hp⟩ := h
  have hQ (s : Nat) (hs : s < 2 ^ 64) : NumCode.Q.lo ≤ (s : Int) ∧ (s : Int) ≤ NumCode.Q.hi := by
    simp only [NumCode.lo, NumCode.hi]; omega
  cases hs : signed with
  | true =>
    rw [hs] at hp
    obtain ⟨s, h1, h2, h3⟩ := WM.C13.float_sortable.1 b hb
    exact ⟨s, by simp only [floatToColumn, hp, h1], hQ s h2, by rw [floatFromColumn, h3]⟩
  | false =>
    rw [hs] at hp
    obtain ⟨h1, h3⟩ := WM.C13.float_sortable_unsigned.1 b (hu hs)
    exact ⟨b, by simp only [floatToColumn, hp, h1], hQ b hb, by rw [floatFromColumn, h3]⟩

/-- **NUMERIC(float)**, signed or unsigned: the double supplied for a document comes back with the
    same 64-bit pattern (so `-0.0`, infinities and NaN payloads survive; the column compares
    *sortable integers* with its default, not floats); a document without a value reads as the
    field default.  An unsigned field only accepts patterns with the sign bit clear (the others
    are rejected by `to_sortable` with `ValueError`, C13 `float_sortable_unsigned`). -/
theorem float_field_roundtrip (signed : Bool) (dflt : Nat)
    (hdflt : dflt < 2 ^ 64 ∧ (signed = false → dflt < 2 ^ 63) ∧ prepareFloat signed dflt = .ok dflt)
    (adds : List (Nat × Nat)) (hinc : Increasing adds)
    (hv : ∀ p ∈ adds, p.2 < 2 ^ 64 ∧ (signed = false → p.2 < 2 ^ 63) ∧ prepareFloat signed p.2 = .ok p.2) :
    ∃ file, floatFieldWrite signed dflt adds = .ok file ∧
      ∀ d, floatFieldRead signed dflt file d = .ok (cell dflt adds d) := by
  obtain ⟨g, hg⟩ := exists_total 0 (floatToColumn_ok signed)
  obtain ⟨hcd, hcdr, hcdd⟩ := hg dflt hdflt
  have hconv := convAdds_ok (floatToColumn signed) g adds (fun p hp => (hg p.2 (hv p hp)).1)
  obtain ⟨file, hw, hr⟩ := numeric_map_roundtrip .Q g (g dflt) adds hinc hcdr (fun p hp => (hg p.2 (hv p hp)).2.1)
  refine ⟨file, by simp only [floatFieldWrite, hcd, hconv, hw], fun d => ?_⟩
  simp only [floatFieldRead, hcd, hr d]
  exact cell_codec g (floatFromColumn signed) .ok (g dflt) dflt adds d hcdd fun p hp => (hg p.2 (hv p hp)).2.2

/-- `-0.0`, the default `NaN` of a signed field and `+inf` are accepted and keep distinct sortable
    numbers (`-0.0` is not the same column value as `0.0`); the unsigned field takes `abs(NaN)`. -/
example : prepareFloat true 0x8000000000000000 = .ok 0x8000000000000000 ∧
    prepareFloat true 0xffffffffffffffff = .ok 0xffffffffffffffff ∧
    floatToColumn true 0x8000000000000000 = .ok 9223372036854775807 ∧
    floatToColumn true 0 = .ok 9223372036854775808 ∧
    prepareFloat false 0x7fffffffffffffff = .ok 0x7fffffffffffffff ∧
    floatToColumn false 0x8000000000000000 = .error .valueError := ⟨rfl, rfl, rfl, rfl, rfl, rfl⟩

/-- **DATETIME**: a datetime (as the normalised `timedelta` since `datetime.min`, at most
    `datetime.max`) supplied for a document is what `column_reader(f)[d]` returns.  The column
    stores `datetime_to_long` in a `NumericColumn("Q")` whose default is the largest 64-bit number;
    a document *without* a value therefore does not read as any datetime: `from_column_value`
    raises `OverflowError` (recorded finding `DATETIME.from_column_value:default-out-of-datetime-range`). -/
theorem datetime_field_roundtrip (adds : List (Nat × TD)) (hinc : Increasing adds)
    (hv : ∀ p ∈ adds, p.2.normal ∧ 0 ≤ p.2.days ∧ p.2.days ≤ maxDays) :
    ∃ file, datetimeFieldWrite adds = .ok file ∧
      ∀ d, datetimeFieldRead file d = (match lookup adds d with
        | some t => .ok t
        | none => .error .overflowError) := by
  obtain ⟨hinv, _, _⟩ := WM.C13.datetime
  obtain ⟨file, hw, hr⟩ := numeric_map_roundtrip .Q datetimeToColumn NumCode.Q.hi adds hinc (by decide) fun p hp => by
    obtain ⟨⟨h1, h2, h3, h4⟩, h5, h6⟩ := hv p hp
    simp only [datetimeToColumn, tdToUsecs, maxDays, NumCode.lo, NumCode.hi] at *
    omega
  refine ⟨file, by simp only [datetimeFieldWrite, datetimeColumn, hw], fun d => ?_⟩
  simp only [datetimeFieldRead, datetimeColumn, hr d, cell_map]
  cases hl : lookup adds d with
  | none => rfl
  | some t =>
    obtain ⟨hn, h5, h6⟩ := hv _ (lookup_mem hl)
    simp only [Option.map_some, Option.getD_some, datetimeFromColumn, datetimeToColumn, hinv t hn]
    rw [if_pos ⟨h5, h6⟩]

/-- `datetime.max` itself is admissible; the default row really raises. -/
example : (⟨3652058, 86399, 999999⟩ : TD).normal ∧ datetimeToColumn ⟨3652058, 86399, 999999⟩ = 315537897599999999 ∧
    datetimeFromColumn 315537897599999999 = .ok ⟨3652058, 86399, 999999⟩ ∧
    datetimeFromColumn NumCode.Q.hi = .error .overflowError := by
  refine ⟨by simp [TD.normal], by decide, rfl, rfl⟩

end WM.C08
