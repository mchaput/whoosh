import WM.Props.C14Compose
/-!
C14 — "forall filter/mask given as query, Results or id set": what `Searcher._filter_to_comb` makes of the
object handed to `filter=` / `mask=`, and the composition with `search_filter_mask_scored`: a `Results`
object stands for **every document its query matched**, whatever limit the search that produced it had.
-/
namespace WM.C14
open WM.Rank WM.Collect

/-- **C14.results_docs_top** — `Results.docs()` of the object a limited *scored* search returns
    (`TopCollector`, any `limit`, any replace period, any schedule of matcher drops) is the set of **all**
    documents the query matched — not the `limit` best ones in `top_n` —, and asking again gives the same
    set (it is remembered in `docset`). -/
theorem results_docs_top (cfg : Cfg) (final : Nat → Rat → Rat) (segs : List Seg) (sched : List Step)
    (r : ResultsObj) (h : searchTopObj cfg final segs sched = .ok r) :
    r.docs.1 = globalDocs segs ∧ r.docs.2.docs = (globalDocs segs, r.docs.2) ∧ r.docs.2.topN = r.topN := by
  unfold searchTopObj at h
  split at h
  · cases h
  · cases h
    exact ⟨rfl, rfl, rfl⟩

/-- **C14.results_docs_unlimited** — `Results.docs()` of `search(fq, limit=None)` (either direction): the
    same set of documents. -/
theorem results_docs_unlimited (replace : Nat) (useFinal : Bool) (final : Nat → Rat → Rat) (reverse : Bool)
    (segs : List Seg) (sched : List Step) :
    ∃ r, searchUnlimitedObj replace useFinal final reverse segs sched = .ok r ∧
      ∀ d, d ∈ r.docs.1 ↔ d ∈ globalDocs segs := by
  unfold searchUnlimitedObj
  rw [WM.C05.unlimited]
  refine ⟨_, rfl, fun d => ?_⟩
  rw [← allHits_docs { limit := 0, replace := replace, usequality := false, useFinal := useFinal } final segs]
  cases reverse <;> simp [ResultsObj.docs, rankAll]

/-- **C14.filter_object_forms** — the three ways of naming the same documents agree: a query `fq` whose
    matched documents are `globalDocs fsegs`, the id set of those documents, the `Results` object of
    `search(fq, limit=j)` for any `j` (and a `ResultsPage` over it) all become the same allow/mask set. -/
theorem filter_object_forms (cfgF : Cfg) (finalF : Nat → Rat → Rat) (fsegs : List Seg) (schedF : List Step)
    (fr : ResultsObj) (h : searchTopObj cfgF finalF fsegs schedF = .ok fr) :
    filterToComb (.results fr) = .ok (some (globalDocs fsegs)) ∧
    filterToComb (.page fr) = .ok (some (globalDocs fsegs)) ∧
    filterToComb (.query (globalDocs fsegs)) = .ok (some (globalDocs fsegs)) ∧
    filterToComb (.ids (globalDocs fsegs)) = .ok (some (globalDocs fsegs)) ∧
    filterToComb (.results fr.docs.2) = .ok (some (globalDocs fsegs)) := by
  obtain ⟨h1, h2, _⟩ := results_docs_top cfgF finalF fsegs schedF fr h
  refine ⟨?_, ?_, rfl, rfl, ?_⟩
  · simp only [filterToComb, h1]
  · simp only [filterToComb, h1]
  · simp only [filterToComb, h2]

/-- **C14.search_filter_given_as_results** — `search(q, limit=k, filter=F, mask=M)` where `F` and `M` are
    the `Results` objects of two *limited* scored searches `search(fq, limit=j)`, `search(mq, limit=j')`
    (any limits, weightings' `final()` hooks and matcher schedules): the hits are the first `k` entries of
    the unfiltered exhaustive ranking of `q` restricted to the documents **matched by** `fq` and not
    matched by `mq` — the limits `j`, `j'` of the filter objects do not show. Composition of
    `results_docs_top`, `Searcher._filter_to_comb`, `FilterCollector.prepare` and
    `search_filter_mask_scored`. -/
theorem search_filter_given_as_results (cfg : Cfg) (final : Nat → Rat → Rat) (segs : List Seg)
    (sched sched' : List Step) (hk : 1 ≤ cfg.limit) (hwf : (globalDocs segs).Pairwise (· < ·)) (hfresh : Fresh segs)
    (cfgF cfgM : Cfg) (finalF finalM : Nat → Rat → Rat) (fsegs msegs : List Seg) (schedF schedM : List Step)
    (fr mr : ResultsObj) (hf : searchTopObj cfgF finalF fsegs schedF = .ok fr)
    (hm : searchTopObj cfgM finalM msegs schedM = .ok mr) :
    ∃ all st tr, collectUnlimited cfg.replace cfg.useFinal final false segs sched' = .ok all ∧
      searchFilterObjs cfg final (.results fr) (.results mr) segs sched =
        .ok (.ok ((all.filter (fun h => decide (h.doc ∈ globalDocs fsegs) && !decide (h.doc ∈ globalDocs msegs))).take
          cfg.limit, st, tr)) := by
  obtain ⟨all, st, tr, hall, hstack⟩ := search_filter_mask_scored cfg final (some (globalDocs fsegs))
    (some (globalDocs msegs)) segs sched sched' hk hwf hfresh
  refine ⟨all, st, tr, hall, ?_⟩
  have h1 := (filter_object_forms cfgF finalF fsegs schedF fr hf).1
  have h2 := (filter_object_forms cfgM finalM msegs schedM mr hm).1
  simp only [passesSets, refuses, List.contains_eq_mem, Bool.not_or, Bool.not_not] at hstack
  simp only [searchFilterObjs, h1, h2, hstack]

/-- **C14.results_object_of_limited_search** — the `Results` object of `search(fq, limit=j)`, `j ≥ 1`, exists for
    every schedule within the contract: its hit list is the top `j` of the ranking (C05.topk) — at most `j`
    hits — while its document set is every matched document. -/
theorem results_object_of_limited_search (cfg : Cfg) (final : Nat → Rat → Rat) (segs : List Seg) (sched : List Step)
    (hk : 1 ≤ cfg.limit) (hwf : (globalDocs segs).Pairwise (· < ·)) (hfresh : Fresh segs) :
    ∃ r, searchTopObj cfg final segs sched = .ok r ∧ r.topN = topK cfg.limit (allHits cfg final segs) ∧
      r.topN.length ≤ cfg.limit ∧ r.docs.1 = globalDocs segs := by
  have h := WM.C05.topk cfg final segs sched hk hwf hfresh
  refine ⟨topResultsObj (topK cfg.limit (allHits cfg final segs)) segs, ?_, rfl, ?_, rfl⟩
  · simp only [searchTopObj, h]
  · simp only [topResultsObj, topK]
    exact List.length_take_le _ _

/-- Non-vacuity: the filter query matches documents 0, 2, 3, 5; `search(fq, limit=1)` has one hit, yet as a
    filter it allows all four documents; the mask object (`limit=1` over documents 3, 4) removes both 3 and
    4. The main query matches documents 0…5 in two segments; `limit=2`: the two best of the documents
    0, 2, 5 that pass. -/
example :
    let fsegs : List Seg := [⟨0, true, [.mk' 0 1 true, .mk' 2 4 true, .mk' 3 2 true, .mk' 5 3 true]⟩]
    let msegs : List Seg := [⟨0, true, [.mk' 3 1 true, .mk' 4 2 true]⟩]
    let segs : List Seg := [⟨0, true, [.mk' 0 1 true, .mk' 1 9 true, .mk' 2 2 true]⟩,
                            ⟨3, true, [.mk' 0 5 true, .mk' 1 7 true, .mk' 2 3 true]⟩]
    ∃ fr mr all st tr, searchTopObj { limit := 1 } (fun _ s => s) fsegs [] = .ok fr ∧
      searchTopObj { limit := 1 } (fun _ s => s) msegs [] = .ok mr ∧
      fr.topN.length ≤ 1 ∧ fr.docs.1 = [0, 2, 3, 5] ∧ mr.docs.1 = [3, 4] ∧
      collectUnlimited 10 false (fun _ s => s) false segs [] = .ok all ∧
      searchFilterObjs { limit := 2 } (fun _ s => s) (.results fr) (.results mr) segs [] =
        .ok (.ok ((all.filter (fun h => decide (h.doc ∈ [0, 2, 3, 5]) && !decide (h.doc ∈ [3, 4]))).take 2, st, tr)) := by
  intro fsegs msegs segs
  obtain ⟨fr, hfr, -, hlen, hdocs⟩ := results_object_of_limited_search { limit := 1 } (fun _ s => s) fsegs []
    (by decide) (by decide) (by decide)
  obtain ⟨mr, hmr, -, -, hmdocs⟩ := results_object_of_limited_search { limit := 1 } (fun _ s => s) msegs []
    (by decide) (by decide) (by decide)
  obtain ⟨all, st, tr, hall, hres⟩ := search_filter_given_as_results { limit := 2 } (fun _ s => s) segs [] []
    (by decide) (by decide) (by decide) _ _ _ _ fsegs msegs [] [] fr mr hfr hmr
  exact ⟨fr, mr, all, st, tr, hfr, hmr, hlen, hdocs, hmdocs, hall, hres⟩

end WM.C14
