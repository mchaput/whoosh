import WM.Lemmas.CollectTop
import WM.Lemmas.CollectCollapse
import WM.Lemmas.CollectPosting
import WM.Lemmas.CollectExhaustive
/-!
C14 — sorting, grouping, collapsing, filtering are exact views of the results (key level).
Paging is in `C14Page.lean`.
-/
namespace WM.C14
open WM.Rank WM.Collect

/-- What `(key, docnum)` order means: smaller key first, lower document number on equal keys. -/
theorem kdLe_iff (a b : Key × Nat) :
    kdLe a b = true ↔ (keyLe a.1 b.1 = true ∧ keyLe b.1 a.1 = false) ∨ (a.1 = b.1 ∧ a.2 ≤ b.2) := by
  rw [kdLe_iff_keyLe]
  constructor
  · rintro ⟨h1, h2⟩
    cases h : keyLe b.1 a.1
    · exact Or.inl ⟨h1, rfl⟩
    · exact Or.inr ⟨keyLe_antisymm _ _ h1 h, h2 h⟩
  · rintro (⟨h1, h2⟩ | ⟨h1, h2⟩)
    · exact ⟨h1, fun h => by rw [h2] at h; cases h⟩
    · rw [h1]; exact ⟨keyLe_refl _, fun _ => h2⟩

/-- `items[:limit]` of `SortingCollector.results` (`limit` 0/None keeps everything). -/
def truncate {α : Type} (limit : Option Nat) (l : List α) : List α :=
  match limit with
  | none => l
  | some 0 => l
  | some n => l.take n

/-- **C14.sorted.** For every key function, every list of matched documents (any segment layout:
    only the collection order matters, and it does not), every `limit` and both directions:
    `SortingCollector` returns the first `limit` entries of the list of all matched documents
    ordered by (key ascending, document number ascending on equal keys) — a permutation of the
    matched documents that is pairwise in that order — and `search(reverse=True)` returns the first
    `limit` entries of exactly the reversed list, which is pairwise in the *opposite* order: key
    descending and, **on equal keys, document number descending** (`items.sort(reverse=True)` on
    `(key, docnum)` pairs; see `sorted_reverse_ties`). A reversed *facet*
    (`FieldFacet(reverse=True)`, a negated key) keeps document order on ties. -/
theorem sorted (key : Nat → Key) (limit : Option Nat) (reverse : Bool) (docs : List Nat) :
    sortingResults key limit reverse docs
      = truncate limit (if reverse then (ascending key docs).reverse else ascending key docs) ∧
    (ascending key docs).Perm (docs.map fun d => (key d, d)) ∧
    (ascending key docs).Pairwise (fun a b => kdLe a b = true) ∧
    (ascending key docs).reverse.Pairwise (fun a b => kdLe b a = true) := by
  refine ⟨?_, ascending_perm key docs, ascending_sorted key docs,
    List.pairwise_reverse.mpr (ascending_sorted key docs)⟩
  unfold sortingResults truncate ascending
  cases reverse
  · rfl
  · rw [← kdLe_sortOrder.mergeSort_flip]; rfl

/-- **The tie order under `search(reverse=True)`, made explicit.** Two matched documents
    `d1 < d2` with equal sort keys come out as `d1, d2` normally and as `d2, d1` with
    `reverse=True`: the whole list is reversed, ties included. The property's "document order on
    ties" therefore holds for per-key reversal only; for `search(reverse=True)` the harness records
    the known finding `sortedby+reverse=True:ties-in-descending-document-order`. -/
theorem sorted_reverse_ties (key : Nat → Key) (docs : List Nat) (d1 d2 : Nat)
    (h1 : d1 ∈ docs) (h2 : d2 ∈ docs) (hlt : d1 < d2) (hk : key d1 = key d2) :
    [(key d1, d1), (key d2, d2)].Sublist (sortingResults key none false docs) ∧
    [(key d2, d2), (key d1, d1)].Sublist (sortingResults key none true docs) := by
  have hsub : [(key d1, d1), (key d2, d2)].Sublist (ascending key docs) :=
    kdLe_sortOrder.pair_sublist (ascending_sorted key docs) (mem_ascending.mpr ⟨rfl, h1⟩) (mem_ascending.mpr ⟨rfl, h2⟩)
      ((kdLe_iff_keyLe _ _).mpr ⟨hk ▸ keyLe_refl _, fun _ => Nat.le_of_lt hlt⟩)
      fun h => Nat.ne_of_lt hlt (Prod.mk.inj h).2
  constructor
  · rw [(sorted key none false docs).1]; exact hsub
  · rw [(sorted key none true docs).1]; exact hsub.reverse

/-- `sorted` has no hypotheses; the order it talks about on concrete keys: a tie on the key falls
    back to the document number, a multi-part key compares lexicographically, a proper prefix is
    smaller. -/
example : kdLe ([1], 7) ([1], 9) = true ∧ kdLe ([1], 9) ([1], 7) = false ∧
    kdLe ([0, 5], 9) ([1, -3], 2) = true ∧ kdLe ([2], 1) ([2, 0], 0) = true ∧ kdLe ([2, 0], 0) ([2], 1) = false := by
  decide +kernel

/-- **C14.filter_mask (which documents).** `FilterCollector` passes on exactly the matched documents
    that are in the allow set (if there is one — an *empty* allow set allows nothing) and not in
    the restrict set, in their original order, and `filtered_count` counts the others. -/
theorem filter_mask (allow restrict : Option (List Nat)) (docs : List Nat) :
    (filterDocs allow restrict docs).1.Sublist docs ∧
    (∀ d, d ∈ (filterDocs allow restrict docs).1 ↔
      d ∈ docs ∧ (∀ a, allow = some a → d ∈ a) ∧ (∀ r, restrict = some r → d ∉ r)) ∧
    (filterDocs allow restrict docs).1.length + (filterDocs allow restrict docs).2 = docs.length := by
  refine ⟨List.filter_sublist, fun d => ?_, ?_⟩
  · simp only [filterDocs, List.mem_filter, Bool.not_eq_true', refuses_eq_false_iff]
  · have := (List.filter_append_perm (fun d => refuses allow restrict d) docs).length_eq
    rw [List.length_append, Nat.add_comm] at this
    exact this

/-- **C14.filter_mask (no reordering), scored results.** The ranking of the filtered hits is the
    unfiltered ranking restricted to the hits that pass — filtering commutes with ranking. -/
theorem filter_commutes_ranking (p : Hit → Bool) (hits : List Hit) :
    rankAll (hits.filter p) = (rankAll hits).filter p :=
  rankLe_sortOrder.mergeSort_filter p hits

/-- **C14.filter_mask (no reordering), sorted results.** -/
theorem filter_commutes_sorting (key : Nat → Key) (p : Nat → Bool) (docs : List Nat) :
    ascending key (docs.filter p) = (ascending key docs).filter (fun x => p x.2) := by
  unfold ascending
  rw [← kdLe_sortOrder.mergeSort_filter, List.filter_map]
  rfl

/-- Non-vacuity: an empty allow set allows nothing; `None` allows everything. -/
example : filterDocs (some []) none [1, 2, 3] = ([], 3) ∧ filterDocs none (some [2]) [1, 2, 3] = ([1, 3], 1) ∧
    filterDocs (some [3, 1, 9]) (some [1]) [1, 2, 3] = ([3], 2) := by decide +kernel

/-- **C14.len (sorted and filtered searches).** `len(results)` of a sorted search is the number of
    matched documents whatever the `limit`. -/
theorem len_sorted (key : Nat → Key) (reverse : Bool) (docs : List Nat) :
    (sortingResults key none reverse docs).length = docs.length := by
  rw [(sorted key none reverse docs).1]
  cases reverse <;> simpa [truncate] using (ascending_perm key docs).length_eq

/-- **C14.facets_partition.** With any facet (ordinary: one name per document; overlapping:
    several), for every group name `v` and document `d`: `d` is in group `v` of
    `results.groups()` iff `d` is a matched document and `v` is one of its names. Hence for an
    ordinary facet the groups partition the matched documents. -/
theorem facets_partition (names : Nat → List Int) (docs : List Nat) (v : Int) (d : Nat) :
    d ∈ dictGet v [] (facetUnordered names docs) ↔ d ∈ docs ∧ v ∈ names d := by
  rw [facetUnordered_get]; exact mem_groupDocs

/-- `maptype=Count`: the count of a group is the size of the group. -/
theorem facets_count (names : Nat → List Int) (docs : List Nat) (v : Int) :
    dictGet v 0 (facetCount names docs) = (dictGet v [] (facetUnordered names docs)).length := by
  rw [facetCount_get, facetUnordered_get]

/-- **C14.facets_ordered.** `maptype=OrderedList` (the default of `groups()`): group `v` lists its
    members — the documents of the unordered group, characterised by `facets_partition` — in
    (sort key, document number) order, `skey d` being the key the child collector computed for `d`
    (the negated score for a scored search). -/
theorem facets_ordered (names : Nat → List Int) (skey : Nat → Key) (docs : List Nat) (v : Int) :
    dictGet v [] (facetOrdered names skey docs)
      = (ascending skey (dictGet v [] (facetUnordered names docs))).map (·.2) := by
  rw [facetUnordered_get, ascending, ← facetOrdered_get names skey docs v]
  have h := dictGet_map (fun items : List (Key × Nat) => (items.mergeSort kdLe).map (·.2)) v []
    (docs.foldl (fun m d => facetAddOrdered (names d) (skey d) d m) [])
  rw [List.mergeSort_nil, List.map_nil] at h
  exact h

/-- **C14.facets_best.** `maptype=Best`: a group exists iff it has members, and its value is the
    *first* member (in collection order = document order) with a minimal sort key: every earlier
    member of the group has a strictly greater key, every later one a key at least as great. -/
theorem facets_best (names : Nat → List Int) (skey : Nat → Key) (docs : List Nat) (v : Int) (dflt : Key × Nat) :
    (dictGet v [] (facetUnordered names docs) = [] → dictGet v dflt (facetBest names skey docs) = dflt) ∧
    (dictGet v [] (facetUnordered names docs) ≠ [] →
      FirstMin skey (dictGet v [] (facetUnordered names docs)) (dictGet v dflt (facetBest names skey docs))) := by
  rw [facetUnordered_get, dictGet_eq_find]
  obtain ⟨h1, h2⟩ := facetBest_find names skey docs v
  refine ⟨fun h => by rw [h1 h]; rfl, fun h => ?_⟩
  obtain ⟨b, hb, hf⟩ := h2 h
  rw [hb]; exact hf

/-- Non-vacuity of `facets_best`: keys 5, 3, 3, 4 in one group — the first of the two documents
    with key 3 is the best. -/
example : facetBest (fun _ => [0]) (fun d => if d = 0 then [5] else if d = 3 then [4] else [3]) [0, 1, 2, 3]
    = [(0, ([3], 1))] := by decide +kernel

/-- Non-vacuity: an overlapping facet puts document 2 into two groups. -/
example : facetUnordered (fun d => if d = 2 then [1, 2] else [((d % 2 : Nat) : Int) + 1]) [0, 1, 2, 3]
    = [(1, [0, 2]), (2, [1, 2, 3])] := by decide +kernel

/-- **C14.collapse.** For every collapse facet (`ckey d = none`: no key, never collapsed), every
    sort-key function (the result order `0 - score`, the `sortedby` key, or the `collapse_order`
    facet), every `collapse_limit ≥ 1` and every run of matched documents in ascending document order
    (any segment layout), `CollapseCollector` ends with
    * per key `c` exactly the best `collapse_limit` documents of that key in `(sortkey, docnum)` order,
    * in the child collector exactly the documents without key plus those best documents
      (so the results are the child's ordering of exactly these), and
    * `collapsed_counts[c]` = the number of documents of key `c` that were discarded. -/
theorem collapse (ckey : Nat → Option Int) (skey : Nat → Key) (n : Nat) (hn : 1 ≤ n) (docs : List Nat)
    (hasc : docs.Pairwise (· < ·)) :
    ∃ st, collapseRun ckey skey n docs {} = .ok st ∧
      (∀ c, dictGet c [] st.lists = bestOf ckey skey n docs c) ∧
      (∀ d, d ∈ st.kept ↔
        d ∈ docs ∧ (ckey d = none ∨ ∃ c, ckey d = some c ∧ (skey d, d) ∈ bestOf ckey skey n docs c)) ∧
      (∀ c, dictGet c 0 st.counts =
        (keyDocs ckey c docs).length - min n (keyDocs ckey c docs).length) := by
  obtain ⟨st, hrun, hinv, -, hcounts⟩ := collapse_run ckey skey n hn docs hasc
  exact ⟨st, hrun, hinv.lists, hinv.kept, hcounts⟩

/-- Non-vacuity of `collapse`: hypotheses hold for a run with two keys, a keyless document and ties. -/
example : ([0, 1, 2, 5, 7] : List Nat).Pairwise (· < ·) ∧ (1 : Nat) ≤ 1 ∧
    keyDocs (fun d => if d = 2 then none else some ((d % 2 : Nat) : Int)) 1 [0, 1, 2, 5, 7] = [1, 5, 7] := by
  decide +kernel

/-- `ckey d = none` is a document without a collapse key (`None`, or the empty string/bytes of a
    field the document lacks): it is never collapsed. The number 0 is a key like any other
    (`fix: CollapseCollector collapses documents whose key is 0`; `if not ckey` would treat every falsy
    key as "no key"). -/
example : (collapseRun (fun _ => none) (fun _ => []) 1 [0, 1, 2] {}).toOption.map (·.kept) = some [0, 1, 2] := by
  decide +kernel

/-- **C14.rank_iso.** The rank array that `PostingCategorizer` builds from the postings of the sorted
    terms is order-isomorphic to the value order: if (the last term of) document `d1` is the `i`-th
    and of `d2` the `j`-th sortable term, then the sort key of `d1` is `≤` that of `d2` iff `i ≤ j`,
    and with `reverse=True` iff `j ≤ i`; `key_to_name` gives back `i`. A document without a term gets
    the marker `dc + 1`, which sorts after every rank `< dc + 1` (and before them when reversed), and
    `key_to_name` maps it to "no value" (`none`) in both directions whenever there are at most
    `dc + 1` terms (always the case for single-valued fields). -/
theorem rank_iso (dc : Nat) (terms : List (List Nat)) (reverse : Bool)
    (d1 d2 i j : Nat) (h1 : d1 < dc) (h2 : d2 < dc)
    (hi : lastIdx d1 terms = some i) (hj : lastIdx d2 terms = some j) :
    (postingArray dc terms)[d1]? = some i ∧ (postingArray dc terms)[d2]? = some j ∧
    (postingKey terms.length false i ≤ postingKey terms.length false j ↔ i ≤ j) ∧
    (postingKey terms.length true i ≤ postingKey terms.length true j ↔ j ≤ i) ∧
    (i < terms.length → postingKeyToName terms.length reverse (postingKey terms.length reverse i) = .ok (some i)) := by
  refine ⟨by rw [postingArray_get dc terms d1 h1, hi], by rw [postingArray_get dc terms d2 h2, hj], ?_, ?_, ?_⟩
  · simp [postingKey]
  · simp only [postingKey, if_true]; omega
  · intro hlt
    rw [postingKeyToName_key, if_neg (by omega)]

/-- Documents without a value. -/
theorem rank_missing (dc : Nat) (terms : List (List Nat)) (reverse : Bool) (d : Nat) (hd : d < dc)
    (hnone : ∀ ps ∈ terms, d ∉ ps) (hn : terms.length ≤ dc + 1) :
    (postingArray dc terms)[d]? = some (dc + 1) ∧
    (∀ i, i < dc + 1 → postingKey terms.length false i < postingKey terms.length false (dc + 1)) ∧
    (∀ i, i < dc + 1 → postingKey terms.length true (dc + 1) < postingKey terms.length true i) ∧
    postingKeyToName terms.length reverse (postingKey terms.length reverse (dc + 1)) = .ok none := by
  have hl : lastIdx d terms = none := (lastIdx_none d terms).mpr hnone
  refine ⟨by rw [postingArray_get dc terms d hd, hl], ?_, ?_, ?_⟩
  · intro i hi; simp only [postingKey, Bool.false_eq_true, if_false]; omega
  · intro i hi; simp only [postingKey, if_true]; omega
  · rw [postingKeyToName_key, if_pos hn]

/-- Non-vacuity: three documents, two values; document 1 has no value. -/
example : lastIdx 0 [[2], [0]] = some 1 ∧ lastIdx 2 [[2], [0]] = some 0 ∧ (∀ ps ∈ [[2], [0]], 1 ∉ ps) ∧
    postingArray 3 [[2], [0]] = [1, 4, 0] := by decide +kernel

/-- **C14.len (limited scored search).** After any run of a `TopCollector` (every limit, schedule,
    segment layout, `final()` hook, any scores), `len(results)` — `TopCollector.count()`
    after `fix: TopCollector.count is only exact when…` — is the number of matching documents:
    either an optimisation may have dropped documents (or block quality is in use) and the count is
    taken from `docs_for_query`, or nothing was dropped and `self.total` counted every posting.
    **Scope:** `topCount` is given the number of matching documents for its fallback branch (the
    model of `docs_for_query` is "all postings"), so only the branch `may_have_dropped = false ∧
    ¬ block quality` has content — it says that `self.total` can be trusted exactly when the collector
    says so. `len()` of a limited *collapsed* search is not covered here (declared in `PARTIAL`). -/
theorem len_top (cfg : Cfg) (final : Nat → Rat → Rat) (segs : List Seg) (sched : List Step)
    (st' : TopState) (sched' : List Step) (tr' : Trace)
    (hrun : runSegs cfg (topConsume cfg final) (fun st => st.minscore) segs sched {} {} = .ok (st', sched', tr')) :
    topCount cfg st' tr' (allHits cfg final segs).length = ((allHits cfg final segs).length : Int) := by
  unfold topCount
  by_cases h : (!(tr'.mayHaveDropped || useBlockQuality cfg tr'.supports)) = true
  · rw [if_pos h]
    have hf : tr'.mayHaveDropped = false := by
      simp only [Bool.not_eq_true', Bool.or_eq_false_iff] at h; exact h.1
    have := (runSegs_total hrun hf).2
    rw [this]; simp
  · rw [if_neg h]

/-- An `hrun` for the branch of `len_top` that has content: block quality off, nothing dropped,
    `limit = 1` of 3 matches — `self.total = 3` although the heap holds one hit. -/
example :
    let cfg : Cfg := { limit := 1, replace := 0, usequality := false }
    let segs : List Seg := [⟨0, true, [.mk' 0 3 true, .mk' 1 5 true, .mk' 2 1 true]⟩]
    ∃ st' sched' tr', runSegs cfg (topConsume cfg (fun _ s => s)) (fun st => st.minscore) segs [] {} {}
        = .ok (st', sched', tr') ∧
      tr'.mayHaveDropped = false ∧ useBlockQuality cfg tr'.supports = false ∧ st'.total = 3 ∧
      st'.results = [⟨1, 5⟩] := by
  intro cfg segs
  simp only [cfg, segs, runSegs_eval]
  exact ⟨_, _, _, rfl, by decide +kernel⟩

end WM.C14
