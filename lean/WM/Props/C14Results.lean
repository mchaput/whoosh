import WM.Model.Results
/-! C14 — combining result objects (`Results.extend / filter / upgrade / upgrade_and_extend`). -/
namespace WM.C14
open WM.Results

/-- A result object is well formed if its hits are matched documents, no document is hit or listed
    twice, and `len(results)` is the number of matched documents. -/
structure ResWF (r : Res) : Prop where
  hits : ∀ it ∈ r.topN, it.2 ∈ r.docs
  nodupHits : (r.topN.map (·.2)).Nodup
  nodupDocs : r.docs.Nodup
  len : r.total = r.docs.length

theorem mem_union (a b : List Nat) (d : Nat) : d ∈ union a b ↔ d ∈ a ∨ d ∈ b := by
  simp only [union, List.mem_append, List.mem_filter, Bool.not_eq_true', List.contains_eq_mem,
    decide_eq_false_iff_not]
  by_cases h : d ∈ a <;> simp [h]

theorem nodup_union (a b : List Nat) (ha : a.Nodup) (hb : b.Nodup) : (union a b).Nodup := by
  simp only [union]
  rw [List.nodup_append]
  refine ⟨ha, hb.sublist List.filter_sublist, ?_⟩
  intro x hx y hy hxy
  subst hxy
  simp only [List.mem_filter, Bool.not_eq_true', List.contains_eq_mem, decide_eq_false_iff_not] at hy
  exact hy.2 hx

/-- **extend**: the matched set becomes the union, `len` its size, the old hits keep their places
    and the new ones (never a document `self` already matched) follow; well-formedness is kept. -/
theorem extend_spec (a b : Res) (ha : ResWF a) (hb : ResWF b) :
    ResWF (extend a b) ∧ (∀ d, d ∈ (extend a b).docs ↔ d ∈ a.docs ∨ d ∈ b.docs) ∧
    (extend a b).topN.take a.topN.length = a.topN ∧
    (∀ it, it ∈ (extend a b).topN ↔ it ∈ a.topN ∨ (it ∈ b.topN ∧ it.2 ∉ a.docs)) := by
  refine ⟨⟨?_, ?_, ?_, rfl⟩, fun d => mem_union _ _ d, ?_, ?_⟩
  · intro it hit
    simp only [extend, List.mem_append, List.mem_filter] at hit
    show it.2 ∈ union a.docs b.docs
    rw [mem_union]
    rcases hit with h | ⟨h, _⟩
    · exact Or.inl (ha.hits it h)
    · exact Or.inr (hb.hits it h)
  · simp only [extend, List.map_append]
    rw [List.nodup_append]
    refine ⟨ha.nodupHits, ?_, ?_⟩
    · exact hb.nodupHits.sublist (List.Sublist.map _ List.filter_sublist)
    · intro x hx y hy hxy
      subst hxy
      obtain ⟨it, hit, rfl⟩ := List.mem_map.mp hx
      obtain ⟨it', hit', he⟩ := List.mem_map.mp hy
      simp only [List.mem_filter, Bool.not_eq_true', List.contains_eq_mem, decide_eq_false_iff_not] at hit'
      exact hit'.2 (he ▸ ha.hits it hit)
  · exact nodup_union _ _ ha.nodupDocs hb.nodupDocs
  · simp [extend]
  · intro it
    simp [extend, List.mem_filter]

/-- **filter**: exactly the hits whose document `other` matched, in their old order; the matched set
    becomes the intersection and `len` its size. -/
theorem filter_spec (a b : Res) (ha : ResWF a) :
    ResWF (filter a b) ∧ (filter a b).topN.Sublist a.topN ∧
    (∀ it, it ∈ (filter a b).topN ↔ it ∈ a.topN ∧ it.2 ∈ b.docs) ∧
    (∀ d, d ∈ (filter a b).docs ↔ d ∈ a.docs ∧ d ∈ b.docs) := by
  refine ⟨⟨?_, ?_, ha.nodupDocs.sublist List.filter_sublist, rfl⟩, List.filter_sublist, ?_, ?_⟩
  · intro it hit
    simp only [filter, List.mem_filter, List.contains_eq_mem, decide_eq_true_eq] at hit ⊢
    exact ⟨ha.hits it hit.1, hit.2⟩
  · exact ha.nodupHits.sublist (List.Sublist.map _ List.filter_sublist)
  · intro it; simp [filter, List.mem_filter]
  · intro d; simp [filter, List.mem_filter]

/-- **upgrade**: a permutation of the hits — those `other` matched first (last when reversed), both
    parts in their old order; nothing else changes. -/
theorem upgrade_spec (a b : Res) (reverse : Bool) :
    (upgrade a b reverse).topN.Perm a.topN ∧ (upgrade a b reverse).docs = a.docs ∧
    (upgrade a b reverse).total = a.total ∧
    (b.total ≠ 0 → (upgrade a b reverse).topN =
      (if reverse then a.topN.filter (fun it => !b.docs.contains it.2) ++ a.topN.filter (fun it => b.docs.contains it.2)
       else a.topN.filter (fun it => b.docs.contains it.2) ++ a.topN.filter (fun it => !b.docs.contains it.2))) := by
  unfold upgrade
  by_cases h : b.total = 0
  · simp [h]
  · rw [if_neg h]
    refine ⟨?_, rfl, rfl, fun _ => rfl⟩
    dsimp only
    cases reverse
    · simp only [Bool.false_eq_true, if_false]
      exact List.filter_append_perm _ _
    · simp only [if_true]
      exact List.perm_append_comm.trans (List.filter_append_perm _ _)

/-- **upgrade_and_extend** is `upgrade` followed by `extend`: the hits `other` matched first, the
    other old hits next, then the hits of `other` that `self` did not match; the matched set is the
    union and `len` its size. (With an empty `other` nothing changes.) -/
theorem upgrade_and_extend_spec (a b : Res) (ha : ResWF a) (hb : ResWF b) :
    upgradeAndExtend a b = extend (upgrade a b false) b := by
  unfold upgradeAndExtend upgrade
  split
  · next h =>
    have hd : b.docs = [] := List.eq_nil_of_length_eq_zero (hb.len ▸ h)
    have ht : b.topN = [] := List.eq_nil_iff_forall_not_mem.mpr fun it hit => by
      simpa [hd] using hb.hits it hit
    simp [extend, union, hd, ht, ← ha.len]
  · rfl

/-- Non-vacuity / concrete behaviour: two overlapping result objects. -/
example :
    let a : Res := ⟨[(3, 1), (2, 4), (1, 7)], [1, 4, 7, 9], 4⟩
    let b : Res := ⟨[(5, 4), (4, 8)], [4, 8], 2⟩
    (extend a b).topN = [(3, 1), (2, 4), (1, 7), (4, 8)] ∧ (extend a b).total = 5 ∧
    (filter a b).topN = [(2, 4)] ∧ (filter a b).total = 1 ∧
    (upgrade a b false).topN = [(2, 4), (3, 1), (1, 7)] ∧
    (upgradeAndExtend a b).topN = [(2, 4), (3, 1), (1, 7), (4, 8)] ∧
    (filter a ⟨[], [], 0⟩).topN = [] := by decide +kernel

end WM.C14
