import WM.Lemmas.CollectTop
import WM.Lemmas.CollectExhaustive
import WM.Lemmas.CollectKeeps
/-!
C05 — limiting a search to the top N never changes which hits win or their scores.

`collectTop` is `Searcher.search_with_collector(q, TopCollector(limit, usequality, replace=…))`
followed by `results()`, over any number of segments, with the three optimisations of
`ScoredCollector.matches` (periodic `replace(minscore)`, `skip_to_quality(minscore)` on block change,
heap admission) driven by an **arbitrary schedule** `sched` of wishes — drop this pending posting, or
*lower its score* — that the model honours only within the C12 contract (`WM.Matcher.Keeps`: only a
posting scoring `≤` the threshold the collector passed may be dropped or lowered, a score is never
raised, and a threshold of 0 — "no threshold" — changes nothing). `contract_covered` proves that
these schedules produce every outcome `Keeps` allows. The exhaustive ranking is taken at the scores
the postings had when the search started (`Fresh`: the ghost field `orig` equals `score` on input).
-/
namespace WM.C05
open WM.Rank WM.Collect

/-- **C05.topk.** For every configuration (`limit ≥ 1`, any `replace` period, quality on/off,
    `final()` hook or not), every segment layout with globally ascending document numbers, every
    schedule of drops and score-lowerings and every assignment of "entered a new block" flags: the
    limited search returns exactly the first `limit` entries of the exhaustive ranking (score
    descending, document ascending on ties) — with their exhaustive scores: a posting whose score
    the matcher lowered never gets onto the heap. `hfresh` says that the input postings carry their
    own score as the original score. No assumption on the scores: zero and negative scores are covered
    (the collector does not call `skip_to_quality(0)` while the heap is not full, which would skip
    zero-scoring documents: `fix: ScoredCollector.matches does not call skip_to_quality() while there
    is no minimum score`). -/
theorem topk (cfg : Cfg) (final : Nat → Rat → Rat) (segs : List Seg) (sched : List Step)
    (hk : 1 ≤ cfg.limit)
    (hwf : (globalDocs segs).Pairwise (· < ·)) (hfresh : Fresh segs) :
    collectTop cfg final segs sched = .ok (topK cfg.limit (allHits cfg final segs)) := by
  obtain ⟨⟨st', sched', tr'⟩, hrun, hres⟩ :=
    runSegs_topK (.top cfg final) hk segs sched {} {} rfl hwf hfresh
  rw [List.filter_eq_self.mpr fun _ _ => rfl] at hres
  simp only [collectTop, hrun, hres]

/-- **C05.unlimited.** The exhaustive side of the property: `search(q, limit=None)` — the same
    generator with `_use_block_quality() = False` and `minscore` constantly 0 feeding an
    `UnlimitedCollector` — returns, for every schedule, exactly the ranking of all hits (reversed
    as a whole with `reverse=True`). -/
theorem unlimited (replace : Nat) (useFinal : Bool) (final : Nat → Rat → Rat) (reverse : Bool)
    (segs : List Seg) (sched : List Step) :
    collectUnlimited replace useFinal final reverse segs sched =
      .ok (if reverse then
             (rankAll (allHits { limit := 0, replace := replace, usequality := false, useFinal := useFinal } final segs)).reverse
           else rankAll (allHits { limit := 0, replace := replace, usequality := false, useFinal := useFinal } final segs)) :=
  collectUnlimited_eq { limit := 0, replace := replace, usequality := false, useFinal := useFinal } ..

/-- **C05.limited_eq_prefix_of_unlimited** — the property as it is worded: for every `limit ≥ 1`
    the limited search (any schedule of drops within the contract) returns the first `limit` hits of
    what the exhaustive search (any schedule) returns. -/
theorem limited_eq_prefix_of_unlimited (cfg : Cfg) (final : Nat → Rat → Rat) (segs : List Seg)
    (sched sched' : List Step) (hk : 1 ≤ cfg.limit) (hwf : (globalDocs segs).Pairwise (· < ·))
    (hfresh : Fresh segs) :
    ∃ all, collectUnlimited cfg.replace cfg.useFinal final false segs sched' = .ok all ∧
      collectTop cfg final segs sched = .ok (all.take cfg.limit) :=
  ⟨_, collectUnlimited_eq cfg final false segs sched', topk cfg final segs sched hk hwf hfresh⟩

/-- The filter of a `Wrap` as a predicate on global document numbers
    (`FilterCollector`: allowed and not restricted). -/
def passes (w : Wrap) (g : Nat) : Bool := !refuses w.allow w.restrict g

/-- Full statement of **C05.with_wrappers**: with any combination of filter, mask and collapsing
    (terms recording changes nothing the collectors see) the limited search returns the first
    `limit` entries of the exhaustive ranking *of the wrapped search*: the hits that pass the filter,
    collapsed to the best `climit` per key. Proved below for filter/mask (`with_wrappers_partial`);
    open for collapsing without an order facet; **false** for collapsing with an order facet
    (`collapse_order_counterexample`): a document the heap has forgotten cannot come back when the
    order facet evicts a higher-scoring document of its key. -/
def with_wrappers_full : Prop :=
  ∀ (cfg : Cfg) (final : Nat → Rat → Rat) (w : Wrap) (segs : List Seg) (sched : List Step),
    1 ≤ cfg.limit → (globalDocs segs).Pairwise (· < ·) → Fresh segs →
    (∀ ck cl o, w.collapse = some (ck, cl, o) → 1 ≤ cl) →
    ∃ hs st tr, collectStack cfg final w segs sched = .ok (hs, st, tr) ∧
      ∃ hsAll stAll trAll,
        collectStack { cfg with limit := (allHits cfg final segs).length + 1 } final w segs [] = .ok (hsAll, stAll, trAll) ∧
        hs = hsAll.take cfg.limit

/-- **C05.with_wrappers (filter, mask, terms).** Under a `FilterCollector` with any allow and
    restrict sets (query, `Results` or id set — they reach the collector as id sets) wrapped around
    the `TopCollector`, for every schedule of drops the limited search returns the first `limit`
    entries of the ranking of the hits that pass the filter. -/
theorem with_wrappers_partial (cfg : Cfg) (final : Nat → Rat → Rat) (allow restrict : Option (List Nat))
    (segs : List Seg) (sched : List Step)
    (hk : 1 ≤ cfg.limit)
    (hwf : (globalDocs segs).Pairwise (· < ·)) (hfresh : Fresh segs) :
    ∃ st tr, collectStack cfg final { allow := allow, restrict := restrict } segs sched
        = .ok (topK cfg.limit ((allHits cfg final segs).filter
            (fun h => passes { allow := allow, restrict := restrict } h.doc)), st, tr) := by
  obtain ⟨⟨st', sched', tr'⟩, hrun, hres⟩ :=
    runSegs_topK (.stack cfg final allow restrict) hk segs sched {} {} rfl hwf hfresh
  exact ⟨st', tr', by simp only [collectStack, hrun, hres]; rfl⟩

/-- Non-vacuity of `with_wrappers_partial`: a filter that really refuses (doc 1 not allowed, doc 12
    masked) on two segments with a dropping schedule. -/
example :
    let segs : List Seg := [⟨0, true, [(.mk' 0 1 true), (.mk' 1 3 false), (.mk' 2 2 true)]⟩, ⟨10, true, [(.mk' 0 5 true), (.mk' 2 1 true)]⟩]
    let w : Wrap := { allow := some [0, 2, 10, 12], restrict := some [12] }
    (globalDocs segs).Pairwise (· < ·) ∧
      ((allHits { limit := 2 } (fun _ s => s) segs).filter (fun h => passes w h.doc)).map (·.doc) = [0, 2, 10] := by
  decide +kernel

private def ckeyX : Nat → Option Int :=
  fun g => if g = 0 then some 1 else if g = 1 then some 2 else if g = 2 then some 3 else if g = 3 then some 2 else none
private def ordX : Nat → Key := fun g => if g = 0 then [5] else if g = 1 then [9] else if g = 2 then [5] else [1]
private def segsX : List Seg := [⟨0, true, [(.mk' 0 5 true), (.mk' 1 4 true), (.mk' 2 3 true), (.mk' 3 1 true)]⟩]
private def wX : Wrap := { collapse := some (ckeyX, 1, some ordX) }

/-- **The full statement is false for `collapse_order`** (recorded finding
    `collapse_order+limit:TopCollector-forgot-a-document-that-collapsing-lets-back-in`): four documents scoring
    5, 4, 3, 1 with collapse keys x, y, z, y and order values 5, 9, 5, 1; `limit = 2`,
    `collapse_limit = 1`. Exhaustively the collapsed ranking is docs 0, 2, 3 (doc 3 replaces doc 1
    under the order facet); the limited search has forgotten doc 2 (score 3 ≤ heap minimum 4) when
    doc 3 evicts doc 1, and returns docs 0, 3. No schedule of drops is involved. -/
theorem collapse_order_counterexample : ¬ with_wrappers_full := by
  intro h
  obtain ⟨hs, st, tr, h1, hsAll, stAll, trAll, h2, h3⟩ :=
    h { limit := 2 } (fun _ s => s) wX segsX [] (by decide) (by decide) (by decide)
      (fun _ _ _ hw => by cases hw; exact Nat.le_refl 1)
  have e1 : (collectStack { limit := 2 } (fun _ s => s) wX segsX []).toOption.map (·.1)
      = some [⟨0, 5⟩, ⟨3, 1⟩] := by
    rw [collectStack, runSegs_eval]; decide +kernel
  have e2 : (collectStack { limit := (allHits { limit := 2 } (fun _ s => s) segsX).length + 1 }
      (fun _ s => s) wX segsX []).toOption.map (·.1) = some [⟨0, 5⟩, ⟨2, 3⟩, ⟨3, 1⟩] := by
    rw [collectStack, runSegs_eval]; decide +kernel
  rw [h1] at e1
  rw [h2] at e2
  cases e1
  cases e2
  exact absurd h3 (by decide)

/-- The hypotheses of `topk` are satisfiable on a non-trivial instance: two segments, block flags,
    ties, a zero and a negative score, `limit = 2 <` number of hits. -/
example :
    let segs : List Seg := [⟨0, true, [(.mk' 0 1 true), (.mk' 1 3 false), (.mk' 2 0 true), (.mk' 3 2 false)]⟩,
                            ⟨10, true, [(.mk' 0 5 true), (.mk' 2 (-1) true)]⟩]
    (1 ≤ ({ limit := 2, replace := 1 } : Cfg).limit) ∧ (globalDocs segs).Pairwise (· < ·) ∧
      (allHits { limit := 2 } (fun _ s => s) segs).length = 6 := by
  decide +kernel

/-- A zero-scoring posting survives a schedule that wants to drop it while there is no threshold. -/
example : collectTop { limit := 2, replace := 1 } (fun _ s => s)
    [⟨0, true, [(.mk' 0 0 true), (.mk' 1 1 true)]⟩] [{ mask := [.drop], supports := true, skip := 1 }] = .ok [⟨1, 1⟩, ⟨0, 0⟩] := by
  rw [collectTop, runSegs_eval]
  decide +kernel

/-- A run in which the optimisations really fire, evaluated through `runSegs`: `limit = 1`,
    `replace = 1`, scores 3, 5, 1, 2, 4, 7. After document 1 (score 5) replaced document 0 on the heap
    the threshold is 5: `skip_to_quality(5)` skips document 2 (`skipped = 1`) and leaves document 3
    with its score *lowered* from 2 to 1 (a union that moved one sub-matcher past it), the next
    `replace(5)` drops document 4; documents 3 and 5 reach `_collect` (`total = 4` of 6 matches).
    The result is document 5 (score 7), the top 1 of the exhaustive ranking, as `topk` says. -/
example :
    let cfg : Cfg := { limit := 1, replace := 1 }
    let segs : List Seg := [⟨0, true, [.mk' 0 3 true, .mk' 1 5 true, .mk' 2 1 true, .mk' 3 2 false, .mk' 4 4 true, .mk' 5 7 true]⟩]
    let sched : List Step := [Step.none, Step.none,
      { mask := [], supports := true, skip := 1, skipMask := [.lower 1, .keep, .drop] },
      { mask := [.drop], supports := true, skip := 0 }]
    ∃ st sched' tr, runSegs cfg (topConsume cfg (fun _ s => s)) (fun st => st.minscore) segs sched {} {}
        = .ok (st, sched', tr) ∧
      st.results = [⟨5, 7⟩] ∧ st.total = 4 ∧ tr.skipped = 1 ∧ tr.replaced = 4 ∧ tr.mayHaveDropped = true := by
  intro cfg segs sched
  simp only [cfg, segs, sched, runSegs_eval]
  exact ⟨_, _, _, rfl, by decide +kernel⟩

/-- **C05.contract_covered.** The schedules `topk` quantifies over cover the C12 contract: whatever
    `replace(q)` / `skip_to_quality(q)` (`q ≠ 0`) may turn the remaining result list of the matcher
    into under `WM.Matcher.Keeps` — entries above `q` untouched, entries at or below `q` dropped,
    kept, or kept with a lower score — is the outcome of some list of wishes of a `Step`. (`q = 0`
    is "no threshold": every `replace()` of whoosh tests `if minquality and …`, and the collector
    no longer calls `skip_to_quality(0)`.) -/
theorem contract_covered (q : Rat) (hq : q ≠ 0) (m : List Posting) (L' : WM.Matcher.Den)
    (hasc : WM.Matcher.Asc (denOf m)) (hasc' : WM.Matcher.Asc L') (hk : WM.Matcher.Keeps q L' (denOf m)) :
    ∃ mask : List Wish, denOf (dropMasked q mask m) = L' :=
  keeps_is_wishes q hq m L' hasc hasc' hk

private def segA : Seg := ⟨0, true, [.mk' 0 1 true]⟩
private def segB : Seg := ⟨1, true, [.mk' 0 1 true, .mk' 1 1 true]⟩

/-- **C05.segment_order_matters** — the hypothesis of `topk` that documents arrive in ascending global
    document order (`Collector.run` visits the leaf searchers in index order) cannot be dropped: segment A
    (offset 0) holds document 0, segment B (offset 1) documents 1 and 2, all scoring 1, `limit = 1`. In index
    order the search returns document 0, the first of the exhaustive ranking. Visiting the bigger segment B
    first — the same hits, so the same exhaustive ranking — the heap is full with document 1 when document 0
    arrives, `score > items[0][0]` refuses the tie, and the search returns document 1: the "ascending document
    number on ties" half of the property is lost although the heap keys carry global document numbers. -/
theorem segment_order_matters :
    collectTop { limit := 1 } (fun _ s => s) [segA, segB] [] = .ok [⟨0, 1⟩] ∧
    topK 1 (allHits { limit := 1 } (fun _ s => s) [segA, segB]) = [⟨0, 1⟩] ∧
    (allHits { limit := 1 } (fun _ s => s) [segB, segA]).Perm (allHits { limit := 1 } (fun _ s => s) [segA, segB]) ∧
    topK 1 (allHits { limit := 1 } (fun _ s => s) [segB, segA]) = [⟨0, 1⟩] ∧
    collectTop { limit := 1 } (fun _ s => s) [segB, segA] [] = .ok [⟨1, 1⟩] ∧
    ¬ (globalDocs [segB, segA]).Pairwise (· < ·) := by
  have h1 : collectTop { limit := 1 } (fun _ s => s) [segA, segB] [] = .ok [⟨0, 1⟩] := by
    rw [collectTop, runSegs_eval]; decide +kernel
  -- by `topk` the run in index order shows the head of the ranking
  have ht : topK 1 (allHits { limit := 1 } (fun _ s => s) [segA, segB]) = [⟨0, 1⟩] :=
    Except.ok.inj ((topk _ _ _ _ (by decide) (by decide) (by decide)).symm.trans h1)
  have hperm : (allHits { limit := 1 } (fun _ s => s) [segB, segA]).Perm
      (allHits { limit := 1 } (fun _ s => s) [segA, segB]) := by decide +kernel
  have ht' : topK 1 (allHits { limit := 1 } (fun _ s => s) [segB, segA]) = [⟨0, 1⟩] := by
    rw [topK, rankAll, rankLe_sortOrder.mergeSort_congr hperm]; exact ht
  refine ⟨h1, ht, hperm, ht', ?_, by decide⟩
  rw [collectTop, runSegs_eval]; decide +kernel

end WM.C05
