import WM.Lemmas.SearchCursorMain
import WM.Props.C01
/-!
C01 (cursor tie) — the list-level model `WM.Compile.compile` is what the matcher family's cursor
trees denote.

`WM.Compile.build` mirrors `Query.matcher(subsearcher, context)` in the cursor vocabulary of
`WM/Model/MatcherTree.lean` (ListMatcher leaves over the term postings and for `Every`, `mkInter`,
`mkUnion`, `mkDisMax`, `mkAndNot`, `mkAndMaybe`, `mkRequire`, `mkInverse`, `mkConst`, `mkBoost`,
`mkAUnion`, the same tree shapes, the expansion of multi-term queries against the segment lexicon).
`CursorOK ls s ctx q` says that `q` consists of term / null / Every leaves, multi-term queries and
boolean constructors and that every array union built for it (an `Or`, or the expansion of a multi-term
query, of 1024 or more clauses in any context; of three or more in a context that does not need the
current match, on a segment of at most 5000 documents) is a *scored* one with a positive boost over plain
term matchers with positive leaf scores — the array union the matcher family models.  Phrase
(spans), numeric ranges (C13) and the unscored array union (`scored=False`) are outside.
-/
namespace WM.C01
open WM.Search WM.Compile

/-- For every such query, context, segment, leaf scorer and tree-shape oracle the construction
    succeeds (no constructor raises), the tree satisfies the matcher family's invariant `WF`, and
    its remaining result list `den` is exactly the compiled list. -/
theorem cursor_den (ls : LeafScore) (so : ShapeOracle) (s : Segment) (q : Query) (ctx : Ctx)
    (h : CursorOK ls s ctx q) :
    ∃ m, build ls so s ctx q = .ok m ∧ WM.Matcher.WF m.1 m.2 ∧ toPL m.den = compile ls so s ctx q :=
  build_denotes ls so s q ctx h

/-- Composition with `matcher_den` and C11: the cursor tree built for the query is a faithful
    forward cursor (`WM.C11.refine_next`, `refine_skipTo`, `program` apply to it, being `WF`) over a
    list whose ids are exactly the live documents satisfying the query. -/
theorem cursor_answers (ls : LeafScore) (so : ShapeOracle) (s : Segment) (hso : ValidOracle so)
    (hleaf : PosLeaf ls s) (q : Query) (hq : PosQ q) (ctx : Ctx)
    (h : CursorOK ls s ctx q) :
    ∃ m, build ls so s ctx q = .ok m ∧ WM.Matcher.WF m.1 m.2 ∧
      m.den.map (·.1) = s.live.filter (fun i => sat q (s.doc i)) := by
  obtain ⟨m, h1, h2, h3⟩ := cursor_den ls so s q ctx h
  exact ⟨m, h1, h2, (ids_toPL m.den).symm.trans ((congrArg _ h3).trans (matcher_den ls so s hso hleaf q hq ctx))⟩

/-- the hypotheses are satisfiable: `(aa OR bb) ANDNOT (NOT cc)`, scored context that needs the current
    match, on the first example segment -/
def curQ : Query := .andNot (.or [.term "t" [97] 2, .term "t" [98] 1] 1) (.not (.term "t" [99] 1))

example : CursorOK freqLeaf exSeg1 ⟨true, true⟩ curQ :=
  ⟨⟨⟨trivial, trivial, trivial⟩, .inl (by decide)⟩, trivial⟩

example : (build freqLeaf balancedOracle exSeg1 ⟨true, true⟩ curQ).toOption.map (fun m => m.den) =
    some [(0, 1)] := by decide +kernel

/-- … and beyond the `TreeOnly` fragment: a segment of four documents `a b`, `b c`, `a c c`, `d`; an open
    term range that expands to the three terms of the field (not constant-score, boost 2: a *scored array union* over the three
    term matchers in a plain `search()` context), an `Every` over the field and over all documents, a
    constant-score prefix under `Not` (boolean context: it expands to one term, pre-read through `all_ids()`). -/
def mSeg : Segment := ⟨[⟨[⟨"t", 1, [tok 97 0, tok 98 1], []⟩]⟩, ⟨[⟨"t", 1, [tok 98 0, tok 99 1], []⟩]⟩,
                        ⟨[⟨"t", 2, [tok 97 0, tok 99 1, tok 99 2], []⟩]⟩, ⟨[⟨"u", 1, [tok 100 0], []⟩]⟩], [1]⟩
def mQ : Query := .andMaybe (.or [.multi "t" (.range none none false false) 2 false, .every none 1] 1)
                    (.andNot (.every (some "t") 3) (.not (.multi "t" (.pfx [97]) 1 true)))

theorem mSeg_wf : wfSegment mSeg = true := by decide +kernel

theorem mSeg_lexicon : lexicon mSeg "t" = [[98], [97], [99]] := by decide +kernel

theorem mQ_ok : CursorOK freqLeaf mSeg ⟨false, true⟩ mQ := by
  refine ⟨⟨⟨.inr ?_, trivial, trivial⟩, .inl (by decide)⟩, trivial, .inr (.inl ?_)⟩
  · -- the range expands to three terms: a scored array union, whose cells are positive as the segment is well formed
    rw [mSeg_lexicon]
    exact unionOK_of_pos (posLeaf_freq mSeg_wf) rfl (by decide +kernel) fun q hq =>
      let ⟨t, _, e⟩ := List.mem_map.mp hq
      ⟨"t", t, e.symm⟩
  · rw [mSeg_lexicon]
    decide

example : (build freqLeaf balancedOracle mSeg ⟨false, true⟩ mQ).toOption.map (fun m => (m.1, m.den)) =
    some (.andMaybe (.union (.aunion .list) .list) (.andNot .list (.inverse .list)),
          [(0, 8), (2, 16), (3, 1)]) := by decide +kernel

end WM.C01
