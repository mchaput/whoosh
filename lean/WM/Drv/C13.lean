import WM.Proto
import WM.Model.Numeric
import WM.Spec.Numeric
import WM.Model.NumericDate
import WM.Lemmas.NumericTotalOrder
namespace WM.Drv.C13
open WM.Proto WM.Proto.SExp WM.Numeric WM.NumericSpec WM.NumericDate

def showR (r : R) : String := s!"({r.lo} {r.hi} {r.shift})"
def showRs (rs : List R) : String := showList showR rs
/-- Canonical form for comparison: what the consumer sees after shifting. -/
def showRc (r : R) : String := s!"({r.lo >>> r.shift} {r.hi >>> r.shift} {r.shift})"
def showRcs (rs : List R) : String := showList showRc rs

def showEx {α} (f : α → String) : Except Err α → String
  | .ok a => "ok " ++ f a
  | .error e => "err " ++ e.name

def showSub : Sub → String
  | .term t => s!"(t {showHex t})"
  | .range a b => s!"(r {showHex a} {showHex b})"

def optInt? (e : SExp) : Option (Option Int) := opt? int? e
def optNat? (e : SExp) : Option (Option Nat) := opt? nat? e

def showADT (p : ADT) : String :=
  let f (o : Option Nat) : String := match o with | some v => toString v | none => "none"
  s!"({f p.year} {f p.month} {f p.day} {f p.hour} {f p.minute} {f p.second} {f p.micro})"

def showOptInt : Option Int → String
  | some v => toString v
  | none => "none"

def showDQ : DQ → String
  | .error => "error"
  | .range a b => s!"range {a} {b}"
  | .term a => s!"term {a}"

def optCodes? (e : SExp) : Option (Option (List Nat)) :=
  match e with
  | .atom "none" => some none
  | e => (natList? e).map some

/-- Date-layer requests (round 3). -/
def handleDate : List SExp → Option String
  | [.atom "ordinal", y, m, d] =>
    match y.nat?, m.nat?, d.nat? with
    | some y, some m, some d => some (toString (ordinal y m d))
    | _, _, _ => some "bad-op"
  | [.atom "dim", y, m] =>
    match y.nat?, m.nat? with
    | some y, some m => some (toString (daysInMonth (isLeap y) m))
    | _, _ => some "bad-op"
  | [.atom "civil2long", y, m, d, h, mi, s, us] =>
    match y.nat?, m.nat?, d.nat?, h.nat?, mi.nat?, s.nat?, us.nat? with
    | some y, some m, some d, some h, some mi, some s, some us =>
      some (showEx toString ((mkDatetime y m d h mi s us).map civilToLong))
    | _, _, _, _, _, _, _ => some "bad-op"
  | [.atom "dt-parse", cs] =>
    match natList? cs with
    | some cs => some (showEx showADT (parseDatestring cs))
    | none => some "bad-op"
  | [.atom "dt-bounds", cs] =>
    match natList? cs with
    | some cs => some (showEx (fun (p : Int × Int) => s!"{p.1} {p.2}") (do
        let p ← parseDatestring cs
        let f ← p.floor
        let c ← p.ceil
        pure (civilToLong f, civilToLong c)))
    | none => some "bad-op"
  | [.atom "dt-prepare", cs] =>
    match natList? cs with
    | some cs => some (showEx toString (prepareDateText cs))
    | none => some "bad-op"
  | [.atom "dt-parse-range", a, b, sx, ex] =>
    match optCodes? a, optCodes? b, sx.bool?, ex.bool? with
    | some a, some b, some sx, some ex =>
      some (showEx (fun (r : Option (Option Int × Option Int)) => match r with
        | none => "every"
        | some (x, y) => s!"range {showOptInt x} {showOptInt y}") (parseRange a b sx ex))
    | _, _, _, _ => some "bad-op"
  | [.atom "dt-parse-query", cs] =>
    match natList? cs with
    | some cs => some (showEx showDQ (parseQuery cs))
    | none => some "bad-op"
  | [.atom "tocol-int", n, sg, x] =>
    match n.nat?, sg.bool?, x.int? with
    | some n, some sg, some x => some (showEx toString (toColumnInt n sg x))
    | _, _, _ => some "bad-op"
  | [.atom "fromcol-int", n, sg, x] =>
    match n.nat?, sg.bool?, x.int? with
    | some n, some sg, some x => some (toString (fromColumnInt n sg x))
    | _, _, _ => some "bad-op"
  | [.atom "tocol-float", sg, b] =>
    match sg.bool?, b.nat? with
    | some sg, some b => some (showEx toString (toColumnFloat sg b))
    | _, _ => some "bad-op"
  | [.atom "fromcol-float", sg, x] =>
    match sg.bool?, x.int? with
    | some sg, some x => some (showEx toString (fromColumnFloat sg x))
    | _, _ => some "bad-op"
  | [.atom "tocol-dec", n, sg, dc, q] =>
    match n.nat?, sg.bool?, dc.nat?, q.rat? with
    | some n, some sg, some dc, some q => some (showEx toString (toColumnDecimal n sg dc q))
    | _, _, _, _ => some "bad-op"
  | [.atom "fromcol-dec", n, sg, dc, x] =>
    match n.nat?, sg.bool?, dc.nat?, x.int? with
    | some n, some sg, some dc, some x => some (showRat (fromColumnDecimal n sg dc x))
    | _, _, _, _ => some "bad-op"
  | [.atom "fromcol-dt", x] =>
    match x.int? with
    | some x => let t := fromColumnDatetime x; some s!"{t.days} {t.seconds} {t.micros}"
    | none => some "bad-op"
  | [.atom "long2civil", x] =>
    match x.int? with
    | some x => some (match longToCivil x with
      | some c => s!"ok {c.year} {c.month} {c.day} {c.hour} {c.minute} {c.second} {c.micro}"
      | none => "err OverflowError")
    | none => some "bad-op"
  | [.atom "ord2ymd", n] =>
    match n.nat? with
    | some n => let r := ord2ymd n; some s!"{r.1} {r.2.1} {r.2.2}"
    | none => some "bad-op"
  | [.atom "bool", cls] =>
    let x : Option BIn := match cls with
      | .atom "true" => some (.obj true)
      | .atom "false" => some (.obj false)
      | .atom "strtrue" => some .strTrue
      | .atom "strfalse" => some .strFalse
      | .atom "strother" => some (.strOther true)
      | .atom "strempty" => some (.strOther false)
      | .atom "star" => some .star
      | _ => none
    match x with
    | some x =>
      let q := match boolParseQuery x with
        | .every => "every"
        | .term b => s!"term {showBool b}"
      some s!"{showBool (objToBool x)} {showHex (boolToBytes x)} {showList showHex (boolIndex x)} {q}"
    | none => some "bad-op"
  | _ => none

/-- Protocol handler of family `c13` (requests arrive without the family token). -/
def handleCore : List SExp → String
  | [.atom "split", n, step, s, e] =>
    match n.nat?, step.nat?, s.nat?, e.nat? with
    | some n, some step, some s, some e =>
      if h : 0 < step then showRs (splitRanges n step h s e) else "bad-op"
    | _, _, _, _ => "bad-op"
  | [.atom "splitc", n, step, s, e] =>
    match n.nat?, step.nat?, s.nat?, e.nat? with
    | some n, some step, some s, some e =>
      if h : 0 < step then showRcs (splitRanges n step h s e) else "bad-op"
    | _, _, _, _ => "bad-op"
  | [.atom "tieredc-int", n, sg, s, e, step, sx, ex] =>
    match n.nat?, sg.bool?, optInt? s, optInt? e, step.nat?, sx.bool?, ex.bool? with
    | some n, some sg, some s, some e, some step, some sx, some ex =>
      showRcs (tieredInt n sg s e step sx ex)
    | _, _, _, _, _, _, _ => "bad-op"
  | [.atom "tieredc-float", sg, s, e, step, sx, ex] =>
    match sg.bool?, optNat? s, optNat? e, step.nat?, sx.bool?, ex.bool? with
    | some sg, some s, some e, some step, some sx, some ex =>
      showEx showRcs (tieredFloat sg s e step sx ex)
    | _, _, _, _, _, _ => "bad-op"
  | [.atom "tiered-int", n, sg, s, e, step, sx, ex] =>
    match n.nat?, sg.bool?, optInt? s, optInt? e, step.nat?, sx.bool?, ex.bool? with
    | some n, some sg, some s, some e, some step, some sx, some ex =>
      showRs (tieredInt n sg s e step sx ex)
    | _, _, _, _, _, _, _ => "bad-op"
  | [.atom "tiered-float", sg, s, e, step, sx, ex] =>
    match sg.bool?, optNat? s, optNat? e, step.nat?, sx.bool?, ex.bool? with
    | some sg, some s, some e, some step, some sx, some ex =>
      showEx showRs (tieredFloat sg s e step sx ex)
    | _, _, _, _, _, _ => "bad-op"
  | [.atom "tosort-int", n, sg, x] =>
    match n.nat?, sg.bool?, x.int? with
    | some n, some sg, some x => toString (toSortableInt n sg x)
    | _, _, _ => "bad-op"
  | [.atom "fromsort-int", n, sg, x] =>
    match n.nat?, sg.bool?, x.int? with
    | some n, some sg, some x => toString (fromSortableInt n sg x)
    | _, _, _ => "bad-op"
  | [.atom "fsort", sg, b] =>
    match sg.bool?, b.nat? with
    | some sg, some b => showEx toString (floatToSortable b sg)
    | _, _ => "bad-op"
  | [.atom "funsort", sg, x] =>
    match sg.bool?, x.int? with
    | some sg, some x => showEx toString (sortableToFloat x sg)
    | _, _ => "bad-op"
  | [.atom "flt", a, b] =>
    match a.nat?, b.nat? with
    | some a, some b => showBool (fLt a b)
    | _, _ => "bad-op"
  | [.atom "pycmp", a, b] =>
    -- Python's `<`, `<=`, `==` on two doubles (the spec's ieeeLt / ieeeLe and pyEq)
    match a.nat?, b.nat? with
    | some a, some b =>
      let f (x : Bool) : String := if x then "1" else "0"
      s!"{f (ieeeLt a b)} {f (ieeeLe a b)} {f (pyEq a b)}"
    | _, _ => "bad-op"
  | [.atom "totallt", a, b] =>
    match a.nat?, b.nat? with
    | some a, some b => showBool (totalLt a b)
    | _, _ => "bad-op"
  | [.atom "prepare-int", n, sg, x] =>
    match n.nat?, sg.bool?, x.int? with
    | some n, some sg, some x => showEx toString (prepareInt n sg x)
    | _, _, _ => "bad-op"
  | [.atom "prepare-float", sg, b] =>
    match sg.bool?, b.nat? with
    | some sg, some b => showEx toString (prepareFloat sg b)
    | _, _ => "bad-op"
  | [.atom "minmax-int", n, sg] =>
    match n.nat?, sg.bool? with
    | some n, some sg => let (a, b) := minMaxInt n sg; s!"{a} {b}"
    | _, _ => "bad-op"
  | [.atom "minmax-float", sg] =>
    match sg.bool? with
    | some sg => showEx (fun (p : Nat × Nat) => s!"{p.1} {p.2}") (minMaxFloat sg)
    | _ => "bad-op"
  | [.atom "tobytes-int", w, sg, x, sh] =>
    match w.nat?, sg.bool?, x.int?, sh.nat? with
    | some w, some sg, some x, some sh => showEx showHex (toBytesInt w sg x sh)
    | _, _, _, _ => "bad-op"
  | [.atom "tobytes-float", sg, b, sh] =>
    match sg.bool?, b.nat?, sh.nat? with
    | some sg, some b, some sh => showEx showHex (toBytesFloat sg b sh)
    | _, _, _ => "bad-op"
  | [.atom "frombytes-int", w, sg, .atom hex] =>
    match w.nat?, sg.bool?, hexBytes? hex with
    | some w, some sg, some bs => toString (fromBytesInt w sg bs)
    | _, _, _ => "bad-op"
  | [.atom "index-int", w, sg, step, x] =>
    match w.nat?, sg.bool?, step.nat?, x.int? with
    | some w, some sg, some step, some x =>
      showEx (showList showHex) (do
        let x ← prepareInt (8 * w) sg x
        indexTerms w step (toSortableInt (8 * w) sg x).toNat)
    | _, _, _, _ => "bad-op"
  | [.atom "index-int-list", w, sg, step, xs] =>
    match w.nat?, sg.bool?, step.nat?, intList? xs with
    | some w, some sg, some step, some xs =>
      showEx (showList showHex) (do
        let ys ← xs.mapM fun x => do
          let x ← prepareInt (8 * w) sg x
          pure (toSortableInt (8 * w) sg x).toNat
        indexTermsList w step ys)
    | _, _, _, _ => "bad-op"
  | [.atom "index-float", sg, step, b] =>
    match sg.bool?, step.nat?, b.nat? with
    | some sg, some step, some b =>
      showEx (showList showHex) (do
        let b ← prepareFloat sg b
        let s ← floatToSortable b sg
        indexTerms 8 step s.toNat)
    | _, _, _ => "bad-op"
  | [.atom "index-float-list", sg, step, bs] =>
    match sg.bool?, step.nat?, natList? bs with
    | some sg, some step, some bs =>
      showEx (showList showHex) (do
        let ys ← bs.mapM fun b => do
          let b ← prepareFloat sg b
          let s ← floatToSortable b sg
          pure s.toNat
        indexTermsList 8 step ys)
    | _, _, _ => "bad-op"
  | [.atom "compile-int", w, sg, step, s, e, sx, ex] =>
    match w.nat?, sg.bool?, step.nat?, optInt? s, optInt? e, sx.bool?, ex.bool? with
    | some w, some sg, some step, some s, some e, some sx, some ex =>
      showEx (showList showSub) (compileInt w sg step s e sx ex)
    | _, _, _, _, _, _, _ => "bad-op"
  | [.atom "compile-float", sg, step, s, e, sx, ex] =>
    match sg.bool?, step.nat?, optNat? s, optNat? e, sx.bool?, ex.bool? with
    | some sg, some step, some s, some e, some sx, some ex =>
      showEx (showList showSub) (compileFloat sg step s e sx ex)
    | _, _, _, _, _, _ => "bad-op"
  | [.atom "compile-dec", w, sg, step, dc, s, e, sx, ex] =>
    match w.nat?, sg.bool?, step.nat?, dc.nat?, opt? rat? s, opt? rat? e, sx.bool?, ex.bool? with
    | some w, some sg, some step, some dc, some s, some e, some sx, some ex =>
      showEx (showList showSub) (compileDecimal w sg step dc s e sx ex)
    | _, _, _, _, _, _, _, _ => "bad-op"
  | [.atom "dt2long", d, s, u] =>
    match d.int?, s.int?, u.int? with
    | some d, some s, some u => toString (tdToUsecs ⟨d, s, u⟩)
    | _, _, _ => "bad-op"
  | [.atom "long2dt", x] =>
    match x.int? with
    | some x => let t := longToTD x; s!"{t.days} {t.seconds} {t.micros}"
    | _ => "bad-op"
  | [.atom "dec2int", dc, q] =>
    match dc.nat?, q.rat? with
    | some dc, some q => toString (decimalToInt dc q)
    | _, _ => "bad-op"
  | [.atom "prepare-dec", n, sg, dc, q] =>
    match n.nat?, sg.bool?, dc.nat?, q.rat? with
    | some n, some sg, some dc, some q => showEx toString (prepareDecimal n sg dc q)
    | _, _, _, _ => "bad-op"
  | [.atom "int2dec", dc, x] =>
    match dc.nat?, x.int? with
    | some dc, some x => showRat (unprepareDecimal dc x)
    | _, _ => "bad-op"
  | [.atom "spec-filter-int", docs, s, e, sx, ex] =>
    match listOf? intList? docs, optInt? s, optInt? e, sx.bool?, ex.bool? with
    | some docs, some s, some e, some sx, some ex => showNatList (filterIdx intLt docs s e sx ex)
    | _, _, _, _, _ => "bad-op"
  | [.atom "spec-filter-float", docs, s, e, sx, ex] =>
    match listOf? natList? docs, optNat? s, optNat? e, sx.bool?, ex.bool? with
    | some docs, some s, some e, some sx, some ex => showNatList (filterIdx totalLt docs s e sx ex)
    | _, _, _, _, _ => "bad-op"
  | [.atom "spec-sort-int", vals] =>
    match intList? vals with
    | some vals => showNatList (sortIdx intLt vals)
    | _ => "bad-op"
  | [.atom "spec-filter-num", docs, s, e, sx, ex] =>
    match listOf? natList? docs, optNat? s, optNat? e, sx.bool?, ex.bool? with
    | some docs, some s, some e, some sx, some ex => showNatList (filterIdxNum docs s e sx ex)
    | _, _, _, _, _ => "bad-op"
  | [.atom "spec-filter-rat", docs, s, e, sx, ex] =>
    match listOf? (listOf? rat?) docs, opt? rat? s, opt? rat? e, sx.bool?, ex.bool? with
    | some docs, some s, some e, some sx, some ex => showNatList (filterIdx ratLt docs s e sx ex)
    | _, _, _, _, _ => "bad-op"
  | [.atom "spec-sort-float", vals] =>
    match natList? vals with
    | some vals => showNatList (sortIdx totalLt vals)
    | _ => "bad-op"
  | _ => "bad-op"

def handle (req : List SExp) : String :=
  match handleDate req with
  | some r => r
  | none => handleCore req

end WM.Drv.C13
