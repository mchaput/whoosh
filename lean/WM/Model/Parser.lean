import WM.Lemmas.Yields
/-
Executable mirror of the whoosh query parser's *filter pipeline* (everything that happens after
`QueryParser.tag()` has turned the string into a flat list of tagged syntax nodes):

* `qparser/default.py`: `QueryParser._priorized` (stable sort by priority), `filterize`, the
  truthiness test at the end of `parse`;
* `qparser/plugins.py`: `GroupPlugin.do_groups`, `BoostPlugin.clean_boost` / `do_boost`,
  `WildcardPlugin.do_wildcards`, `FieldsPlugin.do_fieldnames`, `WhitespacePlugin.remove_whitespace`,
  `OperatorsPlugin.do_operators`, `PlusMinusPlugin.do_plusminus`, `MultifieldPlugin.do_multifield`,
  `GtLtPlugin.do_gtlt` / `make_range`, `FuzzyTermPlugin.do_fuzzyterms`, `CopyFieldPlugin.do_copyfield`,
  `FieldAliasPlugin.do_aliases`;
* `qparser/syntax.py`: `PrefixOperator/PostfixOperator/InfixOperator.replace_self`, `to_word`,
  `set_fieldname`, `set_boost`, `GroupNode.empty_copy`, `GroupNode.query`, `BinaryGroup.query`,
  `Wrapper.query`, `SyntaxNode.query` (the `NotImplementedError` default).

Python lists are `List Node`; a Python index expression is `pyGet` (negative indices count from
the end, out of range is `Err.indexError`), so that "every index access is in bounds" is a
theorem about this file (`WM.C16.total_*`) and not a convention.  Strings are lists of code
points.  Character positions (`startchar/endchar`) are not modelled (they are not compared).
-/
namespace WM.Parser

abbrev Str := List Nat

/-- The Python exceptions that can escape the modelled code. -/
inductive Err
  | indexError | assertion | notImplemented | unbound | qpe | other
  deriving DecidableEq, Repr, Inhabited

/-- Group classes of `syntax.py` (`ScaledOrGroup` is an `OrGroup` for `isinstance`). -/
inductive GK
  | and | or | dismax | ordered | seq | andnot | andmaybe | require | not
  deriving DecidableEq, Repr, Inhabited

/-- `GroupNode.merging` (False for `BinaryGroup` and `Wrapper`). -/
def GK.merging : GK → Bool
  | .andnot | .andmaybe | .require | .not => false
  | _ => true

/-- `has_boost` of the group class (`BinaryGroup.has_boost = False`). -/
def GK.hasBoost : GK → Bool
  | .andnot | .andmaybe | .require => false
  | _ => true

/-- Operator classes. -/
inductive OpT | pre | post | inf
  deriving DecidableEq, Repr, Inhabited

/-- `TextNode` subclasses. -/
inductive TK
  | word | wild | prefix | regex | phrase (slop : Nat) | fuzzy (maxdist plen : Nat)
  deriving DecidableEq, Repr, Inhabited

/-- the six strings `GtLtPlugin.expr` can match: `<  >  <=  =<  >=  =>` -/
inductive Rel | lt | gt | le | el | ge | eg
  deriving DecidableEq, Repr, Inhabited

inductive Node
  /-- `TextNode` family: kind, text, fieldname, boost. -/
  | text (k : TK) (t : Str) (f : Option Str) (b : Rat)
  /-- `RangeNode` (its `boost` attribute is always 1.0: `has_boost` is False). -/
  | range (s e : Option Str) (sx ex : Bool) (f : Option Str)
  | ws
  /-- `FieldnameNode(fieldname, original)` -/
  | fname (name orig : Str)
  | opn | cls
  /-- `Operator(text, grouptype, leftassoc)` of class `t`. -/
  | op (t : OpT) (g : GK) (la : Bool) (txt : Str)
  /-- `BoostPlugin.BoostNode(original, boost)` -/
  | bst (orig : Str) (b : Rat)
  | every
  | plus | minus
  /-- `FuzzyTermPlugin.FuzzinessNode(maxdist, prefixlength, original)` -/
  | fuzz (maxdist plen : Nat) (orig : Str)
  /-- `GtLtPlugin.GtLtNode(rel)` -/
  | gtlt (rel : Rel)
  | group (k : GK) (ns : List Node) (b : Rat)
  deriving Repr, Inhabited

mutual
  def Node.size : Node → Nat
    | .group _ ns _ => 1 + sizeL ns
    | _ => 1
  def sizeL : List Node → Nat
    | [] => 0
    | n :: ns => n.size + sizeL ns
end

theorem size_mem {n : Node} {l : List Node} (h : n ∈ l) : n.size ≤ sizeL l := by
  induction l with
  | nil => cases h
  | cons a t ih =>
    simp only [sizeL]
    cases h with
    | head => omega
    | tail _ h => have := ih h; omega

theorem Node.size_pos (n : Node) : 0 < n.size := by
  cases n <;> simp [Node.size] <;> omega

/-! ## Python list primitives -/

/-- Normalise a Python index. -/
def pyIdx (len : Nat) (i : Int) : Option Nat :=
  if 0 ≤ i then (if i.toNat < len then some i.toNat else none)
  else if 0 ≤ i + len then some (i + len).toNat else none

/-- `l[i]` -/
def pyGet {α} (l : List α) (i : Int) : Except Err α :=
  match pyIdx l.length i with
  | some j => match l[j]? with
    | some a => .ok a
    | none => .error .indexError
  | none => .error .indexError

/-- `l[i] = v` -/
def pySet {α} (l : List α) (i : Int) (v : α) : Except Err (List α) :=
  match pyIdx l.length i with
  | some j => .ok (l.set j v)
  | none => .error .indexError

/-- `del l[i]` / `l.pop(i)` (the popped value is read with `pyGet` first). -/
def pyDel {α} (l : List α) (i : Int) : Except Err (List α) :=
  match pyIdx l.length i with
  | some j => .ok (l.eraseIdx j)
  | none => .error .indexError

/-- `l[a:b] = mid` for `0 ≤ a ≤ b` (Python slices never raise; both bounds are clipped). -/
def pySplice {α} (l : List α) (a b : Nat) (mid : List α) : List α :=
  l.take a ++ mid ++ l.drop (max a b)

theorem pyIdx_some {len : Nat} {i : Int} {j : Nat} (h : pyIdx len i = some j) : j < len := by
  unfold pyIdx at h
  split at h
  · split at h
    · next hlt => exact Option.some.inj h ▸ hlt
    · cases h
  · split at h
    · injection h with h; omega
    · cases h

theorem pyIdx_nat (len j : Nat) : pyIdx len (j : Int) = if j < len then some j else none := by
  simp [pyIdx]

theorem pyGet_nat {α} {l : List α} {j : Nat} {a : α} : pyGet l (j : Int) = .ok a ↔ l[j]? = some a := by
  unfold pyGet
  rw [pyIdx_nat]
  by_cases h : j < l.length
  · simp [h]
  · simp [h]

theorem pred_cast {p : Nat} (h : 0 < p) : (p : Int) - 1 = ((p - 1 : Nat) : Int) := (Int.natCast_sub h).symm

theorem pyGet_ok_nat {α} {l : List α} {i : Nat} (h : i < l.length) : pyGet l (i : Int) = .ok l[i] := by
  rw [pyGet_nat]; exact List.getElem?_eq_getElem h

theorem pyGet_ok_pred {α} {l : List α} {i : Nat} (h0 : 0 < i) (h : i - 1 < l.length) :
    pyGet l ((i : Int) - 1) = .ok (l[i - 1]) := by
  rw [pred_cast h0]; exact pyGet_ok_nat h

theorem pyGet_ok_succ {α} {l : List α} {i : Nat} (h : i + 1 < l.length) :
    pyGet l ((i : Int) + 1) = .ok (l[i + 1]) := by
  rw [Int.ofNat_add_one_out]; exact pyGet_ok_nat h

theorem pyGet_of_not_lt {α} {l : List α} {i : Nat} (h : ¬i < l.length) : pyGet l (i : Int) = .error .indexError := by
  rw [pyGet, pyIdx_nat, if_neg h]

theorem pyDel_ok_nat {α} {l : List α} {i : Nat} (h : i < l.length) : pyDel l (i : Int) = .ok (l.eraseIdx i) := by
  rw [pyDel, pyIdx_nat, if_pos h]

theorem pyGet_last {α} {l : List α} (h : l ≠ []) : ∃ a, pyGet l (-1) = .ok a := by
  have hl : 0 < l.length := List.length_pos_iff.2 h
  unfold pyGet pyIdx
  rw [if_neg (by omega), if_pos (by omega)]
  simp only
  rw [List.getElem?_eq_getElem (by omega)]
  exact ⟨_, rfl⟩

/-! ## Node attributes and small methods -/

def Node.isGroup : Node → Bool
  | .group .. => true
  | _ => false

/-- `has_boost` -/
def Node.hasBoost : Node → Bool
  | .text .. => true
  | .group k _ _ => k.hasBoost
  | _ => false

/-- `has_text` -/
def Node.hasText : Node → Bool
  | .text .. => true
  | _ => false

/-- `is_text()` -/
def Node.isText : Node → Bool
  | .text .. => true
  | _ => false

/-- `has_fieldname` -/
def Node.hasFieldname : Node → Bool
  | .text .. | .range .. | .fname .. => true
  | _ => false

/-- the `fieldname` attribute of a node that has one -/
def Node.fieldname : Node → Option Str
  | .text _ _ f _ => f
  | .range _ _ _ _ f => f
  | .fname n _ => some n
  | _ => none

def Node.isWs : Node → Bool
  | .ws => true
  | _ => false

def Node.isFname : Node → Bool
  | .fname .. => true
  | _ => false

/-- `syntax.to_word(n)`: `WordNode(n.original)`. -/
def toWord (orig : Str) : Node := .text .word orig none 1

/-- `SyntaxNode.set_fieldname` / `GroupNode.set_fieldname`. -/
def setFieldname (name : Str) (override : Bool) : Node → Node
  | .text k t f b => .text k t (if f.isNone || override then some name else f) b
  | .range s e sx ex f => .range s e sx ex (if f.isNone || override then some name else f)
  | .fname n o => if override then .fname name o else .fname n o
  | .group k ns b => .group k (ns.map (setFieldname name override)) b
  | n => n
termination_by n => n.size
decreasing_by
  all_goals simp_wf
  rename_i h; have := size_mem h; simp only [Node.size]; omega

/-- `set_boost` (a no-op unless `has_boost`). -/
def setBoost (b : Rat) : Node → Node
  | .text k t f _ => .text k t f b
  | .group k ns b0 => if k.hasBoost then .group k ns b else .group k ns b0
  | n => n

/-! ## Configuration (what the filters read from the parser and the plug-ins) -/

structure OpCfg where
  t : OpT
  g : GK
  la : Bool
  deriving Repr, Inhabited

inductive FilterId
  | groups | cleanBoost | fuzzy | wildcards | aliases | gtlt | fieldnames | copyfield | multifield
  | rmws | boost | plusminus | operators
  deriving DecidableEq, Repr, Inhabited

structure Cfg where
  /-- `parser.group` -/
  group : GK
  /-- `parser.fieldname` -/
  defField : Option Str
  /-- field names of `parser.schema`; `none` when the parser has no schema -/
  schema : Option (List Str)
  /-- `FieldsPlugin.removeunknown` -/
  removeUnknown : Bool
  /-- `OperatorsPlugin.ops`, in order -/
  ops : List OpCfg
  /-- `MultifieldPlugin.fieldnames` with `boosts.get(name, 1.0)` -/
  mfFields : List (Str × Rat)
  mfGroup : GK
  /-- `CopyFieldPlugin.map`, `.group` -/
  copyMap : List (Str × Str)
  copyGroup : Option GK
  /-- `FieldAliasPlugin.reverse` -/
  aliases : List (Str × Str)
  /-- `(filter, priority)` in the order the plug-ins were added -/
  filters : List (FilterId × Int)
  deriving Repr, Inhabited

/-- truthiness of `parser.schema` (`Schema.__len__`) -/
def Cfg.schemaTruthy (c : Cfg) : Bool :=
  match c.schema with
  | some (_ :: _) => true
  | _ => false

def Cfg.inSchema (c : Cfg) (name : Str) : Bool :=
  match c.schema with
  | some l => l.contains name
  | none => false

def lookup (m : List (Str × Str)) (k : Str) : Option Str :=
  match m with
  | [] => none
  | (a, b) :: rest => if a = k then some b else lookup rest k

/-! ## `GroupPlugin.do_groups` -/

/-- The `for node in group` loop.  The hierarchy stack is never empty in the Python code (it
    starts as `[parser.group()]` and is only popped when `len(stack) > 1`): `cur` is `stack[-1]`,
    `below` the levels under it, innermost first. -/
def doGroupsLoop (gk : GK) : List Node → List Node → List (List Node) → List Node × List (List Node)
  | [], cur, below => (cur, below)
  | .opn :: rest, cur, below => doGroupsLoop gk rest [] (cur :: below)
  | .cls :: rest, cur, below =>
    match below with
    | [] => doGroupsLoop gk rest cur []
    | b :: bs => doGroupsLoop gk rest (b ++ [.group gk cur 1]) bs
  | n :: rest, cur, below => doGroupsLoop gk rest (cur ++ [n]) below

/-- `do_groups`: the levels left on the stack are tacked on the end of the top level; a top level
    consisting of exactly one group is replaced by that group (keeping the top's boost, 1.0). -/
def doGroups (gk : GK) (ns : List Node) : Node :=
  let (cur, below) := doGroupsLoop gk ns [] []
  let top := ((cur :: below).reverse).flatten
  match top with
  | [.group k ns' _] => .group k ns' 1
  | _ => .group gk top 1

/-! ## `BoostPlugin.clean_boost`, `do_boost` -/

/-- `clean_boost` (top level of the group only; `prev` is `group[i-1]` *after* the replacements
    already made, `none` when `i = 0`). -/
def cleanBoostL : Option Node → List Node → List Node
  | _, [] => []
  | prev, n :: rest =>
    let n' := match n with
      | .bst o _ =>
        (match prev with
         | none => toWord o
         | some p => if p.hasBoost then n else toWord o)
      | _ => n
    n' :: cleanBoostL (some n') rest

def cleanBoost : Node → Node
  | .group k ns b => .group k (cleanBoostL none ns) b
  | n => n

/-- one step of the `do_boost` loop: `acc` is `newgroup`'s node list -/
def doBoostStep (acc : List Node) (n : Node) : List Node :=
  match n with
  | .bst o b =>
    match acc.getLast? with
    | some p => if p.hasBoost then acc.dropLast ++ [setBoost b p] else acc ++ [toWord o]
    | none => acc ++ [toWord o]
  | n => acc ++ [n]

/-- `do_boost` -/
def doBoost : Node → Node
  | .group k ns b => .group k (ns.foldl (fun acc n =>
      match n with
      | .group .. => acc ++ [doBoost n]
      | n => doBoostStep acc n) []) b
  | n => n
termination_by n => n.size
decreasing_by
  all_goals simp_wf
  rename_i h; have := size_mem h; simp only [Node.size] at *; omega

/-! ## `WhitespacePlugin.remove_whitespace` -/

def rmWs : Node → Node
  | .group k ns b => .group k ((ns.filter (fun n => !n.isWs)).map rmWs) b
  | n => n
termination_by n => n.size
decreasing_by
  all_goals simp_wf
  rename_i h; have := size_mem h; simp only [Node.size] at *; omega

/-! ## `WildcardPlugin.do_wildcards` -/

def qmarks : List Nat := [63, 0x55E, 0x61F, 0x1367]

/-- `if i < len(group) - 1 and group[i + 1].is_text(): nextnode = group.pop(i + 1);
    node.text += nextnode.text` for the wildcard node `(t, f, b)` at index `i`.  The node object
    mutated in place by the Python code is written back with `List.set`. -/
def wildNext (group : List Node) (i : Nat) (t : Str) (f : Option Str) (b : Rat) :
    Except Err (List Node × Str) :=
  if i + 1 < group.length then
    match pyGet group ((i : Int) + 1) with
    | .error e => .error e
    | .ok (.text _ t2 _ _) =>
      match pyDel group ((i : Int) + 1) with
      | .error e => .error e
      | .ok g => .ok (g.set i (.text .wild (t ++ t2) f b), t ++ t2)
    | .ok _ => .ok (group, t)
  else .ok (group, t)

/-- One iteration of the first loop of `do_wildcards` (without the recursive descent: sub-groups
    are opaque to the loop, they are neither text nor wildcard nodes).  Returns the new list and
    the new `i`. -/
def wildStep (group : List Node) (i : Nat) : Except Err (List Node × Nat) :=
  match pyGet group i with
  | .error e => .error e
  | .ok (.text .wild t f b) =>
    match wildNext group i t f b with
    | .error e => .error e
    | .ok (g1, t1) =>
      -- if i > 0 and group[i - 1].is_text(): prevnode = group.pop(i - 1); node.text = prev + ...
      if 0 < i then
        match pyGet g1 ((i : Int) - 1) with
        | .error e => .error e
        | .ok (.text _ t0 _ _) =>
          match pyDel g1 ((i : Int) - 1) with
          | .error e => .error e
          | .ok g2 => .ok (g2.set (i - 1) (.text .wild (t0 ++ t1) f b), i)
        | .ok _ => .ok (g1, i + 1)
      else .ok (g1, i + 1)
  | .ok _ => .ok (group, i + 1)

section
variable {P : Node → Prop} (hP : ∀ k t f b, P (.text k t f b))
include hP

theorem wildNext_spec {group : List Node} {i : Nat} (hi : i < group.length) (hg : ∀ x ∈ group, P x)
    (t : Str) (f : Option Str) (b : Rat) :
    Yields (wildNext group i t f b) fun r => i < r.1.length ∧ r.1.length ≤ group.length ∧ ∀ x ∈ r.1, P x := by
  unfold wildNext
  split
  · next h =>
    rw [pyGet_ok_succ h]
    split
    · next heq => cases heq
    · rw [Int.ofNat_add_one_out, pyDel_ok_nat h]
      have hl := List.length_eraseIdx_of_lt h
      refine .ok ⟨?_, ?_, fun x hx => ?_⟩
      · rw [List.length_set, hl]; exact Nat.lt_sub_of_add_lt h
      · rw [List.length_set, hl]; exact Nat.sub_le _ _
      · rcases List.mem_or_eq_of_mem_set hx with h1 | rfl
        · exact hg x (List.mem_of_mem_eraseIdx h1)
        · exact hP ..
    · exact .ok ⟨hi, Nat.le_refl _, hg⟩
  · exact .ok ⟨hi, Nat.le_refl _, hg⟩

/-- the measure of `wildLoop` goes down, and the loop only deletes nodes and writes text nodes -/
theorem wildStep_spec {group : List Node} {i : Nat} (hi : i < group.length) (hg : ∀ x ∈ group, P x) :
    Yields (wildStep group i) fun r => r.1.length - r.2 < group.length - i ∧ ∀ x ∈ r.1, P x := by
  unfold wildStep
  rw [pyGet_ok_nat hi]
  split
  · next heq => cases heq
  · next t f b heq =>
    obtain ⟨⟨g1, t1⟩, h1, hlen, hle, hmem⟩ := wildNext_spec hP hi hg t f b
    have stay : Yields (.ok (g1, i + 1) : Except Err (List Node × Nat)) fun r =>
        r.1.length - r.2 < group.length - i ∧ ∀ x ∈ r.1, P x :=
      .ok ⟨Nat.lt_of_le_of_lt (Nat.sub_le_sub_right hle _) (Nat.sub_succ_lt_self _ _ hi), hmem⟩
    rw [h1]
    simp only
    split
    · next h0 =>
      have hp : i - 1 < g1.length := Nat.lt_of_le_of_lt (Nat.sub_le i 1) hlen
      rw [pyGet_ok_pred h0 hp]
      split
      · next heq => cases heq
      · rw [pred_cast h0, pyDel_ok_nat hp]
        refine .ok ⟨?_, fun x hx => ?_⟩
        · rw [List.length_set, List.length_eraseIdx_of_lt hp, Nat.sub_sub, Nat.add_comm]
          exact Nat.lt_of_lt_of_le (Nat.sub_succ_lt_self _ _ hlen) (Nat.sub_le_sub_right hle i)
        · rcases List.mem_or_eq_of_mem_set hx with h1 | rfl
          · exact hmem x (List.mem_of_mem_eraseIdx h1)
          · exact hP ..
      · exact stay
    · exact stay
  · exact .ok ⟨Nat.sub_succ_lt_self _ _ hi, hg⟩

end

theorem wildStep_dec {group g' : List Node} {i i' : Nat} (hi : i < group.length)
    (h : wildStep group i = .ok (g', i')) : g'.length - i' < group.length - i :=
  ((wildStep_spec (P := fun _ => True) (fun _ _ _ _ => trivial) hi fun _ _ => trivial).of_eq h).1

/-- First loop of `do_wildcards`: `len(group) - i` decreases on every path. -/
def wildLoop (group : List Node) (i : Nat) : Except Err (List Node) :=
  if h : i < group.length then
    match hs : wildStep group i with
    | .error e => .error e
    | .ok (g', i') => wildLoop g' i'
  else .ok group
termination_by group.length - i
decreasing_by exact wildStep_dec h hs

/-- Second loop: a wildcard whose only special character is one trailing `*` becomes a prefix. -/
def toPrefix : Node → Node
  | .text .wild t f b =>
    if t.length > 1 ∧ !(qmarks.any fun q => t.contains q) then
      if t.idxOf 42 = t.length - 1 then .text .prefix t.dropLast f b else .text .wild t f b
    else .text .wild t f b
  | n => n

/-- `do_wildcards`.  The recursive call on a sub-group is made before the merge loop here and
    inside it in the Python code; the two orders agree because the loop never looks into, moves
    or removes a group node. -/
def doWildcards : Node → Except Err Node
  | .group k ns b => do
    let ns1 ← ns.mapM doWildcards
    let ns2 ← wildLoop ns1 0
    pure (.group k (ns2.map toPrefix) b)
  | n => pure n
termination_by n => n.size
decreasing_by
  all_goals simp_wf
  rename_i h; have := size_mem h; simp only [Node.size] at *; omega

/-! ## `FieldsPlugin.do_fieldnames` -/

/-- First loop (only when `removeunknown and parser.schema`): field prefixes whose name is not
    in the schema become text again.  `prev` is `prev_field_node` (its `original`). -/
def fnStage1 (c : Cfg) : Option Str → List Node → List Node
  | prev, [] =>
    match prev with
    | some o => [toWord o]
    | none => []
  | prev, n :: rest =>
    let unknown := match n with
      | .fname name _ => !c.inSchema name
      | _ => false
    match n, unknown with
    | .fname _ o, true => fnStage1 c (some o) rest
    | _, _ =>
      match prev with
      | some o =>
        (match n with
         | .text k t f b => .text k (o ++ t) f b :: fnStage1 c none rest
         | _ => toWord o :: n :: fnStage1 c none rest)
      | none => n :: fnStage1 c none rest

/-- `if isinstance(node, fnclass): node = syntax.to_word(node)` -/
def fnToWord : Node → Node
  | .fname _ o => toWord o
  | n => n

/-- One iteration of the backward loop (`i > 0` on entry): returns the new `i` and the node
    appended to `newgroup`.  Sub-groups have already been processed (see `doFieldnames`). -/
def fnStep (group : List Node) (i : Nat) : Except Err (Nat × Node) :=
  match pyGet group ((i : Int) - 1) with
  | .error e => .error e
  | .ok node =>
    if 0 < i - 1 ∧ !(fnToWord node).isWs then
      match pyGet group ((i : Int) - 1 - 1) with
      | .error e => .error e
      | .ok (.fname name _) => .ok (i - 1 - 1, setFieldname name false (fnToWord node))
      | .ok _ => .ok (i - 1, fnToWord node)
    else .ok (i - 1, fnToWord node)

theorem fnStep_dec {group : List Node} {i i' : Nat} {n : Node} (hi : 0 < i)
    (h : fnStep group i = .ok (i', n)) : i' < i := by
  unfold fnStep at h
  split at h
  · cases h
  · split at h
    · split at h
      · cases h
      · cases h; omega
      · cases h; omega
    · cases h; omega

/-- `while i > 0:` loop; `acc` is `newgroup` (reversed at the end by the caller). -/
def fnLoop (group : List Node) (i : Nat) (acc : List Node) : Except Err (List Node) :=
  if h : 0 < i then
    match hs : fnStep group i with
    | .error e => .error e
    | .ok (i', n) => fnLoop group i' (acc ++ [n])
  else .ok acc
termination_by i
decreasing_by exact fnStep_dec h hs

/-- `do_fieldnames`.  As in `doWildcards` the recursive call on sub-groups is made first; the
    first loop treats a group as an opaque node without text and the second loop calls
    `do_fieldnames` on it before anything else is done with it. -/
def doFieldnames (c : Cfg) : Node → Except Err Node
  | .group k ns b => do
    let ns0 ← ns.mapM (doFieldnames c)
    let ns1 := if c.removeUnknown ∧ c.schemaTruthy then fnStage1 c none ns0 else ns0
    let ns2 ← fnLoop ns1 ns1.length []
    pure (.group k ns2.reverse b)
  | n => pure n
termination_by n => n.size
decreasing_by
  all_goals simp_wf
  rename_i h; have := size_mem h; simp only [Node.size] at *; omega

/-! ## `OperatorsPlugin.do_operators` and `Operator.replace_self` -/

/-- `PrefixOperator.replace_self` -/
def prefixReplace (g : GK) (group : List Node) (pos : Nat) : Except Err (List Node × Nat) :=
  match pyDel group pos with
  | .error e => .error e
  | .ok g1 =>
    if pos + 1 < group.length then
      match pyGet g1 pos with
      | .error e => .error e
      | .ok x =>
        match pySet g1 pos (.group g [x] 1) with
        | .error e => .error e
        | .ok g2 => .ok (g2, pos)
    else .ok (g1, pos)

/-- `PostfixOperator.replace_self` -/
def postfixReplace (g : GK) (group : List Node) (pos : Nat) : Except Err (List Node × Nat) :=
  match pyDel group pos with
  | .error e => .error e
  | .ok g1 =>
    if 0 < pos then
      match pyGet g1 ((pos : Int) - 1) with
      | .error e => .error e
      | .ok x =>
        match pySet g1 ((pos : Int) - 1) (.group g [x] 1) with
        | .error e => .error e
        | .ok g2 => .ok (g2, pos)
    else .ok (g1, pos)

/-- `isinstance(node, gtype)` for a group class: the node's children and boost if so -/
def Node.groupOf? (g : GK) : Node → Option (List Node × Rat)
  | .group k ns b => if k = g then some (ns, b) else none
  | _ => none

/-- `InfixOperator.replace_self` -/
def infixReplace (g : GK) (la : Bool) (group : List Node) (pos : Nat) : Except Err (List Node × Nat) :=
  if 0 < pos ∧ pos + 1 < group.length then
    match pyGet group ((pos : Int) - 1) with
    | .error e => .error e
    | .ok left =>
      match pyGet group ((pos : Int) + 1) with
      | .error e => .error e
      | .ok right =>
        -- if merging and la and isinstance(left, gtype):
        match (if g.merging && la then left.groupOf? g else none) with
        | some (ns, b) =>
          -- left.append(right); del group[position:position + 2]
          .ok (pySplice (group.set (pos - 1) (.group g (ns ++ [right]) b)) pos (pos + 2) [], pos)
        | none =>
          -- elif merging and not la and isinstance(right, gtype):
          match (if g.merging && !la then right.groupOf? g else none) with
          | some (ns, b) =>
            -- right.insert(0, left); del group[position - 1:position + 1]
            .ok (pySplice (group.set (pos + 1) (.group g (left :: ns) b)) (pos - 1) (pos + 1) [], pos - 1)
          | none =>
            -- group[position - 1:position + 2] = [gtype([left, right])]
            .ok (pySplice group (pos - 1) (pos + 2) [.group g [left, right] 1], pos)
  else
    match pyDel group pos with
    | .error e => .error e
    | .ok g1 => .ok (g1, pos)

/-- dynamic dispatch of `t.replace_self(parser, group, i)` on the operator node itself -/
def replaceSelf (t : OpT) (g : GK) (la : Bool) (group : List Node) (pos : Nat) :
    Except Err (List Node × Nat) :=
  match t with
  | .pre => prefixReplace g group pos
  | .post => postfixReplace g group pos
  | .inf => infixReplace g la group pos

/-! ### facts about the list primitives and `replace_self`: what termination needs (`ReplOk`), and the equations
    of the three variants in context (`*_ctx`, `_last`, `_first`, `_edge`) that the precedence proof runs on -/

theorem split_at {α} {l : List α} {i : Nat} (h : i < l.length) :
    ∃ d x rest, l = d ++ x :: rest ∧ d.length = i :=
  ⟨l.take i, l[i], l.drop (i + 1), by rw [← List.drop_eq_getElem_cons h, List.take_append_drop],
    List.length_take_of_le (Nat.le_of_lt h)⟩

theorem split_at2 {α} {l : List α} {i : Nat} (h : i + 1 < l.length) :
    ∃ d x y rest, l = d ++ x :: y :: rest ∧ d.length = i := by
  obtain ⟨d, x, rest, rfl, rfl⟩ := split_at (Nat.lt_of_succ_lt h)
  cases rest with
  | nil => simp at h
  | cons y rest => exact ⟨d, x, y, rest, rfl, rfl⟩

theorem getElem?_append_len {α} (d : List α) (x : α) (rest : List α) :
    (d ++ x :: rest)[d.length]? = some x := by simp

theorem getElem?_append_len_succ {α} (d : List α) (y x : α) (rest : List α) :
    (d ++ y :: x :: rest)[d.length + 1]? = some x := by simp

theorem pyGet_append_len {α} (d : List α) (x : α) (rest : List α) :
    pyGet (d ++ x :: rest) (d.length : Int) = .ok x :=
  pyGet_nat.2 (getElem?_append_len d x rest)

theorem pyDel_append_len {α} (d : List α) (x : α) (rest : List α) :
    pyDel (d ++ x :: rest) (d.length : Int) = .ok (d ++ rest) := by
  simp [pyDel, pyIdx_nat, List.eraseIdx_append_of_length_le]

theorem pySet_append_len {α} (d : List α) (x v : α) (rest : List α) :
    pySet (d ++ x :: rest) (d.length : Int) v = .ok (d ++ v :: rest) := by
  simp [pySet, pyIdx_nat]

/-- `l[a:b] = mid'` where `l[a:b]` is the stretch `mid` (`pre` is the literal part of what precedes it) -/
theorem pySplice_mid {α} (d pre mid mid' rest : List α) {a b : Nat} (ha : a = d.length + pre.length)
    (hb : b = a + mid.length) :
    pySplice (d ++ (pre ++ (mid ++ rest))) a b mid' = d ++ (pre ++ (mid' ++ rest)) := by
  subst ha hb
  have h := List.take_left' (l₁ := d ++ pre) (l₂ := mid ++ rest) (List.length_append ..)
  have h' := List.drop_left' (l₁ := d ++ pre ++ mid) (l₂ := rest)
    (i := d.length + pre.length + mid.length) (by simp [Nat.add_assoc])
  simp only [List.append_assoc] at h h'
  simp [pySplice, Nat.max_eq_right, h, h']

theorem sizeL_append (a b : List Node) : sizeL (a ++ b) = sizeL a + sizeL b := by
  induction a with
  | nil => simp [sizeL]
  | cons x t ih => simp [sizeL, ih]; omega

theorem groupOf?_some {g : GK} {n : Node} {ns b} (h : n.groupOf? g = some (ns, b)) : n = .group g ns b := by
  cases n <;> simp [Node.groupOf?] at h
  obtain ⟨rfl, rfl, rfl⟩ := h; rfl

theorem prefixReplace_ctx (g : GK) (d : List Node) (x y : Node) (rest : List Node) :
    prefixReplace g (d ++ x :: y :: rest) d.length = .ok (d ++ .group g [y] 1 :: rest, d.length) := by
  simp [prefixReplace, pyDel_append_len, pyGet_append_len, pySet_append_len]

theorem prefixReplace_last (g : GK) (d : List Node) (x : Node) :
    prefixReplace g (d ++ [x]) d.length = .ok (d, d.length) := by
  simp [prefixReplace, pyDel_append_len]

theorem postfixReplace_ctx (g : GK) (d : List Node) (left x : Node) (rest : List Node) :
    postfixReplace g (d ++ left :: x :: rest) (d.length + 1)
      = .ok (d ++ .group g [left] 1 :: rest, d.length + 1) := by
  have hd := pyDel_append_len (d ++ [left]) x rest
  simp only [List.append_assoc, List.singleton_append, List.length_append, List.length_singleton,
    Int.natCast_add, Int.natCast_one] at hd
  simp [postfixReplace, hd, pyGet_append_len, pySet_append_len]

theorem postfixReplace_first (g : GK) (x : Node) (rest : List Node) :
    postfixReplace g (x :: rest) 0 = .ok (rest, 0) := by
  have h : pyDel (x :: rest) 0 = .ok rest := pyDel_append_len [] x rest
  simp [postfixReplace, h]

theorem infixReplace_ctx (g : GK) (la : Bool) (d : List Node) (left x right : Node) (rest : List Node) :
    infixReplace g la (d ++ left :: x :: right :: rest) (d.length + 1) =
      match (if g.merging && la then left.groupOf? g else none) with
      | some (ns, b) => .ok (d ++ .group g (ns ++ [right]) b :: rest, d.length + 1)
      | none =>
        match (if g.merging && !la then right.groupOf? g else none) with
        | some (ns, b) => .ok (d ++ .group g (left :: ns) b :: rest, d.length)
        | none => .ok (d ++ .group g [left, right] 1 :: rest, d.length + 1) := by
  have hc : 0 < d.length + 1 ∧ d.length + 1 + 1 < (d ++ left :: x :: right :: rest).length := by
    simp only [List.length_append, List.length_cons]; omega
  have hl : pyGet (d ++ left :: x :: right :: rest) (((d.length + 1 : Nat) : Int) - 1) = .ok left := by
    rw [Int.natCast_add, Int.natCast_one, Int.add_sub_cancel]; exact pyGet_append_len ..
  have hr : pyGet (d ++ left :: x :: right :: rest) (((d.length + 1 : Nat) : Int) + 1) = .ok right := by
    rw [Int.ofNat_add_one_out, pyGet_nat]
    show (d ++ left :: x :: right :: rest)[d.length + 2]? = some right
    rw [List.getElem?_append_right (Nat.le_add_right ..), Nat.add_sub_cancel_left]; rfl
  simp only [infixReplace, if_pos hc, hl, hr, Nat.add_sub_cancel]
  cases (if g.merging && la then left.groupOf? g else none) with
  | some p =>
    simp only [List.set_append_right _ _ (Nat.le_refl _), Nat.sub_self, List.set_cons_zero]
    exact congrArg (fun l => Except.ok (l, d.length + 1)) (pySplice_mid d [_] [x, right] [] rest rfl rfl)
  | none =>
    cases (if g.merging && !la then right.groupOf? g else none) with
    | some p =>
      have hset : (d ++ left :: x :: right :: rest).set (d.length + 1 + 1) (Node.group g (left :: p.1) p.2)
          = d ++ left :: x :: Node.group g (left :: p.1) p.2 :: rest := by
        show (d ++ left :: x :: right :: rest).set (d.length + 2) _ = _
        rw [List.set_append_right _ _ (Nat.le_add_right ..), Nat.add_sub_cancel_left]; rfl
      simp only [hset]
      exact congrArg (fun l => Except.ok (l, d.length)) (pySplice_mid d [] [left, x] [] _ rfl rfl)
    | none =>
      exact congrArg (fun l => Except.ok (l, d.length + 1))
        (pySplice_mid d [] [left, x, right] [.group g [left, right] 1] rest rfl rfl)

theorem infixReplace_edge (g : GK) (la : Bool) (d : List Node) (x : Node) (rest : List Node)
    (h : ¬(0 < d.length ∧ d.length + 1 < (d ++ x :: rest).length)) :
    infixReplace g la (d ++ x :: rest) d.length = .ok (d ++ rest, d.length) := by
  simp only [infixReplace, if_neg h, pyDel_append_len]

/-- result facts of the three `replace_self` variants: `hdec` is the measure of the left-to-right loop, `hpos` and
    `hle` keep the right-to-left loop going down and inside the list, `hsize` lets `do_operators` descend -/
structure ReplOk (group g' : List Node) (pos pos' : Nat) : Prop where
  hpos : pos' ≤ pos
  hdec : g'.length - pos' < group.length - pos
  hsize : sizeL g' ≤ sizeL group
  hle : pos' ≤ g'.length

/-- all of `ReplOk` when a stretch `mid` around the position is replaced by a shorter, no larger
    one; positions are counted from the start of the stretch -/
theorem ReplOk.splice {d mid mid' rest : List Node} {k k' : Nat} (hs : sizeL mid' ≤ sizeL mid)
    (hk : k' ≤ k) (hd : mid'.length + (k - k') < mid.length) (hk' : k' ≤ mid'.length) :
    ReplOk (d ++ (mid ++ rest)) (d ++ (mid' ++ rest)) (d.length + k) (d.length + k') := by
  refine ⟨Nat.add_le_add_left hk _, ?_, ?_, ?_⟩
  · simp only [List.length_append, Nat.add_sub_add_left]; omega
  · simp only [sizeL_append]
    exact Nat.add_le_add_left (Nat.add_le_add_right hs _) _
  · simp only [List.length_append]
    exact Nat.add_le_add_left (Nat.le_trans hk' (Nat.le_add_right _ _)) _

theorem ReplOk.erase (d : List Node) (x : Node) (rest : List Node) :
    ReplOk (d ++ x :: rest) (d ++ rest) d.length d.length :=
  .splice (k := 0) (k' := 0) (mid := [x]) (mid' := []) (Nat.zero_le _) (Nat.le_refl _) Nat.one_pos (Nat.le_refl _)

theorem prefixReplace_spec (g : GK) {group : List Node} {pos : Nat} (hp : pos < group.length) :
    Yields (prefixReplace g group pos) fun r => ReplOk group r.1 pos r.2 := by
  obtain ⟨d, x, rest, rfl, rfl⟩ := split_at hp
  cases rest with
  | nil =>
    have := ReplOk.erase d x []
    rw [List.append_nil] at this
    rw [prefixReplace_last]
    exact .ok this
  | cons y rest =>
    have hx := x.size_pos
    rw [prefixReplace_ctx]
    exact .ok (.splice (k := 0) (k' := 0) (mid := [x, y]) (mid' := [.group g [y] 1])
      (by simp only [sizeL, Node.size]; omega) (Nat.le_refl _) (Nat.lt_succ_self _) (Nat.zero_le _))

theorem postfixReplace_spec (g : GK) {group : List Node} {pos : Nat} (hp : pos < group.length) :
    Yields (postfixReplace g group pos) fun r => ReplOk group r.1 pos r.2 := by
  cases pos with
  | zero =>
    obtain ⟨d, x, rest, rfl, hd⟩ := split_at hp
    obtain rfl := List.length_eq_zero_iff.1 hd
    rw [List.nil_append, postfixReplace_first]
    exact .ok (.erase [] x rest)
  | succ p =>
    obtain ⟨d, left, x, rest, rfl, rfl⟩ := split_at2 hp
    have hx := x.size_pos
    rw [postfixReplace_ctx]
    exact .ok (.splice (k := 1) (k' := 1) (mid := [left, x]) (mid' := [.group g [left] 1])
      (by simp only [sizeL, Node.size]; omega) (Nat.le_refl _) (Nat.lt_succ_self _) (Nat.le_refl _))

theorem infixReplace_spec (g : GK) (la : Bool) {group : List Node} {pos : Nat} (hp : pos < group.length) :
    Yields (infixReplace g la group pos) fun r => ReplOk group r.1 pos r.2 := by
  by_cases hr : 0 < pos ∧ pos + 1 < group.length
  · obtain ⟨p, rfl⟩ : ∃ p, pos = p + 1 := ⟨pos - 1, by omega⟩
    obtain ⟨d, left, x, r, rfl, rfl⟩ := split_at2 hp
    have hx := x.size_pos
    cases r with
    | nil => simp at hr
    | cons right rest =>
      rw [infixReplace_ctx]
      split
      · next ns b hm =>
        obtain rfl := groupOf?_some (Option.ite_none_right_eq_some.1 hm).2
        exact .ok (.splice (k := 1) (k' := 1) (mid := [.group g ns b, x, right])
          (mid' := [.group g (ns ++ [right]) b]) (by simp only [sizeL, Node.size, sizeL_append]; omega)
          (Nat.le_refl _) (Nat.lt_succ_of_lt (Nat.lt_succ_self _)) (Nat.le_refl _))
      · split
        · next ns b hm =>
          obtain rfl := groupOf?_some (Option.ite_none_right_eq_some.1 hm).2
          exact .ok (.splice (k := 1) (k' := 0) (mid := [left, x, .group g ns b])
            (mid' := [.group g (left :: ns) b]) (by simp only [sizeL, Node.size]; omega)
            (Nat.zero_le _) (Nat.lt_succ_self _) (Nat.zero_le _))
        · exact .ok (.splice (k := 1) (k' := 1) (mid := [left, x, right]) (mid' := [.group g [left, right] 1])
            (by simp only [sizeL, Node.size]; omega) (Nat.le_refl _) (Nat.lt_succ_of_lt (Nat.lt_succ_self _))
            (Nat.le_refl _))
  · obtain ⟨d, x, rest, rfl, rfl⟩ := split_at hp
    rw [infixReplace_edge g la d x rest hr]
    exact .ok (.erase d x rest)

theorem replaceSelf_spec (t : OpT) (g : GK) (la : Bool) {group : List Node} {pos : Nat} (hp : pos < group.length) :
    Yields (replaceSelf t g la group pos) fun r => ReplOk group r.1 pos r.2 := by
  cases t
  · exact prefixReplace_spec g hp
  · exact postfixReplace_spec g hp
  · exact infixReplace_spec g la hp

/-- body of the left-to-right `while i < len(group)` loop for the tagger `o` -/
def opStepL (o : OpCfg) (group : List Node) (i : Nat) : Except Err (List Node × Nat) :=
  match pyGet group i with
  | .error e => .error e
  | .ok (.op t g la _) =>
    if t = o.t ∧ g = o.g then replaceSelf t g la group i else .ok (group, i + 1)
  | .ok _ => .ok (group, i + 1)

theorem opStepL_spec (o : OpCfg) {group : List Node} {i : Nat} (hi : i < group.length) :
    Yields (opStepL o group i) fun r => r.1.length - r.2 < group.length - i ∧ sizeL r.1 ≤ sizeL group := by
  unfold opStepL
  rw [pyGet_ok_nat hi]
  split
  · next heq => cases heq
  · next t g la _ _ =>
    split
    · exact (replaceSelf_spec t g la hi).mono fun _ h => ⟨h.hdec, h.hsize⟩
    · exact .ok ⟨Nat.sub_succ_lt_self _ _ hi, Nat.le_refl _⟩
  · exact .ok ⟨Nat.sub_succ_lt_self _ _ hi, Nat.le_refl _⟩

theorem opStepL_ok {o : OpCfg} {group g' : List Node} {i i' : Nat} (hi : i < group.length)
    (h : opStepL o group i = .ok (g', i')) :
    g'.length - i' < group.length - i ∧ sizeL g' ≤ sizeL group :=
  (opStepL_spec o hi).of_eq h

/-- `i = 0; while i < len(group): ...` for a left-associative tagger -/
def opLoopL (o : OpCfg) (group : List Node) (i : Nat) : Except Err (List Node) :=
  if h : i < group.length then
    match hs : opStepL o group i with
    | .error e => .error e
    | .ok (g', i') => opLoopL o g' i'
  else .ok group
termination_by group.length - i
decreasing_by exact (opStepL_ok h hs).1

/-- body of the right-to-left loop (`i >= 0` on entry, `i` as a natural number): only the
    operator *class* is tested (`isinstance(t, optype)`), not its group type.  Returns the
    position returned by `replace_self` (or `i`), before the `i -= 1`. -/
def opStepR (o : OpCfg) (group : List Node) (i : Nat) : Except Err (List Node × Nat) :=
  match pyGet group i with
  | .error e => .error e
  | .ok (.op t g la _) =>
    if t = o.t then replaceSelf t g la group i else .ok (group, i)
  | .ok _ => .ok (group, i)

theorem opStepR_spec (o : OpCfg) {group : List Node} {i : Nat} (hi : i < group.length) :
    Yields (opStepR o group i) fun r => r.2 ≤ i ∧ sizeL r.1 ≤ sizeL group ∧ r.2 ≤ r.1.length := by
  unfold opStepR
  rw [pyGet_ok_nat hi]
  split
  · next heq => cases heq
  · next t g la _ _ =>
    split
    · exact (replaceSelf_spec t g la hi).mono fun _ h => ⟨h.hpos, h.hsize, h.hle⟩
    · exact .ok ⟨Nat.le_refl _, Nat.le_refl _, Nat.le_of_lt hi⟩
  · exact .ok ⟨Nat.le_refl _, Nat.le_refl _, Nat.le_of_lt hi⟩

theorem opStepR_ok {o : OpCfg} {group g' : List Node} {i i' : Nat}
    (h : opStepR o group i = .ok (g', i')) : i' ≤ i ∧ sizeL g' ≤ sizeL group := by
  by_cases hi : i < group.length
  · exact ((opStepR_spec o hi).of_eq h).imp_right And.left
  · rw [opStepR, pyGet_of_not_lt hi] at h; cases h

/-- `i = len(group) - 1; while i >= 0: ...; i -= 1`; the argument is `i + 1` -/
def opLoopR (o : OpCfg) (group : List Node) (i1 : Nat) : Except Err (List Node) :=
  if h : 0 < i1 then
    match hs : opStepR o group (i1 - 1) with
    | .error e => .error e
    | .ok (g', i') => opLoopR o g' i'
  else .ok group
termination_by i1
decreasing_by have := (opStepR_ok hs).1; omega

/-- one tagger of `self.ops` -/
def opPass (group : List Node) (o : OpCfg) : Except Err (List Node) :=
  if o.la then opLoopL o group 0 else opLoopR o group group.length

/-- `for tagger, _ in self.ops:` -/
def opPasses (ops : List OpCfg) (group : List Node) : Except Err (List Node) :=
  match ops with
  | [] => .ok group
  | o :: rest =>
    match opPass group o with
    | .error e => .error e
    | .ok g' => opPasses rest g'

theorem opLoopL_size {o : OpCfg} {group g' : List Node} {i : Nat} (h : opLoopL o group i = .ok g') :
    sizeL g' ≤ sizeL group := by
  fun_induction opLoopL o group i with
  | case1 group i hi e hs => cases h
  | case2 group i hi g1 i1 hs ih => exact Nat.le_trans (ih h) (opStepL_ok hi hs).2
  | case3 group i hi => cases h; exact Nat.le_refl _

theorem opLoopR_size {o : OpCfg} {group g' : List Node} {i : Nat} (h : opLoopR o group i = .ok g') :
    sizeL g' ≤ sizeL group := by
  fun_induction opLoopR o group i with
  | case1 group i hi e hs => cases h
  | case2 group i hi g1 i1 hs ih => exact Nat.le_trans (ih h) (opStepR_ok hs).2
  | case3 group i hi => cases h; exact Nat.le_refl _

theorem opPasses_size {ops : List OpCfg} {group g' : List Node} (h : opPasses ops group = .ok g') :
    sizeL g' ≤ sizeL group := by
  induction ops generalizing group with
  | nil => cases h; exact Nat.le_refl _
  | cons o rest ih =>
    unfold opPasses at h
    split at h
    · cases h
    · next g1 hp =>
      refine Nat.le_trans (ih h) ?_
      unfold opPass at hp
      split at hp
      · exact opLoopL_size hp
      · exact opLoopR_size hp

/-- `do_operators`: all taggers over this group's list, then the recursive descent into every
    group node that is now in the list. -/
def doOperators (ops : List OpCfg) : Node → Except Err Node
  | .group k ns b =>
    match hp : opPasses ops ns with
    | .error e => .error e
    | .ok ns1 => do
      let ns2 ← ns1.attach.mapM (fun ⟨n, _⟩ => doOperators ops n)
      pure (.group k ns2 b)
  | n => pure n
termination_by n => n.size
decreasing_by
  all_goals simp_wf
  rename_i h
  have := size_mem h
  have := opPasses_size hp
  simp only [Node.size] at *; omega

/-! ## `PlusMinusPlugin.do_plusminus` -/

inductive PMNext | optional | required | banned
  deriving DecidableEq, Repr

/-- the `for node in group` loop: (required, optional, banned) node lists -/
def plusMinusLoop : List Node → PMNext → List Node → List Node → List Node →
    List Node × List Node × List Node
  | [], _, req, opt, ban => (req, opt, ban)
  | .plus :: rest, _, req, opt, ban => plusMinusLoop rest .required req opt ban
  | .minus :: rest, _, req, opt, ban => plusMinusLoop rest .banned req opt ban
  | n :: rest, nx, req, opt, ban =>
    match nx with
    | .optional => plusMinusLoop rest .optional req (opt ++ [n]) ban
    | .required => plusMinusLoop rest .optional (req ++ [n]) opt ban
    | .banned => plusMinusLoop rest .optional req opt (ban ++ [n])

/-- `do_plusminus`: `optional = group.empty_copy()`; sub-groups are processed when they are met
    in the loop (here: before it, the loop does not look into a node it files). -/
def doPlusMinus : Node → Node
  | .group k ns b =>
    match plusMinusLoop (ns.map doPlusMinus) .optional [] [] [] with
    | (req, opt, ban) =>
      if req.isEmpty then
        if ban.isEmpty then .group k opt b
        else .group .andnot [.group k opt b, .group .or ban 1] 1
      else
        if ban.isEmpty then .group .andmaybe [.group .and req 1, .group k opt b] 1
        else .group .andnot [.group .andmaybe [.group .and req 1, .group k opt b] 1, .group .or ban 1] 1
  | n => n
termination_by n => n.size
decreasing_by
  all_goals simp_wf
  rename_i h; have := size_mem h; simp only [Node.size] at *; omega

/-! ## `MultifieldPlugin.do_multifield` -/

def doMultifield (c : Cfg) : Node → Node
  | .group k ns b => .group k (ns.map (doMultifield c)) b
  | n =>
    if n.hasFieldname ∧ n.fieldname.isNone then
      .group c.mfGroup (c.mfFields.map fun (fname, boost) => setBoost boost (setFieldname fname false n)) 1
    else n
termination_by n => n.size
decreasing_by
  all_goals simp_wf
  rename_i h; have := size_mem h; simp only [Node.size] at *; omega

/-! ## `GtLtPlugin.do_gtlt`, `make_range` -/

/-- `make_range(node, rel)` (`rel` is one of the six strings the tagger's expression matches, so
    the `if/elif` chain of the Python code always binds `n`) -/
def makeRange (text : Str) : Rel → Node
  | .lt => .range none (some text) false true none
  | .gt => .range (some text) none true false none
  | .le | .el => .range none (some text) false false none
  | .ge | .eg => .range (some text) none false false none

/-- one iteration of the `while i < len(group)` loop: new `i` (before the final `i += 1`) and
    the new `newgroup`.  Sub-groups have already been processed. -/
def gtltStep (group : List Node) (i : Nat) (acc : List Node) : Except Err (Nat × List Node) :=
  match pyGet group i with
  | .error e => .error e
  | .ok (.gtlt rel) =>
    -- if i < lasti and newgroup:  (lasti = len(group) - 1)
    if i + 1 < group.length ∧ !acc.isEmpty then
      -- prevnode = newgroup[-1]
      match pyGet acc (-1) with
      | .error e => .error e
      | .ok prevnode =>
        match pyGet group ((i : Int) + 1) with
        | .error e => .error e
        | .ok nextnode =>
          match prevnode, nextnode with
          | .fname .., .text _ t _ _ => .ok (i + 1, acc ++ [makeRange t rel])
          | _, _ => .ok (i, acc)
    else .ok (i, acc)
  | .ok n => .ok (i, acc ++ [n])

/-- the guard `i < lasti and newgroup` keeps `newgroup[-1]` and `group[i + 1]` in bounds -/
theorem gtltStep_spec {group : List Node} {i : Nat} (hi : i < group.length) (acc : List Node) :
    Yields (gtltStep group i acc) fun r => i ≤ r.1 := by
  unfold gtltStep
  rw [pyGet_ok_nat hi]
  split
  · next heq => cases heq
  · split
    · next h =>
      obtain ⟨pv, hpv⟩ := pyGet_last (l := acc) (by rintro rfl; cases h.2)
      rw [hpv, pyGet_ok_succ h.1]
      simp only
      split
      · exact .ok (Nat.le_succ _)
      · exact .ok (Nat.le_refl _)
    · exact .ok (Nat.le_refl _)
  · exact .ok (Nat.le_refl _)

theorem gtltStep_ge {group acc acc' : List Node} {i i' : Nat}
    (h : gtltStep group i acc = .ok (i', acc')) : i ≤ i' := by
  by_cases hi : i < group.length
  · exact (gtltStep_spec hi acc).of_eq h
  · rw [gtltStep, pyGet_of_not_lt hi] at h; cases h

def gtltLoop (group : List Node) (i : Nat) (acc : List Node) : Except Err (List Node) :=
  if h : i < group.length then
    match hs : gtltStep group i acc with
    | .error e => .error e
    | .ok (i', acc') => gtltLoop group (i' + 1) acc'
  else .ok acc
termination_by group.length - i
decreasing_by have := gtltStep_ge hs; omega

/-- `do_gtlt` (the list is not mutated, so processing the sub-groups first is the same thing) -/
def doGtLt : Node → Except Err Node
  | .group k ns b => do
    let ns0 ← ns.mapM doGtLt
    let ns1 ← gtltLoop ns0 0 []
    pure (.group k ns1 b)
  | n => pure n
termination_by n => n.size
decreasing_by
  all_goals simp_wf
  rename_i h; have := size_mem h; simp only [Node.size] at *; omega

/-! ## `FuzzyTermPlugin.do_fuzzyterms` -/

/-- one iteration: new `i` (before the final `i += 1`) and the node appended -/
def fuzzyStep (group : List Node) (i : Nat) : Except Err (Nat × Node) :=
  match pyGet group i with
  | .error e => .error e
  | .ok node =>
    match node with
    | .text .word t f b =>
      -- if i < len(group) - 1 and isinstance(node, syntax.WordNode):
      if i + 1 < group.length then
        match pyGet group ((i : Int) + 1) with
        | .error e => .error e
        | .ok (.fuzz md pl _) => .ok (i + 1, .text (.fuzzy md pl) t f b)
        | .ok _ => .ok (i, node)
      else .ok (i, node)
    | .fuzz _ _ o => .ok (i, toWord o)
    | n => .ok (i, n)

theorem fuzzyStep_spec {group : List Node} {i : Nat} (hi : i < group.length) :
    Yields (fuzzyStep group i) fun r => i ≤ r.1 := by
  unfold fuzzyStep
  rw [pyGet_ok_nat hi]
  simp only
  split
  · split
    · next h =>
      rw [pyGet_ok_succ h]
      split
      · next heq => cases heq
      · exact .ok (Nat.le_succ _)
      · exact .ok (Nat.le_refl _)
    · exact .ok (Nat.le_refl _)
  · exact .ok (Nat.le_refl _)
  · exact .ok (Nat.le_refl _)

theorem fuzzyStep_ge {group : List Node} {i i' : Nat} {n : Node}
    (h : fuzzyStep group i = .ok (i', n)) : i ≤ i' := by
  by_cases hi : i < group.length
  · exact (fuzzyStep_spec hi).of_eq h
  · rw [fuzzyStep, pyGet_of_not_lt hi] at h; cases h

def fuzzyLoop (group : List Node) (i : Nat) (acc : List Node) : Except Err (List Node) :=
  if h : i < group.length then
    match hs : fuzzyStep group i with
    | .error e => .error e
    | .ok (i', n) => fuzzyLoop group (i' + 1) (acc ++ [n])
  else .ok acc
termination_by group.length - i
decreasing_by have := fuzzyStep_ge hs; omega

/-- `do_fuzzyterms` (sub-groups first: the list is not mutated) -/
def doFuzzy : Node → Except Err Node
  | .group k ns b => do
    let ns0 ← ns.mapM doFuzzy
    let ns1 ← fuzzyLoop ns0 0 []
    pure (.group k ns1 b)
  | n => pure n
termination_by n => n.size
decreasing_by
  all_goals simp_wf
  rename_i h; have := size_mem h; simp only [Node.size] at *; omega

/-! ## `CopyFieldPlugin.do_copyfield`, `FieldAliasPlugin.do_aliases` -/

/-- `node.fieldname or parser.fieldname` -/
def orDefault (f d : Option Str) : Option Str :=
  match f with
  | some (x :: xs) => some (x :: xs)
  | _ => d

def doCopyfield (c : Cfg) : Node → Node
  | .group k ns b => .group k (ns.foldl (fun acc n =>
      match n with
      | .group .. => acc ++ [doCopyfield c n]
      | n =>
        if n.hasFieldname then
          match (orDefault n.fieldname c.defField).bind (lookup c.copyMap) with
          | some dest =>
            (match c.copyGroup with
             | none => acc ++ [n, setFieldname dest true n]
             | some g => acc ++ [.group g [n, setFieldname dest true n] 1])
          | none => acc ++ [n]
        else acc ++ [n]) []) b
  | n => n
termination_by n => n.size
decreasing_by
  all_goals simp_wf
  rename_i h; have := size_mem h; simp only [Node.size] at *; omega

def doAliases (c : Cfg) : Node → Node
  | .group k ns b => .group k (ns.map (doAliases c)) b
  | n =>
    if n.hasFieldname then
      match n.fieldname.bind (lookup c.aliases) with
      | some real => setFieldname real true n
      | none => n
    else n
termination_by n => n.size
decreasing_by
  all_goals simp_wf
  rename_i h; have := size_mem h; simp only [Node.size] at *; omega

/-! ## `QueryParser._priorized`, `filterize` -/

/-- insert keeping equal priorities in arrival order (`list.sort` is stable) -/
def insertByPrio (x : FilterId × Int) : List (FilterId × Int) → List (FilterId × Int)
  | [] => [x]
  | y :: ys => if x.2 < y.2 then x :: y :: ys else y :: insertByPrio x ys

def priorized (fs : List (FilterId × Int)) : List FilterId :=
  (fs.foldl (fun acc x => insertByPrio x acc) []).map (·.1)

/-- one filter applied to the group node -/
def applyFilter (c : Cfg) (f : FilterId) (n : Node) : Except Err Node :=
  match f with
  | .groups => match n with
    | .group _ ns _ => .ok (doGroups c.group ns)
    | n => .ok n
  | .cleanBoost => .ok (cleanBoost n)
  | .fuzzy => doFuzzy n
  | .wildcards => doWildcards n
  | .aliases => .ok (doAliases c n)
  | .gtlt => doGtLt n
  | .fieldnames => doFieldnames c n
  | .copyfield => .ok (doCopyfield c n)
  | .multifield => .ok (doMultifield c n)
  | .rmws => .ok (rmWs n)
  | .boost => .ok (doBoost n)
  | .plusminus => .ok (doPlusMinus n)
  | .operators => doOperators c.ops n

def applyFilters (c : Cfg) : List FilterId → Node → Except Err Node
  | [], n => .ok n
  | f :: fs, n =>
    match applyFilter c f n with
    | .error e => .error e
    | .ok n' => applyFilters c fs n'

/-- `filterize(tag(text))`: `ns` is the flat tagged node list, wrapped in `parser.group(...)` -/
def filterize (c : Cfg) (ns : List Node) : Except Err Node :=
  applyFilters c (priorized c.filters) (.group c.group ns 1)

/-! ## `query()` of the group nodes -/

/-- Query objects as far as the group nodes build them; a leaf is whatever the field produced. -/
inductive Q
  | leaf (id : Nat) (truthy : Bool)
  | null
  | compound (k : GK) (subs : List Q) (b : Rat)
  | not (q : Q)
  | binary (k : GK) (a b : Q)
  deriving Repr, Inhabited

/-- `bool(q)`: only `CompoundQuery.__len__` can make a query falsy -/
def Q.truthy : Q → Bool
  | .leaf _ t => t
  | .compound _ subs _ => !subs.isEmpty
  | _ => true

/-- what `node.query(parser)` did for a leaf node (the field/analyzer layer is not modelled) -/
inductive LeafRes
  | none | q (id : Nat) (truthy : Bool) | err (e : Err)
  deriving Repr, Inhabited

/-- `node.query(parser)`.  `o` answers for the leaves (text, range, every). -/
def query (o : Node → LeafRes) : Node → Except Err (Option Q)
  | .group k ns b =>
    match k with
    | .not =>
      -- Wrapper.query: q = self.nodes[0].query(parser); if q: return self.qclass(q)
      -- (if not self.nodes: return None)
      match ns with
      | [] => pure none
      | n0 :: _ => do
        let r ← query o n0
        match r with
        | some q => if q.truthy then pure (some (.not q)) else pure none
        | none => pure none
    | .andnot | .andmaybe | .require =>
      -- BinaryGroup.query: assert len(nodes) <= 2; a missing operand counts as None
      match ns with
      | [] => pure (some .null)
      | [a] => do
        let qa ← query o a
        match qa with
        | none => pure (some .null)
        | some q => pure (some q)
      | [a, b'] => do
        let qa ← query o a
        let qb ← query o b'
        match qa, qb with
        | none, none => pure (some .null)
        | none, some q => pure (some q)
        | some q, none => pure (some q)
        | some q1, some q2 => pure (some (.binary k q1 q2))
      | _ => .error .assertion
    | _ => do
      -- GroupNode.query
      let qs ← ns.mapM (query o)
      pure (some (.compound k (qs.filterMap id) b))
  | .text k t f b =>
    match o (.text k t f b) with
    | .none => pure none
    | .q id tr => pure (some (.leaf id tr))
    | .err e => .error e
  | .range s e sx ex f =>
    match o (.range s e sx ex f) with
    | .none => pure none
    | .q id tr => pure (some (.leaf id tr))
    | .err e => .error e
  | .every =>
    match o .every with
    | .none => pure none
    | .q id tr => pure (some (.leaf id tr))
    | .err e => .error e
  | _ => .error .notImplemented
termination_by n => n.size
decreasing_by
  all_goals simp_wf
  all_goals simp only [Node.size, sizeL]
  all_goals first
    | omega
    | (rename_i h; have := size_mem h; omega)

/-- the end of `parse`: `if not q: q = query.NullQuery` -/
def finish (r : Option Q) : Q :=
  match r with
  | some q => if q.truthy then q else .null
  | none => .null

end WM.Parser
