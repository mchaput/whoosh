import WM.Spec.Search
/-
Layer M for C01 / C09: a **list-level denotational model** of `Query.matcher()`.

For every public query type: the function from the per-segment posting lists to the ascending
`(doc, score)` list that the matcher tree built by `Query.matcher(subsearcher, context)`
enumerates.  Mirrors, function by function (as of the tree with the `fix:` commits of this family):

* `query/compound.py`  `CompoundQuery.matcher` (no clause → Null, one clause → that clause times
  the compound's boost), `_tree_matcher` (a binary tree of any shape over the clause matchers,
  then `WrappingMatcher(boost)`), `And._matcher`, `Or._matcher` (choice between the tree of
  unions and the array union), `DefaultOr`, `PreloadedOr`, `DisjunctionMax._matcher`,
  `AndNot/Require/AndMaybe.matcher` (second operand of AndNot/Require in the boolean context);
* `query/terms.py`  `Term.matcher`, `MultiTerm.matcher` (expansion against the segment lexicon,
  0 / 1 / many terms, `constantscore`), `Prefix/Wildcard/Regex.matcher` ("matches everything"
  patterns become `Every`);
* `query/ranges.py`  `NumericRange.matcher` at the level of values (the decomposition into tier
  terms is C13's business) wrapped in `ConstantScoreQuery`;
* `query/wrappers.py`  `Not.matcher` (InverseMatcher against the segment's live documents, weight
  1), `ConstantScoreQuery.matcher`;
* `query/positional.py`  `Phrase.matcher` + `query/spans.py` `SpanNear2Matcher._get_spans`
  (ordered, mindist 1; only the *end* of a span matters for what can follow it);
* `query/qcore.py`  `Every.matcher`, `_NullQuery.matcher`;
* `matching/*` only as list operations: union = merge adding scores, dismax = merge taking the
  maximum, intersection, and-not, and-maybe, require, boost, constant score, inverse, and the
  array union (`matching/combo.py ArrayUnionMatcher`: per part of `partsize` doc numbers the
  first entry is reported unconditionally, every other one only if its accumulated score is
  positive);
* `searching.py` `Searcher.docs_for_query` / `collectors.py` `Collector.run`: one matcher per
  segment, doc numbers shifted by the segment offset.

The cursor implementations of these operators belong to another family (C11); what is proved here
(`WM/Props/C01.lean`, `WM/Props/C09.lean`) is that these lists are exactly the specified ones.
-/
namespace WM.Compile
open WM.Search

/-- a posting list: ascending doc ids with scores. -/
abbrev PL := List Hit

/-- score of doc `i` in the list, if present. -/
def lookup (l : PL) (i : Nat) : Option Rat := (l.find? (fun e => e.id == i)).map (·.score)

def ids (l : PL) : List Nat := l.map (·.id)

/-- `UnionMatcher` / `DisjunctionMaxMatcher`: merge; on equal ids combine the scores with `g`. -/
def mergeWith (g : Rat → Rat → Rat) : PL → PL → PL
  | [], b => b
  | a :: as, [] => a :: as
  | a :: as, b :: bs =>
    if a.id < b.id then a :: mergeWith g as (b :: bs)
    else if b.id < a.id then b :: mergeWith g (a :: as) bs
    else ⟨a.id, g a.score b.score⟩ :: mergeWith g as bs
termination_by a b => a.length + b.length

def ratMax (x y : Rat) : Rat := if x < y then y else x

/-- `UnionMatcher.score`: the sum when both children sit on the document. -/
def unionL : PL → PL → PL := mergeWith (· + ·)
/-- `DisjunctionMaxMatcher.score`: the maximum when both children sit on the document. -/
def dismaxL : PL → PL → PL := mergeWith ratMax
/-- `IntersectionMatcher`: common ids, scores add. -/
def interL (a b : PL) : PL :=
  a.filterMap (fun e => (lookup b e.id).map (fun s => ⟨e.id, e.score + s⟩))
/-- `AndNotMatcher`: entries of `a` whose id is not in `b`; score of `a`. -/
def andNotL (a b : PL) : PL := a.filter (fun e => (lookup b e.id).isNone)
/-- `AndMaybeMatcher`: entries of `a`; add `b`'s score where `b` has the id. -/
def andMaybeL (a b : PL) : PL :=
  a.map (fun e => match lookup b e.id with
    | some s => ⟨e.id, e.score + s⟩
    | none => e)
/-- `RequireMatcher`: entries of `a` whose id is in `b`; score of `a`. -/
def requireL (a b : PL) : PL := a.filter (fun e => (lookup b e.id).isSome)
/-- `WrappingMatcher(boost)`. -/
def boostL (w : Rat) (a : PL) : PL := a.map (fun e => ⟨e.id, e.score * w⟩)
/-- constant score. -/
def constL (c : Rat) (a : PL) : PL := a.map (fun e => ⟨e.id, c⟩)
/-- `ListMatcher(all_weights=w).weight()`: a falsy `all_weights` falls through to 1.0. -/
def wOf (w : Rat) : Rat := if w == 0 then 1 else w

/-- Tree shapes over the clause matchers `0 … n-1` (`util.make_binary_tree`,
    `util.make_weighted_tree`: the latter also permutes the clauses). -/
inductive Shape where
  | leaf (i : Nat)
  | node (l r : Shape)
  deriving Repr

def Shape.leaves : Shape → List Nat
  | .leaf i => [i]
  | .node l r => l.leaves ++ r.leaves

def foldShape (op : PL → PL → PL) (ms : List PL) : Shape → PL
  | .leaf i => ms.getD i []
  | .node l r => op (foldShape op ms l) (foldShape op ms r)

/-- `make_binary_tree`: split in halves, order preserved.  `lo` is the index of the first leaf, the last argument the
    number of leaves; `fuel` only makes the recursion structural (`balancedShape n` starts with `n`, and a half of
    `n ≥ 2` is smaller than `n`). -/
def balanced (lo : Nat) : Nat → Nat → Shape
  | 0, _ => .leaf lo
  | _ + 1, 0 => .leaf lo
  | _ + 1, 1 => .leaf lo
  | fuel + 1, n + 2 => .node (balanced lo fuel ((n + 2) / 2)) (balanced (lo + (n + 2) / 2) fuel (n + 2 - (n + 2) / 2))

def balancedShape (n : Nat) : Shape := balanced 0 n n

/-- which tree the implementation builds for a compound over these clauses (a function of the
    clauses and the reader; the theorems hold for every choice). -/
abbrev ShapeOracle := List Query → Shape

theorem dropWhile_length_le {α} (p : α → Bool) (l : List α) : (l.dropWhile p).length ≤ l.length :=
  (List.dropWhile_sublist p).length_le

/-- `ArrayUnionMatcher` stepping over the accumulated scores: per part of `psz` doc numbers
    (starting at the smallest remaining id) the first entry is reported as is, the others only
    when their accumulated score is positive. -/
def arrayParts (psz : Nat) : PL → PL
  | [] => []
  | e :: rest =>
    e :: ((rest.takeWhile (fun x => x.id < e.id + psz)).filter (fun x => 0 < x.score)
          ++ arrayParts psz (rest.dropWhile (fun x => x.id < e.id + psz)))
termination_by l => l.length
decreasing_by
  have := dropWhile_length_le (fun x : Hit => decide (x.id < e.id + psz)) rest
  simp only [List.length_cons]
  omega

/-- the search context as far as `matcher()` looks at it: `needs_current`, and whether a
    weighting is set (`context.weighting is not None`). -/
structure Ctx where
  nc : Bool
  scored : Bool
  deriving Repr

/-- `Searcher.boolean_context()`. -/
def boolCtx : Ctx := ⟨false, false⟩

/-! ### segment level -/

/-- postings of a term: live documents containing it, with their leaf score
    (`SegmentReader.postings` filters deleted documents). -/
def postings (ls : LeafScore) (s : Segment) (f : String) (t : Term) : PL :=
  (s.live.filter (fun i => (s.doc i).hasTerm f t)).map (fun i => ⟨i, ls (s.doc i) f t⟩)

/-- the segment's term dictionary for a field (terms of deleted documents stay until a merge). -/
def lexicon (s : Segment) (f : String) : List Term := dedup (s.docs.flatMap (fun d => d.terms f))

def unionAll (ms : List PL) : PL := ms.foldr unionL []

/-- `Or._matcher` (+ `DefaultOr._matcher`/`_tree_matcher`, `PreloadedOr._matcher`) for two or more
    clause matchers. `dc` = `searcher.doc_count_all()` of the segment.  1024 is `Or.TOO_MANY_CLAUSES`, 5000 the
    document count above which `Or._matcher` takes the tree of unions, 2048 the default `partsize` of
    `ArrayUnionMatcher`. -/
def orMany (ctx : Ctx) (dc : Nat) (sh : Shape) (ms : List PL) (b : Rat) : PL :=
  if ms.length < 1024 && (ctx.nc || ms.length == 2 || decide (5000 < dc)) then
    boostL b (foldShape unionL ms sh)
  else if ctx.scored then
    arrayParts 2048 (unionAll (ms.map (boostL b)))
  else
    constL 1 (unionAll ms)

/-- `SpanNear2Matcher._get_spans` (ordered, mindist = 1) keeping only span ends: a position of
    the next word extends a span iff it lies after the span's end, at distance ≤ slop. -/
def endsStep (slop : Nat) (ends : List Nat) (bpos : List Nat) : List Nat :=
  bpos.filter (fun p => ends.any (fun e => decide (e < p) && decide (p - e ≤ slop)))

def phraseEnds (slop : Nat) : List (List Nat) → List Nat
  | [] => []
  | ps :: more => more.foldl (endsStep slop) ps

/-- a constant score over a matcher (`ConstantScoreQuery.matcher`, constant-score `MultiTerm.matcher`):
    `ConstantScoreWrapperMatcher` when the collector needs the current match, otherwise a
    `ListMatcher(all_ids, all_weights=score)`. -/
def csL (ctx : Ctx) (c : Rat) (m : PL) : PL := if ctx.nc then constL c m else constL (wOf c) m

/-- `CompoundQuery.matcher`: no clause → NullMatcher; one clause → that clause's matcher, wrapped
    with the compound's boost; otherwise the subclass' `_matcher`. -/
def compoundL (many : List PL → PL) (b : Rat) : List PL → PL
  | [] => []
  | [m] => boostL b m
  | ms => many ms

mutual
/-- `q.matcher(subsearcher, context)` as a list. -/
def compile (ls : LeafScore) (so : ShapeOracle) (s : Segment) : Ctx → Query → PL
  -- Term.matcher
  | _, .term f t b => boostL b (postings ls s f t)
  -- MultiTerm.matcher / Prefix.matcher / Wildcard.matcher / Regex.matcher
  | ctx, .multi f p b cs =>
    if isAllPred p then
      constL (wOf b) (unionAll ((lexicon s f).map (postings ls s f)))
    else
      let ts := (lexicon s f).filter p.test
      let ms := ts.map (postings ls s f)
      match ms with
      | [] => []
      | [m] => if cs then csL ctx b m else boostL b m
      | _ =>
        let m := orMany (if cs then ⟨ctx.nc, false⟩ else ctx) s.size
                   (so (ts.map (fun t => Query.term f t 1))) ms b
        if cs then csL ctx b m else m
  -- Phrase.matcher
  | _, .phrase f ws slop b =>
    if ws.any (fun w => !(lexicon s f).contains w) then []
    else
      let isect := foldShape interL (ws.map (postings ls s f)) (balancedShape ws.length)
      boostL b (isect.filter (fun e => !(phraseEnds slop (ws.map ((s.doc e.id).positions f))).isEmpty))
  -- NumericRange.matcher (value level) under ConstantScoreQuery
  | _, .numRange f lo hi le he b =>
    (s.live.filter (fun i => ((s.doc i).nums f).any (inRange lo hi le he))).map (fun i => ⟨i, wOf b⟩)
  -- Every.matcher
  | _, .every none b => s.live.map (fun i => ⟨i, wOf b⟩)
  | _, .every (some f) b => constL (wOf b) (unionAll ((lexicon s f).map (postings ls s f)))
  | _, .null => []
  -- And: CompoundQuery.matcher + And._matcher
  | ctx, .and qs b =>
    compoundL (fun ms => boostL b (foldShape interL ms (so qs))) b (compileList ls so s ctx qs)
  -- Or
  | ctx, .or qs b =>
    compoundL (fun ms => orMany ctx s.size (so qs) ms b) b (compileList ls so s ctx qs)
  -- DisjunctionMax
  | ctx, .dismax qs b =>
    compoundL (fun ms => boostL b (foldShape dismaxL ms (so qs))) b (compileList ls so s ctx qs)
  -- Not.matcher: InverseMatcher(child in the boolean context, doc_count_all, missing=is_deleted)
  | _, .not q =>
    let c := compile ls so s boolCtx q
    (s.live.filter (fun i => (lookup c i).isNone)).map (fun i => ⟨i, 1⟩)
  | ctx, .andNot a b => andNotL (compile ls so s ctx a) (compile ls so s boolCtx b)
  | ctx, .andMaybe a b => andMaybeL (compile ls so s ctx a) (compile ls so s ctx b)
  | ctx, .require a b => requireL (compile ls so s ctx a) (compile ls so s boolCtx b)
  -- ConstantScoreQuery.matcher
  | ctx, .constScore q sc => csL ctx sc (compile ls so s ctx q)
def compileList (ls : LeafScore) (so : ShapeOracle) (s : Segment) : Ctx → List Query → List PL
  | _, [] => []
  | ctx, q :: qs => compile ls so s ctx q :: compileList ls so s ctx qs
end

/-- `Collector.run` / `Searcher.docs_for_query`: one matcher per segment, ids shifted by the
    segment's offset. -/
def runFrom (ls : LeafScore) (so : ShapeOracle) (ctx : Ctx) (q : Query) : Nat → Index → PL
  | _, [] => []
  | off, s :: rest => shift off (compile ls so s ctx q) ++ runFrom ls so ctx q (off + s.size) rest

def run (ls : LeafScore) (so : ShapeOracle) (ctx : Ctx) (q : Query) (idx : Index) : PL :=
  runFrom ls so ctx q 0 idx

/-- The query whose matcher `Query.docs(searcher)` reads (`query/compound.py`): `Require.docs` is
    `And(self.subqueries).docs(searcher)`, `AndMaybe.docs` is `self.subqueries[0].docs(searcher)`; every
    other class inherits `Query.docs`: `self.matcher(searcher, searcher.boolean_context()).all_ids()`. -/
def docsForm : Query → Query
  | .require a b => .and [a, b] 1
  | .andMaybe a _ => docsForm a
  | q => q

/-! ### decidable versions of the theorems' hypotheses (evaluated by the driver on every case) -/

/-- every field boost and token boost is positive -/
def wfSegment (s : Segment) : Bool :=
  s.docs.all (fun d => d.fields.all (fun fv =>
    decide (0 < fv.boost) && fv.tokens.all (fun k => decide (0 < k.boost))))

mutual
/-- every boost / constant score of the query is positive -/
def posQuery : Query → Bool
  | .term _ _ b => decide (0 < b)
  | .multi _ _ b _ => decide (0 < b)
  | .phrase _ _ _ b => decide (0 < b)
  | .numRange _ _ _ _ _ b => decide (0 < b)
  | .every _ b => decide (0 < b)
  | .null => true
  | .and qs b => decide (0 < b) && posQueries qs
  | .or qs b => decide (0 < b) && posQueries qs
  | .dismax qs b => decide (0 < b) && posQueries qs
  | .not q => posQuery q
  | .andNot a b => posQuery a && posQuery b
  | .andMaybe a b => posQuery a && posQuery b
  | .require a b => posQuery a && posQuery b
  | .constScore q sc => decide (0 < sc) && posQuery q
def posQueries : List Query → Bool
  | [] => true
  | q :: qs => posQuery q && posQueries qs
end

/-- the shape `make_binary_tree` builds (used by the driver; any valid oracle gives the same lists). -/
def balancedOracle : ShapeOracle := fun qs => balancedShape qs.length

end WM.Compile
