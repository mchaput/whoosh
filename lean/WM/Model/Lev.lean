/-
Layer M of C19: executable mirrors of the whoosh code behind fuzzy term matching and spelling
suggestions (as it stands after the `fix:` commits of the fuzzy family: prefix clamp in
`levenshtein_automaton`, `while match is not None` in `Automata.find_matches`, no edge after
U+10FFFF and no surrogate label in `DFA.find_next_edge`).

Characters are code points (`Nat`), strings are `List Nat`; Python's string order (code point
lexicographic, a proper prefix is smaller) is `lexLt`.  The stored terms are UTF-8 keys compared as
bytes: `utf8`, `cursorFindBytes`, `findMatchesBytes`; that this is the same order is proved
(`WM.Lev.utf8_lt_iff`).  Python sets / frozensets are lists compared with
`setEq` (mutual inclusion); dictionaries are association lists, the newest binding first.

* `support/levenshtein.py`  : `dp` (= `levenshtein` for `tr = false`, `damerau_levenshtein` for
  `tr = true`; the two Python functions differ only in the transposition block), `pyGet?`
* `automata/lev.py`         : `levenshteinAutomaton`
* `automata/fsa.py`         : `NFA` (`expand`, `start`, `nextState`, `isFinal`, `getLabels`, `accept`,
  `toDfa`), `DFA` (`nextState`, `isFinal`, `accept`, `findNextEdge`, `nextValidString`)
* `codec/base.py`           : `findMatches` (`Automata.find_matches`), `termsWithinSeg`
  (`Automata.terms_within` as called by `SegmentReader.terms_within`); over the byte-ordered
  dictionary: `findMatchesBytes`, `termsWithinSegBytes`
* `fields.py`, `codec/whoosh3.py` : `utf8Encode` (`FieldType.to_bytes`), `cursorFindBytes`
  (`W3FieldCursor.find` + `text`)
* `reading.py`              : `termsWithinBase` (`IndexReader.terms_within`, used by `MultiReader`)
* `spelling.py`             : `suggestions` (`ReaderCorrector._suggestions`), `suggest`
  (`Corrector.suggest`)
-/
namespace WM.Lev

/-! ## support/levenshtein.py -/

/-- Python `l[i]` for a list and a possibly negative index (wraps once around the end);
    `none` = IndexError. -/
def pyGet? (l : List Nat) (i : Int) : Option Nat :=
  if i < 0 then (if i.natAbs ≤ l.length then l[l.length - i.natAbs]? else none) else l[i.toNat]?

/-- Python `l[y] = v` (non-negative `y`); `none` = IndexError. -/
def pySet? (l : List Nat) (y : Nat) (v : Nat) : Option (List Nat) :=
  if y < l.length then some (l.set y v) else none

/-- Python `min(l)`; `none` = ValueError on the empty list. -/
def pyMin? : List Nat → Option Nat
  | [] => none
  | v :: vs => some (vs.foldl min v)

/-- Body of `for y in xrange(len(seq2))` of `levenshtein` / `damerau_levenshtein`
    (`tr` = the transposition block is present). -/
def dpCell (tr : Bool) (s1 s2 : List Nat) (x : Nat) (twoago oneago thisrow : List Nat) (y : Nat) :
    Option (List Nat) := do
  let delcost := (← pyGet? oneago y) + 1
  let addcost := (← pyGet? thisrow ((y : Int) - 1)) + 1
  let c1 ← s1[x]?
  let c2 ← s2[y]?
  let subcost := (← pyGet? oneago ((y : Int) - 1)) + (if c1 ≠ c2 then 1 else 0)
  let v := min delcost (min addcost subcost)
  if tr ∧ x > 0 ∧ y > 0 then
    -- `seq1[x] == seq2[y - 1] and seq1[x - 1] == seq2[y] and seq1[x] != seq2[y]`
    let c2p ← s2[y - 1]?
    let c1p ← s1[x - 1]?
    if c1 = c2p ∧ c1p = c2 ∧ c1 ≠ c2 then
      let t := (← pyGet? twoago ((y : Int) - 2)) + 1
      pySet? thisrow y (min v t)
    else pySet? thisrow y v
  else pySet? thisrow y v

/-- The inner loop: cells `y, y+1, …, y+n-1`. -/
def dpInner (tr : Bool) (s1 s2 : List Nat) (x : Nat) (twoago oneago : List Nat) :
    Nat → Nat → List Nat → Option (List Nat)
  | 0, _, thisrow => some thisrow
  | n + 1, y, thisrow => do
    let r ← dpCell tr s1 s2 x twoago oneago thisrow y
    dpInner tr s1 s2 x twoago oneago n (y + 1) r

/-- `if limit and x > limit and min(thisrow) > limit` (a limit of `None` or `0` is falsy). -/
def earlyExit (limit : Option Nat) (x : Nat) (thisrow : List Nat) : Option Bool :=
  match limit with
  | none => some false
  | some l =>
    if l ≠ 0 ∧ x > l then (pyMin? thisrow).map fun m => decide (m > l) else some false

/-- The outer loop `for x in xrange(len(seq1))`: `n` iterations are left, the Python variables
    `oneago`, `thisrow` hold the rows of the previous two iterations on entry. -/
def dpOuter (tr : Bool) (s1 s2 : List Nat) (limit : Option Nat) :
    Nat → Nat → List Nat → List Nat → Option Nat
  | 0, _, _, thisrow => pyGet? thisrow ((s2.length : Int) - 1)
  | n + 1, x, oneago, thisrow => do
    -- twoago, oneago, thisrow = oneago, thisrow, [0] * len(seq2) + [x + 1]
    let row ← dpInner tr s1 s2 x oneago thisrow s2.length 0 (List.replicate s2.length 0 ++ [x + 1])
    if (← earlyExit limit x row) then some (limit.getD 0 + 1)
    else dpOuter tr s1 s2 limit n (x + 1) thisrow row

/-- `levenshtein(seq1, seq2, limit)` (`tr = false`) / `damerau_levenshtein` (`tr = true`);
    `none` would be a Python exception (theorem `dp_lev`/`dp_osa`: there is none). -/
def dp (tr : Bool) (s1 s2 : List Nat) (limit : Option Nat) : Option Nat :=
  dpOuter tr s1 s2 limit s1.length 0 [] ((List.range s2.length).map (· + 1) ++ [0])

def levenshtein := dp false
def damerauLevenshtein := dp true
/-- `distance = damerau_levenshtein` -/
def distance := damerauLevenshtein

/-! ## automata/fsa.py - NFA -/

inductive Label where
  | chr (c : Nat)
  | any
  | eps
  deriving DecidableEq, Repr

/-- NFA states of the Levenshtein automaton: `(i, e)` = characters of the term consumed, errors. -/
abbrev St := Nat × Nat

/-- A state set (Python `set`/`frozenset`). -/
abbrev SSet := List St

def subset (a b : SSet) : Bool := a.all fun s => b.contains s
/-- Equality of frozensets. -/
def setEq (a b : SSet) : Bool := subset a b && subset b a

/-- `NFA`: `transitions[src][label]` is a set of destinations; here the set of all triples. -/
structure NFA where
  initial : St
  trans : List (St × Label × St)
  finals : List St

namespace NFA

/-- All states mentioned by the automaton (for termination measures only). -/
def states (n : NFA) : List St := n.initial :: n.trans.flatMap fun (s, _, t) => [s, t]

/-- `transitions[state][label]` (empty when absent). -/
def dests (n : NFA) (s : St) (l : Label) : List St :=
  n.trans.filterMap fun (a, l', t) => if a = s ∧ l' = l then some t else none

/-- Number of automaton states not yet in `seen` (termination measure of `_expand`). -/
def unseen (n : NFA) (seen : SSet) : Nat := (n.states.filter fun s => !seen.contains s).length

theorem mem_dests {n : NFA} {s t : St} {l : Label} : t ∈ n.dests s l ↔ (s, l, t) ∈ n.trans := by
  unfold dests
  simp only [List.mem_filterMap]
  constructor
  · rintro ⟨⟨a, l', t'⟩, hm, h⟩
    split at h
    · next hc =>
      simp only [Option.some.injEq] at h
      obtain ⟨rfl, rfl⟩ := hc
      subst h
      exact hm
    · cases h
  · intro h
    exact ⟨(s, l, t), h, by simp⟩

theorem mem_states_of_arc (n : NFA) {s t : St} {l : Label} (h : (s, l, t) ∈ n.trans) : t ∈ n.states :=
  .tail _ (List.mem_flatMap.mpr ⟨(s, l, t), h, .tail _ (.head _)⟩)

theorem unseen_lt (n : NFA) (seen new : SSet) (x : St) (hx : x ∈ new) (hs : x ∈ n.states)
    (hn : seen.contains x = false) : n.unseen (seen ++ new) < n.unseen seen := by
  have h : (n.states.filter fun s => !(seen ++ new).contains s) =
      (n.states.filter fun s => !seen.contains s).filter fun s => !new.contains s := by
    rw [List.filter_filter]
    exact List.filter_congr fun s _ => by rw [List.contains_append, Bool.not_or, Bool.and_comm]
  unfold unseen
  rw [h]
  exact List.length_filter_lt_length_iff_exists.mpr
    ⟨x, List.mem_filter.mpr ⟨hs, by rw [hn]; rfl⟩,
      by rw [List.contains_iff_mem.mpr hx]; exact Bool.false_ne_true⟩

theorem expand_dec (n : NFA) (acc : SSet) (s : St) :
    ((n.dests s .eps).filter fun t => !acc.contains t).eraseDups = [] ∨
    n.unseen (acc ++ ((n.dests s .eps).filter fun t => !acc.contains t).eraseDups) < n.unseen acc := by
  by_cases hnew : ((n.dests s .eps).filter fun t => !acc.contains t).eraseDups = []
  · exact Or.inl hnew
  · obtain ⟨x, hx⟩ := List.exists_mem_of_ne_nil _ hnew
    obtain ⟨hd, hacc⟩ := List.mem_filter.mp (List.mem_eraseDups.mp hx)
    exact Or.inr (unseen_lt n acc _ x hx (mem_states_of_arc n (mem_dests.mp hd)) (by simpa using hacc))

/-- `_expand(states)`: the loop `while frontier: state = frontier.pop(); …` (the popped element
    is the head of the list; the order of a Python set pop is arbitrary and does not influence
    the result).  Only destinations that are states of the automaton can be added, so the loop
    terminates. -/
def expandLoop (n : NFA) (frontier acc : SSet) : SSet :=
  match frontier with
  | [] => acc
  | s :: rest =>
    -- new_states = transitions[state][EPSILON].difference(states)
    let new := ((n.dests s .eps).filter fun t => !acc.contains t).eraseDups
    expandLoop n (rest ++ new) (acc ++ new)
termination_by (n.unseen acc, frontier.length)
decreasing_by
  rcases expand_dec n acc s with h | h
  · rw [h]
    simp only [List.append_nil]
    exact Prod.Lex.right _ (by simp)
  · exact Prod.Lex.left _ _ h

def expand (n : NFA) (states : SSet) : SSet := expandLoop n states states

/-- `NFA.start()` -/
def start (n : NFA) : SSet := n.expand [n.initial]

/-- `NFA.next_state(states, label)`: destinations under `label` and under `ANY`, expanded.  It is
    also called with `label = ANY` by `to_dfa`. -/
def nextState (n : NFA) (states : SSet) (l : Label) : SSet :=
  n.expand ((states.flatMap fun s => n.dests s l ++ n.dests s .any).eraseDups)

/-- `NFA.is_final(states)` -/
def isFinal (n : NFA) (states : SSet) : Bool := states.any fun s => n.finals.contains s

/-- `NFA.get_labels(states)` -/
def getLabels (n : NFA) (states : SSet) : List Label :=
  (n.trans.filterMap fun (a, l, _) => if states.contains a then some l else none).eraseDups

/-- `FSA.accept(string)` on an NFA (the `if not state: break` is a short cut: the empty set
    stays empty and is not final). -/
def accept (n : NFA) (u : List Nat) : Bool :=
  n.isFinal (u.foldl (fun s c => n.nextState s (.chr c)) n.start)

end NFA

/-! ## automata/lev.py -/

/-- `levenshtein_automaton(term, k, prefix)`.  `term.zipIdx` enumerates `(term[i], i)`; the two
    `for i in xrange(...)` loops are the two filters on `i` (after `prefix = min(prefix,
    len(term))` every `term[i]` is in range). -/
def levenshteinAutomaton (term : List Nat) (k pfx0 : Nat) : NFA :=
  let pfx := min pfx0 term.length
  let n := term.length
  let pre := term.zipIdx.flatMap fun (c, i) =>
    if i < pfx then [(((i, 0) : St), Label.chr c, ((i + 1, 0) : St))] else []
  let main := term.zipIdx.flatMap fun (c, i) =>
    if pfx ≤ i then
      (List.range (k + 1)).flatMap fun e =>
        -- correct character
        (((i, e) : St), Label.chr c, ((i + 1, e) : St)) ::
          (if e < k then
            [ ((i, e), Label.any, (i, e + 1)),       -- "deletion": an extra input character
              ((i, e), Label.eps, (i + 1, e + 1)),   -- "insertion": a term character is skipped
              ((i, e), Label.any, (i + 1, e + 1)) ]  -- substitution
           else [])
    else []
  let fin := (List.range (k + 1)).flatMap fun e =>
    if e < k then [(((n, e) : St), Label.any, ((n, e + 1) : St))] else []
  { initial := (0, 0), trans := pre ++ main ++ fin,
    finals := (List.range (k + 1)).map fun e => (n, e) }

/-! ## automata/fsa.py - DFA -/

/-- `DFA`: states are frozensets of NFA states. -/
structure DFA where
  initial : SSet
  /-- `transitions[src][label] = dest`, newest binding first -/
  trans : List (SSet × Nat × SSet)
  /-- `defaults[src] = dest`, newest binding first -/
  defaults : List (SSet × SSet)
  finals : List SSet

namespace DFA

def lookupTrans (d : DFA) (src : SSet) (c : Nat) : Option SSet :=
  (d.trans.find? fun (s, l, _) => setEq s src && l == c).map fun (_, _, t) => t

def lookupDefault (d : DFA) (src : SSet) : Option SSet :=
  (d.defaults.find? fun (s, _) => setEq s src).map fun (_, t) => t

/-- `DFA.next_state(src, label)`: `trans.get(label, self.defaults.get(src, None))` -/
def nextState (d : DFA) (src : Option SSet) (c : Nat) : Option SSet :=
  match src with
  | none => none
  | some s => match d.lookupTrans s c with
    | some t => some t
    | none => d.lookupDefault s

/-- `DFA.is_final(state)` (`None` is not in the set). -/
def isFinal (d : DFA) (s : Option SSet) : Bool :=
  match s with
  | none => false
  | some s => d.finals.any fun f => setEq f s

/-- Python truthiness of a state (`None` and the empty frozenset are falsy). -/
def truthy (s : Option SSet) : Bool :=
  match s with
  | none => false
  | some s => !s.isEmpty

/-- `FSA.accept(string)` on a DFA. -/
def accept (d : DFA) : Option SSet → List Nat → Bool
  | s, [] => d.isFinal s
  | s, c :: u =>
    let s' := d.nextState s c
    if truthy s' then accept d s' u else d.isFinal s'

/-- `sorted(trans)` of `find_next_edge`: the explicit out-labels of a state. -/
def outLabels (d : DFA) (src : SSet) : List Nat :=
  (d.trans.filterMap fun (s, l, _) => if setEq s src then some l else none)

end DFA

namespace NFA

/-- Body of `for label in labels:` of `to_dfa` for a label other than EPSILON:
    `new_state = self.next_state(current, label)`; `if new_state not in seen: …`;
    `set_default_transition` for ANY, `add_transition` otherwise. -/
def dfaStep (n : NFA) (current : SSet) (l : Label) (d : DFA) (frontier seen : List SSet) :
    DFA × List SSet × List SSet :=
  let new := n.nextState current l
  let isNew := !(seen.any fun s => setEq s new)
  let frontier' := if isNew then new :: frontier else frontier
  let seen' := if isNew then new :: seen else seen
  let d1 := if isNew && n.isFinal new then { d with finals := new :: d.finals } else d
  let d2 := match l with
    | .any => { d1 with defaults := (current, new) :: d1.defaults }
    | .chr c => { d1 with trans := (current, c, new) :: d1.trans }
    | .eps => d1
  (d2, frontier', seen')

/-- One iteration body of `to_dfa`: process the labels of `current`
    (`if label is EPSILON: continue`). -/
def dfaLabels (n : NFA) (current : SSet) :
    List Label → DFA → List SSet → List SSet → DFA × List SSet × List SSet
  | [], d, frontier, seen => (d, frontier, seen)
  | .eps :: ls, d, frontier, seen => dfaLabels n current ls d frontier seen
  | l :: ls, d, frontier, seen =>
    let r := dfaStep n current l d frontier seen
    dfaLabels n current ls r.1 r.2.1 r.2.2

/-- The loop `while frontier:` of `to_dfa` (`frontier.pop()` takes the head).  The loop ends
    because there are finitely many subsets of NFA states; the model carries a fuel of
    `2 ^ |states| + 1` pops instead (`none` = fuel exhausted; `WM.Lev.NFA.toDfa_terminates` proves
    by that argument that it never happens). -/
def dfaLoop (n : NFA) : Nat → DFA → List SSet → List SSet → Option DFA
  | _, d, [], _ => some d
  | 0, _, _ :: _, _ => none
  | fuel + 1, d, current :: frontier, seen =>
    let d := if n.isFinal current then { d with finals := current :: d.finals } else d
    let (d, frontier, seen) := n.dfaLabels current (n.getLabels current) d frontier seen
    dfaLoop n fuel d frontier seen

/-- `NFA.to_dfa()` -/
def toDfa (n : NFA) : Option DFA :=
  let s := n.start
  n.dfaLoop (2 ^ n.states.eraseDups.length + 1)
    { initial := s, trans := [], defaults := [], finals := [] } [s] []

end NFA

/-! ## `next_valid_string` / `find_next_edge` -/

inductive Err where
  /-- the model's fuel ran out (the real loop would not have terminated within the bound) -/
  | fuel
  /-- `heap[0]` on an empty heap (`Corrector.suggest(limit=0)`) -/
  | indexError
  /-- an exception inside `distance()` (never: theorem `dp_osa`) -/
  | dpError
  /-- `UnicodeEncodeError`: `to_bytes` of a string that contains a surrogate -/
  | encodeError
  deriving DecidableEq, Repr

def maxCodePoint : Nat := 0x10FFFF

/-- A character a term can contain: a Unicode scalar value (a code point that is not a surrogate;
    the term dictionary stores UTF-8, which has no encoding for U+D800..U+DFFF). -/
def isScalar (c : Nat) : Bool := decide (c ≤ maxCodePoint) && !(decide (0xD800 ≤ c) && decide (c ≤ 0xDFFF))

namespace DFA

/-- First half of `find_next_edge`: `label = u'\\0' if label is None`, no label after
    `sys.maxunicode` (`return None`), else `unichr(ord(label) + 1)` - stepping over the surrogate
    block (`if 0xD800 <= code <= 0xDFFF: code = 0xE000`, "fix: DFA.find_next_edge steps over the
    surrogate block"). -/
def nextLabel (label : Option Nat) : Option Nat :=
  match label with
  | none => some 0
  | some l =>
    if l ≥ maxCodePoint then none
    else if 0xD800 ≤ l + 1 ∧ l + 1 ≤ 0xDFFF then some 0xE000 else some (l + 1)

/-- Second half of `find_next_edge`: `if label in trans or s in self.defaults: return label`, else
    `bisect_left(sorted(trans), label)`.  `s = None` has no transitions and no default. -/
def edgeFrom (d : DFA) (s : Option SSet) (label : Nat) : Option Nat :=
  match s with
  | none => none
  | some s =>
    if (d.lookupTrans s label).isSome || (d.lookupDefault s).isSome then some label
    else ((d.outLabels s).filter fun l => label ≤ l).min?

/-- `DFA.find_next_edge(s, label, asbytes=False)` -/
def findNextEdge (d : DFA) (s : Option SSet) (label : Option Nat) : Option Nat :=
  match nextLabel label with
  | none => none
  | some label => d.edgeFrom s label

/-- The wall-following loop of `next_valid_string`; the head of `stack` is the top.  Fuel: see
    `nextValidString`. -/
def wall (d : DFA) : Nat → List (List Nat × Option SSet × Option Nat) → Except Err (Option (List Nat))
  | _, [] => .ok none
  | 0, _ :: _ => .error .fuel
  | fuel + 1, (path, state, label) :: stack =>
    match d.findNextEdge state label with
    | none => wall d fuel stack
    | some l =>
      let path := path ++ [l]
      let state := d.nextState state l
      if d.isFinal state then .ok (some path) else wall d fuel ((path, state, none) :: stack)

/-- "Follow the DFA as far as possible": returns the stack (top first) and the last state. -/
def follow (d : DFA) : List Nat → Option SSet → List Nat →
    List (List Nat × Option SSet × Option Nat) → List (List Nat × Option SSet × Option Nat) × Option SSet
  | pre, state, [], stack => ((pre, state, none) :: stack, state)   -- the `else:` of the `for`
  | pre, state, c :: rest, stack =>
    let stack := (pre, state, some c) :: stack
    let state' := d.nextState state c
    if truthy state' then follow d (pre ++ [c]) state' rest stack else (stack, state')

/-- `DFA.next_valid_string(string)`.  The wall-following loop does not terminate on every DFA (a
    cycle of smallest edges through non-final states is followed for ever), so the model needs
    fuel.  `chain` is an upper bound on the length of a chain of arcs of the automaton (for a
    Levenshtein automaton see `levChain`): every stack entry is popped once and a descent along
    smallest edges is at most `chain` long, so `(|string| + 1) * (chain + 1)` iterations suffice
    (theorem `WM.Lev.lev_nextValidString_terminates`). -/
def nextValidString (d : DFA) (chain : Nat) (string : List Nat) : Except Err (Option (List Nat)) :=
  let (stack, state) := d.follow [] (some d.initial) string []
  if d.isFinal state then .ok (some string)
  else d.wall ((string.length + 1) * (chain + 1)) stack

end DFA

/-! ## codec/base.py - the term-cursor walk -/

/-- Python string `<` (code point lexicographic; a proper prefix is smaller). -/
def lexLt : List Nat → List Nat → Bool
  | _, [] => false
  | [], _ :: _ => true
  | x :: a, y :: b => x < y || (x == y && lexLt a b)

def lexLe (a b : List Nat) : Bool := !lexLt b a

/-- `cur.find(term); cur.text()`: the first term of the (sorted) lexicon that is `≥ term`. -/
def cursorFind (lex : List (List Nat)) (term : List Nat) : Option (List Nat) :=
  lex.find? fun t => lexLe term t

/-- The `while match is not None:` loop of `Automata.find_matches`.  With a `next_valid_string`
    that returns a string `≥` its argument every term of the lexicon is looked at in at most two
    iterations (once when the cursor lands on it, once more when it is itself the next match), so
    `2 * |lex| + 2` iterations suffice; with an arbitrary function the real loop need not
    terminate, hence fuel. -/
def findLoop (nv : List Nat → Except Err (Option (List Nat))) (lex : List (List Nat)) :
    Nat → Option (List Nat) → Except Err (List (List Nat))
  | _, none => .ok []
  | 0, some _ => .error .fuel
  | fuel + 1, some m =>
    match cursorFind lex m with
    | none => .ok []
    | some term =>
      if m = term then
        -- yield match; term += unull
        match nv (term ++ [0]) with
        | .error e => .error e
        | .ok m' => (findLoop nv lex fuel m').map fun r => m :: r
      else
        match nv term with
        | .error e => .error e
        | .ok m' => findLoop nv lex fuel m'

/-- `Automata.find_matches(dfa, cur)` for a cursor over the sorted lexicon `lex`. -/
def findMatches (nv : List Nat → Except Err (Option (List Nat))) (lex : List (List Nat)) :
    Except Err (List (List Nat)) :=
  match lex.head? with
  | none => .ok []        -- `term = cur.text(); if term is None: return`
  | some term =>
    match nv term with
    | .error e => .error e
    | .ok m => findLoop nv lex (2 * lex.length + 2) m

/-- Every arc of `levenshtein_automaton(term, k, …)` strictly decreases `2 (|term| - i) + (k - e)`,
    so no chain of arcs is longer than this. -/
def levChain (term : List Nat) (k : Nat) : Nat := 2 * term.length + k + 1

/-- `SegmentReader.terms_within` → `Automata.terms_within(fieldcur, uterm, maxdist, prefix)`. -/
def termsWithinSeg (lex : List (List Nat)) (w : List Nat) (d p : Nat) : Except Err (List (List Nat)) :=
  match (levenshteinAutomaton w d p).toDfa with
  | none => .error .fuel
  | some dfa => findMatches (dfa.nextValidString (levChain w d)) lex

/-! ## The term dictionary is ordered by UTF-8 bytes

`W3FieldCursor.find(term)` does `self._fieldobj.to_bytes(term)` (`utf8encode`) and positions the
cursor with `closest_key_pos` on the first key whose *bytes* are `≥`; `text()` decodes the key.  The
automaton (`next_valid_string`, `find_next_edge`) works on code points.  Here the cursor is
modelled on bytes; `WM.C19.utf8_order` / `terms_within_single_bytes` show the walk is the same. -/

/-- `unichr(c).encode("utf-8")`: the bit layout of UTF-8 (1 to 4 bytes). -/
def utf8Char (c : Nat) : List Nat :=
  if c < 0x80 then [c]
  else if c < 0x800 then [0xC0 + c / 64, 0x80 + c % 64]
  else if c < 0x10000 then [0xE0 + c / 4096, 0x80 + c / 64 % 64, 0x80 + c % 64]
  else [0xF0 + c / 262144, 0x80 + c / 4096 % 64, 0x80 + c / 64 % 64, 0x80 + c % 64]

/-- The UTF-8 bytes of a string of scalar values. -/
def utf8 (s : List Nat) : List Nat := s.flatMap utf8Char

/-- `s.encode("utf-8")`: raises `UnicodeEncodeError` on a surrogate (and nothing beyond U+10FFFF is
    a Python character). -/
def utf8Encode (s : List Nat) : Except Err (List Nat) :=
  if s.all isScalar then .ok (utf8 s) else .error .encodeError

/-- `cur.find(term); cur.text()` on the stored lexicon `lex` (each term stands for its key bytes,
    the keys are in byte order): the first term whose bytes are `≥` the bytes of `term`. -/
def cursorFindBytes (lex : List (List Nat)) (term : List Nat) : Except Err (Option (List Nat)) :=
  match utf8Encode term with
  | .error e => .error e
  | .ok b => .ok (lex.find? fun t => lexLe b (utf8 t))

/-- `findLoop` with the byte-level cursor. -/
def findLoopBytes (nv : List Nat → Except Err (Option (List Nat))) (lex : List (List Nat)) :
    Nat → Option (List Nat) → Except Err (List (List Nat))
  | _, none => .ok []
  | 0, some _ => .error .fuel
  | fuel + 1, some m =>
    match cursorFindBytes lex m with
    | .error e => .error e
    | .ok none => .ok []
    | .ok (some term) =>
      if m = term then
        match nv (term ++ [0]) with
        | .error e => .error e
        | .ok m' => (findLoopBytes nv lex fuel m').map fun r => m :: r
      else
        match nv term with
        | .error e => .error e
        | .ok m' => findLoopBytes nv lex fuel m'

/-- `Automata.find_matches(dfa, cur)` for the cursor over the byte-ordered term dictionary. -/
def findMatchesBytes (nv : List Nat → Except Err (Option (List Nat))) (lex : List (List Nat)) :
    Except Err (List (List Nat)) :=
  match lex.head? with
  | none => .ok []
  | some term =>
    match nv term with
    | .error e => .error e
    | .ok m => findLoopBytes nv lex (2 * lex.length + 2) m

/-- `SegmentReader.terms_within` over the byte-ordered term dictionary. -/
def termsWithinSegBytes (lex : List (List Nat)) (w : List Nat) (d p : Nat) : Except Err (List (List Nat)) :=
  match (levenshteinAutomaton w d p).toDfa with
  | none => .error .fuel
  | some dfa => findMatchesBytes (dfa.nextValidString (levChain w d)) lex

/-! ## reading.py - the generic path used by `MultiReader` -/

/-- The loop `for btext in …: k = distance(word, text, limit=maxdist); if k <= maxdist: yield word`
    of `IndexReader.terms_within`. -/
def baseLoop (w : List Nat) (d : Nat) : List (List Nat) → Except Err (List (List Nat))
  | [] => .ok []
  | word :: rest =>
    match distance word w (some d) with
    | none => .error .dpError
    | some k => (baseLoop w d rest).map fun r => if k ≤ d then word :: r else r

/-- `IndexReader.terms_within`: `for btext in self.expand_prefix(fieldname, text[:prefix])` /
    `k = distance(word, text, limit=maxdist)` / `if k <= maxdist: yield word`.  `lex` is the
    merged, sorted term list of the field. -/
def termsWithinBase (lex : List (List Nat)) (w : List Nat) (d p : Nat) : Except Err (List (List Nat)) :=
  baseLoop w d (lex.filter fun t => (w.take p).isPrefixOf t)

/-! ## query/terms.py -/

/-- `MultiTerm.matcher` on one segment, given the expansion `terms` (`_btexts`):
    `qs = [Term(fieldname, word) for word in self._btexts(reader)]` (the `if word` filter that
    dropped the falsy empty term was repaired: "fix: MultiTerm.matcher no longer skips the empty
    term") and the matcher is the union of the term matchers: the documents of the
    segment (numbered in order; a document is the list of its terms in the field) that contain
    one of the kept terms. -/
def fuzzyDocsOf (docs : List (List (List Nat))) (terms : List (List Nat)) : List Nat :=
  let qs := terms
  (docs.zipIdx.filter fun x => x.1.any fun t => qs.contains t).map (·.2)

/-- `FuzzyTerm(field, w, maxdist=d, prefixlength=p)` searched on one segment: `_btexts` is
    `ixreader.terms_within(...)` of the segment reader. -/
def fuzzyDocsSeg (lex : List (List Nat)) (docs : List (List (List Nat))) (w : List Nat) (d p : Nat) :
    Except Err (List Nat) :=
  (termsWithinSeg lex w d p).map (fuzzyDocsOf docs)

/-- `Searcher.search(FuzzyTerm)` on an index: every segment `(lexicon, documents)` is searched with
    its own segment reader (`MultiTerm.matcher(searcher)` is called per sub-searcher); the hits of a
    segment are shifted by the number of documents in the segments before it (`off`). -/
def fuzzyDocsIndex (w : List Nat) (d p : Nat) :
    List (List (List Nat) × List (List (List Nat))) → Nat → Except Err (List Nat)
  | [], _ => .ok []
  | (lex, docs) :: rest, off =>
    match fuzzyDocsSeg lex docs w d p with
    | .error e => .error e
    | .ok hits =>
      (fuzzyDocsIndex w d p rest (off + docs.length)).map fun r => hits.map (· + off) ++ r

/-! ## spelling.py -/

/-- `ReaderCorrector._suggestions`: `score = 0 - (maxdist + (1.0 / f * 0.5))` with
    `f = freq(fieldname, sug) or 1`.  Scores are exact rationals here; the floats of the real code
    order the same way for frequencies below 2^50 (IEEE rounding is monotone; trusted). -/
def suggestions (terms : List (List Nat)) (freq : List Nat → Nat) (maxdist : Nat) :
    List (Rat × List Nat) :=
  terms.map fun sug =>
    let f := if freq sug = 0 then 1 else freq sug
    ((0 : Rat) - ((maxdist : Rat) + (1 : Rat) / (f : Rat) * (1 / 2)), sug)

/-- Python tuple `<` on `(score, sug)`. -/
def itemLt (a b : Rat × List Nat) : Bool := a.1 < b.1 || (a.1 == b.1 && lexLt a.2 b.2)

/-- Insert into the heap, kept here as a list sorted ascending by `itemLt` (only `heap[0]`, the
    minimum, and the final multiset are observed by `suggest`; `heapq` itself is trusted). -/
def heapInsert (x : Rat × List Nat) : List (Rat × List Nat) → List (Rat × List Nat)
  | [] => [x]
  | h :: t => if itemLt x h then x :: h :: t else h :: heapInsert x t

/-- The `for item in _suggestions(...)` loop of `Corrector.suggest`. -/
def suggestLoop (limit : Nat) : List (Rat × List Nat) → List (Rat × List Nat) →
    Except Err (List (Rat × List Nat))
  | [], heap => .ok heap
  | item :: items, heap =>
    if heap.length < limit then suggestLoop limit items (heapInsert item heap)
    else match heap with
      | [] => .error .indexError           -- `heap[0]` with `limit = 0`
      | h :: t =>
        if itemLt h item then suggestLoop limit items (heapInsert item t)  -- heapreplace
        else suggestLoop limit items heap

/-- Sort key `(0 - x[0], x[1])` of the final `sorted`. -/
def keyLe (a b : Rat × List Nat) : Bool :=
  (0 - a.1) < (0 - b.1) || ((0 - a.1) == (0 - b.1) && lexLe a.2 b.2)

/-- Python's `sorted` is a stable sort; for a total preorder every stable sort returns the same
    list, here insertion sort (`x` goes in front of the first element that is not smaller). -/
def insertBy (le : Rat × List Nat → Rat × List Nat → Bool) (x : Rat × List Nat) :
    List (Rat × List Nat) → List (Rat × List Nat)
  | [] => [x]
  | y :: ys => if le x y then x :: y :: ys else y :: insertBy le x ys

def sortBy (le : Rat × List Nat → Rat × List Nat → Bool) (l : List (Rat × List Nat)) :
    List (Rat × List Nat) := l.foldr (insertBy le) []

/-- `Corrector.suggest` on the `(score, suggestion)` items its `_suggestions` yields: the heap
    loop, the final `sorted`, and `[sug for _, sug in sugs]`. -/
def suggestItems (items : List (Rat × List Nat)) (limit : Nat) : Except Err (List (List Nat)) :=
  (suggestLoop limit items []).map fun heap => (sortBy keyLe heap).map fun x => x.2

/-- `Corrector.suggest(text, limit, maxdist, prefix)` of a `ReaderCorrector`, given the result of
    `terms_within`. -/
def suggest (terms : List (List Nat)) (freq : List Nat → Nat) (limit maxdist : Nat) :
    Except Err (List (List Nat)) :=
  suggestItems (suggestions terms freq maxdist) limit

/-- `fsa.find_all_matches(dfa, lookup_func, first=unull)` with a `ListCorrector.Skipper` over the
    sorted word list as `lookup_func` (the first word at or after the key; the skipper only
    remembers where the previous lookup ended).  It is the loop of `find_matches` started at
    `next_valid_string(u"\\0")`; its `while match:` test cannot meet the (falsy) empty string
    because every match is at or after `"\\0"`. -/
def findAllMatches (nv : List Nat → Except Err (Option (List Nat))) (wordlist : List (List Nat)) :
    Except Err (List (List Nat)) :=
  match nv [0] with
  | .error e => .error e
  | .ok m => findLoop nv wordlist (2 * wordlist.length + 2) m

/-- `ListCorrector._suggestions`: `for mxd in xrange(1, maxdist + 1):` build the automaton for
    `mxd`, walk the word list, yield `(0 - mxd, sug)` for every word not seen at a smaller `mxd`. -/
def listSuggestionsLoop (wordlist : List (List Nat)) (w : List Nat) (p : Nat) :
    List Nat → List (List Nat) → Except Err (List (Rat × List Nat))
  | [], _ => .ok []
  | mxd :: rest, seen =>
    match (levenshteinAutomaton w mxd p).toDfa with
    | none => .error .fuel
    | some dfa =>
      match findAllMatches (dfa.nextValidString (levChain w mxd)) wordlist with
      | .error e => .error e
      | .ok sugs =>
        let new := sugs.filter fun s => !seen.contains s
        (listSuggestionsLoop wordlist w p rest (seen ++ new)).map fun r =>
          (new.map fun s => ((0 : Rat) - (mxd : Rat), s)) ++ r

/-- `ListCorrector(wordlist).suggest(text, limit, maxdist, prefix)`. -/
def listSuggest (wordlist : List (List Nat)) (w : List Nat) (limit maxdist p : Nat) :
    Except Err (List (List Nat)) :=
  match listSuggestionsLoop wordlist w p ((List.range maxdist).map (· + 1)) [] with
  | .error e => .error e
  | .ok items => suggestItems items limit

/-- `SimpleQueryCorrector.correct_query` for one token: `sugs = c.suggest(token.text, prefix=prefix,
    maxdist=maxdist)` (default `limit=5`), `if sugs: sug = sugs[0]`, else the word stays. -/
def correctToken (sugs : Except Err (List (List Nat))) (w : List Nat) : Except Err (List Nat) :=
  sugs.map fun l => match l with
    | [] => w
    | s :: _ => s

/-! ## spelling.py - `MultiCorrector` -/

/-- `if sug in seen: seen[sug] = op(seen[sug], score) else: seen[sug] = score` on the dict `seen`
    (kept in insertion order, as Python dicts are). -/
def seenUpdate (op : Rat → Rat → Rat) (score : Rat) (sug : List Nat) :
    List (List Nat × Rat) → List (List Nat × Rat)
  | [] => [(sug, score)]
  | (s, sc) :: rest =>
    if s = sug then (s, op sc score) :: rest else (s, sc) :: seenUpdate op score sug rest

/-- `MultiCorrector._suggestions`, given the `(score, suggestion)` items each sub-corrector's
    `_suggestions` yields (in the order of `self.correctors`): `((score, sug) for sug, score in
    iteritems(seen))`. -/
def multiSuggestions (op : Rat → Rat → Rat) (itemss : List (List (Rat × List Nat))) :
    List (Rat × List Nat) :=
  (itemss.flatten.foldl (fun seen it => seenUpdate op it.1 it.2 seen) []).map fun x => (x.2, x.1)

/-- The sub-correctors' generators are consumed one after the other; the first exception
    propagates. -/
def collectSubs : List (Except Err (List (Rat × List Nat))) → Except Err (List (List (Rat × List Nat)))
  | [] => .ok []
  | .error e :: _ => .error e
  | .ok x :: rest => (collectSubs rest).map fun r => x :: r

/-- `MultiCorrector(correctors, op).suggest(text, limit, maxdist, prefix)` given what the
    sub-correctors' `_suggestions` do. -/
def multiSuggest (op : Rat → Rat → Rat) (subs : List (Except Err (List (Rat × List Nat)))) (limit : Nat) :
    Except Err (List (List Nat)) :=
  match collectSubs subs with
  | .error e => .error e
  | .ok itemss => suggestItems (multiSuggestions op itemss) limit

/-- `ReaderCorrector._suggestions` on top of a `terms_within` result. -/
def readerItems (tw : Except Err (List (List Nat))) (freq : List Nat → Nat) (maxdist : Nat) :
    Except Err (List (Rat × List Nat)) :=
  tw.map fun terms => suggestions terms freq maxdist

/-- `ListCorrector._suggestions`. -/
def listItems (wordlist : List (List Nat)) (w : List Nat) (maxdist p : Nat) : Except Err (List (Rat × List Nat)) :=
  listSuggestionsLoop wordlist w p ((List.range maxdist).map (· + 1)) []

/-! ## reading.py - `MultiReader` term merging and `expand_prefix` (the input of the generic path) -/

/-- `SegmentReader.terms_from(fieldname, prefix)` seen for one field: the cursor is placed on the
    first term `≥ prefix` of the segment's (sorted) term list and iterated to its end. -/
def termsFrom (lex : List (List Nat)) (pre : List Nat) : List (List Nat) :=
  lex.dropWhile fun t => lexLt t pre

/-- An entry `(term, it)` of the list `current` of `MultiReader._merge_terms`: the head term of an
    iterator and what the iterator still holds. -/
abbrev Cur := List Nat × List (List Nat)

/-- The inner `while active and current[0][0] == term:` loop seen from one iterator: `next(it)` is
    called as long as the iterator's head equals `term` (`heapreplace` puts it back on top);
    `none` = `StopIteration` (`heappop`, `active -= 1`). -/
def advance (term : List Nat) : List (List Nat) → Option Cur
  | [] => none
  | t :: rest => if t == term then advance term rest else some (t, rest)

/-- `current[0][0]` of the heap: the smallest head term (`heapq` itself is trusted). -/
def minTerm : Cur → List Cur → List Nat
  | c, [] => c.1
  | c, c' :: rest => let m := minTerm c' rest; if lexLt m c.1 then m else c.1

/-- The `while active:` loop of `MultiReader._merge_terms`: peek at the smallest head term, advance
    every iterator standing on it, yield it.  Every round consumes at least one term of an
    iterator, so the number of terms still held (plus heads) bounds the rounds: that is the fuel
    `mergeTerms` passes (`WM.Lev.mergeLoop_spec` shows it is never used up). -/
def mergeLoop : Nat → List Cur → Except Err (List (List Nat))
  | _, [] => .ok []
  | 0, _ :: _ => .error .fuel
  | fuel + 1, c :: cs =>
    let term := minTerm c cs
    let cur' := (c :: cs).filterMap fun x => if x.1 == term then advance term x.2 else some x
    (mergeLoop fuel cur').map fun r => term :: r

/-- `try: term = next(it) except StopIteration: continue; current.append((term, id(it)))`. -/
def curHead : List (List Nat) → Option Cur
  | [] => none
  | t :: r => some (t, r)

/-- `MultiReader._merge_terms(iterlist)`: iterators that are empty at the start are left out; a
    single active iterator is passed through unchanged; otherwise the heap merge, which yields
    every distinct term once. -/
def mergeTerms (its : List (List (List Nat))) : Except Err (List (List Nat)) :=
  match its.filterMap curHead with
  | [(t, r)] => .ok (t :: r)
  | current => mergeLoop ((current.map fun c => c.2.length + 1).sum) current

/-- `MultiReader.terms_from(fieldname, prefix)` (one field): the merge of the segments'
    `terms_from`. -/
def termsFromMulti (segs : List (List (List Nat))) (pre : List Nat) : Except Err (List (List Nat)) :=
  mergeTerms (segs.map fun lex => termsFrom lex pre)

/-- The loop of `IndexReader.expand_prefix`: `for fn, text in self.terms_from(fieldname, prefix):
    if fn != fieldname or not text.startswith(prefix): return; yield text` - it *stops* at the
    first term that does not start with the prefix. -/
def expandPrefixOf (terms : List (List Nat)) (pre : List Nat) : List (List Nat) :=
  terms.takeWhile fun t => pre.isPrefixOf t

/-- `MultiReader.expand_prefix(fieldname, prefix)`. -/
def expandPrefixMulti (segs : List (List (List Nat))) (pre : List Nat) : Except Err (List (List Nat)) :=
  (termsFromMulti segs pre).map fun terms => expandPrefixOf terms pre

/-- `IndexReader.terms_within` of a `MultiReader` over the segment term lists `segs`:
    `for btext in self.expand_prefix(fieldname, text[:prefix])` and the distance filter. -/
def termsWithinMulti (segs : List (List (List Nat))) (w : List Nat) (d p : Nat) :
    Except Err (List (List Nat)) :=
  match expandPrefixMulti segs (w.take p) with
  | .error e => .error e
  | .ok terms => baseLoop w d terms

/-- `FuzzyTerm(field, w, maxdist=d, prefixlength=p).docs(searcher)` (`Query.docs`, also
    `Query.matcher(searcher)`) on the *top-level* searcher of an index: `MultiTerm.matcher` calls
    `_btexts(searcher.reader())` once, against the index reader.  With one segment that is the
    segment reader (automaton path); with several it is a `MultiReader`, i.e. the generic
    `terms_within` over the merged term list, and the union of the (multi-segment) term matchers
    yields the global numbers of the documents that contain one of those terms. -/
def fuzzyDocsTop (w : List Nat) (d p : Nat) (segs : List (List (List Nat) × List (List (List Nat)))) :
    Except Err (List Nat) :=
  match segs with
  | [(lex, docs)] => fuzzyDocsSeg lex docs w d p
  | _ => (termsWithinMulti (segs.map (·.1)) w d p).map (fuzzyDocsOf (segs.flatMap (·.2)))

end WM.Lev
