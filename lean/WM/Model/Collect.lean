import WM.Spec.Rank
/-
Layer M, collector layer (`whoosh/collectors.py`) over *abstract* matchers.

A matcher is seen by a collector only through `is_active / id / score / next / replace /
skip_to_quality / supports_block_quality`.  Here a matcher is the list of postings it would still
yield (ascending segment-relative document numbers), and the two optimisation entry points are an
**arbitrary schedule of wishes**: each iteration of the collection loop consumes one `Step` of the
schedule which says, for a `replace(minscore)` and for a `skip_to_quality(minscore)` issued in that
iteration, what should happen to every pending posting — keep it, drop it, or lower its score
(a union that moved one of its sub-matchers past the document) — and how many leading postings
`skip_to_quality` skips and reports.  The model honours a wish only if the threshold the collector
passed is not 0 ("no threshold") and the posting scores `≤` it, and never raises a score — this is
the C12 contract `WM.Matcher.Keeps` (`WM.C05.contract_covered`: every outcome `Keeps` allows is the
outcome of some list of wishes); `replace(0)` changes nothing.  Everything else — when the collector calls `replace`, with which
(possibly stale) threshold, when it calls `skip_to_quality`, how `minscore` moves, the heap, the
segment loop, the wrapping collectors — mirrors the Python line by line.
-/
namespace WM.Collect
open WM.Rank

/-- Python exceptions raised at modelled sites. -/
inductive Err where
  | indexError   -- `items[0]` on an empty list
  | keyError     -- `Collector.remove` of an unknown document
  | valueError   -- `Searcher.collector(limit < 1)`, `ResultsPage(pagenum < 1)`
deriving DecidableEq, Repr

/-- One posting as a collector observes it. `newBlock` is what `matcher.next()` returns when the
    matcher lands on this posting ("entered a new block"). -/
structure Posting where
  doc : Nat
  /-- the score the matcher reports for the posting now -/
  score : Rat
  newBlock : Bool
  /-- the score the posting had when the matcher was created (what an exhaustive search sees).
      `replace`/`skip_to_quality` may *lower* `score` for postings at or below their threshold (a
      union that skipped one sub-matcher past the document, C12 `Dominated`); `orig` never changes.
      Inputs have `orig = score`. -/
  orig : Rat
deriving DecidableEq, Repr, Inhabited

/-- A fresh posting (`orig = score`). -/
def Posting.mk' (doc : Nat) (score : Rat) (newBlock : Bool) : Posting := ⟨doc, score, newBlock, score⟩

/-- The posting as the exhaustive search sees it. -/
def Posting.origP (p : Posting) : Posting := { p with score := p.orig }

/-- What a `replace`/`skip_to_quality` call would like to do to one pending posting. -/
inductive Wish where
  | keep
  | drop
  | lower (s : Rat)
deriving DecidableEq, Repr, Inhabited

/-- One element of the drop schedule, consumed by one iteration of `ScoredCollector.matches`. -/
structure Step where
  /-- `replace()`: what happens to the i-th pending posting — only if its score is `≤` the (non-zero)
      threshold: dropped, or its score lowered (never raised). -/
  mask : List Wish
  /-- what `supports_block_quality()` answers on the matcher returned by `replace()` -/
  supports : Bool
  /-- `skip_to_quality()`: at most this many leading postings are skipped, each only if its score is
      `≤` the threshold -/
  skip : Nat
  /-- `skip_to_quality()`: what happens to the postings that are not skipped as a prefix (same rule
      as `mask`: sub-matchers of a compound skip individually) -/
  skipMask : List Wish := []
deriving Repr, Inhabited

def Step.none : Step := { mask := [], supports := true, skip := 0 }

/-- `matcher.replace(thr)` under the schedule (C12 contract `Keeps thr`): postings scoring above
    `thr` are untouched; a posting at or below `thr` may be dropped or have its score lowered. A
    threshold of 0 is "no threshold": `replace(0)` only simplifies the tree and changes nothing
    (every `replace` of whoosh tests `if minquality and …`; C11 `replace0` of the matcher family). -/
def dropMasked (thr : Rat) : List Wish → List Posting → List Posting
  | _, [] => []
  | [], ps => ps
  | w :: ws, p :: ps =>
    if thr != 0 && decide (p.score ≤ thr) then
      match w with
      | .keep => p :: dropMasked thr ws ps
      | .drop => dropMasked thr ws ps
      | .lower s => (if s ≤ p.score then { p with score := s } else p) :: dropMasked thr ws ps
    else p :: dropMasked thr ws ps

/-- The block-skipping part of `matcher.skip_to_quality(thr)` under the schedule: returns the
    matcher and the number skipped. -/
def skipDrop (thr : Rat) : Nat → List Posting → List Posting × Nat
  | 0, ps => (ps, 0)
  | _ + 1, [] => ([], 0)
  | n + 1, p :: ps =>
    if p.score ≤ thr then
      let r := skipDrop thr n ps
      (r.1, r.2 + 1)
    else (p :: ps, 0)

theorem dropMasked_length_le (thr : Rat) (mask : List Wish) (ps : List Posting) :
    (dropMasked thr mask ps).length ≤ ps.length := by
  fun_induction dropMasked thr mask ps with
  | case1 | case2 => exact Nat.le_refl _
  | case4 _ _ _ _ ih => exact Nat.le_succ_of_le ih
  | case3 _ _ _ _ ih | case5 _ _ _ _ _ ih | case6 _ _ _ _ _ ih => exact Nat.succ_le_succ ih

theorem skipDrop_length_le (thr : Rat) (n : Nat) (ps : List Posting) :
    (skipDrop thr n ps).1.length ≤ ps.length := by
  fun_induction skipDrop thr n ps with
  | case3 _ _ _ _ _ ih => exact Nat.le_succ_of_le ih
  | case1 | case2 | case4 => exact Nat.le_refl _

/-! ### The heap of `TopCollector` -/

/-- Tuple order of the heap entries `(score, 0 - docnum)`. -/
def heapLe (a b : Hit) : Bool :=
  decide (a.score < b.score) || (a.score == b.score && decide (b.doc ≤ a.doc))

/-- `heapq.heappush` on the heap kept as an ascending list (`items[0]` is the head). `heapq` itself
    is trusted (DESIGN §7); the array layout of the heap is not observable. -/
def heapPush (e : Hit) : List Hit → List Hit
  | [] => [e]
  | h :: t => if heapLe e h then e :: h :: t else h :: heapPush e t

/-- State of a `TopCollector` (`prepare` initialises it). -/
structure TopState where
  items : List Hit := []
  minscore : Rat := 0
  total : Int := 0
deriving Repr, Inhabited

/-- `collectors.py: TopCollector._collect`. -/
def TopState.collect (limit : Nat) (st : TopState) (h : Hit) : Except Err TopState :=
  let st := { st with total := st.total + 1 }
  if st.items.length < limit then
    .ok { st with items := heapPush h st.items }
  else
    match st.items with
    | [] => .error .indexError   -- `items[0][0]` with `limit = 0`
    | m :: rest =>
      if m.score < h.score then
        -- `heapreplace` then `self.minscore = items[0][0]`
        match heapPush h rest with
        | [] => .error .indexError   -- unreachable: `heapPush` never returns `[]`
        | x :: xs => .ok { st with items := x :: xs, minscore := x.score }
      else .ok st

/-- `collectors.py: TopCollector.remove` (after `fix: TopCollector.remove keeps minscore…`):
    pop the entry of that document if it is still on the heap, re-heapify; the heap is then no longer
    full, so there is no score to beat: `minscore = 0`. Documents the heap forgot are ignored. -/
def TopState.remove (st : TopState) (doc : Nat) : TopState :=
  -- `self.total -= 1` (after `fix: documents replaced by collapsing are … no longer [counted] as matched`)
  let st := { st with total := st.total - 1 }
  if st.items.any (fun h => h.doc == doc) then
    { st with items := st.items.eraseP (fun h => h.doc == doc), minscore := 0 }
  else st

/-- `collectors.py: TopCollector.results`: `items.sort(reverse=True)` and de-negation. -/
def TopState.results (st : TopState) : List Hit := st.items.reverse

/-! ### `ScoredCollector.matches` -/

structure Cfg where
  /-- `TopCollector(limit=…)` -/
  limit : Nat
  /-- `ScoredCollector(replace=10)` -/
  replace : Nat := 10
  /-- `TopCollector(usequality=…)` -/
  usequality : Bool := true
  /-- `weighting.use_final` -/
  useFinal : Bool := false
deriving Repr

/-- Local variables of the generator `ScoredCollector.matches` (besides the matcher). -/
structure Locals where
  supports : Bool        -- `matcher.supports_block_quality()` of the current matcher
  minscore : Rat
  usequality : Bool
  replacecounter : Nat
  checkquality : Bool
deriving Repr

/-- What the rest of the world sees of the optimisations (`replaced_times`, `skipped_times`, and the
    thresholds handed to the matcher; compared with the real calls in the correspondence run,
    irrelevant for every theorem). -/
structure Trace where
  replaced : Nat := 0
  skipped : Nat := 0
  thresholds : List Rat := []
  /-- `self.may_have_dropped` (after `fix: TopCollector.count is only exact when…`): `replace` was
      handed a non-zero `minscore`, or `skip_to_quality` was called -/
  mayHaveDropped : Bool := false
  /-- `self.matcher.supports_block_quality()` of the collector's current matcher object -/
  supports : Bool := true
deriving Repr, Inhabited

/-- `_use_block_quality()` of `TopCollector`. -/
def useBlockQuality (cfg : Cfg) (supports : Bool) : Bool :=
  cfg.usequality && !cfg.useFinal && supports

/-- The threshold `ScoredCollector.matches` hands to `matcher.replace()`: the local `minscore`, but 0
    (structural replacement only) when the weighting has a `final()` hook — `minscore` is then in
    `final()` units (`fix: ScoredCollector.matches must not prune … final()-scaled minscore`) — or when
    the current matcher does not support quality (`fix: … only passes minscore to replace() when the
    matcher supports quality`). -/
def replaceThreshold (cfg : Cfg) (lv : Locals) : Rat :=
  if cfg.useFinal || !lv.supports then 0 else lv.minscore

/-- The `if replace:` paragraph of `ScoredCollector.matches`. `selfMin` is `self.minscore`.
    The last component says that the loop `break`s (the replaced matcher is inactive).

    The threshold is `replaceThreshold`. -/
def replacePhase (cfg : Cfg) (selfMin : Rat) (step : Step) (m : List Posting) (lv : Locals) (tr : Trace) :
    List Posting × Locals × Trace × Bool :=
  if cfg.replace != 0 then
    if lv.replacecounter == 0 || selfMin != lv.minscore then
      let thr := replaceThreshold cfg lv
      let m1 := dropMasked thr step.mask m
      let tr1 : Trace := { tr with replaced := tr.replaced + 1, thresholds := thr :: tr.thresholds,
                                   mayHaveDropped := tr.mayHaveDropped || thr != 0,
                                   supports := step.supports }
      if m1.isEmpty then (m1, lv, tr1, true)
      else
        let lv1 : Locals := { lv with supports := step.supports,
                                      usequality := useBlockQuality cfg step.supports,
                                      replacecounter := cfg.replace }
        let lv2 : Locals := if selfMin != lv.minscore then { lv1 with checkquality := true, minscore := selfMin }
                            else lv1
        (m1, { lv2 with replacecounter := lv2.replacecounter - 1 }, tr1, false)
    else (m, { lv with replacecounter := lv.replacecounter - 1 }, tr, false)
  else (m, lv, tr, false)

/-- `if usequality and checkquality and minscore: self.skipped_times += matcher.skip_to_quality(minscore)`
    (after `fix: ScoredCollector.matches does not call skip_to_quality() while there is no minimum
    score`: `minscore = 0` means the heap is not full yet). -/
def skipPhase (step : Step) (m : List Posting) (lv : Locals) (tr : Trace) : List Posting × Trace :=
  if lv.usequality && lv.checkquality && lv.minscore != 0 then
    let r := skipDrop lv.minscore step.skip m
    (dropMasked lv.minscore step.skipMask r.1,
     { tr with skipped := tr.skipped + r.2, thresholds := lv.minscore :: tr.thresholds,
               mayHaveDropped := true })
  else (m, tr)

theorem replacePhase_length_le (cfg : Cfg) (selfMin : Rat) (step : Step) (m : List Posting) (lv : Locals)
    (tr : Trace) : (replacePhase cfg selfMin step m lv tr).1.length ≤ m.length := by
  unfold replacePhase
  by_cases h1 : (cfg.replace != 0) = true
  · rw [if_pos h1]
    by_cases h2 : (lv.replacecounter == 0 || selfMin != lv.minscore) = true
    · rw [if_pos h2, apply_ite Prod.fst, ite_self]
      exact dropMasked_length_le _ _ _
    · rw [if_neg h2]; exact Nat.le_refl _
  · rw [if_neg h1]; exact Nat.le_refl _

theorem skipPhase_length_le (step : Step) (m : List Posting) (lv : Locals) (tr : Trace) :
    (skipPhase step m lv tr).1.length ≤ m.length := by
  unfold skipPhase
  split
  · exact Nat.le_trans (dropMasked_length_le _ _ _) (skipDrop_length_le _ _ _)
  · exact Nat.le_refl _

/-- What `matcher.next()` returns to the collector ("entered a new block") when the pending postings
    after the step are `rest`; running off the end of a posting list reports a block change. -/
def nextFlag : List Posting → Bool
  | [] => true
  | q :: _ => q.newBlock

/--
`collectors.py: ScoredCollector.matches` interleaved with its consumer (`collect_matches` of the
outermost collector): `consume c off p` is what the collector stack does with the yielded posting,
`minOf c` reads `self.minscore` of the scored collector at the bottom of the stack. Every
iteration of the `while matcher.is_active()` loop consumes one `Step` of the schedule.
-/
def matchesLoop {σ : Type} (cfg : Cfg) (consume : σ → Nat → Posting → Except Err σ) (minOf : σ → Rat)
    (off : Nat) (sched : List Step) (m : List Posting) (lv : Locals) (c : σ) (tr : Trace) :
    Except Err (σ × List Step × Trace) :=
  if m.isEmpty then .ok (c, sched, tr) else
  let step := sched.headD Step.none
  let r := replacePhase cfg (minOf c) step m lv tr
  if r.2.2.2 then .ok (c, sched.tail, r.2.2.1) else
  let s := skipPhase step r.1 r.2.1 r.2.2.1
  match hs : s.1 with
  | [] => .ok (c, sched.tail, s.2)     -- the skip ran off the end of the posting list
  | p :: rest =>
    match consume c off p with
    | .error e => .error e
    | .ok c' =>
      -- `checkquality = matcher.next()`
      matchesLoop cfg consume minOf off sched.tail rest { r.2.1 with checkquality := nextFlag rest } c' s.2
termination_by m.length
decreasing_by
  have h1 : r.1.length ≤ m.length := replacePhase_length_le cfg (minOf c) step m lv tr
  have h2 : s.1.length ≤ r.1.length := skipPhase_length_le step r.1 r.2.1 r.2.2.1
  rw [hs] at h2
  simp only [List.length_cons] at h2
  omega

/-- One segment as the collector meets it: document-number offset, the postings the query's
    matcher yields there, and whether that matcher supports block quality. -/
structure Seg where
  off : Nat
  supports : Bool
  postings : List Posting
deriving Repr, Inhabited

/-- `Collector.run`: for each leaf searcher `set_subsearcher` (fresh matcher) and
    `collect_matches` (the generator starts with `minscore = self.minscore`, `replacecounter = 0`,
    `checkquality = True`). -/
def runSegs {σ : Type} (cfg : Cfg) (consume : σ → Nat → Posting → Except Err σ) (minOf : σ → Rat) :
    List Seg → List Step → σ → Trace → Except Err (σ × List Step × Trace)
  | [], sched, c, tr => .ok (c, sched, tr)
  | s :: segs, sched, c, tr =>
    match matchesLoop cfg consume minOf s.off sched s.postings
        { supports := s.supports, minscore := minOf c,
          usequality := useBlockQuality cfg s.supports, replacecounter := 0, checkquality := true } c
        { tr with supports := s.supports } with
    | .error e => .error e
    | .ok (c', sched', tr') => runSegs cfg consume minOf segs sched' c' tr'

/-- The hit a posting becomes in `ScoredCollector.collect`: global document number
    `self.offset + sub_docnum`, score through the weighting's `final()` hook if it has one. -/
def toHit (cfg : Cfg) (final : Nat → Rat → Rat) (off : Nat) (p : Posting) : Hit :=
  ⟨off + p.doc, if cfg.useFinal then final (off + p.doc) p.score else p.score⟩

/-- `ScoredCollector.collect` of a `TopCollector`: `toHit`, then `_collect`. -/
def topConsume (cfg : Cfg) (final : Nat → Rat → Rat) (st : TopState) (off : Nat) (p : Posting) :
    Except Err TopState :=
  st.collect cfg.limit (toHit cfg final off p)

/-- `TopCollector.count()` after the run (`len(results)`): `self.total` when `computes_count()`
    (nothing may have been dropped and the current matcher does not use block quality), otherwise
    `ilen(docs_for_query(q))` = `nAll`. -/
def topCount (cfg : Cfg) (st : TopState) (tr : Trace) (nAll : Nat) : Int :=
  if !(tr.mayHaveDropped || useBlockQuality cfg tr.supports) then st.total else nAll

/-- `searcher.search_with_collector(q, TopCollector(limit, …))` then `results()`. -/
def collectTop (cfg : Cfg) (final : Nat → Rat → Rat) (segs : List Seg) (sched : List Step) :
    Except Err (List Hit) :=
  match runSegs cfg (topConsume cfg final) (fun st => st.minscore) segs sched {} {} with
  | .error e => .error e
  | .ok (st, _, _) => .ok st.results

/-- The hits the query has in the index: every posting of every segment, with global document
    numbers and (if the weighting has one) the `final()` hook applied. -/
def allHits (cfg : Cfg) (final : Nat → Rat → Rat) (segs : List Seg) : List Hit :=
  segs.flatMap fun s => s.postings.map (toHit cfg final s.off)

/-- Global document numbers in the order the collector meets them. -/
def globalDocs (segs : List Seg) : List Nat :=
  segs.flatMap fun s => s.postings.map fun p => s.off + p.doc

/-- `UnlimitedCollector._collect`: append `(score, global_docnum)` (the `docset` is the set of those
    document numbers). `ScoredCollector.collect` applies the `final()` hook first. -/
def unlConsume (cfg : Cfg) (final : Nat → Rat → Rat) (items : List Hit) (off : Nat) (p : Posting) :
    Except Err (List Hit) :=
  .ok (items ++ [toHit cfg final off p])

/-- `search_with_collector(q, UnlimitedCollector(reverse))` then `results()`:
    the same generator (`_use_block_quality()` is `False`, `self.minscore` stays 0, so every
    `replace` gets threshold 0), then `items.sort(key=(0 - score, docnum), reverse=reverse)`;
    the keys are pairwise different, so the reversed sort is the reversed list. -/
def collectUnlimited (replace : Nat) (useFinal : Bool) (final : Nat → Rat → Rat) (reverse : Bool)
    (segs : List Seg) (sched : List Step) : Except Err (List Hit) :=
  let cfg : Cfg := { limit := 0, replace := replace, usequality := false, useFinal := useFinal }
  match runSegs cfg (unlConsume cfg final) (fun _ => 0) segs sched [] {} with
  | .error e => .error e
  | .ok (items, _, _) =>
    let sorted := items.mergeSort rankLe
    .ok (if reverse then sorted.reverse else sorted)

/-! ## Wrapping collectors, sorting, facets, collapsing, results, pages (C14, C05.with_wrappers)

Documents reach these collectors as **global document numbers in collection order**
(`Collector.matches`: ascending inside a segment, segments in offset order); sort keys, facet names
and collapse keys are functions of the document supplied by the caller ("key level": what a
categorizer of `sorting.py` answers for the document).  A sort key is a tuple of numbers
(`MultiCategorizer` tuples; a single facet — a rank, a column number, `0 - score` — is a 1-tuple,
which orders the same way; byte-string keys of text columns are represented by their rank). -/

abbrev Key := List Rat

/-- Python tuple order on numeric tuples (lexicographic, a proper prefix is smaller). -/
def keyLe : Key → Key → Bool
  | [], _ => true
  | _ :: _, [] => false
  | a :: as, b :: bs => decide (a < b) || (a == b && keyLe as bs)

/-- `(sortkey, docnum)` tuples compare by key, then document number. -/
def kdLe (a b : Key × Nat) : Bool :=
  (keyLe a.1 b.1 && !keyLe b.1 a.1) || (keyLe a.1 b.1 && keyLe b.1 a.1 && decide (a.2 ≤ b.2))

/-- `collectors.py: SortingCollector` — `collect` appends `(sortkey, global_docnum)`, `results` does
    `items.sort(reverse=self.reverse)` (a stable descending sort when reversed) and
    `if self.limit: items = items[:self.limit]` (`limit` 0/None keeps everything). -/
def sortingResults (key : Nat → Key) (limit : Option Nat) (reverse : Bool) (docs : List Nat) : List (Key × Nat) :=
  let items := docs.map fun d => (key d, d)
  let sorted := if reverse then items.mergeSort (fun a b => kdLe b a) else items.mergeSort kdLe
  match limit with
  | none => sorted
  | some 0 => sorted
  | some n => sorted.take n

/-- The test of `collectors.py: FilterCollector.collect_matches` (after `fix: an empty filter set …
    allows nothing`): `_allow`/`_restrict` are `None` or id sets;
    `(_allow is not None and docnum not in _allow) or (_restrict is not None and docnum in _restrict)`. -/
def refuses (allow restrict : Option (List Nat)) (g : Nat) : Bool :=
  (match allow with | some a => !a.contains g | none => false) ||
  (match restrict with | some r => r.contains g | none => false)

/-- `FilterCollector.collect_matches`: a document is passed on unless it is refused. Returns the
    passed documents and `filtered_count`. -/
def filterDocs (allow restrict : Option (List Nat)) (docs : List Nat) : List Nat × Nat :=
  (docs.filter fun d => !refuses allow restrict d, (docs.filter fun d => refuses allow restrict d).length)

/-! ### facet maps (`sorting.py`) -/

/-- Insertion-ordered dictionary from group names to values (Python `dict`/`defaultdict`). -/
def dictUpdate {α : Type} (name : Int) (dflt : α) (f : α → α) : List (Int × α) → List (Int × α)
  | [] => [(name, f dflt)]
  | (n, v) :: rest => if n == name then (n, f v) :: rest else (n, v) :: dictUpdate name dflt f rest

/-- `FacetCollector.collect` for one facet: every name of the document (one for an ordinary facet,
    several with `allow_overlap`) gets `add(name, global_docnum, sortkey)`.
    `sorting.py: OrderedList.add` appends `(sortkey, docid)`. -/
def facetAddOrdered (names : List Int) (sortkey : Key) (doc : Nat)
    (m : List (Int × List (Key × Nat))) : List (Int × List (Key × Nat)) :=
  names.foldl (fun m n => dictUpdate n [] (fun l => l ++ [(sortkey, doc)]) m) m

/-- `OrderedList.as_dict`: `[docnum for _, docnum in sorted(items)]` per group. -/
def orderedAsDict (m : List (Int × List (Key × Nat))) : List (Int × List Nat) :=
  m.map fun (n, items) => (n, (items.mergeSort kdLe).map (·.2))

/-- `FacetCollector` + `OrderedList` over the collected documents. `skey d` is what the child
    collector's `collect` returned for `d`. -/
def facetOrdered (names : Nat → List Int) (skey : Nat → Key) (docs : List Nat) : List (Int × List Nat) :=
  orderedAsDict (docs.foldl (fun m d => facetAddOrdered (names d) (skey d) d m) [])

/-- `UnorderedList`: document numbers in collection order. -/
def facetUnordered (names : Nat → List Int) (docs : List Nat) : List (Int × List Nat) :=
  docs.foldl (fun m d => (names d).foldl (fun m n => dictUpdate n [] (fun l => l ++ [d]) m) m) []

/-- `Count`. -/
def facetCount (names : Nat → List Int) (docs : List Nat) : List (Int × Nat) :=
  docs.foldl (fun m d => (names d).foldl (fun m n => dictUpdate n 0 (· + 1) m) m) []

/-- `Best.add`: keep the document with the smallest sort key (`sortkey < bestkeys[name]`, the first
    one on ties). -/
def facetBest (names : Nat → List Int) (skey : Nat → Key) (docs : List Nat) : List (Int × (Key × Nat)) :=
  docs.foldl (fun m d => (names d).foldl (fun m n =>
    dictUpdate n (skey d, d) (fun cur => if keyLe (skey d) cur.1 && !keyLe cur.1 (skey d) then (skey d, d) else cur) m) m) []

/-! ### collapsing -/

/-- `bisect.insort` of `(sortkey, docnum)` into an ascending list (after equal elements). -/
def insortKD (x : Key × Nat) : List (Key × Nat) → List (Key × Nat)
  | [] => [x]
  | y :: ys => if kdLe y x then y :: insortKD x ys else x :: y :: ys

structure CollapseSt where
  /-- `self.lists`: per collapse key the best `(sortkey, docnum)` so far, ascending -/
  lists : List (Int × List (Key × Nat)) := []
  /-- `self.collapsed_counts` -/
  counts : List (Int × Nat) := []
  /-- documents currently held by the child collector, in collection order -/
  kept : List Nat := []
deriving Repr, Inhabited

def dictGet {α : Type} (name : Int) (dflt : α) (m : List (Int × α)) : α :=
  match m.find? (fun p => p.1 == name) with
  | some p => p.2
  | none => dflt

/-- `collectors.py: CollapseCollector.collect` (after `fix: CollapseCollector collapses in
    collect()` and `fix: documents replaced by collapsing are counted…`). `ckey d = none` is a missing/empty
    key (`None`, `''`, `b''`; after `fix: CollapseCollector collapses documents whose key is 0` the
    number 0 is a key like any other). The child collector is abstracted to the list of
    documents it currently holds (`child.collect` appends, `child.remove` deletes). -/
def collapseCollect (ckey : Nat → Option Int) (skey : Nat → Key) (limit : Nat) (st : CollapseSt) (d : Nat) :
    Except Err CollapseSt :=
  match ckey d with
  | none => .ok { st with kept := st.kept ++ [d] }
  | some c =>
    let best := dictGet c [] st.lists
    if best.length < limit then
      .ok { st with lists := dictUpdate c [] (fun _ => insortKD (skey d, d) best) st.lists,
                    kept := st.kept ++ [d] }
    else
      match best.getLast? with
      | none => .error .indexError   -- `best[-1]` with `limit = 0`
      | some worst =>
        if keyLe (skey d) worst.1 && !keyLe worst.1 (skey d) then
          -- `child.remove(best.pop()[1])`, count it, insort, `child.collect`
          .ok { lists := dictUpdate c [] (fun _ => insortKD (skey d, d) best.dropLast) st.lists,
                counts := dictUpdate c 0 (· + 1) st.counts,
                kept := st.kept.filter (· != worst.2) ++ [d] }
        else
          .ok { st with counts := dictUpdate c 0 (· + 1) st.counts }

def collapseRun (ckey : Nat → Option Int) (skey : Nat → Key) (limit : Nat) :
    List Nat → CollapseSt → Except Err CollapseSt
  | [], st => .ok st
  | d :: ds, st =>
    match collapseCollect ckey skey limit st d with
    | .error e => .error e
    | .ok st' => collapseRun ckey skey limit ds st'

/-! ### the wrapper stack of `Searcher.collector` over a `TopCollector` (C05.with_wrappers)

`Searcher.collector` builds `FilterCollector(CollapseCollector(TermsCollector(TopCollector)))`
(each layer optional). `FilterCollector.collect_matches` drives the generator of the bottom
collector and hands the surviving documents to `CollapseCollector.collect`, which talks to the
`TopCollector` through `collect` / `remove` / `sort_key`. `TermsCollector` only records terms. -/

structure Wrap where
  allow : Option (List Nat) := none
  restrict : Option (List Nat) := none
  /-- collapse facet: `ckey` (none = no key: `None`, `''`, `b''`), `limit`, optional order facet -/
  collapse : Option ((Nat → Option Int) × Nat × Option (Nat → Key)) := none

structure StackSt where
  top : TopState := {}
  lists : List (Int × List (Key × Nat)) := []
  counts : List (Int × Nat) := []
  filtered : Nat := 0
deriving Repr, Inhabited

/-- One document through `FilterCollector.collect_matches` → `CollapseCollector.collect` →
    `TopCollector.collect`. -/
def stackConsume (cfg : Cfg) (final : Nat → Rat → Rat) (w : Wrap) (st : StackSt) (off : Nat) (p : Posting) :
    Except Err StackSt :=
  let g := off + p.doc
  if refuses w.allow w.restrict g then .ok { st with filtered := st.filtered + 1 }
  else
    let collectTop := fun (st : StackSt) =>
      match st.top.collect cfg.limit (toHit cfg final off p) with
      | .error e => Except.error e
      | .ok t => Except.ok { st with top := t }
    match w.collapse with
    | none => collectTop st
    | some (ckey, climit, order) =>
      match ckey g with
      | none => collectTop st
      | some c =>
        -- `orderer.key_for(...)` or `child.sort_key(sub_docnum)` = `0 - self.matcher.score()`
        let sortkey : Key := match order with
          | some o => o g
          | none => [0 - p.score]
        let best := dictGet c [] st.lists
        if best.length < climit then
          collectTop { st with lists := dictUpdate c [] (fun _ => insortKD (sortkey, g) best) st.lists }
        else
          match best.getLast? with
          | none => .error .indexError
          | some worst =>
            if keyLe sortkey worst.1 && !keyLe worst.1 sortkey then
              collectTop { st with top := st.top.remove worst.2,
                                   lists := dictUpdate c [] (fun _ => insortKD (sortkey, g) best.dropLast) st.lists,
                                   counts := dictUpdate c 0 (· + 1) st.counts }
            else
              .ok { st with counts := dictUpdate c 0 (· + 1) st.counts }

/-- `search(q, limit=k, filter=…, mask=…, collapse=…, collapse_limit=…, collapse_order=…)`. -/
def collectStack (cfg : Cfg) (final : Nat → Rat → Rat) (w : Wrap) (segs : List Seg) (sched : List Step) :
    Except Err (List Hit × StackSt × Trace) :=
  match runSegs cfg (stackConsume cfg final w) (fun st => st.top.minscore) segs sched {} {} with
  | .error e => .error e
  | .ok (st, _, tr) => .ok (st.top.results, st, tr)

/-! ### `filter=` / `mask=` given as an object: `Searcher._filter_to_comb`, `Results.docs()` -/

/-- What `Results.docs()` reads of a `whoosh.searching.Results` object: the hit list `top_n`, the
    `docset` attribute (`None` in the object a `TopCollector` returns — it "can skip blocks, it doesn't
    track the total number of matching documents" —, the set of collected documents in the object a
    `SortingCollector` / `UnlimitedCollector` returns) and what `collector.all_ids()` yields when it is
    asked (`TopCollector.all_ids`: `top_searcher.docs_for_query(self.q)`, the query is run again). -/
structure ResultsObj where
  topN : List Hit
  docset : Option (List Nat)
  allIds : List Nat
deriving Repr, Inhabited

/-- `searching.py Results.docs`: `if self.docset is None: self.docset = set(self.collector.all_ids())`,
    `return self.docset`. Returns the set and the object as it is afterwards (the set is remembered). -/
def ResultsObj.docs (r : ResultsObj) : List Nat × ResultsObj :=
  match r.docset with
  | some s => (s, r)
  | none => (r.allIds, { r with docset := some r.allIds })

/-- `TopCollector.results()`: `Results(searcher, q, top_n)` without a docset; `all_ids()` re-runs the
    query over every segment (`docs_for_query`). -/
def topResultsObj (hits : List Hit) (segs : List Seg) : ResultsObj :=
  { topN := hits, docset := none, allIds := globalDocs segs }

/-- `search(fq, limit=k)` (scored) as a `Results` object. -/
def searchTopObj (cfg : Cfg) (final : Nat → Rat → Rat) (segs : List Seg) (sched : List Step) :
    Except Err ResultsObj :=
  match collectTop cfg final segs sched with
  | .error e => .error e
  | .ok hits => .ok (topResultsObj hits segs)

/-- `search(fq, limit=None)` as a `Results` object: `UnlimitedCollector.results()` passes
    `docset=self.docset`, the documents it collected. -/
def searchUnlimitedObj (replace : Nat) (useFinal : Bool) (final : Nat → Rat → Rat) (reverse : Bool)
    (segs : List Seg) (sched : List Step) : Except Err ResultsObj :=
  match collectUnlimited replace useFinal final reverse segs sched with
  | .error e => .error e
  | .ok items => .ok { topN := items, docset := some (items.map (·.doc)), allIds := items.map (·.doc) }

/-- What can be handed to `filter=` / `mask=` (`FilterCollector(child, allow, restrict)`). -/
inductive FilterObj where
  | absent                        -- `None`
  | ids (s : List Nat)            -- a `set` / `DocIdSet` of document numbers
  | results (r : ResultsObj)      -- a `Results` object
  | page (r : ResultsObj)         -- a `ResultsPage` (`obj.results` is the `Results` object)
  | query (matched : List Nat)    -- a `query.Query`, with what `docs_for_query` yields for it
  | other                         -- anything else
deriving Repr, Inhabited

inductive FilterErr where
  | unknownObject   -- `Exception("Don't know what to do with filter object %r")`
deriving DecidableEq, Repr

/-- `searching.py Searcher._filter_to_comb`: `None` stays `None`; a set is taken as it is; a `Results`
    object stands for `obj.docs()`, a `ResultsPage` for `obj.results.docs()`; a query is run
    (`_query_to_comb`: `BitSet(self.docs_for_query(fq))`); anything else raises. -/
def filterToComb : FilterObj → Except FilterErr (Option (List Nat))
  | .absent => .ok none
  | .ids s => .ok (some s)
  | .results r => .ok (some r.docs.1)
  | .page r => .ok (some r.docs.1)
  | .query matched => .ok (some matched)
  | .other => .error .unknownObject

/-- `search(q, limit=k, filter=f, mask=m)`: `FilterCollector.prepare` turns both objects into sets
    (`self._allow = ftc(allow) if allow is not None else None`, the same for `restrict`), then the stack
    `FilterCollector(TopCollector)` runs. -/
def searchFilterObjs (cfg : Cfg) (final : Nat → Rat → Rat) (f m : FilterObj) (segs : List Seg) (sched : List Step) :
    Except FilterErr (Except Err (List Hit × StackSt × Trace)) :=
  match filterToComb f with
  | .error e => .error e
  | .ok allow =>
    match filterToComb m with
    | .error e => .error e
    | .ok restrict => .ok (collectStack cfg final { allow := allow, restrict := restrict } segs sched)

/-! ### `searching.py: ResultsPage.__init__` -/

structure Page where
  total : Nat
  pagecount : Nat
  pagenum : Nat
  offset : Nat
  pagelen : Nat
deriving Repr, DecidableEq

inductive PageErr where
  | valueError         -- `pagenum < 1`
  | zeroDivisionError  -- `pagelen = 0`
deriving Repr, DecidableEq

/-- `ResultsPage(results, pagenum, pagelen)` (after `fix: ResultsPage of an empty result set…`):
    `pagecount = ceil(total / pagelen)`, `pagenum = min(pagecount, pagenum)`,
    `offset = max(0, (pagenum - 1) * pagelen)`, the last page is shortened. (`total / pagelen` is a
    float division in Python; exact below 2^53.) -/
def mkPage (total pagenum pagelen : Nat) : Except PageErr Page :=
  if pagenum < 1 then .error .valueError
  else if pagelen = 0 then .error .zeroDivisionError
  else
    let pagecount := (total + pagelen - 1) / pagelen
    let pn := min pagecount pagenum
    let offset := (pn - 1) * pagelen
    let plen := if offset + pagelen > total then total - offset else pagelen
    .ok { total := total, pagecount := pagecount, pagenum := pn, offset := offset, pagelen := plen }

/-- `Searcher.search_page`: `search(limit = pagenum * pagelen)` then the page;
    `ResultsPage.__iter__` is `results[offset : offset + pagelen]`. -/
def pageHits {α : Type} (ranking : List α) (pagenum pagelen : Nat) : Except PageErr (List α) :=
  match mkPage ranking.length pagenum pagelen with
  | .error e => .error e
  | .ok p => .ok (((ranking.take (pagenum * pagelen)).drop p.offset).take p.pagelen)

/-! ### the un-scored stack `FilterCollector(CollapseCollector(SortingCollector))` and `search_page`

`Searcher.search(q, sortedby=…, reverse=…, limit=…, filter=…, mask=…, collapse=…, collapse_limit=…,
collapse_order=…)`: `Searcher.collector` builds `SortingCollector(sortedby, limit, reverse)`, wraps it in a
`CollapseCollector` and that in a `FilterCollector`. `FilterCollector.collect_matches` refuses documents
*before* the collapser sees them; `CollapseCollector.collect` orders the documents of a key by
`orderer.key_for` or, without `collapse_order`, by `child.sort_key` — `SortingCollector.sort_key` is the
categorizer's key whatever `reverse` says —, talks to the child through `collect`/`remove`
(`SortingCollector.collect` appends, `Collector.remove` pops the pair and discards the document from
`docset`), and `SortingCollector.results` sorts what is left. -/

structure View where
  /-- the `sortedby` key of a document -/
  key : Nat → Key
  limit : Option Nat := none
  reverse : Bool := false
  allow : Option (List Nat) := none
  restrict : Option (List Nat) := none
  /-- collapse facet: `ckey` (none = no key), `collapse_limit`, optional `collapse_order` facet -/
  collapse : Option ((Nat → Option Int) × Nat × Option (Nat → Key)) := none

/-- What the caller sees of a sorted search. -/
structure ViewResult where
  /-- `results.top_n` as `(sortkey, docnum)` -/
  items : List (Key × Nat)
  /-- `len(results)`: `count()` through the wrappers = `len(docset)` of the `SortingCollector` -/
  len : Nat
  /-- `results.filtered_count` -/
  filtered : Nat
  /-- `results.collapsed_counts` -/
  counts : List (Int × Nat)
deriving Repr

/-- `search(q, sortedby=…, …)` over the matched documents in collection order. -/
def searchSorted (v : View) (docs : List Nat) : Except Err ViewResult :=
  let f := filterDocs v.allow v.restrict docs
  match v.collapse with
  | none =>
    .ok { items := sortingResults v.key v.limit v.reverse f.1, len := f.1.length, filtered := f.2, counts := [] }
  | some (ckey, climit, order) =>
    match collapseRun ckey (order.getD v.key) climit f.1 {} with
    | .error e => .error e
    | .ok st =>
      .ok { items := sortingResults v.key v.limit v.reverse st.kept, len := st.kept.length, filtered := f.2,
            counts := st.counts }

/-- Errors of `Searcher.search_page`. -/
inductive PageViewErr where
  | page (e : PageErr)   -- `ValueError("pagenum must be >= 1")`, `ZeroDivisionError` of `ResultsPage`
  | limit                -- `pagelen = 0`: `search(limit=0)` → `ValueError("limit must be >= 1")`
  | collect (e : Err)
deriving Repr, DecidableEq

/-- `searching.py: Searcher.search_page(q, pagenum, pagelen, sortedby=…, …)`: `pagenum < 1` raises,
    `results = self.search(q, limit=pagenum * pagelen, **kwargs)` (`Searcher.collector` rejects
    `limit < 1`), then `ResultsPage(results, pagenum, pagelen)` whose `total` is `len(results)` and whose
    hits are `results[offset : offset + pagelen]` (`Results.__getitem__` on `top_n`). -/
def searchPageSorted (v : View) (docs : List Nat) (pagenum pagelen : Nat) :
    Except PageViewErr (Page × List (Key × Nat)) :=
  if pagenum < 1 then .error (.page .valueError)
  else if pagenum * pagelen < 1 then .error .limit
  else
    match searchSorted { v with limit := some (pagenum * pagelen) } docs with
    | .error e => .error (.collect e)
    | .ok r =>
      match mkPage r.len pagenum pagelen with
      | .error e => .error (.page e)
      | .ok p => .ok (p, (r.items.drop p.offset).take p.pagelen)

/-! ### `sorting.py: PostingCategorizer` -/

/-- The cached order array: `array[docid] = i` for every posting of the `i`-th sortable term (later
    terms overwrite earlier ones), `dc + 1` for documents without a term. `terms` are the posting
    lists in sorted term order. -/
def postingArray (dc : Nat) (terms : List (List Nat)) : List Nat :=
  let init := List.replicate dc (dc + 1)
  (terms.zipIdx.foldl (fun arr (ps, i) => ps.foldl (fun arr d => arr.set d i) arr) init)

/-- `PostingCategorizer.key_for` (`reverse`: `len(values) - i`). The key is an `Int`: a reversed
    "no value" marker is negative. -/
def postingKey (nvalues : Nat) (reverse : Bool) (i : Nat) : Int :=
  if reverse then (nvalues : Int) - (i : Int) else (i : Int)

/-- `PostingCategorizer.key_to_name` (after `fix: PostingCategorizer.key_to_name un-reverses…`):
    the index of the value, `none` for "no value". A negative index (never produced by `key_for`)
    is Python's indexing from the end, or `IndexError`. -/
def postingKeyToName (nvalues : Nat) (reverse : Bool) (k : Int) : Except Err (Option Nat) :=
  let i := if reverse then (nvalues : Int) - k else k
  if i ≥ (nvalues : Int) then .ok none
  else if 0 ≤ i then .ok (some i.toNat)
  else if -i ≤ (nvalues : Int) then .ok (some ((nvalues : Int) + i).toNat)
  else .error .indexError

end WM.Collect
