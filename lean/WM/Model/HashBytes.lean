import WM.Model.HashFile
/-
Byte level of `whoosh/filedb/structfile.py` (`StructFile.write_byte/int/uint/ushort/long`,
`read_*`, `get/get_*`, `write_varint/read_varint`, `write_string/read_string` — all of them
`struct.pack`/`unpack` with the big-endian standard-size formats `!B !H !i !I !q`) and of the hash
file of `whoosh/filedb/filetables.py`: the header (`magic`, hash type byte, two unused ints), the
`_lengths = "!ii"` records, the `_pointer = "!Iq"` hash-table slots, the `_dir_entry = "!qi"`
directory, the extras blob and its trailing length; `HashReader.__init__`,
`_ranges/items` and `ranges_for_key/all` reading those bytes.

A file is a `List Nat` of bytes.  The pickled extras (and, for an ordered file, the position index
that follows the pickle inside the "extras" region) are an opaque blob.
-/
namespace WM.StructFile
open WM.IdSets (Err)
open WM.NumLists (TC encodeBE decodeBE toUnsigned fromUnsigned)

abbrev Bytes := List Nat

/-- `struct.Struct("!" + tc).pack(n)`: `struct.error` when `n` is outside the format. -/
def pack (tc : TC) (n : Int) : Except Err Bytes :=
  if tc.fits n then .ok (encodeBE tc.size (toUnsigned tc.size n)) else .error .struct

/-- `struct.Struct("!" + tc).unpack(bs)[0]`: a buffer of another length is `struct.error`. -/
def unpack (tc : TC) (bs : Bytes) : Except Err Int :=
  if bs.length = tc.size then
    .ok (if tc.signed then fromUnsigned tc.size (decodeBE bs) else (decodeBE bs : Int))
  else .error .struct

/-- a two-field struct (`"!ii"`, `"!Iq"`, `"!qi"`; standard sizes, no padding). -/
def pack2 (t1 t2 : TC) (a b : Int) : Except Err Bytes := do
  let x ← pack t1 a
  let y ← pack t2 b
  .ok (x ++ y)

def unpack2 (t1 t2 : TC) (bs : Bytes) : Except Err (Int × Int) :=
  if bs.length = t1.size + t2.size then do
    let a ← unpack t1 (bs.take t1.size)
    let b ← unpack t2 (bs.drop t1.size)
    .ok (a, b)
  else .error .struct

/-- `dbfile.get(position, length)` (`seek` + `read`): what is there, shorter at the end of the file. -/
def get (file : Bytes) (pos len : Nat) : Bytes := (file.drop pos).take len

/-- `get_byte/get_ushort/get_int/get_uint/get_long(position)` for `tc = B/H/i/I/q`. -/
def getNum (tc : TC) (file : Bytes) (pos : Nat) : Except Err Int := unpack tc (get file pos tc.size)

/-- `write_byte/write_ushort/write_int/write_uint/write_long(n)`: the bytes appended. -/
def writeNum (tc : TC) (n : Int) : Except Err Bytes := pack tc n

/-- `read_byte/read_ushort/read_int/read_uint/read_long()`: the number and the unread rest. -/
def readNum (tc : TC) (bs : Bytes) : Except Err (Int × Bytes) :=
  (unpack tc (bs.take tc.size)).map fun n => (n, bs.drop tc.size)

/-- `write_varint(i)` / `read_varint()`. -/
def writeVarint (i : Nat) : Bytes := WM.Varint.encode i
def readVarint (bs : Bytes) : Option (Nat × Bytes) := WM.Varint.decode bs

/-- `write_string(s)`: varint length, then the bytes. -/
def writeString (s : Bytes) : Bytes := writeVarint s.length ++ s
/-- `read_string()`: `self.read(self.read_varint())`. -/
def readString (bs : Bytes) : Option (Bytes × Bytes) :=
  (readVarint bs).map fun (n, rest) => (rest.take n, rest.drop n)

/-- A number read from the file and then used as a position or length.  Only a corrupt file holds a
    negative one (the code would go on with a negative `seek`/`read` argument; not modelled further,
    reported as `value`). -/
def asNat (n : Int) : Except Err Nat := if n < 0 then .error .value else .ok n.toNat

def unpack2N (t1 t2 : TC) (bs : Bytes) : Except Err (Nat × Nat) := do
  let (a, b) ← unpack2 t1 t2 bs
  .ok (← asNat a, ← asNat b)

def getNat (tc : TC) (file : Bytes) (pos : Nat) : Except Err Nat := do asNat (← getNum tc file pos)

end WM.StructFile

namespace WM.HashBytes
open WM.IdSets (Err)
open WM.NumLists (TC encodeBE)
open WM.StructFile
open WM.HashFile

/-- two non-negative numbers inside their formats, as `pack2` lays them out
    (`WM.StructFile.pack2_nat`: this *is* `pack2` when both fit) -/
def enc2 (t1 t2 : TC) (a b : Nat) : Bytes := encodeBE t1.size a ++ encodeBE t2.size b

/-- `HashWriter.__init__`: `write(magic); write_byte(hashtype); write_int(0); write_int(0)` -/
def headerBytes (magic : Bytes) (hashtype : Nat) : Bytes :=
  magic ++ encodeBE 1 hashtype ++ encodeBE 4 0 ++ encodeBE 4 0

/-- `HashWriter.add`: `_lengths.pack(len(key), len(value)) + key + value` -/
def recBytes (r : Rec Bytes) : Bytes := enc2 .i .i r.key.length r.val.length ++ r.key ++ r.val

/-- `_pointer.pack(hashval, position)` -/
def slotBytes (s : Slot) : Bytes := enc2 .I .q s.1 s.2

/-- `_dir_entry.pack(position, numslots)` -/
def dirEntryBytes (e : Nat × Nat) : Bytes := enc2 .q .i e.1 e.2

/-- `self.directory` after `_write_hashes`: `(dbfile.tell(), numslots)` before each table is
    written, `pos` = `dbfile.tell()`. -/
def dirFrom : Nat → List (List Slot) → List (Nat × Nat)
  | _, [] => []
  | pos, t :: ts => (pos, t.length) :: dirFrom (pos + pointerSize * t.length) ts

def directory (f : File Bytes) : List (Nat × Nat) := dirFrom f.endofdata f.tables

def directorySize : Nat := 256 * 12

/-- Everything `HashWriter` writes from `startoffset` on (`pre` = the bytes already in the file):
    header, records, the hash tables, the directory, the extras region, its length. -/
def fileBytes (magic : Bytes) (hashtype : Nat) (extras pre : Bytes) (f : File Bytes) : Bytes :=
  pre ++ headerBytes magic hashtype ++ f.recs.flatMap recBytes ++ f.tables.flatten.flatMap slotBytes
    ++ (directory f).flatMap dirEntryBytes ++ extras ++ encodeBE 4 extras.length

/-- what `HashReader.__init__` keeps -/
structure Reader where
  file : Bytes
  startoffset : Nat
  hashtype : Nat
  startofdata : Nat
  endofdata : Nat
  /-- `self.tables`: `(position, numslots)` × 256 -/
  tables : List (Nat × Nat)
  /-- start and length of the extras region -/
  expos : Nat
  exlen : Nat
  deriving Repr

/-- `HashReader(dbfile, length, magic, startoffset)`.  A wrong magic is `FileFormatError`
    (`value`); `length` is the length of the file data from `startoffset` (default: to the end). -/
def openReader (magic file : Bytes) (startoffset length : Nat) : Except Err Reader := do
  if get file startoffset 4 ≠ magic then .error .value
  else
    let hashtype ← getNat .B file (startoffset + 4)
    let _ ← getNum .i file (startoffset + 5)
    let _ ← getNum .i file (startoffset + 9)
    if startoffset + length < 4 then .error .value
    else
      let exptr := startoffset + length - 4
      let exlen ← getNat .i file exptr
      if exptr < exlen + directorySize then .error .value
      else
        let expos := exptr - exlen
        let dirbase := expos - directorySize
        let tables ← (List.range 256).mapM fun b => unpack2N .q .i (get file (dirbase + b * 12) 12)
        match tables.head? with
        | none => .error .index
        | some t0 =>
          .ok { file := file, startoffset := startoffset, hashtype := hashtype,
                startofdata := startoffset + 13, endofdata := t0.1, tables := tables,
                expos := expos, exlen := exlen }

/-- `HashReader._ranges()` + `items()`: walk the records from `pos` to `endofdata`.  The fuel is the
    number of bytes left (every record takes at least the 8 length bytes). -/
def itemsFrom (r : Reader) : Nat → Nat → Except Err (List (Bytes × Bytes))
  | _, 0 => .ok []
  | pos, fuel + 1 =>
    if pos < r.endofdata then do
      let (keylen, datalen) ← unpack2N .i .i (get r.file pos 8)
      let rest ← itemsFrom r (pos + 8 + keylen + datalen) fuel
      .ok ((get r.file (pos + 8) keylen, get r.file (pos + 8 + keylen) datalen) :: rest)
    else .ok []

def items (r : Reader) : Except Err (List (Bytes × Bytes)) := itemsFrom r r.startofdata (r.endofdata + 1)

/-- the probe loop of `ranges_for_key` followed by `all`'s `dbfile.get(datapos, datalen)`:
    `slot` is `(slotpos - tablestart) / ptrsize`, wrapping as the code wraps `slotpos`. -/
def scanBytes (file : Bytes) (tablestart numslots keyhash : Nat) (key : Bytes) :
    Nat → Nat → Except Err (List Bytes)
  | _, 0 => .ok []
  | slot, fuel + 1 => do
    let (slothash, itempos) ← unpack2N .I .q (get file (tablestart + slot * 12) 12)
    if itempos = 0 then .ok []
    else
      let rest ← scanBytes file tablestart numslots keyhash key (nextSlot numslots slot) fuel
      if slothash = keyhash then
        let (keylen, datalen) ← unpack2N .i .i (get file itempos 8)
        if keylen = key.length then
          if key = get file (itempos + 8) keylen then
            .ok (get file (itempos + 8 + keylen) datalen :: rest)
          else .ok rest
        else .ok rest
      else .ok rest

/-- `list(HashReader.all(key))` on the bytes. -/
def allBytes (hash : Key → Nat) (r : Reader) (key : Bytes) : Except Err (List Bytes) :=
  let keyhash := hash key
  match r.tables[keyhash % 256]? with
  | none => .error .index
  | some (tablestart, numslots) =>
    if numslots = 0 then .ok []
    else scanBytes r.file tablestart numslots keyhash key ((keyhash / 256) % numslots) numslots

end WM.HashBytes
