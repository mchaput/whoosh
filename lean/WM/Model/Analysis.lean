/-
Executable mirror of the part of `whoosh.analysis` that C17 reasons about, of the position /
character recording of `whoosh.formats` and of `highlight.Formatter.format_fragment`:

* `analysis/tokenizers.py`: `RegexTokenizer.__call__` (non-gaps `finditer` branch) for the three
  shipped expressions — the default pattern `\w+(\.?\w+)*`, `SpaceSeparatedTokenizer`
  (`[^ \t\r\n]+`), `CommaSeparatedTokenizer` (`[^,]+`) — and for `\S+`, as scanners, `IDTokenizer.__call__`;
* `analysis/filters.py`: `LowercaseFilter`, `StripFilter`, `PassFilter`, `StopFilter.__call__`
  (with `renumber`, `minsize`, `maxsize`, `removestops`), `CharsetFilter` / `ReverseTextFilter` /
  `SubstitutionFilter` (a string function as parameter), `MultiFilter.__call__` (the filter is chosen
  by the stream's `mode`), `DelimitedAttributeFilter.__call__` (text and character range cut at the
  delimiter; the attribute value itself is not modelled);
* `analysis/morph.py`: `StemFilter.__call__` (the stemming function as parameter);
* `analysis/ngrams.py`: `NgramTokenizer.__call__`, `NgramFilter.__call__` (both modes, `at`);
* `analysis/intraword.py`: `BiWordFilter.__call__`;
* `formats.py`: `Positions.word_values`, `Characters.word_values` (what is recorded per term);
* `highlight.py`: `Formatter.format_fragment`.

Characters arrive classified by Python (`\w`, white space, `str.lower()`), so the Unicode tables
are Python's; the four regular expressions are implemented as scanners.
Tokens always carry positions and character offsets (`positions=True, chars=True`,
`start_pos = start_char = 0`).
-/
namespace WM.Analysis

abbrev Str := List Nat

/-- a source character with the classifications the modelled code asks Python for -/
structure CChar where
  code : Nat
  /-- matches `\w` (re.UNICODE): alphanumeric or underscore -/
  word : Bool
  /-- `str.isspace()` (what `str.strip()` removes) -/
  space : Bool
  /-- `ch.lower()` -/
  lower : Str
  deriving Repr, Inhabited

structure Token where
  text : Str
  pos : Nat
  startchar : Nat
  endchar : Nat
  stopped : Bool := false
  deriving Repr, Inhabited, DecidableEq

/-- `text[a:b]` for `0 ≤ a`, `0 ≤ b` -/
def slice {α} (l : List α) (a b : Nat) : List α := (l.drop a).take (b - a)

/-! ## Regular-expression tokenizers as scanners -/

inductive Pat
  /-- `\w+(\.?\w+)*` -/
  | default
  /-- `[^ \t\r\n]+` -/
  | space
  /-- `[^,]+` -/
  | comma
  /-- `\S+` (not `str.isspace`) -/
  | nonspace
  deriving DecidableEq, Repr, Inhabited

/-- length of the longest prefix whose characters all satisfy `p` -/
def runLen (p : CChar → Bool) : List CChar → Nat
  | [] => 0
  | c :: rest => if p c then 1 + runLen p rest else 0

/-- `(\.?\w+)*` after a maximal `\w+`: every iteration needs a dot followed by at least one word
    character (the empty alternative of `\.?` cannot start an iteration because the preceding
    `\w+` was maximal) -/
def dotRuns (cs : List CChar) : Nat :=
  match cs with
  | c :: rest =>
    if c.code = 46 then
      let m := runLen (·.word) rest
      if 0 < m then 1 + m + dotRuns (rest.drop m) else 0
    else 0
  | [] => 0
termination_by cs.length
decreasing_by simp_wf; omega

def isSpace4 (c : CChar) : Bool := c.code = 32 || c.code = 9 || c.code = 13 || c.code = 10

/-- length of the match of the pattern at the beginning of `cs` (0 = no match) -/
def matchLen (p : Pat) (cs : List CChar) : Nat :=
  match p with
  | .default =>
    let n := runLen (·.word) cs
    if 0 < n then n + dotRuns (cs.drop n) else 0
  | .space => runLen (fun c => !isSpace4 c) cs
  | .comma => runLen (fun c => c.code != 44) cs
  | .nonspace => runLen (fun c => !c.space) cs

/-- `expression.finditer(value)`: the spans of the successive matches; `off` is the index of the
    first character of `cs` in the whole text -/
def scan (p : Pat) (cs : List CChar) (off : Nat) : List (Nat × Nat) :=
  match cs with
  | [] => []
  | c :: rest =>
    let n := matchLen p (c :: rest)
    if 0 < n then (off, off + n) :: scan p ((c :: rest).drop n) (off + n)
    else scan p rest (off + 1)
termination_by cs.length
decreasing_by
  all_goals simp_wf
  all_goals omega

/-- `for pos, match in enumerate(...)`: one token per match -/
def spansToTokens (text : List CChar) : List (Nat × Nat) → Nat → List Token
  | [], _ => []
  | (a, b) :: rest, pos =>
    { text := (slice text a b).map (·.code), pos := pos, startchar := a, endchar := b } ::
      spansToTokens text rest (pos + 1)

/-- `RegexTokenizer(expr)(value, positions=True, chars=True)` -/
def regexTokenizer (p : Pat) (text : List CChar) : List Token :=
  spansToTokens text (scan p text 0) 0

/-- `IDTokenizer()(value, positions=True, chars=True)` (note `t.pos = start_pos + 1`) -/
def idTokenizer (text : List CChar) : List Token :=
  [{ text := text.map (·.code), pos := 1, startchar := 0, endchar := text.length }]

/-! ## Filters -/

/-- the character tables the text-changing filters need, by code point -/
structure Tables where
  lower : Nat → Str
  space : Nat → Bool

/-- `LowercaseFilter` -/
def lowercase (tb : Tables) (ts : List Token) : List Token :=
  ts.map fun t => { t with text := t.text.flatMap tb.lower }

/-- `str.strip()` -/
def stripStr (tb : Tables) (s : Str) : Str :=
  ((s.dropWhile tb.space).reverse.dropWhile tb.space).reverse

/-- `StripFilter` (the offsets are left alone) -/
def strip (tb : Tables) (ts : List Token) : List Token :=
  ts.map fun t => { t with text := stripStr tb t.text }

structure StopCfg where
  stops : List Str
  minsize : Nat
  maxsize : Option Nat
  renumber : Bool
  /-- the `removestops` flag the tokens carry -/
  removestops : Bool
  deriving Repr, Inhabited

def StopCfg.keeps (c : StopCfg) (text : Str) : Bool :=
  decide (c.minsize ≤ text.length) &&
  (match c.maxsize with
   | none => true
   | some m => decide (text.length ≤ m)) &&
  !c.stops.contains text

/-- `StopFilter.__call__`; `pos` is the filter's `pos` variable (`None` until the first kept token) -/
def stopFilter (c : StopCfg) : List Token → Option Nat → List Token
  | [], _ => []
  | t :: rest, pos =>
    if c.keeps t.text then
      if c.renumber then
        match pos with
        | none => { t with stopped := false } :: stopFilter c rest (some t.pos)
        | some p => { t with pos := p + 1, stopped := false } :: stopFilter c rest (some (p + 1))
      else { t with stopped := false } :: stopFilter c rest pos
    else
      if !c.removestops then { t with stopped := true } :: stopFilter c rest pos
      else stopFilter c rest pos

inductive Mode | index | query
  deriving DecidableEq, Repr, Inhabited

/-- `range(a, b)` -/
def pyRange (a b : Nat) : List Nat := (List.range (b - a)).map (· + a)

/-- `NgramFilter.at`: -1 start, 1 end, 0 all -/
inductive At | start | «end» | all
  deriving DecidableEq, Repr, Inhabited

/-- the grams `NgramFilter` makes of one token -/
def ngramsOf (min max : Nat) (at_ : At) (mode : Mode) (t : Token) : List Token :=
  let text := t.text
  let len := text.length
  if len < min then [] else
  match mode with
  | .query =>
    let size := Nat.min max len
    match at_ with
    | .start => [{ t with text := text.take size, endchar := t.startchar + size }]
    | .end => [{ t with text := text.drop (len - size), startchar := t.endchar - size }]
    | .all => (pyRange 0 (len - size + 1)).map fun start =>
        { t with text := slice text start (start + size), startchar := t.startchar + start,
                 endchar := t.startchar + start + size }
  | .index =>
    match at_ with
    | .start => (pyRange min (Nat.min max len + 1)).map fun size =>
        { t with text := text.take size, endchar := t.startchar + size }
    | .end => (pyRange (len - max) (len - min + 1)).map fun i =>
        { t with text := text.drop i, startchar := t.startchar + i }
    | .all => (pyRange 0 (len - min + 1)).flatMap fun start =>
        (pyRange min (max + 1)).filterMap fun size =>
          if start + size > len then none
          else some { t with text := slice text start (start + size), startchar := t.startchar + start,
                             endchar := t.startchar + start + size }

/-- `NgramFilter(min, max, at)` -/
def ngramFilter (min max : Nat) (at_ : At) (mode : Mode) (ts : List Token) : List Token :=
  ts.flatMap (ngramsOf min max at_ mode)

/-- `NgramTokenizer(min, max)(value, mode=...)` (with the repaired query branch: no gram below
    `min`) -/
def ngramTokenizer (min max : Nat) (mode : Mode) (text : List CChar) : List Token :=
  let codes := text.map (·.code)
  let len := codes.length
  match mode with
  | .query =>
    let size := Nat.min max len
    if size < min then [] else
    (pyRange 0 (len - size + 1)).map fun start =>
      { text := slice codes start (start + size), pos := start, startchar := start, endchar := start + size }
  | .index =>
    (pyRange 0 (len - min + 1)).flatMap fun start =>
      (pyRange min (max + 1)).filterMap fun size =>
        if start + size > len then none
        else some { text := slice codes start (start + size), pos := start, startchar := start,
                    endchar := start + size }

/-- `BiWordFilter(sep)`: `prev` holds (text, startchar, pos) of the previous token -/
def biwordLoop (sep : Str) : List Token → Option (Str × Nat × Nat) → List Token
  | [], _ => []
  | t :: rest, none => biwordLoop sep rest (some (t.text, t.startchar, t.pos))
  | t :: rest, some (ptext, pstart, ppos) =>
    { t with text := ptext ++ sep ++ t.text, startchar := pstart, pos := ppos } ::
      biwordLoop sep rest (some (t.text, t.startchar, t.pos))

/-- `BiWordFilter.__call__`: a stream with a single token passes it on (none: nothing, after the
    repair) -/
def biword (sep : Str) (ts : List Token) : List Token :=
  match ts with
  | [] => []
  | [t] => [t]
  | ts => biwordLoop sep ts none

/-! ## Analyzers as chains -/

inductive Tokenizer
  | regex (p : Pat)
  | id
  | ngram (min max : Nat)
  deriving Repr, Inhabited

/-- the filters that rewrite a token's text and nothing else (`CharsetFilter`: `text.translate(charmap)`,
    `ReverseTextFilter`: `text[::-1]`, `SubstitutionFilter`: `pattern.sub(replacement, text)`); the
    string function is a parameter -/
def mapText (fn : Str → Str) (ts : List Token) : List Token :=
  ts.map fun t => { t with text := fn t.text }

/-- `StemFilter.__call__`: stopped tokens and the words of `ignore` are passed through unchanged;
    the stemming function (and its cache, which cannot change a result) is a parameter -/
def stemFilter (fn : Str → Str) (ignore : List Str) (ts : List Token) : List Token :=
  ts.map fun t => if t.stopped || ignore.contains t.text then t else { t with text := fn t.text }

/-- `str.find(sub)`: index of the first occurrence (`none` for -1; `"".find("")` is 0) -/
def findSub (sub : Str) : Str → Option Nat
  | [] => if sub = [] then some 0 else none
  | c :: rest => if sub.isPrefixOf (c :: rest) then some 0 else (findSub sub rest).map (· + 1)

/-- `DelimitedAttributeFilter(delimiter)` (analysis/filters.py `DelimitedAttributeFilter.__call__`):
    a token whose text contains the delimiter keeps the text before its first occurrence and gives
    up the rest of its character range (`t.endchar -= len(t.text) - pos`, with Python's integers:
    no truncation at 0); the attribute it sets from the rest (`type_(text[pos + 1:])`, which may
    raise for a type other than `str`) is not part of the modelled `Token` -/
def delimited (delim : Str) (ts : List Token) : List Token :=
  ts.map fun t =>
    match findSub delim t.text with
    | some p => { t with text := t.text.take p, endchar := t.endchar - (t.text.length - p) }
    | none => t

inductive Filter
  | lowercase | strip | pass
  | stop (c : StopCfg)
  | ngram (min max : Nat) (at_ : At)
  | biword (sep : Str)
  | mapText (fn : Str → Str)
  | stem (fn : Str → Str) (ignore : List Str)
  /-- `MultiFilter(index=..., query=...)`; a mode without entry gets `default_filter = PassFilter()` -/
  | multi (index query : Filter)
  /-- `DelimitedAttributeFilter(delimiter=delim)` -/
  | delimited (delim : Str)
  deriving Inhabited

def runTokenizer (tk : Tokenizer) (mode : Mode) (text : List CChar) : List Token :=
  match tk with
  | .regex p => regexTokenizer p text
  | .id => idTokenizer text
  | .ngram a b => ngramTokenizer a b mode text

def runFilter (tb : Tables) (mode : Mode) (f : Filter) (ts : List Token) : List Token :=
  match f with
  | .lowercase => lowercase tb ts
  | .strip => strip tb ts
  | .pass => ts
  | .stop c => stopFilter c ts none
  | .ngram a b at_ => ngramFilter a b at_ mode ts
  | .biword sep => biword sep ts
  | .mapText fn => mapText fn ts
  | .stem fn ignore => stemFilter fn ignore ts
  | .delimited d => delimited d ts
  | .multi fi fq =>
    -- MultiFilter.__call__: "only selects on the first token"; no token at all: nothing
    match ts with
    | [] => []
    | _ :: _ =>
      match mode with
      | .index => runFilter tb mode fi ts
      | .query => runFilter tb mode fq ts

/-- `CompositeAnalyzer.__call__` -/
def analyze (tb : Tables) (tk : Tokenizer) (fs : List Filter) (mode : Mode) (text : List CChar) : List Token :=
  fs.foldl (fun ts f => runFilter tb mode f ts) (runTokenizer tk mode text)

/-! ## What the formats record -/

/-- `Positions.word_values`: the positions of every term, in order of appearance -/
def positionsOf (ts : List Token) (w : Str) : List Nat :=
  (ts.filter (·.text = w)).map (·.pos)

/-- `Characters.word_values`: (pos, startchar, endchar) of every occurrence -/
def charactersOf (ts : List Token) (w : Str) : List (Nat × Nat × Nat) :=
  (ts.filter (·.text = w)).map fun t => (t.pos, t.startchar, t.endchar)

/-! ## `Formatter.format_fragment` -/

inductive Piece
  | plain (s : Str)
  | marked (s : Str)
  deriving Repr, DecidableEq, Inhabited

/-- the loop over `fragment.matches`; `index` is the running index -/
def formatLoop (text : Str) : List (Nat × Nat) → Nat → List Piece × Nat
  | [], index => ([], index)
  | (s, e) :: rest, index =>
    if s < index then formatLoop text rest index
    else
      let (out, last) := formatLoop text rest e
      ((if index < s then [Piece.plain (slice text index s)] else []) ++ Piece.marked (slice text s e) :: out, last)

/-- `format_fragment(fragment)` for a fragment `[fstart, fend)` with the given matches
    (`get_text(..., replace=False)`; `format_token` wraps the source text in markup) -/
def formatFragment (text : Str) (matches_ : List (Nat × Nat)) (fstart fend : Nat) : List Piece :=
  let (out, last) := formatLoop text matches_ fstart
  out ++ [Piece.plain (slice text last fend)]

/-- the excerpt with the markup taken away -/
def stripMarkup : List Piece → Str
  | [] => []
  | .plain s :: rest => s ++ stripMarkup rest
  | .marked s :: rest => s ++ stripMarkup rest

end WM.Analysis
