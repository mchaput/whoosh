/-
Executable mirror of whoosh's query rewriting (property C15).

Mirrors, function by function (tree = /repo/src/whoosh with its `fix:` commits; the reader-dependent
`simplify` and `estimate_size` are in NormalizeReader.lean):

* `query/compound.py`  `CompoundQuery.normalize` (flatten, all-Null test, unfielded `Every`,
  range/`Every` merging loop, de-duplication, Null removal, single-child unwrapping),
  `CompoundQuery.field/apply`,
  `BinaryQuery.normalize/field/with_boost/apply`, `AndNot/AndMaybe/Require.normalize`,
  `AndNot/Require.with_boost`
* `query/qcore.py`     `Query.normalize/with_boost/replace/accept/apply/field`,
  `__and__/__or__/__sub__`, `_NullQuery`, `Every`
* `query/ranges.py`    `RangeMixin._comparable_start/_comparable_end/overlaps/merge`,
  `TermRange.normalize`
* `query/terms.py`     `Term.replace`, `Wildcard.normalize`, `FuzzyTerm/Variations.replace`
* `query/positional.py` `Sequence.normalize/apply`, `Phrase.normalize/replace`
* `query/wrappers.py`  `Not.normalize/apply/field`, `WrappingQuery.field/with_boost/apply`
  (for `ConstantScoreQuery`)

Conventions: field names are `Nat` ids, terms are lists of code points (`List Nat`, ordered
lexicographically like Python `str`), boosts are exact `Rat`s.  Python object equality/hash as used
by the de-duplication set is structural equality of the attributes that take part in `__eq__` or
`__hash__` (`Q.beq`).  Attributes that never influence rewriting or matching (`Or.minmatch`,
`Or.scale`, `DisjunctionMax.tiebreak`, `Term.minquality`, `Phrase.char_ranges`, `startchar/endchar`)
are not modelled.
-/
namespace WM.Normalize

abbrev Text := List Nat
abbrev Field := Nat

/-- `And` / `Or` / `DisjunctionMax` (the three classes that use `CompoundQuery.normalize`). -/
inductive CK where
  | and | or | dismax
  deriving DecidableEq, Repr, Inhabited

/-- `AndNot` / `AndMaybe` / `Require` / `Otherwise`. -/
inductive BK where
  | andnot | andmaybe | require | otherwise
  deriving DecidableEq, Repr, Inhabited

/-- Query trees.  `multi` stands for the multi-term leaves that no rewrite looks into:
    kind 0 `FuzzyTerm`, 1 `Variations`, 2 `Regex`, 3 `NumericRange`/`DateRange`; `key` is an
    injective code of the remaining attributes.  `seq cls` is `Sequence` (`cls = false`) or
    `Ordered` (`cls = true`).  `opq fld code` is a span query of `query/spans.py` (`SpanFirst`,
    `SpanNear`, `SpanNear2`, `SpanOr`, `SpanNot`, `SpanContains`, `SpanBefore`, `SpanCondition`): an
    opaque leaf for every rewrite (`normalize`/`simplify` are inherited from `Query` and return
    `self`; `with_boost` only sets an attribute nothing reads; `apply`-based rewrites rebuild it with
    all constructor arguments); `code` is the canonical text of the whole node (class, every
    constructor argument, subqueries), `fld` what `field()` returns (`SpanQuery.field` is `None`,
    `WrappingSpan.field` the field of the wrapped query). -/
inductive Q where
  | null
  | every (f : Option Field) (boost : Rat)
  | term (f : Field) (t : Text) (boost : Rat)
  | pre (f : Field) (t : Text) (boost : Rat) (cs : Bool)
  | wild (f : Field) (t : Text) (boost : Rat) (cs : Bool)
  | multi (kind : Nat) (f : Field) (t : Text) (key : Nat) (boost : Rat)
  | range (f : Field) (lo hi : Option Text) (lox hix : Bool) (boost : Rat) (cs : Bool)
  | phrase (f : Field) (ws : List Text) (slop : Nat) (boost : Rat)
  | comp (k : CK) (qs : List Q) (boost : Rat)
  | seq (cls : Bool) (qs : List Q) (slop : Nat) (ordered : Bool) (boost : Rat)
  | not (q : Q) (boost : Rat)
  | bin (k : BK) (a b : Q)
  | const (q : Q) (score : Rat)
  | opq (fld : Option Field) (code : List Nat)
  deriving Repr, Inhabited

/-! ### Equality as used by `s in seenqs` (`__eq__` + `__hash__`) -/

mutual
def Q.beq : Q → Q → Bool
  | .null, .null => true
  | .every f b, .every f' b' => f == f' && b == b'
  | .term f t b, .term f' t' b' => f == f' && t == t' && b == b'
  | .pre f t b c, .pre f' t' b' c' => f == f' && t == t' && b == b' && c == c'
  | .wild f t b c, .wild f' t' b' c' => f == f' && t == t' && b == b' && c == c'
  | .multi k f t key b, .multi k' f' t' key' b' =>
      k == k' && f == f' && t == t' && key == key' && b == b'
  | .range f lo hi lx hx b c, .range f' lo' hi' lx' hx' b' c' =>
      f == f' && lo == lo' && hi == hi' && lx == lx' && hx == hx' && b == b' && c == c'
  | .phrase f ws s b, .phrase f' ws' s' b' => f == f' && ws == ws' && s == s' && b == b'
  | .comp k qs b, .comp k' qs' b' => k == k' && Q.beqList qs qs' && b == b'
  | .seq c qs s o b, .seq c' qs' s' o' b' =>
      c == c' && Q.beqList qs qs' && s == s' && o == o' && b == b'
  | .not q b, .not q' b' => Q.beq q q' && b == b'
  | .bin k a b, .bin k' a' b' => k == k' && Q.beq a a' && Q.beq b b'
  | .const q s, .const q' s' => Q.beq q q' && s == s'
  | .opq f c, .opq f' c' => f == f' && c == c'
  | _, _ => false
def Q.beqList : List Q → List Q → Bool
  | [], [] => true
  | a :: as, b :: bs => Q.beq a b && Q.beqList as bs
  | _, _ => false
end

instance : BEq Q := ⟨Q.beq⟩

/-! ### Attribute access -/

/-- `q is qcore.NullQuery`. -/
def Q.isNull : Q → Bool
  | .null => true
  | _ => false

/-- `isinstance(q, Every)`. -/
def Q.isEvery : Q → Bool
  | .every _ _ => true
  | _ => false

/-- `isinstance(q, Every) and q.fieldname is None`. -/
def Q.isEveryAll : Q → Bool
  | .every none _ => true
  | _ => false

/-- `getattr(q, "boost", 1.0)`: `BinaryQuery.boost` and `_NullQuery.boost` are class attributes
    `1.0`; `ConstantScoreQuery` has no boost. -/
def Q.boostOf : Q → Rat
  | .null => 1
  | .every _ b => b
  | .term _ _ b => b
  | .pre _ _ b _ => b
  | .wild _ _ b _ => b
  | .multi _ _ _ _ b => b
  | .range _ _ _ _ _ b _ => b
  | .phrase _ _ _ b => b
  | .comp _ _ b => b
  | .seq _ _ _ _ b => b
  | .not _ b => b
  | .bin _ _ _ => 1
  | .const _ _ => 1
  | .opq _ _ => 1

mutual
/-- `Query.field()` and its overrides (`CompoundQuery.field`, `BinaryQuery.field`, `Not.field`,
    `WrappingQuery.field`, `_NullQuery.field`). -/
def Q.field : Q → Option Field
  | .null => none
  | .every f _ => f
  | .term f _ _ => some f
  | .pre f _ _ _ => some f
  | .wild f _ _ _ => some f
  | .multi _ f _ _ _ => some f
  | .range f _ _ _ _ _ _ => some f
  | .phrase f _ _ _ => some f
  | .comp _ qs _ => Q.fieldList qs
  | .seq _ qs _ _ _ => Q.fieldList qs
  | .not _ _ => none
  | .bin _ a b => if Q.field b == Q.field a then Q.field a else none
  | .const q _ => Q.field q
  | .opq f _ => f
/-- `CompoundQuery.field`: the field of the first subquery if all others agree, else `None`. -/
def Q.fieldList : List Q → Option Field
  | [] => none
  | q :: qs => if Q.fieldAll (Q.field q) qs then Q.field q else none
/-- `all(q.field() == f for q in subqueries[1:])`. -/
def Q.fieldAll (f : Option Field) : List Q → Bool
  | [] => true
  | q :: qs => (Q.field q == f) && Q.fieldAll f qs
end

mutual
/-- `with_boost`: `Query.with_boost` (copy, set `boost`), `BinaryQuery.with_boost` (both sides),
    `AndNot/Require.with_boost` (left side only), `WrappingQuery.with_boost` (push into the child).
    `NullQuery.with_boost` returns the singleton. -/
def Q.withBoost : Q → Rat → Q
  | .null, _ => .null
  | .every f _, b => .every f b
  | .term f t _, b => .term f t b
  | .pre f t _ c, b => .pre f t b c
  | .wild f t _ c, b => .wild f t b c
  | .multi k f t key _, b => .multi k f t key b
  | .range f lo hi lx hx _ c, b => .range f lo hi lx hx b c
  | .phrase f ws s _, b => .phrase f ws s b
  | .comp k qs _, b => .comp k qs b
  | .seq c qs s o _, b => .seq c qs s o b
  | .not q _, b => .not q b
  | .bin .andnot x y, b => .bin .andnot (Q.withBoost x b) y
  | .bin .require x y, b => .bin .require (Q.withBoost x b) y
  | .bin .andmaybe x y, b => .bin .andmaybe (Q.withBoost x b) (Q.withBoost y b)
  | .bin .otherwise x y, b => .bin .otherwise (Q.withBoost x b) (Q.withBoost y b)
  | .const q s, b => .const (Q.withBoost q b) s
  | .opq f c, _ => .opq f c
end

/-! ### Ranges (`query/ranges.py`) -/

/-- First component of a comparable: `Lowest`, a term, or `Highest`. -/
inductive Bnd where
  | lo | val (t : Text) | hi
  deriving DecidableEq, Repr, Inhabited

/-- Python's `<` between the first components (`qcore.Lowest/Highest.__lt__`, `str.__lt__`). -/
def Bnd.lt : Bnd → Bnd → Bool
  | .lo, .lo => false
  | .lo, _ => true
  | .val _, .lo => false
  | .val a, .val b => decide (a < b)
  | .val _, .hi => true
  | .hi, _ => false

/-- A comparable `(value, adjustment)` as built by `_comparable_start/_comparable_end`. -/
structure Cmp where
  b : Bnd
  adj : Int
  deriving DecidableEq, Repr, Inhabited

/-- Python tuple `<=`: lexicographic. -/
def Cmp.le (x y : Cmp) : Bool := Bnd.lt x.b y.b || (x.b == y.b && decide (x.adj ≤ y.adj))

/-- `max(a, b)` on tuples (first argument on ties). -/
def Cmp.max (a b : Cmp) : Cmp := if Cmp.le b a then a else b
/-- `min(a, b)` on tuples (first argument on ties). -/
def Cmp.min (a b : Cmp) : Cmp := if Cmp.le a b then a else b

/-- `RangeMixin._comparable_start`. -/
def cmpStart (lo : Option Text) (lox : Bool) : Cmp :=
  match lo with
  | none => ⟨.lo, 0⟩
  | some t => ⟨.val t, if lox then 1 else 0⟩

/-- `RangeMixin._comparable_end`. -/
def cmpEnd (hi : Option Text) (hix : Bool) : Cmp :=
  match hi with
  | none => ⟨.hi, 0⟩
  | some t => ⟨.val t, if hix then -1 else 0⟩

/-- The attributes of a `TermRange` that `overlaps`/`merge` read. -/
structure Rng where
  f : Field
  lo : Option Text
  hi : Option Text
  lox : Bool
  hix : Bool
  boost : Rat
  cs : Bool
  deriving Repr, Inhabited, DecidableEq

def Rng.toQ (r : Rng) : Q := .range r.f r.lo r.hi r.lox r.hix r.boost r.cs

/-- `isinstance(q, TermRange)` with its attributes. -/
def Q.asRange : Q → Option Rng
  | .range f lo hi lx hx b c => some ⟨f, lo, hi, lx, hx, b, c⟩
  | _ => none

/-- `RangeMixin.overlaps` (both arguments `TermRange`s). -/
def Rng.overlaps (a b : Rng) : Bool :=
  if a.f != b.f then false else
  let s1 := cmpStart a.lo a.lox
  let s2 := cmpStart b.lo b.lox
  let e1 := cmpEnd a.hi a.hix
  let e2 := cmpEnd b.hi b.hix
  (Cmp.le s2 s1 && Cmp.le s1 e2) || (Cmp.le s2 e1 && Cmp.le e1 e2)
    || (Cmp.le s1 s2 && Cmp.le s2 e1) || (Cmp.le s1 e2 && Cmp.le e2 e1)

/-- `startval`/`endval` of `merge`: `None if x[0] is Lowest/Highest else x[0]`. -/
def Bnd.toOpt : Bnd → Option Text
  | .val t => some t
  | _ => none

/-- `RangeMixin.merge(other, intersect)`. -/
def Rng.merge (a b : Rng) (intersect : Bool) : Rng :=
  let s1 := cmpStart a.lo a.lox
  let s2 := cmpStart b.lo b.lox
  let e1 := cmpEnd a.hi a.hix
  let e2 := cmpEnd b.hi b.hix
  let (s, e) :=
    if Cmp.le s2 s1 && Cmp.le e1 e2 then (s2, e2)
    else if Cmp.le s1 s2 && Cmp.le e2 e1 then (s1, e1)
    else if intersect then (Cmp.max s1 s2, Cmp.min e1 e2)
    else (Cmp.min s1 s2, Cmp.max e1 e2)
  { f := a.f, lo := s.b.toOpt, hi := e.b.toOpt, lox := s.adj == 1, hix := e.adj == -1,
    boost := if a.boost < b.boost then b.boost else a.boost, cs := a.cs || b.cs }

/-- The text `u"￿"` that `TermRange.normalize` treats as "no upper bound". -/
def maxText : Text := [0xFFFF]

/-- `TermRange.normalize`. -/
def Rng.normalize (r : Rng) : Q :=
  if (r.lo == none || r.lo == some []) && (r.hi == none || r.hi == some maxText) then
    .every (some r.f) r.boost
  else if r.lo == r.hi then
    if r.lox || r.hix then .null
    else match r.lo with
      | some t => .term r.f t r.boost
      | none => .null  -- unreachable: `lo = hi = none` is caught by the first test
  else .range r.f r.lo r.hi r.lox r.hix r.boost true

/-! ### Leaves -/

def starC : Nat := 42   -- '*'
def qmarkC : Nat := 63  -- '?'
def lbrC : Nat := 91    -- '['

/-- `Wildcard.normalize` (with the `fix:` that leaves patterns containing `[` alone). -/
def wildNormalize (f : Field) (t : Text) (b : Rat) (cs : Bool) : Q :=
  if t == [starC] then .every (some f) b
  else if t.contains lbrC then .wild f t b cs
  else if !t.contains starC && !t.contains qmarkC then .term f t b
  else if !t.contains qmarkC && t.getLast? == some starC && t.idxOf starC == t.length - 1 then
    .pre f t.dropLast b true
  else .wild f t b cs

/-- `Phrase.normalize` (words are never `None` in the model). -/
def phraseNormalize (f : Field) (ws : List Text) (slop : Nat) (b : Rat) : Q :=
  match ws with
  | [] => .null
  | [w] => .term f w 1
  | _ => .phrase f ws slop b

/-! ### `CompoundQuery.normalize` -/

def CK.intersect : CK → Bool
  | .and => true
  | _ => false

/-- "Normalize subqueries and merge nested instances of this class" (the subqueries are already
    normalized): a nested instance of the same class is replaced by its subqueries, each
    re-boosted with `ss.with_boost(getattr(ss, "boost", 1.0) * s.boost)`. -/
def flatten (k : CK) : List Q → List Q
  | [] => []
  | .comp k' ss b :: rest =>
    if k' = k then ss.map (fun x => x.withBoost (x.boostOf * b)) ++ flatten k rest
    else .comp k' ss b :: flatten k rest
  | s :: rest => s :: flatten k rest

/-- One scan `j = i+1 ..` of the inner `while`: returns the first later `TermRange` that overlaps
    `q` (removed from the list) or `none`. -/
def popOverlap (q : Rng) : List Q → Option (Rng × List Q)
  | [] => none
  | s :: rest =>
    match s.asRange with
    | some r =>
      if q.overlaps r then some (r, rest)
      else (popOverlap q rest).map fun (r', rest') => (r', s :: rest')
    | none => (popOverlap q rest).map fun (r', rest') => (r', s :: rest')

theorem popOverlap_length {q : Rng} {l : List Q} {r : Rng} {l' : List Q}
    (h : popOverlap q l = some (r, l')) : l'.length < l.length := by
  fun_induction popOverlap q l generalizing l' with
  | case1 => cases h
  | case2 s rest r0 _ _ =>
    cases h
    exact Nat.lt_succ_self _
  | case3 s rest r0 _ _ ih | case4 s rest _ ih =>
    obtain ⟨⟨r1, l1⟩, hp, he⟩ := Option.map_eq_some_iff.mp h
    cases he
    exact Nat.succ_lt_succ (ih hp)

/-- The inner `while j < len(subqueries)` loop: merge every later overlapping `TermRange` into
    `q`, restarting the scan after each merge (the `fix:` for idempotence). -/
def absorb (intersect : Bool) (q : Rng) (rest : List Q) : Rng × List Q :=
  match _h : popOverlap q rest with
  | none => (q, rest)
  | some (r, rest') => absorb intersect (q.merge r intersect) rest'
termination_by rest.length
decreasing_by exact popOverlap_length _h

theorem absorb_length (intersect : Bool) (q : Rng) (rest : List Q) :
    (absorb intersect q rest).2.length ≤ rest.length := by
  fun_induction absorb intersect q rest with
  | case1 q rest h => exact Nat.le_refl _
  | case2 q rest r rest' h ih => exact Nat.le_trans ih (Nat.le_of_lt (popOverlap_length h))

/-- The outer `while i < len(subqueries)` loop ("Merge ranges and Everys").  Returns the processed
    list and the final `everyfields` set. -/
def mergeLoop (intersect : Bool) (ef : List (Option Field)) : List Q → List Q × List (Option Field)
  | [] => ([], ef)
  | q :: rest =>
    if ef.contains q.field then mergeLoop intersect ef rest
    else
      match q.asRange with
      | some r =>
        let p := absorb intersect r rest
        let q' := p.1.normalize
        let ef' := match q' with
          | .every f _ => f :: ef
          | _ => ef
        let res := mergeLoop intersect ef' p.2
        (q' :: res.1, res.2)
      | none =>
        let ef' := match q with
          | .every f _ => f :: ef
          | _ => ef
        let res := mergeLoop intersect ef' rest
        (q :: res.1, res.2)
termination_by l => l.length
decreasing_by
  · simp
  · have := absorb_length intersect r rest
    simp only [List.length_cons]
    omega
  · simp

/-- "Eliminate duplicate queries": drop non-`Every` clauses whose field is in `everyfields`, and
    clauses already seen. -/
def dedupe (ef : List (Option Field)) : List Q → List Q → List Q
  | _, [] => []
  | seen, s :: rest =>
    if !s.isEvery && ef.contains s.field then dedupe ef seen rest
    else if seen.contains s then dedupe ef seen rest
    else s :: dedupe ef (s :: seen) rest

def mkComp (k : CK) (qs : List Q) (b : Rat) : Q := .comp k qs b

/-- The last lines of `CompoundQuery.normalize`: no clause left -> `NullQuery`; one clause -> the
    clause itself, re-boosted unless both boosts are 1; otherwise a new compound. -/
def finish (k : CK) (subs : List Q) (boost : Rat) : Q :=
  match subs with
  | [] => .null
  | [sub] =>
    if boost == 1 && sub.boostOf == 1 then sub else sub.withBoost (sub.boostOf * boost)
  | _ => .comp k subs boost

/-- Second half of `CompoundQuery.normalize`: "Merge ranges and Everys", "Eliminate duplicate
    queries", "Remove NullQuerys", and the final case distinction. -/
def compTail (k : CK) (subs : List Q) (boost : Rat) : Q :=
  let res := mergeLoop k.intersect [] subs
  let subs := dedupe res.2 [] res.1
  finish k (subs.filter (fun q => !q.isNull)) boost

/-- `CompoundQuery.normalize` after the subqueries have been normalized. -/
def compNormalize (k : CK) (subs : List Q) (boost : Rat) : Q :=
  let subs := flatten k subs
  if subs.all Q.isNull then .null else
  -- unfielded Every (with the `fix:`: neutral element under And)
  let hasAll := subs.any Q.isEveryAll
  if hasAll && !k.intersect then .every none 1 else
  let subs := if hasAll then subs.filter (fun q => !q.isEveryAll) else subs
  if hasAll && subs.all Q.isNull then .every none 1 else
  compTail k subs boost

/-- `BinaryQuery.normalize` and the overrides in `AndNot`, `AndMaybe`, `Require` (the two sides are
    already normalized). -/
def binNormalize (k : BK) (a b : Q) : Q :=
  match k with
  | .otherwise =>
    if a.isNull && b.isNull then .null
    else if a.isNull then b
    else if b.isNull then a
    else .bin k a b
  | .andnot =>
    if a.isNull then .null else if b.isNull then a else .bin k a b
  | .andmaybe =>
    if a.isNull then .null else if b.isNull then a else .bin k a b
  | .require =>
    if a.isNull || b.isNull then .null else .bin k a b

mutual
/-- `normalize()` of every query class. -/
def normalize : Q → Q
  | .null => .null
  | .every f b => .every f b
  | .term f t b => .term f t b
  | .pre f t b c => .pre f t b c
  | .wild f t b c => wildNormalize f t b c
  | .multi k f t key b => .multi k f t key b
  | .range f lo hi lx hx b c => (Rng.mk f lo hi lx hx b c).normalize
  | .phrase f ws s b => phraseNormalize f ws s b
  | .comp k qs b => compNormalize k (normalizeList qs) b
  | .seq c qs s o b => .seq c (normalizeList qs) s o b
  | .not q b => let q' := normalize q; if q'.isNull then .null else .not q' b
  | .bin k a b => binNormalize k (normalize a) (normalize b)
  | .const q s => .const q s
  | .opq f c => .opq f c
def normalizeList : List Q → List Q
  | [] => []
  | q :: qs => normalize q :: normalizeList qs
end

/-! ### Operators (`Query.__and__/__or__/__sub__`) -/

def opAnd (a b : Q) : Q := normalize (.comp .and [a, b] 1)
def opOr (a b : Q) : Q := normalize (.comp .or [a, b] 1)
def opSub (a b : Q) : Q := normalize (.comp .and [a, .not b 1] 1)

/-! ### `replace`, `accept` -/

mutual
/-- `q.replace(fieldname, oldtext, newtext)`: `Term/FuzzyTerm/Variations/Phrase.replace`, and
    `Query.replace` (copy of a leaf, `apply` on inner nodes; `Not.apply` forgets the boost). -/
def replace (fld : Field) (old new : Text) : Q → Q
  | .term f t b => if f = fld ∧ t = old then .term f new b else .term f t b
  | .multi k f t key b =>
    if (k = 0 ∨ k = 1) ∧ f = fld ∧ t = old then .multi k f new key b else .multi k f t key b
  | .phrase f ws s b =>
    if f = fld then .phrase f (ws.map fun w => if w = old then new else w) s b
    else .phrase f ws s b
  | .comp k qs b => .comp k (replaceList fld old new qs) b
  | .seq c qs s o b => .seq c (replaceList fld old new qs) s o b
  | .not q _ => .not (replace fld old new q) 1
  | .bin k a b => .bin k (replace fld old new a) (replace fld old new b)
  | .const q s => .const (replace fld old new q) s
  | q => q
def replaceList (fld : Field) (old new : Text) : List Q → List Q
  | [] => []
  | q :: qs => replace fld old new q :: replaceList fld old new qs
end

mutual
/-- `q.accept(lambda q: q)`: rebuilds every inner node through `apply`. -/
def acceptId : Q → Q
  | .comp k qs b => .comp k (acceptIdList qs) b
  | .seq c qs s o b => .seq c (acceptIdList qs) s o b
  | .not q _ => .not (acceptId q) 1
  | .bin k a b => .bin k (acceptId a) (acceptId b)
  | .const q s => .const (acceptId q) s
  | q => q
def acceptIdList : List Q → List Q
  | [] => []
  | q :: qs => acceptId q :: acceptIdList qs
end

/-- `q.apply(lambda q: q)`: one level of `apply` (only `Not.apply` loses an attribute, its boost). -/
def applyId : Q → Q
  | .not q _ => .not q 1
  | q => q

end WM.Normalize
