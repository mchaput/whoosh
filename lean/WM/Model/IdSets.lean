import WM.Spec.IdSet
/-
Mirror of `whoosh/idsets.py` (with the `fix:` commits of family c20 applied, each marked FIX):
`BaseBitSet` (`__contains__/__iter__/__len__/__bool__/first/last/before/after`), `BitSet`
(`__init__/_trim/_resize/_zero_extra_bits/_logic/copy/clear/add/discard/_resize_to_other/update/
intersection_update/difference_update/invert_update/union/intersection/difference/invert`),
`OnDiskBitSet` (= `BaseBitSet` over a slice of a byte file), `SortedIntSet`, `ReverseIdSet`,
`MultiIdSet`, and the generic `DocIdSet` fall-backs they inherit.

Bytes are `Nat`s below 256 (`array('B')`), a bit array is a `List Nat`.  Python exceptions at the
modelled sites are values of `Err`.
-/
namespace WM.IdSets

inductive Err where
  | index      -- IndexError
  | value      -- ValueError
  | type       -- TypeError
  | notImpl    -- NotImplementedError
  | struct     -- struct.error (a number does not fit its `struct` format)
  | overflow   -- OverflowError
  deriving Repr, DecidableEq, Inhabited

abbrev Bits := List Nat

/-- `util/numeric.py:bytes_for_bits`: `ceil((bitcount + 1) / 8.0)`. -/
def bytesForBits (n : Nat) : Nat := (n + 8) / 8

/-- Truth value of `byte & (1 << k)`. -/
def hasBit (byte k : Nat) : Bool := (byte &&& (1 <<< k)) != 0

/-! ### BaseBitSet (shared by `BitSet` and `OnDiskBitSet`) -/

/-- `BaseBitSet.__contains__`. -/
def contains (bits : Bits) (i : Nat) : Bool :=
  let bucket := i / 8
  if h : bucket ≥ bits.length then false
  else hasBit (bits[bucket]'(by omega)) (i % 8)

/-- inner loop of `BaseBitSet.__iter__` for one byte. -/
def iterByte (base byte : Nat) : List Nat :=
  (List.range 8).filterMap fun k => if hasBit byte k then some (base + k) else none

/-- `BaseBitSet.__iter__`, `base` advancing by 8 per byte. -/
def iterFrom : Nat → Bits → List Nat
  | _, [] => []
  | base, b :: bs => iterByte base b ++ iterFrom (base + 8) bs

def iter (bits : Bits) : List Nat := iterFrom 0 bits

/-- `_1SPERBYTE`. -/
def popTable : List Nat :=
  [0, 1, 1, 2, 1, 2, 2, 3, 1, 2, 2, 3, 2, 3, 3, 4, 1, 2,
   2, 3, 2, 3, 3, 4, 2, 3, 3, 4, 3, 4, 4, 5, 1, 2, 2, 3, 2, 3, 3, 4, 2, 3, 3, 4,
   3, 4, 4, 5, 2, 3, 3, 4, 3, 4, 4, 5, 3, 4, 4, 5, 4, 5, 5, 6, 1, 2, 2, 3, 2, 3,
   3, 4, 2, 3, 3, 4, 3, 4, 4, 5, 2, 3, 3, 4, 3, 4, 4, 5, 3, 4, 4, 5, 4, 5, 5, 6,
   2, 3, 3, 4, 3, 4, 4, 5, 3, 4, 4, 5, 4, 5, 5, 6, 3, 4, 4, 5, 4, 5, 5, 6, 4, 5,
   5, 6, 5, 6, 6, 7, 1, 2, 2, 3, 2, 3, 3, 4, 2, 3, 3, 4, 3, 4, 4, 5, 2, 3, 3, 4,
   3, 4, 4, 5, 3, 4, 4, 5, 4, 5, 5, 6, 2, 3, 3, 4, 3, 4, 4, 5, 3, 4, 4, 5, 4, 5,
   5, 6, 3, 4, 4, 5, 4, 5, 5, 6, 4, 5, 5, 6, 5, 6, 6, 7, 2, 3, 3, 4, 3, 4, 4, 5,
   3, 4, 4, 5, 4, 5, 5, 6, 3, 4, 4, 5, 4, 5, 5, 6, 4, 5, 5, 6, 5, 6, 6, 7, 3, 4,
   4, 5, 4, 5, 5, 6, 4, 5, 5, 6, 5, 6, 6, 7, 4, 5, 5, 6, 5, 6, 6, 7, 5, 6, 6, 7,
   6, 7, 7, 8]

/-- `BaseBitSet.__len__`: `sum(_1SPERBYTE[b] for b in bytes)`; a byte outside the table is an
    `IndexError`. -/
def len : Bits → Except Err Nat
  | [] => .ok 0
  | b :: bs =>
    match popTable[b]? with
    | none => .error .index
    | some c => (len bs).map (c + ·)

/-- `BaseBitSet.__nonzero__`. -/
def nonzero (bits : Bits) : Bool := bits.any (· != 0)

/-- The `while i < size` loop of `BaseBitSet.after`; `bucket` is carried exactly as the code
    carries it.  A read past the array is Python's `IndexError`. -/
def afterLoop (bits : Bits) (size i bucket : Nat) : Except Err (Option Nat) :=
  if i < size then
    match hb : bits[bucket]? with
    | none => .error .index
    | some byte =>
      if byte = 0 then afterLoop bits size ((bucket + 1) * 8) (bucket + 1)
      else if hasBit byte (i % 8) then .ok (some i)
      else afterLoop bits size (i + 1) (if (i + 1) % 8 = 0 then bucket + 1 else bucket)
  else .ok none
termination_by (bits.length - bucket, size - i)
decreasing_by
  all_goals
    have hlt : bucket < bits.length := by
      rcases List.getElem?_eq_some_iff.mp hb with ⟨h, _⟩; exact h
  · exact Prod.Lex.left _ _ (by omega)
  · split
    · exact Prod.Lex.left _ _ (by omega)
    · exact Prod.Lex.right _ (by omega)

/-- `BaseBitSet.after(i)`. -/
def after (bits : Bits) (i : Int) : Except Err (Option Nat) :=
  let size := bits.length * 8
  if i ≥ (size : Int) then .ok none
  else
    let i' : Nat := if i < 0 then 0 else (i + 1).toNat
    afterLoop bits size i' (i' / 8)

/-- `BaseBitSet.first`. -/
def first (bits : Bits) : Except Err (Option Nat) := after bits (-1)

/-- The `while i >= 0` loop of `BaseBitSet.before`, entered with `i ≥ 0`.  The code lets `bucket`
    become `-1` only together with `i = -1` (loop exit); the remaining combination (`bucket` would
    be negative while `i ≥ 0`) would read `bits[-1]` in Python and is reported as `index` here —
    `WM.C20.bitset_before` shows it is unreachable. -/
def beforeLoop (bits : Bits) (i bucket : Nat) : Except Err (Option Nat) :=
  match bits[bucket]? with
  | none => .error .index
  | some byte =>
    if byte = 0 then
      if bucket = 0 then .ok none
      else beforeLoop bits ((bucket - 1) * 8 + 7) (bucket - 1)
    else if hasBit byte (i % 8) then .ok (some i)
    else if i = 0 then .ok none
    else if i % 8 = 0 then
      (if bucket = 0 then .error .index else beforeLoop bits (i - 1) (bucket - 1))
    else beforeLoop bits (i - 1) bucket
termination_by (bucket, i)
decreasing_by
  · exact Prod.Lex.left _ _ (by omega)
  · exact Prod.Lex.left _ _ (by omega)
  · exact Prod.Lex.right _ (by omega)

/-- `BaseBitSet.before(i)`. -/
def before (bits : Bits) (i : Int) : Except Err (Option Nat) :=
  let size := bits.length * 8
  if i ≤ 0 then .ok none
  else if i ≥ (size : Int) then
    (if size = 0 then .ok none else beforeLoop bits (size - 1) ((size - 1) / 8))
  else beforeLoop bits (i.toNat - 1) ((i.toNat - 1) / 8)

/-- `BaseBitSet.last`. -/
def last (bits : Bits) : Except Err (Option Nat) := before bits ((bits.length * 8 + 1 : Nat) : Int)

/-! ### OnDiskBitSet -/

/-- `OnDiskBitSet(dbfile, basepos, bytecount)`: the `BaseBitSet` methods over
    `file[basepos : basepos + bytecount]` (`_get_byte(n) = file[basepos + n]`). -/
def onDisk (file : List Nat) (basepos bytecount : Nat) : Bits := (file.drop basepos).take bytecount

/-! ### BitSet -/

/-- `BitSet._trim`. -/
def trim : Bits → Bits
  | [] => []
  | b :: bs =>
    match trim bs with
    | [] => if b = 0 then [] else [b]
    | t => b :: t

/-- `BitSet._resize`.  FIX: the shrinking branch was `del self.bits[newlength + 1:]`. -/
def resize (bits : Bits) (tosize : Nat) : Bits :=
  let cur := bits.length
  let new := bytesForBits tosize
  if new > cur then bits ++ List.replicate (new - cur) 0
  else if new < cur then bits.take new
  else bits

/-- `BitSet.add`. -/
def add (bits : Bits) (i : Nat) : Bits :=
  let bucket := i / 8
  let bits := if bucket ≥ bits.length then resize bits (i + 1) else bits
  bits.modify bucket (· ||| (1 <<< (i % 8)))

/-- `x & ~m` on a byte (Python's `~m` is `-(m+1)`; on bytes this is "clear the bits of `m`"). -/
def andNot (x m : Nat) : Nat := x &&& (255 ^^^ m)

/-- `BitSet.discard`.  FIX: guarded by `bucket < len(self.bits)` (was an `IndexError`). -/
def discard (bits : Bits) (i : Nat) : Bits :=
  let bucket := i / 8
  if bucket < bits.length then bits.modify bucket (andNot · (1 <<< (i % 8))) else bits

/-- `BitSet.__init__` up to the `add` loop: `size` is the explicit `size`, `sizedMax` the
    `max(source)` when the source is a non-empty list/tuple/set (FIX: an empty one no longer
    raises `ValueError`). -/
def emptyOfSize (size : Nat) : Bits := List.replicate (bytesForBits size) 0

def listMax : List Nat → Nat := fun l => l.foldl max 0

/-- `BitSet(source, size)`; `sized` = the source is a list/tuple/set/frozenset. -/
def ofSource (source : List Nat) (sized : Bool) (size : Nat) : Bits :=
  let size := if size = 0 && sized && !source.isEmpty then listMax source else size
  source.foldl add (emptyOfSize size)

/-- `BitSet._zero_extra_bits`.  FIX: the mask is applied also when `spill = 0`. Only called
    right after `_resize(size)`, so `0 ≤ spill < 8` and the array is non-empty; otherwise
    `2 ** spill` with negative `spill` is a float (`TypeError`) / `bits[-1]` an `IndexError`. -/
def zeroExtraBits (bits : Bits) (size : Nat) : Except Err Bits :=
  match bits.getLast? with
  | none => .error .index
  | some lastb =>
    if size < (bits.length - 1) * 8 then .error .type
    else
      let spill := size - (bits.length - 1) * 8
      let mask := 2 ^ spill - 1
      .ok (bits.dropLast ++ [lastb &&& mask])

/-- `BitSet.invert_update`.  FIX: `self._resize(size)` first. -/
def invertUpdate (bits : Bits) (size : Nat) : Except Err Bits :=
  let bits := resize bits size
  zeroExtraBits (bits.map fun b => (255 ^^^ b) &&& 255) size

/-- `izip_longest(objbits, other.bits, fillvalue=0)` + `op(..) & 0xFF` of `BitSet._logic`. -/
def zipLongest (op : Nat → Nat → Nat) : Bits → Bits → Bits
  | [], [] => []
  | a :: as, [] => (op a 0 &&& 255) :: zipLongest op as []
  | [], b :: bs => (op 0 b &&& 255) :: zipLongest op [] bs
  | a :: as, b :: bs => (op a b &&& 255) :: zipLongest op as bs

/-- `BitSet._logic(obj, op, other)`. -/
def logic (op : Nat → Nat → Nat) (obj other : Bits) : Bits := trim (zipLongest op obj other)

/-- The argument of a binary set method: another `BitSet`, a list/tuple/set (`sized`, in its
    iteration order), or any other iterable container (e.g. a `SortedIntSet`). -/
inductive Other where
  | bits (b : Bits)
  | list (l : List Nat) (sized : Bool)

def Other.items : Other → List Nat
  | .bits b => iter b
  | .list l _ => l

def Other.contains : Other → Nat → Bool
  | .bits b, i => IdSets.contains b i
  | .list l _, i => l.contains i

/-- `BitSet._resize_to_other` (FIX: nothing to do for an empty collection). -/
def resizeToOther (bits : Bits) : Other → Bits
  | .list l true =>
    if l.isEmpty then bits
    else
      let maxbit := listMax l
      if maxbit / 8 > bits.length then resize bits maxbit else bits
  | _ => bits

/-- `BitSet.update` (`_resize_to_other` then `DocIdSet.update`). -/
def update (bits : Bits) (o : Other) : Bits := o.items.foldl add (resizeToOther bits o)

/-- `BitSet.intersection_update`. -/
def intersectionUpdate (bits : Bits) : Other → Bits
  | .bits b => logic (· &&& ·) bits b
  | o => (iter bits).foldl (fun acc n => if o.contains n then acc else discard acc n) bits

/-- `BitSet.difference_update`. -/
def differenceUpdate (bits : Bits) : Other → Bits
  | .bits b => logic andNot bits b
  | o => o.items.foldl discard bits

/-- `BitSet.union`. -/
def union (bits : Bits) : Other → Bits
  | .bits b => logic (· ||| ·) bits b
  | o => update bits o

/-- `BitSet.intersection`. -/
def intersection (bits : Bits) : Other → Bits
  | .bits b => logic (· &&& ·) bits b
  | o => ofSource ((iter bits).filter o.contains) false 0

/-- `BitSet.difference`. -/
def difference (bits : Bits) : Other → Bits
  | .bits b => logic andNot bits b
  | o => ofSource ((iter bits).filter (fun n => !o.contains n)) false 0

/-- `BitSet.clear`. -/
def clear (bits : Bits) : Bits := bits.map fun _ => 0

/-! ### bisect (CPython `bisect_left` / `bisect_right`, also the loop of
`OrderedHashReader.closest_key_pos`) -/

/-- Binary search for the first index in `[lo, hi)` whose element fails `p`
    (`bisect_left(a, x)`: `p = (· < x)`; `bisect_right(a, x)`: `p = (· ≤ x)`). -/
def bisectBy {α} (p : α → Bool) (a : List α) (lo hi : Nat) : Except Err Nat :=
  if lo < hi then
    let mid := (lo + hi) / 2
    match a[mid]? with
    | none => .error .index
    | some v => if p v then bisectBy p a (mid + 1) hi else bisectBy p a lo mid
  else .ok lo
termination_by hi - lo
decreasing_by all_goals omega

def bisectLeft (a : List Nat) (x : Nat) : Except Err Nat := bisectBy (· < x) a 0 a.length
def bisectRight (a : List Nat) (x : Nat) : Except Err Nat := bisectBy (· ≤ x) a 0 a.length

/-! ### SortedIntSet (`data` is the array) -/

/-- `list.insert(pos, x)`. -/
def insertAt (l : List Nat) (pos x : Nat) : List Nat := l.take pos ++ x :: l.drop pos

/-- `sorted(set(source))` (FIX: was `sorted(source)`, keeping duplicates) through the spec-level
    ordered insert; CPython's `sorted`/`set` are trusted. -/
def sisOfSource (source : List Nat) : List Nat := WM.Spec.IdSet.ofList source

/-- `SortedIntSet.__contains__`. -/
def sisContains (data : List Nat) (i : Nat) : Except Err Bool :=
  match data.head?, data.getLast? with
  | some mn, some mx =>
    if i < mn || i > mx then .ok false
    else do
      let pos ← bisectLeft data i
      if pos = data.length then .ok false
      else match data[pos]? with
        | none => .error .index
        | some v => .ok (v == i)
  | _, _ => .ok false

/-- `SortedIntSet.add`. -/
def sisAdd (data : List Nat) (i : Nat) : Except Err (List Nat) :=
  match data.head?, data.getLast? with
  | some mn, some mx =>
    if i > mx then .ok (data ++ [i])
    else if i = mn || i = mx then .ok data
    else if i < mn then .ok (i :: data)
    else do
      let pos ← bisectLeft data i
      match data[pos]? with
      | none => .error .index
      | some v => if v != i then .ok (insertAt data pos i) else .ok data
  | _, _ => .ok (data ++ [i])

/-- `SortedIntSet.discard`.  FIX: `pos < len(data) and …` (was an `IndexError` past the end). -/
def sisDiscard (data : List Nat) (i : Nat) : Except Err (List Nat) := do
  let pos ← bisectLeft data i
  match data[pos]? with
  | none => .ok data
  | some v => if v == i then .ok (data.eraseIdx pos) else .ok data

/-- `SortedIntSet.first` (FIX: `None` on an empty set, was `IndexError`). -/
def sisFirst (data : List Nat) : Option Nat := data.head?
/-- `SortedIntSet.last` (FIX as `first`). -/
def sisLast (data : List Nat) : Option Nat := data.getLast?

/-- `SortedIntSet.before`. -/
def sisBefore (data : List Nat) (i : Int) : Except Err (Option Nat) := do
  let pos ← bisectBy (fun (x : Nat) => decide ((x : Int) < i)) data 0 data.length
  if pos < 1 then .ok none
  else match data[pos - 1]? with
    | none => .error .index
    | some v => .ok (some v)

/-- `SortedIntSet.after`. -/
def sisAfter (data : List Nat) (i : Int) : Except Err (Option Nat) :=
  match data.head?, data.getLast? with
  | some mn, some mx =>
    if i ≥ (mx : Int) then .ok none
    else if i < (mn : Int) then .ok (some mn)
    else do
      let pos ← bisectBy (fun (x : Nat) => decide ((x : Int) ≤ i)) data 0 data.length
      match data[pos]? with
      | none => .error .index
      | some v => .ok (some v)
  | _, _ => .ok none

/-- monadic left fold (`for x in xs: state = f(state, x)` with exceptions). -/
def foldE {σ α} (f : σ → α → Except Err σ) : σ → List α → Except Err σ
  | s, [] => .ok s
  | s, x :: xs => match f s x with
    | .error e => .error e
    | .ok s' => foldE f s' xs

/-- `DocIdSet.update` on a `SortedIntSet`. -/
def sisUpdate (data : List Nat) (o : Other) : Except Err (List Nat) := foldE sisAdd data o.items

/-- `SortedIntSet.intersection_update` / `intersection` (`array(num for num in self if num in other)`). -/
def sisIntersection (data : List Nat) (o : Other) : List Nat := data.filter o.contains
/-- `SortedIntSet.difference_update` / `difference`. -/
def sisDifference (data : List Nat) (o : Other) : List Nat := data.filter (fun n => !o.contains n)

/-- `DocIdSet.invert_update` (the generic loop) on a `SortedIntSet`. -/
def sisInvertUpdate (data : List Nat) (size : Nat) : Except Err (List Nat) :=
  foldE (fun d i => do
    if (← sisContains d i) then sisDiscard d i else sisAdd d i) data (List.range size)

/-! ### ReverseIdSet / MultiIdSet over either representation -/

inductive Inner where
  | bits (b : Bits)
  | sorted (d : List Nat)

def Inner.contains : Inner → Nat → Except Err Bool
  | .bits b, i => .ok (IdSets.contains b i)
  | .sorted d, i => sisContains d i

def Inner.iter : Inner → List Nat
  | .bits b => IdSets.iter b
  | .sorted d => d

def Inner.len : Inner → Except Err Nat
  | .bits b => IdSets.len b
  | .sorted d => .ok d.length

def Inner.add : Inner → Nat → Except Err Inner
  | .bits b, i => .ok (.bits (IdSets.add b i))
  | .sorted d, i => (sisAdd d i).map .sorted

def Inner.discard : Inner → Nat → Except Err Inner
  | .bits b, i => .ok (.bits (IdSets.discard b i))
  | .sorted d, i => (sisDiscard d i).map .sorted

structure Rev where
  inner : Inner
  limit : Nat

/-- `ReverseIdSet.__len__` (a Python `int`, may be negative when the precondition fails). -/
def Rev.len (r : Rev) : Except Err Int := r.inner.len.map fun n => (r.limit : Int) - n

/-- `ReverseIdSet.__contains__`. -/
def Rev.contains (r : Rev) (i : Nat) : Except Err Bool := (r.inner.contains i).map (!·)

/-- The `for i in xrange(self.limit)` loop of `ReverseIdSet.__iter__`; `nx = none` is `-1`,
    `ids` the not yet consumed part of `iter(self.idset)`, `n` the iterations left. -/
def revIterLoop : Nat → Nat → Option Nat → List Nat → List Nat
  | 0, _, _, _ => []
  | n + 1, i, nx, ids =>
    if nx = some i then
      match ids with
      | [] => revIterLoop n (i + 1) none []
      | x :: rest => revIterLoop n (i + 1) (some x) rest
    else i :: revIterLoop n (i + 1) nx ids

/-- `ReverseIdSet.__iter__`. -/
def Rev.iter (r : Rev) : List Nat :=
  match r.inner.iter with
  | [] => revIterLoop r.limit 0 none []
  | x :: rest => revIterLoop r.limit 0 (some x) rest

/-- `ReverseIdSet.first`. -/
def Rev.first (r : Rev) : Option Nat := r.iter.head?

/-- `ReverseIdSet.last`: `for i in xrange(maxid, -1, -1): if i not in idset: return i`
    (FIX: the `idset.last() < maxid - 1` shortcut, which broke on an empty wrapped set, is gone).
    `n` = `i + 1`. -/
def revLastLoop (inner : Inner) : Nat → Except Err (Option Nat)
  | 0 => .ok none
  | i + 1 => match inner.contains i with
    | .error e => .error e
    | .ok false => .ok (some i)
    | .ok true => revLastLoop inner i

def Rev.last (r : Rev) : Except Err (Option Nat) := revLastLoop r.inner r.limit

/-- `ReverseIdSet.add` / `discard`. -/
def Rev.add (r : Rev) (n : Nat) : Except Err Rev := (r.inner.discard n).map fun x => { r with inner := x }
def Rev.discard (r : Rev) (n : Nat) : Except Err Rev := (r.inner.add n).map fun x => { r with inner := x }

structure Multi where
  sets : List Inner
  offsets : List Nat

/-- `MultiIdSet._document_set`.  FIX: `max(bisect_right(offsets, n) - 1, 0)` (was
    `max(bisect_left(offsets, n), len(offsets) - 1)`, i.e. always the last set or past it). -/
def Multi.documentSet (m : Multi) (n : Nat) : Except Err Nat :=
  (bisectRight m.offsets n).map fun p => p - 1

/-- `MultiIdSet.__contains__` via `_set_and_docnum`.  `n - offset < 0` (only possible when
    `offsets[0] > 0`) is outside the modelled domain and reported as `value`. -/
def Multi.contains (m : Multi) (item : Nat) : Except Err Bool := do
  let setnum ← m.documentSet item
  match m.offsets[setnum]?, m.sets[setnum]? with
  | some off, some s => if item < off then .error .value else s.contains (item - off)
  | _, _ => .error .index

/-- `MultiIdSet.__iter__` (`izip(self.idsets, self.offsets)`). -/
def Multi.iter (m : Multi) : List Nat :=
  (m.sets.zip m.offsets).flatMap fun (s, off) => s.iter.map (· + off)

/-- `MultiIdSet.__len__`. -/
def Multi.len (m : Multi) : Except Err Nat :=
  foldE (fun acc s => (s.len).map (acc + ·)) 0 m.sets

/-! ### what `ReverseIdSet` / `MultiIdSet` do **not** implement

`ReverseIdSet` defines `__len__/__contains__/__iter__/add/discard/first/last` only and
`MultiIdSet` `__len__/__iter__/__contains__` only; everything else is inherited from `DocIdSet`,
whose `before/after/first/last/copy/add/discard` raise `NotImplementedError`, and whose
`union/intersection/difference/invert` start with `self.copy()`. -/

/-- `ReverseIdSet.before/after` (inherited `DocIdSet.before/after`). -/
def Rev.before (_ : Rev) (_ : Int) : Except Err (Option Nat) := .error .notImpl
def Rev.after (_ : Rev) (_ : Int) : Except Err (Option Nat) := .error .notImpl
/-- `ReverseIdSet.copy()` and with it `union/intersection/difference/invert` (`c = self.copy()`). -/
def Rev.copy (_ : Rev) : Except Err Rev := .error .notImpl
def Rev.union (r : Rev) (_ : Other) : Except Err Rev := r.copy
def Rev.intersection (r : Rev) (_ : Other) : Except Err Rev := r.copy
def Rev.difference (r : Rev) (_ : Other) : Except Err Rev := r.copy
def Rev.invert (r : Rev) (_ : Nat) : Except Err Rev := r.copy

/-- `DocIdSet.update` on a `ReverseIdSet`: `for i in other: self.add(i)`. -/
def Rev.update (r : Rev) (o : Other) : Except Err Rev := foldE Rev.add r o.items
/-- `DocIdSet.difference_update`: `for n in other: self.discard(n)`. -/
def Rev.differenceUpdate (r : Rev) (o : Other) : Except Err Rev := foldE Rev.discard r o.items
/-- `DocIdSet.intersection_update`: `for n in self: if n not in other: self.discard(n)` (the numbers
    yielded while the wrapped set grows are a superset of the snapshot and the extra ones are
    already outside the set, so the snapshot gives the same result). -/
def Rev.intersectionUpdate (r : Rev) (o : Other) : Except Err Rev :=
  foldE (fun acc n => if o.contains n then .ok acc else acc.discard n) r r.iter

/-- `MultiIdSet.first/last/before/after/copy` (inherited `DocIdSet` defaults). -/
def Multi.first (_ : Multi) : Except Err (Option Nat) := .error .notImpl
def Multi.last (_ : Multi) : Except Err (Option Nat) := .error .notImpl
def Multi.before (_ : Multi) (_ : Int) : Except Err (Option Nat) := .error .notImpl
def Multi.after (_ : Multi) (_ : Int) : Except Err (Option Nat) := .error .notImpl
def Multi.copy (_ : Multi) : Except Err Multi := .error .notImpl
def Multi.union (m : Multi) (_ : Other) : Except Err Multi := m.copy
def Multi.intersection (m : Multi) (_ : Other) : Except Err Multi := m.copy
def Multi.difference (m : Multi) (_ : Other) : Except Err Multi := m.copy
def Multi.invert (m : Multi) (_ : Nat) : Except Err Multi := m.copy


/-! ### programs over a pool of named sets

Op programs in which the result of one operation is the operand (on either side) of a later one:
`r2 = r0 - r1; r3 = r0 & r2; r0 &= r3 …`.  A `BitSet` register is its byte array — of **any**
length, including zero: a `BitSet`'s array is empty exactly when it is the trimmed result of an
earlier `_logic` call or comes from `BitSet.from_bytes(b"")`. -/

inductive BinOp where
  | union | inter | diff
  deriving Repr, DecidableEq

/-- a register as the argument of a binary method: a `BitSet` is recognised by `isinstance`, a
    `SortedIntSet` is "any other iterable container". -/
def Inner.asOther : Inner → Other
  | .bits b => .bits b
  | .sorted d => .list d false

/-- `a.union(o)` / `a | o`, `a.intersection(o)` / `a & o`, `a.difference(o)` / `a - o`
    (`DocIdSet.__or__/__and__/__sub__` call the methods). -/
def Inner.bin (a : Inner) (op : BinOp) (o : Other) : Except Err Inner :=
  match a, op with
  | .bits x, .union => .ok (.bits (IdSets.union x o))
  | .bits x, .inter => .ok (.bits (IdSets.intersection x o))
  | .bits x, .diff => .ok (.bits (IdSets.difference x o))
  | .sorted d, .union => (sisUpdate d o).map .sorted      -- `DocIdSet.union`: copy, update
  | .sorted d, .inter => .ok (.sorted (sisIntersection d o))
  | .sorted d, .diff => .ok (.sorted (sisDifference d o))

/-- `a.update(o)`, `a.intersection_update(o)`, `a.difference_update(o)`. -/
def Inner.upd (a : Inner) (op : BinOp) (o : Other) : Except Err Inner :=
  match a, op with
  | .bits x, .union => .ok (.bits (IdSets.update x o))
  | .bits x, .inter => .ok (.bits (IdSets.intersectionUpdate x o))
  | .bits x, .diff => .ok (.bits (IdSets.differenceUpdate x o))
  | .sorted d, .union => (sisUpdate d o).map .sorted
  | .sorted d, .inter => .ok (.sorted (sisIntersection d o))
  | .sorted d, .diff => .ok (.sorted (sisDifference d o))

/-- `a.invert_update(size)` / `a.invert(size)`. -/
def Inner.invert (a : Inner) (size : Nat) : Except Err Inner :=
  match a with
  | .bits x => (invertUpdate x size).map .bits
  | .sorted d => (sisInvertUpdate d size).map .sorted

/-- `a.clear()`. -/
def Inner.clear : Inner → Inner
  | .bits x => .bits (IdSets.clear x)
  | .sorted _ => .sorted []

abbrev Pool := List Inner

/-- The state-changing operations of a pool program (queries go through the single-set models). -/
inductive PoolOp where
  /-- `r[dst] = r[a].op(r[b])` (method or operator form) -/
  | bin (op : BinOp) (dst a b : Nat)
  /-- `r[a].op_update(r[b])` -/
  | upd (op : BinOp) (a b : Nat)
  | add (a i : Nat)
  | discard (a i : Nat)
  | clear (a : Nat)
  /-- `r[dst] = r[a].invert(size)` -/
  | invert (dst a size : Nat)
  | invupd (a size : Nat)
  /-- `r[dst] = r[a].copy()` -/
  | copy (dst a : Nat)
  /-- `r[dst] = BitSet.from_bytes(..)` / `BitSet(source, size)` / `SortedIntSet(source)` -/
  | load (dst : Nat) (x : Inner)

/-- assign register `dst` (an index outside the pool is an error of the program, `index`). -/
def Pool.assign (p : Pool) (dst : Nat) (x : Inner) : Except Err Pool :=
  if dst < p.length then .ok (p.set dst x) else .error .index

def Pool.reg (p : Pool) (a : Nat) : Except Err Inner :=
  match p[a]? with
  | some x => .ok x
  | none => .error .index

/-- one step of a pool program. -/
def Pool.step (p : Pool) : PoolOp → Except Err Pool
  | .bin op dst a b => do
    let x ← p.reg a; let y ← p.reg b
    p.assign dst (← x.bin op y.asOther)
  | .upd op a b => do
    let x ← p.reg a; let y ← p.reg b
    p.assign a (← x.upd op y.asOther)
  | .add a i => do p.assign a (← (← p.reg a).add i)
  | .discard a i => do p.assign a (← (← p.reg a).discard i)
  | .clear a => do p.assign a (← p.reg a).clear
  | .invert dst a size => do p.assign dst (← (← p.reg a).invert size)
  | .invupd a size => do p.assign a (← (← p.reg a).invert size)
  | .copy dst a => do p.assign dst (← p.reg a)
  | .load dst x => p.assign dst x

/-- a whole program; stops at the first error. -/
def Pool.run (p : Pool) : List PoolOp → Except Err Pool
  | [] => .ok p
  | op :: ops => match p.step op with
    | .error e => .error e
    | .ok p' => Pool.run p' ops

end WM.IdSets
