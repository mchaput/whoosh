import WM.Model.IdSets
import WM.Model.NumLists
/-
Mirror of `whoosh/filedb/filetables.py`: `HashWriter` (`__init__` header, `add`, `_write_hashes`,
`_write_directory`), `HashReader` (`_ranges`, `__iter__/items/keys`, `ranges_for_key`, `all`,
`__getitem__/get/__contains__`), `OrderedHashWriter.add` (+ the position index) and
`OrderedHashReader` (`closest_key_pos`, `closest_key`, `ranges_from/keys_from/items_from`).

A file is described by what the reader gets from it: the key/value records with their byte
positions, the 256 open-addressed tables of `(hash, position)` slots, the directory and the
position index; the byte layout of those parts (fixed-width big-endian structs, the pickled
extras) is modelled separately, in `WM/Model/HashBytes.lean`.  Values are of any type `α`
with a length (`vlen`), the hash function is a parameter.
-/
namespace WM.HashFile
open WM.IdSets (Err bisectBy)

abbrev Key := List Nat

structure Rec (α : Type) where
  pos : Nat
  key : Key
  val : α
  deriving Repr

/-- one pointer of a hash table: `(hash value, position of the record)`; `(0, 0)` = empty. -/
abbrev Slot := Nat × Nat
def null : Slot := (0, 0)

/-- magic (4) + hash type (1) + two unused ints (8) -/
def headerSize : Nat := 13
/-- `_lengths = Struct("!ii")` -/
def lengthsSize : Nat := 8
/-- `_pointer = Struct("!Iq")` -/
def pointerSize : Nat := 12

/-- `HashWriter.add`: the record goes to `dbfile.tell()`, followed by lengths, key and value. -/
def addRec {α} (vlen : α → Nat) (st : Nat × List (Rec α)) (kv : Key × α) : Nat × List (Rec α) :=
  (st.1 + lengthsSize + kv.1.length + vlen kv.2, st.2 ++ [⟨st.1, kv.1, kv.2⟩])

/-- `self.buckets[h & 255]` after all adds: `(h, pos)` of the records whose hash ends in `b`,
    in insertion order. -/
def bucketEntries {α} (hash : Key → Nat) (recs : List (Rec α)) (b : Nat) : List Slot :=
  (recs.filter fun r => hash r.key % 256 == b).map fun r => (hash r.key, r.pos)

/-- `while hashtable[slot] != null: slot = (slot + 1) % numslots`.  The fuel is `numslots`:
    running out of it means the Python loop would spin forever (`WM.C20.hash_build_total` shows
    it does not). -/
def findFree (table : List Slot) : Nat → Nat → Option Nat
  | _, 0 => none
  | slot, fuel + 1 =>
    match table[slot]? with
    | none => none
    | some s => if s != null then findFree table ((slot + 1) % table.length) fuel else some slot

/-- body of `for hashval, position in entries` in `_write_hashes`. -/
def insertSlot (table : List Slot) (e : Slot) : Option (List Slot) :=
  (findFree table ((e.1 / 256) % table.length) table.length).map fun slot => table.set slot e

def insertAll : List Slot → List Slot → Option (List Slot)
  | table, [] => some table
  | table, e :: es => match insertSlot table e with
    | none => none
    | some t => insertAll t es

/-- one bucket of `_write_hashes`: `numslots = 2 * len(entries)`. -/
def buildTable (entries : List Slot) : Option (List Slot) :=
  insertAll (List.replicate (2 * entries.length) null) entries

structure File (α : Type) where
  startoffset : Nat
  recs : List (Rec α)
  endofdata : Nat
  tables : List (List Slot)
  /-- `extras["indextype"]`: typecode of `OrderedHashWriter.index` (a `GrowableArray("H")`) at close -/
  indexTC : WM.NumLists.TC
  /-- `extras["indexlen"]` -/
  indexLen : Nat
  /-- the bytes `index.to_file(dbfile)` wrote after the extras (big-endian items) -/
  indexBytes : List Nat
  deriving Repr

/-- `OrderedHashWriter.index` after `index.append(dbfile.tell())` for every key: the array and
    whether an `OverflowError` came up (a position of 2^63 or more). -/
def indexArray (positions : List Nat) : WM.NumLists.GA × Bool :=
  (WM.NumLists.GA.mk .H [] true).extend (positions.map Int.ofNat)

/-- `HashWriter(dbfile).add_all(kvs); close()` with `dbfile.tell() = startoffset` at creation. -/
def build {α} (hash : Key → Nat) (vlen : α → Nat) (startoffset : Nat) (kvs : List (Key × α)) :
    Option (File α) :=
  let st := kvs.foldl (addRec vlen) (startoffset + headerSize, [])
  ((List.range 256).mapM fun b => buildTable (bucketEntries hash st.2 b)).map fun tables =>
    let ga := (indexArray (st.2.map (·.pos))).1
    { startoffset := startoffset, recs := st.2, endofdata := st.1, tables := tables,
      indexTC := ga.tc, indexLen := ga.items.length, indexBytes := ga.toBytes }

/-- `OrderedHashWriter.add`'s guard over the whole key sequence: `key <= self.lastkey` raises
    `ValueError` (`lastkey` starts as `b""`, so the empty key is rejected too). -/
def orderedKeysOk : Key → List Key → Bool
  | _, [] => true
  | lastkey, k :: ks => if decide (k ≤ lastkey) then false else orderedKeysOk k ks

/-- position of table `b` in the file (`self.directory`): tables follow the data back to back. -/
def tablePos {α} (f : File α) (b : Nat) : Nat :=
  f.endofdata + pointerSize * ((f.tables.take b).map List.length).sum

/-! ### the limits of the struct formats

`_lengths = "!ii"` (key and value length: signed 32 bit), `_pointer = "!Iq"` (hash: unsigned 32 bit,
record position: signed 64 bit), `_dir_entry = "!qi"` (table position: signed 64 bit, slot count:
signed 32 bit).  `struct.pack` raises `struct.error` for a number outside its format; the position
index (`GrowableArray`, `allow_longs`) raises `OverflowError` from 2^63 on. -/

/-- every number written by `add`, `_write_hashes` and `_write_directory` fits its format -/
def formatsOk {α} (hash : Key → Nat) (vlen : α → Nat) (f : File α) : Bool :=
  f.recs.all (fun r => decide (r.key.length < 2 ^ 31) && decide (vlen r.val < 2 ^ 31)
      && decide (hash r.key < 2 ^ 32))
    && f.tables.all (fun t => decide (t.length < 2 ^ 31))
    && decide (tablePos f 256 < 2 ^ 63)

/-- `HashWriter` with the format limits: `struct.error` when a length, hash value, position or slot
    count does not fit.  (`none` of `build` = the insertion loop not terminating — excluded by
    `WM.C20.hash_build_total` — is reported as `index`.  Which of several offending numbers raises
    first is not modelled: lengths fail inside `add`, the others in `close`.) -/
def buildE {α} (hash : Key → Nat) (vlen : α → Nat) (startoffset : Nat) (kvs : List (Key × α)) :
    Except Err (File α) :=
  match build hash vlen startoffset kvs with
  | none => .error .index
  | some f => if formatsOk hash vlen f then .ok f else .error .struct

/-- `OrderedHashWriter`: additionally `ValueError` unless every key is greater than the one before
    (the first one greater than `b""`), and `OverflowError` from the position index. -/
def buildOrderedE {α} (hash : Key → Nat) (vlen : α → Nat) (startoffset : Nat) (kvs : List (Key × α)) :
    Except Err (File α) :=
  if orderedKeysOk [] (kvs.map (·.1)) then
    match build hash vlen startoffset kvs with
    | none => .error .index
    | some f =>
      if (indexArray (f.recs.map (·.pos))).2 then .error .overflow
      else if formatsOk hash vlen f then .ok f else .error .struct
  else .error .value

/-! ### reader -/

/-- what `key_at` / the `_lengths` + key read at a position see -/
def recAt {α} (f : File α) (pos : Nat) : Option (Rec α) := f.recs.find? (·.pos == pos)

/-- `HashReader._ranges(pos)`: walk the records from `pos` to `endofdata`. -/
def walk {α} (vlen : α → Nat) (f : File α) (pos : Nat) : List (Rec α) :=
  if pos < f.endofdata then
    match recAt f pos with
    | none => []
    | some r => r :: walk vlen f (pos + (lengthsSize + r.key.length + vlen r.val))
  else []
termination_by f.endofdata - pos
decreasing_by simp only [lengthsSize]; omega

/-- `HashReader.items()` -/
def items {α} (vlen : α → Nat) (f : File α) : List (Key × α) :=
  (walk vlen f (f.startoffset + headerSize)).map fun r => (r.key, r.val)

/-- `slotpos += ptrsize; if slotpos == tablestart + numslots * ptrsize: slotpos = tablestart` -/
def nextSlot (numslots slot : Nat) : Nat := if slot + 1 = numslots then 0 else slot + 1

/-- the `for _ in xrange(numslots)` loop of `ranges_for_key`: `check` is the
    "lengths match and key bytes equal" test on the record at the slot's position. -/
def scan {β} (table : List Slot) (keyhash : Nat) (check : Nat → Option β) : Nat → Nat → List β
  | _, 0 => []
  | slot, fuel + 1 =>
    match table[slot]? with
    | none => []
    | some (slothash, itempos) =>
      if itempos = 0 then []
      else
        let rest := scan table keyhash check (nextSlot table.length slot) fuel
        if slothash = keyhash then
          match check itempos with
          | some v => v :: rest
          | none => rest
        else rest

/-- the test inside the probe loop: read the lengths at `itempos`, compare the key length, then
    the key bytes; the value range is yielded on a match. -/
def checkKey {α} (f : File α) (key : Key) (itempos : Nat) : Option α :=
  match recAt f itempos with
  | some r => if r.key.length = key.length ∧ r.key = key then some r.val else none
  | none => none

/-- `HashReader.all(key)` (through `ranges_for_key`). -/
def all {α} (hash : Key → Nat) (f : File α) (key : Key) : List α :=
  let keyhash := hash key
  match f.tables[keyhash % 256]? with
  | none => []
  | some table =>
    if table.length = 0 then []
    else scan table keyhash (checkKey f key) ((keyhash / 256) % table.length) table.length

/-- `HashReader.get(key)` / `__getitem__` (first value) and `__contains__`. -/
def get {α} (hash : Key → Nat) (f : File α) (key : Key) : Option α := (all hash f key).head?
def containsKey {α} (hash : Key → Nat) (f : File α) (key : Key) : Bool := !(all hash f key).isEmpty

/-- `midkey < key` with `midkey = key_at(pos)` -/
def keyBefore {α} (f : File α) (key : Key) (pos : Nat) : Bool :=
  match recAt f pos with
  | some r => decide (r.key < key)
  | none => false

/-- `self._get_pos(indexbase + k * indexsize)`: item `k` of the stored index array, read with
    `get_ushort/get_int/get_uint/get_long` according to `indextype`. -/
def getPos {α} (f : File α) (k : Nat) : Option Nat :=
  match WM.NumLists.readItem f.indexTC f.indexBytes k with
  | some x => if 0 ≤ x then some x.toNat else none
  | none => none

/-- `key_at(_get_pos(indexbase + mid * indexsize)) < key` -/
def keyBeforeIdx {α} (f : File α) (key : Key) (k : Nat) : Bool :=
  match getPos f k with
  | some p => keyBefore f key p
  | none => false

/-- `OrderedHashReader.closest_key_pos`: binary search over `[0, indexlen)`, every probe reading the
    stored index array and the key at that position; an unreadable item is an error. -/
def closestKeyPos {α} (f : File α) (key : Key) : Except Err (Option Nat) := do
  let lo ← bisectBy (keyBeforeIdx f key) (List.range f.indexLen) 0 f.indexLen
  if lo = f.indexLen then .ok none
  else match getPos f lo with
    | some p => .ok (some p)
    | none => .error .index

/-- `OrderedHashReader.closest_key`. -/
def closestKey {α} (f : File α) (key : Key) : Except Err (Option Key) := do
  match ← closestKeyPos f key with
  | none => .ok none
  | some p => match recAt f p with
    | some r => .ok (some r.key)
    | none => .error .index

/-- `OrderedHashReader.items_from(key)` (`keys_from` = its first components). -/
def itemsFrom {α} (vlen : α → Nat) (f : File α) (key : Key) : Except Err (List (Key × α)) := do
  match ← closestKeyPos f key with
  | none => .ok []
  | some p => .ok ((walk vlen f p).map fun r => (r.key, r.val))

end WM.HashFile
