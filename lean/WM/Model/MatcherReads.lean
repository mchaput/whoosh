import WM.Model.MatcherTree
/-
Layer M, matcher family: the *reads* of the current entry other than `id()`/`score()`:

  * `weight()`            (`Matcher.weight` and its overrides in mcore.py / binary.py / wrappers.py /
                           codec/whoosh3.py)
  * `matching_terms()`    (mcore.py `Matcher.matching_terms`, with `children()` of every class and the
                           override of `MultiMatcher`), as the *number* of terms it yields - the quantity
                           `CoordMatcher.score` feeds into its coordination formula.

Every class computes such a read from the reads of its sub-matchers with the same case analysis on the
sub-matchers' activity and ids as `score()`; the cursor operations do not depend on it.  `opsR k s` is therefore
the operation table of the tree `s` in which `score` is replaced by the read `k` - built by the same functors as
`ops s` wherever the class combines the read as it combines the score, and by a variant of the functor where it
does not (the table says which).  `WM/Lemmas/FaithfulReads.lean` proves that `opsR k s` moves exactly as `ops s`
(`tree_moveEq`) and that it is a faithful cursor over `denR k s` (the Layer-S list of `(id, read)` entries).

`ArrayUnionMatcher` supports neither read (`weight()` raises NotImplementedError from `value_as`; its
sub-matchers are ahead of the document, so `matching_terms()` is empty): `.error .notImpl` / not covered.
-/
namespace WM.Matcher

/-- which read -/
inductive Rd where
  | weight | terms
  deriving DecidableEq, Repr

/-- the score function that makes `LeafMatcher.score` return the read: `weight()` is the posting's weight,
    a term matcher yields exactly its own term -/
def Rd.sc : Rd → Rat → Nat → Rat
  | .weight => fun w _ => w
  | .terms => fun _ _ => 1

namespace LeafM

/-- `W3LeafMatcher.weight`: `self._weights[self._i]` -/
def weight (m : LeafM) : R Rat := match m.cur with | some p => .ok p.weight | none => .error .index

/-- number of `matching_terms()` of a term matcher: nothing when exhausted, else its own term -/
def nterms (m : LeafM) : R Rat := if m.isActive then .ok 1 else .ok 0

def opsR : Rd → Ops LeafM
  | .weight => { LeafM.ops with score := weight }
  | .terms => { LeafM.ops with score := nterms }

end LeafM

namespace ListM

/-- number of `matching_terms()` of a `ListMatcher` constructed with a `term` (what the harness builds; with
    `term=None` the class yields nothing): nothing when exhausted, else one -/
def nterms (m : ListM) : R Rat := if m.isActive then .ok 1 else .ok 0

/-- `ListMatcher.weight` is what the model calls `score` (`self._weights[self._i]`, 1.0 without weights) -/
def opsR : Rd → Ops ListM
  | .weight => ListM.ops
  | .terms => { ListM.ops with score := nterms }

end ListM

section
variable {α : Type} (A : Ops α)

/-- `WrappingMatcher.weight` with the inherited `boost = 1.0` (`ConstantScoreWrapperMatcher`) -/
def Const.opsW : Ops (Const α) :=
  { Const.ops A with score := fun m => do let w ← A.score m.child; pure (w * 1) }

/-- `children() = [child]`: the matching terms of a constant-score wrapper are the child's -/
def Const.opsT : Ops (Const α) :=
  { Const.ops A with score := fun m => A.score m.child }

/-- `children() = [child]`: the matching terms of a boost wrapper are the child's -/
def Boost.opsT : Ops (Boost α) :=
  { Boost.ops A with score := fun m => A.score m.child }

/-- … and of a `FilterMatcher` -/
def Filter.opsT : Ops (Filter α) :=
  { Filter.ops A with score := fun m => A.score m.child }

/-- `InverseMatcher`: `children() = [child]`, and the child is never on the current document -/
def Inverse.opsT : Ops (Inverse α) :=
  { Inverse.ops A with score := fun _ => .ok 0 }

end

/-- The operation table of a tree with `score` replaced by the read.

    `weight()`: `AdditiveBiMatcher.weight` (Intersection: sum), `UnionMatcher.weight` (also inherited by
    `DisjunctionMaxMatcher`: the sum where both sides are on the document), `AndNotMatcher.weight`,
    `RequireMatcher.weight` (`a.weight()`), `AndMaybeMatcher.weight` (as repaired: like `score`),
    `WrappingMatcher.weight` (`child.weight() * boost`, also FilterMatcher; boost 1.0 for ConstantScore),
    `InverseMatcher.weight` (`self._weight`), `MultiMatcher.weight` (the current sub-matcher's).

    `matching_terms()` (count): a child contributes iff it is active and on the document; `children()` is
    `[a, b]` for every `BiMatcher`, `[child]` for the wrappers - where `RequireMatcher`'s child is the
    `IntersectionMatcher(a, b)` - and `[matchers[current]]` for `MultiMatcher` (as repaired: the document
    number is translated by the segment's offset). -/
def opsR (k : Rd) : (s : Shape) → Ops (St s)
  | .null => nullOps
  | .list => ListM.opsR k
  | .leaf => LeafM.opsR k
  | .union a b => Union.ops (opsR k a) (opsR k b)
  | .dismax a b => Union.ops (opsR k a) (opsR k b)
  | .inter a b => Inter.ops (opsR k a) (opsR k b)
  | .andNot a b => AndNot.ops (opsR k a) (opsR k b)
  | .andMaybe a b => AndMaybe.ops (opsR k a) (opsR k b)
  | .require a b =>
    match k with
    | .weight => Require.ops (opsR k a) (opsR k b)
    | .terms => Inter.ops (opsR k a) (opsR k b)
  | .boost c =>
    match k with
    | .weight => Boost.ops (opsR k c)
    | .terms => Boost.opsT (opsR k c)
  | .filter c =>
    match k with
    | .weight => Filter.ops (opsR k c)
    | .terms => Filter.opsT (opsR k c)
  | .inverse c =>
    match k with
    | .weight => Inverse.ops (opsR k c)
    | .terms => Inverse.opsT (opsR k c)
  | .const c =>
    match k with
    | .weight => Const.opsW (opsR k c)
    | .terms => Const.opsT (opsR k c)
  | .multi c => Multi.ops (opsR k c)
  | .aunion c => { AUnion.ops (ops c) with score := fun _ => .error .notImpl }

/-- the read on the current entry -/
def read (k : Rd) (s : Shape) (m : St s) : R Rat := (opsR k s).score m

/-! ## Layer S of the reads: the remaining / complete list of `(id, read)` entries -/

namespace LeafM
def denR (k : Rd) (m : LeafM) : Den := LeafM.den { m with sc := k.sc }
def fullR (k : Rd) (m : LeafM) : Den := LeafM.full { m with sc := k.sc }
end LeafM

namespace ListM
/-- the same list with every weight replaced by 1 -/
def ones (m : ListM) : ListM := { m with weights := m.ids.map fun _ => 1 }
/-- the list whose `score` is the read -/
def viewR : Rd → ListM → ListM
  | .weight, m => m
  | .terms, m => m.ones
def denR (k : Rd) (m : ListM) : Den := (viewR k m).den
def fullR (k : Rd) (m : ListM) : Den := (viewR k m).full
end ListM

/-- multiplier of a wrapper for the read: the boost for `weight()`, nothing for the matching terms -/
def Rd.mul (k : Rd) (boost : Rat) : Rat := match k with | .weight => boost | .terms => 1

/-- what an `InverseMatcher` reads on its documents: its weight / no term -/
def Rd.inv (k : Rd) (weight : Rat) : Rat := match k with | .weight => weight | .terms => 0

/-- The remaining list of `(id, read)` entries of a tree (same list algebra as `den`; both reads add where
    `DisjunctionMax` takes the maximum of the scores, the matching terms also add through `Require`, pass
    through boosts and ignore the constant score). -/
def denR (k : Rd) : (s : Shape) → St s → Den
  | .null, _ => []
  | .list, m => ListM.denR k m
  | .leaf, m => LeafM.denR k m
  | .union a b, m => unionWith (· + ·) (denR k a m.a) (denR k b m.b)
  | .dismax a b, m => unionWith (· + ·) (denR k a m.a) (denR k b m.b)
  | .inter a b, m => interWith (· + ·) (denR k a m.a) (denR k b m.b)
  | .andNot a b, m => diff (denR k a m.a) (denR k b m.b)
  | .andMaybe a b, m => leftJoin (denR k a m.a) (denR k b m.b)
  | .require a b, m =>
    match k with
    | .weight => interWith (fun s _ => s) (denR k a m.a) (denR k b m.b)
    | .terms => interWith (· + ·) (denR k a m.a) (denR k b m.b)
  | .boost c, m => scale (k.mul m.boost) (denR k c m.child)
  | .filter c, m => scale (k.mul m.boost) (keepIds m.ids m.exclude (denR k c m.child))
  | .inverse c, m => complement m.id m.limit m.missing (denR k c m.child) (k.inv m.weight)
  | .const c, m => scale 1 (denR k c m.child)
  | .multi c, m => Multi.den (denR k c) m
  | .aunion _, _ => []

/-- … and the complete one. -/
def fullR (k : Rd) : (s : Shape) → St s → Den
  | .null, _ => []
  | .list, m => ListM.fullR k m
  | .leaf, m => LeafM.fullR k m
  | .union a b, m => unionWith (· + ·) (fullR k a m.a) (fullR k b m.b)
  | .dismax a b, m => unionWith (· + ·) (fullR k a m.a) (fullR k b m.b)
  | .inter a b, m => interWith (· + ·) (fullR k a m.a) (fullR k b m.b)
  | .andNot a b, m => diff (fullR k a m.a) (fullR k b m.b)
  | .andMaybe a b, m => leftJoin (fullR k a m.a) (fullR k b m.b)
  | .require a b, m =>
    match k with
    | .weight => interWith (fun s _ => s) (fullR k a m.a) (fullR k b m.b)
    | .terms => interWith (· + ·) (fullR k a m.a) (fullR k b m.b)
  | .boost c, m => scale (k.mul m.boost) (fullR k c m.child)
  | .filter c, m => scale (k.mul m.boost) (keepIds m.ids m.exclude (fullR k c m.child))
  | .inverse c, m => complement 0 m.limit m.missing (fullR k c m.child) (k.inv m.weight)
  | .const c, m => scale 1 (fullR k c m.child)
  | .multi c, m => Multi.full (fullR k c) m
  | .aunion _, _ => []

/-- shapes whose reads are covered: no `ArrayUnionMatcher` node -/
def readable : Shape → Bool
  | .null | .list | .leaf => true
  | .union a b | .dismax a b | .inter a b | .andNot a b | .andMaybe a b | .require a b => readable a && readable b
  | .boost c | .filter c | .inverse c | .const c | .multi c => readable c
  | .aunion _ => false

/-- … and no `MultiMatcher` node either (the shapes for which the reads' invariant is derived from the tree's) -/
def plain : Shape → Bool
  | .null | .list | .leaf => true
  | .union a b | .dismax a b | .inter a b | .andNot a b | .andMaybe a b | .require a b => plain a && plain b
  | .boost c | .filter c | .inverse c | .const c => plain c
  | .multi _ | .aunion _ => false

end WM.Matcher
