import WM.Model.Parser
/-!
Specification side of C16: the documented query language as a tree type, how such a tree is
written down as the flat node list that `QueryParser.tag()` produces (`toks`), what it means
(`Expr.eval`: which documents it selects, given which documents each leaf selects) and the syntax
tree the parser is expected to build for it (`Expr.out`).

Binding strength, tightest first: `NOT`, `AND`, `OR`, `ANDNOT`, `ANDMAYBE`, `REQUIRE` (the three
binary operators associate to the left), then juxtaposition (the parser's implicit AND- or
OR-group).  Parentheses make a group of the parser's default kind.
-/
namespace WM.Parser

inductive Expr
  /-- a leaf syntax node: word, phrase, range, wildcard, prefix, regex, every -/
  | atom (n : Node)
  /-- `( e₁ e₂ … )` -/
  | paren (items : List Expr)
  /-- `NOT e` -/
  | not (e : Expr)
  /-- `e₁ OP e₂ OP … eₙ` for one of the infix operators AND, OR, ANDNOT, ANDMAYBE, REQUIRE (named by
      the group class they build); the binary ones associate to the left -/
  | op (g : GK) (es : List Expr)
  deriving Repr, Inhabited

mutual
  def Expr.size : Expr → Nat
    | .atom _ => 1
    | .paren items => 1 + Expr.sizeL items
    | .not e => 1 + e.size
    | .op _ es => 1 + Expr.sizeL es
  def Expr.sizeL : List Expr → Nat
    | [] => 0
    | e :: es => e.size + Expr.sizeL es
end

theorem Expr.size_mem {e : Expr} {l : List Expr} (h : e ∈ l) : e.size ≤ Expr.sizeL l := by
  induction l with
  | nil => cases h
  | cons a t ih =>
    simp only [Expr.sizeL]
    cases h with
    | head => omega
    | tail _ h => have := ih h; omega

/-- binding level of an infix operator; 0 for the group kinds that are not infix operators -/
def GK.lvl : GK → Nat
  | .and => 2
  | .or => 3
  | .andnot => 4
  | .andmaybe => 5
  | .require => 6
  | _ => 0

/-- binding level of the outermost construct (0 = atom or parenthesised group, 1 = NOT) -/
def Expr.level : Expr → Nat
  | .atom _ | .paren _ => 0
  | .not _ => 1
  | .op g _ => g.lvl

theorem level_le_six (e : Expr) : e.level ≤ 6 := by
  cases e with
  | op g es => cases g <;> simp [Expr.level, GK.lvl]
  | _ => simp [Expr.level]

/-- the leaf node kinds (the nodes that have a `query()` of their own) -/
def Node.isLeaf : Node → Bool
  | .text .. | .range .. | .every => true
  | _ => false

theorem isLeaf_props {n : Node} (h : n.isLeaf = true) : n.isWs = false ∧ n.isGroup = false := by
  cases n <;> first | exact ⟨rfl, rfl⟩ | cases h

/-- Well-formed expressions: an operator has at least two operands and every operand binds
    strictly tighter than the operator (otherwise it would have to be parenthesised; a chain of
    the same operator is one node). -/
def Expr.wf : Expr → Bool
  | .atom n => n.isLeaf
  | .paren items => !items.isEmpty && (items.map (fun e => e.wf)).all id
  | .not e => e.level == 0 && e.wf
  | .op g es => decide (2 ≤ g.lvl) && decide (2 ≤ es.length) &&
      (es.map (fun e => decide (e.level < g.lvl) && e.wf)).all id
termination_by e => e.size
decreasing_by
  all_goals simp_wf
  all_goals simp only [Expr.size]
  all_goals first
    | omega
    | (rename_i h; have := Expr.size_mem h; omega)

theorem all_map_id {α} (l : List α) (p : α → Bool) : (l.map p).all id = true ↔ ∀ x ∈ l, p x = true := by
  rw [List.all_map, List.all_eq_true]; rfl

theorem wf_atom {n : Node} : (Expr.atom n).wf = n.isLeaf := by rw [Expr.wf.eq_def]

theorem wf_paren {items : List Expr} :
    (Expr.paren items).wf = true ↔ items ≠ [] ∧ ∀ e ∈ items, e.wf = true := by
  rw [Expr.wf.eq_def]
  simp only [Bool.and_eq_true, all_map_id, Bool.not_eq_true', List.isEmpty_eq_false_iff]

theorem wf_not {e : Expr} : (Expr.not e).wf = true ↔ e.level = 0 ∧ e.wf = true := by
  rw [Expr.wf.eq_def]; simp

theorem wf_op {g : GK} {es : List Expr} :
    (Expr.op g es).wf = true ↔ 2 ≤ g.lvl ∧ 2 ≤ es.length ∧ ∀ e ∈ es, e.level < g.lvl ∧ e.wf = true := by
  rw [Expr.wf.eq_def]
  simp only [Bool.and_eq_true, all_map_id, decide_eq_true_eq, and_assoc]

theorem Expr.wf_ind {P : ∀ e : Expr, e.wf = true → Prop}
    (atom : ∀ (n : Node) (hn : n.isLeaf = true), P (.atom n) (wf_atom.trans hn))
    (paren : ∀ (items : List Expr) (hne : items ≠ []) (hw : ∀ e ∈ items, e.wf = true),
      (∀ e he, P e (hw e he)) → P (.paren items) (wf_paren.2 ⟨hne, hw⟩))
    (not : ∀ (e : Expr) (hl : e.level = 0) (hw : e.wf = true), P e hw → P (.not e) (wf_not.2 ⟨hl, hw⟩))
    (op : ∀ (g : GK) (es : List Expr) (hg : 2 ≤ g.lvl) (hlen : 2 ≤ es.length)
      (hch : ∀ e ∈ es, e.level < g.lvl ∧ e.wf = true),
      (∀ e he, P e (hch e he).2) → P (.op g es) (wf_op.2 ⟨hg, hlen, hch⟩))
    (e : Expr) (h : e.wf = true) : P e h := by
  induction e using Expr.wf.induct with
  | case1 n => exact atom n (wf_atom ▸ h)
  | case2 items ih => have h := wf_paren.1 h; exact paren items h.1 h.2 fun e he => ih e he _
  | case3 e ih => have h := wf_not.1 h; exact not e h.1 h.2 (ih _)
  | case4 g es ih => have ⟨hg, hl, hc⟩ := wf_op.1 h; exact op g es hg hl hc fun e he => ih e he _

/-! ### Writing an expression down -/

/-- the operator nodes the default `OperatorsPlugin` taggers create (the text is immaterial) -/
def opNot : Node := .op .pre .not true [78, 79, 84]
def opNode (g : GK) : Node := .op .inf g true []

/-- `OperatorsPlugin().ops`: the default taggers in the order they are tried -/
def defaultOps : List OpCfg :=
  [⟨.pre, .not, true⟩, ⟨.inf, .and, true⟩, ⟨.inf, .or, true⟩, ⟨.inf, .andnot, true⟩,
   ⟨.inf, .andmaybe, true⟩, ⟨.inf, .require, true⟩]

/-- `sep`-separated concatenation -/
def joinWith (sep : List Node) : List (List Node) → List Node
  | [] => []
  | [x] => x
  | x :: y :: rest => x ++ sep ++ joinWith sep (y :: rest)

theorem joinWith_cons2 (sep x y : List Node) (r : List (List Node)) :
    joinWith sep (x :: y :: r) = x ++ sep ++ joinWith sep (y :: r) := by rw [joinWith]

theorem joinWith_single (sep x : List Node) : joinWith sep [x] = x := by rw [joinWith]

theorem joinWith_rel {α} {R : List Node → List Node → Prop} (hnil : R [] [])
    (happ : ∀ {a b a' b'}, R a b → R a' b' → R (a ++ a') (b ++ b')) {sep sep' : List Node}
    (hsep : R sep sep') (f1 f2 : α → List Node) (cs : List α) (h : ∀ c ∈ cs, R (f1 c) (f2 c)) :
    R (joinWith sep (cs.map f1)) (joinWith sep' (cs.map f2)) := by
  induction cs with
  | nil => exact hnil
  | cons c cs ih =>
    cases cs with
    | nil => exact h c (by simp)
    | cons c2 cs =>
      exact happ (happ (h c (by simp)) hsep) (ih fun x hx => h x (List.mem_cons_of_mem _ hx))

theorem forall_mem_joinWith {α} {P : Node → Prop} {sep : List Node} {f : α → List Node} {cs : List α}
    (hs : ∀ x ∈ sep, P x) (h : ∀ c ∈ cs, ∀ x ∈ f c, P x) : ∀ x ∈ joinWith sep (cs.map f), P x :=
  joinWith_rel (R := fun a _ => ∀ x ∈ a, P x) (sep' := sep) nofun (fun h1 h2 => List.forall_mem_append.2 ⟨h1, h2⟩)
    hs f f cs h

theorem joinWith_cons (sep x : List Node) (xs : List (List Node)) :
    joinWith sep (x :: xs) = x ++ xs.flatMap (sep ++ ·) := by
  induction xs generalizing x with
  | nil => rw [joinWith_single, List.flatMap_nil, List.append_nil]
  | cons y ys ih => rw [joinWith_cons2, ih, List.flatMap_cons, List.append_assoc, List.append_assoc]

theorem joinWith_nil (ls : List (List Node)) : joinWith [] ls = ls.flatten := by
  cases ls with
  | nil => rfl
  | cons x xs => rw [joinWith_cons]; exact congrArg (x ++ ·) List.flatMap_id'

theorem joinWith_singletons (sep : Node) (m : Node) (ms : List Node) :
    joinWith [sep] ((m :: ms).map fun x => [x]) = m :: (ms.flatMap fun x => [sep, x]) := by
  rw [List.map_cons, joinWith_cons, List.flatMap_map]; rfl

theorem mem_joinWith_sep {sep : List Node} {s : Node} (hs : s ∈ sep) {ls : List (List Node)} (h : 2 ≤ ls.length) :
    s ∈ joinWith sep ls := by
  rcases ls with _ | ⟨a, _ | ⟨b, r⟩⟩
  · cases h
  · exact absurd h (Nat.not_succ_le_self 1)
  · rw [joinWith_cons2]
    exact List.mem_append_left _ (List.mem_append_right _ hs)

/-- The tagged node list of the expression as typed by a user: operators surrounded by
    whitespace, brackets hugging their contents. -/
def Expr.toks : Expr → List Node
  | .atom n => [n]
  | .paren items => [.opn] ++ joinWith [.ws] (items.map (fun e => e.toks)) ++ [.cls]
  | .not e => [opNot, .ws] ++ e.toks
  | .op g es => joinWith [.ws, opNode g, .ws] (es.map (fun e => e.toks))
termination_by e => e.size
decreasing_by
  all_goals simp_wf
  all_goals simp only [Expr.size]
  all_goals first
    | omega
    | (rename_i h; have := Expr.size_mem h; omega)

/-- a whole query: expressions separated by whitespace -/
def toksSeq (items : List Expr) : List Node := joinWith [.ws] (items.map Expr.toks)


theorem toks_atom (n : Node) : (Expr.atom n).toks = [n] := by rw [Expr.toks.eq_def]
theorem toks_paren (items : List Expr) :
    (Expr.paren items).toks = [.opn] ++ toksSeq items ++ [.cls] := by rw [Expr.toks.eq_def]; rfl
theorem toks_not (e : Expr) : (Expr.not e).toks = [opNot, .ws] ++ e.toks := by rw [Expr.toks.eq_def]
theorem toks_op (g : GK) (es : List Expr) :
    (Expr.op g es).toks = joinWith [.ws, opNode g, .ws] (es.map (fun e => e.toks)) := by rw [Expr.toks.eq_def]

/-! ### Meaning -/

/-- how an infix operator combines the verdicts of its left part and its next operand -/
def binEval (g : GK) (a b : Bool) : Bool :=
  match g with
  | .and | .require => a && b
  | .or => a || b
  | .andnot => a && !b
  | _ => a   -- ANDMAYBE: the right operand only contributes to the score

/-- Which documents an expression selects: `v` says, for one fixed document, whether a leaf
    matches it.  `gk` is the parser's implicit grouping. -/
def Expr.eval (gk : GK) (v : Node → Bool) : Expr → Bool
  | .atom n => v n
  | .paren items =>
    if gk = .or then (items.map (fun e => e.eval gk v)).any id else (items.map (fun e => e.eval gk v)).all id
  | .not e => !e.eval gk v
  | .op g es =>
    match es.map (fun e => e.eval gk v) with
    | [] => false
    | b :: bs => bs.foldl (binEval g) b
termination_by e => e.size
decreasing_by
  all_goals simp_wf
  all_goals simp only [Expr.size]
  all_goals first
    | omega
    | (rename_i h; have := Expr.size_mem h; omega)

def evalSeq (gk : GK) (v : Node → Bool) (items : List Expr) : Bool :=
  if gk = .or then (items.map (fun e => e.eval gk v)).any id else (items.map (fun e => e.eval gk v)).all id

/-- The same reading for a syntax tree (what the group nodes' `query()` classes select):
    And = all, Or/DisMax = any, Not = complement, AndNot = a ∧ ¬b, AndMaybe = a, Require = a ∧ b. -/
def Node.eval (v : Node → Bool) : Node → Bool
  | .group k ns _ =>
    match k with
    | .and | .ordered | .seq => (ns.map (fun n => n.eval v)).all id
    | .or | .dismax => (ns.map (fun n => n.eval v)).any id
    | .not => match ns with
      | n :: _ => !n.eval v
      | [] => false
    | .andnot => match ns with
      | [a, b] => a.eval v && !b.eval v
      | _ => false
    | .andmaybe => match ns with
      | [a, _] => a.eval v
      | _ => false
    | .require => match ns with
      | [a, b] => a.eval v && b.eval v
      | _ => false
  | n => v n
termination_by n => n.size
decreasing_by
  all_goals simp_wf
  all_goals simp only [Node.size, sizeL]
  all_goals first
    | omega
    | (rename_i h; have := size_mem h; omega)

/-! ### The tree the parser is expected to build -/

/-- what `InfixOperator.replace_self` (left-associative) puts in place of `left OP right`: a new
    group, unless the operator's group class is a merging one and `left` already is a group of
    that class, which then simply receives `right` as one more member -/
def combineL (g : GK) (left right : Node) : Node :=
  match (if g.merging then left.groupOf? g else none) with
  | some (ns, b) => .group g (ns ++ [right]) b
  | none => .group g [left, right] 1

theorem combineL_cases (g : GK) (a m : Node) :
    combineL g a m = .group g [a, m] 1 ∨
    ∃ ns b, g.merging = true ∧ a = .group g ns b ∧ combineL g a m = .group g (ns ++ [m]) b := by
  unfold combineL
  split
  · next ns b h =>
    split at h
    · next hm => exact .inr ⟨ns, b, hm, groupOf?_some h, rfl⟩
    · cases h
  · exact .inl rfl

theorem combineL_group (g : GK) (a m : Node) : ∃ ns b, combineL g a m = .group g ns b := by
  unfold combineL; split <;> exact ⟨_, _, rfl⟩

theorem combineL_isGroup (g : GK) (a m : Node) : (combineL g a m).isGroup = true := by
  obtain ⟨ns, b, h⟩ := combineL_group g a m
  rw [h]; rfl

theorem combineL_merge {g : GK} (hm : g.merging = true) (X : List Node) (b : Rat) (m : Node) :
    combineL g (.group g X b) m = .group g (X ++ [m]) b := by
  simp [combineL, hm, Node.groupOf?]

theorem combineL_fresh {g : GK} {a : Node} (h : (if g.merging then a.groupOf? g else none) = none) (m : Node) :
    combineL g a m = .group g [a, m] 1 := by
  simp [combineL, h]

theorem combineL_nonmerging {g : GK} (hm : g.merging = false) (a m : Node) :
    combineL g a m = .group g [a, m] 1 :=
  combineL_fresh (by rw [hm]; rfl) m

/-- The syntax node for an expression.  Note the consequence of `combineL` for `AND` in an
    AND-group parser (`OR` in an OR-group parser) directly after a parenthesised group: the group
    absorbs the other operands.  That selects the same documents (`WM.Parser.out_eval`). -/
def Expr.out (gk : GK) : Expr → Node
  | .atom n => n
  | .paren items => .group gk (items.map (fun e => e.out gk)) 1
  | .not e => .group .not [e.out gk] 1
  | .op g es =>
    match es.map (fun e => e.out gk) with
    | [] => .group g [] 1
    | n :: ns => ns.foldl (combineL g) n
termination_by e => e.size
decreasing_by
  all_goals simp_wf
  all_goals simp only [Expr.size]
  all_goals first
    | omega
    | (rename_i h; have := Expr.size_mem h; omega)

theorem out_atom (gk : GK) (n : Node) : (Expr.atom n).out gk = n := by rw [Expr.out.eq_def]
theorem out_paren (gk : GK) (items : List Expr) :
    (Expr.paren items).out gk = .group gk (items.map (Expr.out gk)) 1 := by rw [Expr.out.eq_def]
theorem out_not (gk : GK) (e : Expr) : (Expr.not e).out gk = .group .not [e.out gk] 1 := by rw [Expr.out.eq_def]
theorem out_op_cons (gk : GK) (g : GK) (e : Expr) (es : List Expr) :
    (Expr.op g (e :: es)).out gk = (es.map (Expr.out gk)).foldl (combineL g) (e.out gk) := by
  rw [Expr.out.eq_def]; simp

/-- a query that is exactly one parenthesised group *is* that group (`do_groups`: "if len(top)
    == 1 and isinstance(top[0], GroupNode)") -/
def stripParen : List Expr → List Expr
  | [.paren inner] => inner
  | items => items

/-- the whole query: the top-level group -/
def outSeq (gk : GK) (items : List Expr) : Node :=
  .group gk ((stripParen items).map (Expr.out gk)) 1

theorem stripParen_forall {P : Expr → Prop} (hp : ∀ inner, P (.paren inner) → ∀ e ∈ inner, P e)
    (items : List Expr) (h : ∀ e ∈ items, P e) : ∀ e ∈ stripParen items, P e := by
  unfold stripParen
  split
  · next inner => exact hp inner (h _ (List.mem_singleton.2 rfl))
  · exact h

theorem stripParen_wf (items : List Expr) (h : ∀ e ∈ items, e.wf = true) : ∀ e ∈ stripParen items, e.wf = true :=
  stripParen_forall (fun _ h => (wf_paren.1 h).2) items h

/-- the members of the top-level group of a non-empty query are those of a well-formed parenthesised
    group, so `outSeq gk items` is `(Expr.paren (stripParen items)).out gk` for one -/
theorem wf_paren_stripParen {items : List Expr} (hne : items ≠ []) (h : ∀ e ∈ items, e.wf = true) :
    (Expr.paren (stripParen items)).wf = true := by
  unfold stripParen
  split
  · exact h _ (List.mem_singleton.2 rfl)
  · exact wf_paren.2 ⟨hne, h⟩

/-- a syntax tree in which every node has a `query()`: no marker node (whitespace, bracket,
    operator, field prefix, boost, plus/minus, fuzziness, comparison sign) is left, and a binary
    group has at most two operands (`hasBoost` is False exactly for the `BinaryGroup` classes) -/
def clean : Node → Bool
  | .group k ns _ => (k.hasBoost || decide (ns.length ≤ 2)) && (ns.map clean).all id
  | .text .. | .range .. | .every => true
  | _ => false
termination_by n => n.size
decreasing_by
  all_goals simp_wf
  rename_i h; have := size_mem h; simp only [Node.size]; omega


/-! ### Comparison signs and wildcards -/

/-- what a range node `[s TO e]` / `{s TO e}` with numeric end points selects -/
def inRange (lo hi : Option Int) (loExcl hiExcl : Bool) (x : Int) : Bool :=
  (match lo with
   | none => true
   | some a => if loExcl then decide (a < x) else decide (a ≤ x)) &&
  (match hi with
   | none => true
   | some b => if hiExcl then decide (x < b) else decide (x ≤ b))

/-- the reading of the six comparison spellings of `GtLtPlugin` -/
def Rel.holds : Rel → Int → Int → Bool
  | .lt, x, v => decide (x < v)
  | .gt, x, v => decide (x > v)
  | .le, x, v | .el, x, v => decide (x ≤ v)
  | .ge, x, v | .eg, x, v => decide (x ≥ v)

/-- glob matching: `*` (42) any run, `?` (63) one character -/
def globMatch : List Nat → List Nat → Bool
  | [], [] => true
  | [], _ :: _ => false
  | p :: ps, s =>
    if p = 42 then
      globMatch ps s || (match s with
        | [] => false
        | _ :: s' => globMatch (p :: ps) s')
    else match s with
      | [] => false
      | c :: s' => (p = 63 || p = c) && globMatch ps s'
termination_by p s => p.length + s.length


/-! ### What a query object selects -/

/-- Which documents a query object selects, `w` saying for one fixed document which leaf queries
    match it: the classical reading of the query classes (C01's denotation).  An intersection or
    union without members matches nothing. -/
def Q.eval (w : Nat → Bool) : Q → Bool
  | .leaf id _ => w id
  | .null => false
  | .compound k subs _ =>
    match k with
    | .and | .ordered | .seq => !subs.isEmpty && (subs.map (fun q => q.eval w)).all id
    | .or | .dismax => (subs.map (fun q => q.eval w)).any id
    | _ => false
  | .not q => !q.eval w
  | .binary k a b =>
    match k with
    | .andnot => a.eval w && !b.eval w
    | .andmaybe => a.eval w
    | .require => a.eval w && b.eval w
    | _ => false

/-- a tree in which every group has the operands its class needs (one for NOT, two for the binary
    classes, at least one otherwise) and every leaf is a word/phrase/wildcard, a range or `*:*` -/
def Node.full : Node → Bool
  | .group k ns _ =>
    (match k with
     | .not => decide (ns.length = 1)
     | .andnot | .andmaybe | .require => decide (ns.length = 2)
     | _ => !ns.isEmpty) && (ns.map Node.full).all id
  | .text .. | .range .. | .every => true
  | _ => false
termination_by n => n.size
decreasing_by
  all_goals simp_wf
  rename_i h; have := size_mem h; simp only [Node.size]; omega

end WM.Parser
