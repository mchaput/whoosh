/-
Specification layer of C19: what "edit distance" and "the terms within distance d of a word with
a required common prefix of length p" mean.  Characters are code points (`Nat`), words are lists
of characters, a lexicon is a list of words.

Two distances are specified by the textbook recursion on the first characters:
* `lev`  - Levenshtein distance (insert, delete, substitute), and
* `osa`  - optimal string alignment ("restricted Damerau-Levenshtein": additionally a swap of two
  adjacent characters costs one edit and a swapped pair is not edited again).  This is the
  distance that whoosh documents for fuzzy terms and suggestions (docs/source/parsing.rst:
  "insertions, deletions, and/or transpositions"; `IndexReader.terms_within` docstring) and that
  `whoosh.support.levenshtein.distance = damerau_levenshtein` computes.

Both are instances of one definition `ed tr` (the flag switches the transposition rule on) so
that the theory is developed once; `lev_cons_cons` / `osa_cons_cons_swap`, `osa_cons_cons_noswap` in `WM/Lemmas/Edit.lean`
restate the recursion for each of them separately.

Independently of the recursion, `Script tr a b n` says "there is an edit script of cost `n` turning
`a` into `b`"; `WM.Edit.ed_le_iff` (Lemmas) proves `ed tr a b ≤ n ↔ ∃ m ≤ n, Script tr a b m`, i.e. the
recursion computes the minimum script cost.
-/
namespace WM.Edit

/-- Cost of aligning character `x` with `y`. -/
def neq (x y : Nat) : Nat := if x = y then 0 else 1

/-- Edit distance by recursion on the first characters; `tr = true` adds the adjacent
    transposition rule (optimal string alignment). -/
def ed (tr : Bool) : List Nat → List Nat → Nat
  | [], b => b.length
  | _ :: a, [] => a.length + 1
  | x :: a, y :: b =>
    let base := min (ed tr a (y :: b) + 1) (min (ed tr (x :: a) b + 1) (ed tr a b + neq x y))
    match a, b with
    | x' :: a', y' :: b' =>
      if tr = true ∧ x = y' ∧ x' = y then min base (ed tr a' b' + 1) else base
    | _, _ => base
termination_by a b => a.length + b.length

/-- Levenshtein distance. -/
def lev (a b : List Nat) : Nat := ed false a b

/-- Optimal-string-alignment distance (the documented "Damerau-Levenshtein" of whoosh). -/
def osa (a b : List Nat) : Nat := ed true a b

/-- Edit scripts: `Script tr a b n` - `a` can be turned into `b` at cost `n`.  With `tr` an
    adjacent pair may be swapped at cost 1 (and is then not touched again). -/
inductive Script (tr : Bool) : List Nat → List Nat → Nat → Prop
  | nil : Script tr [] [] 0
  | del {a b n} (x : Nat) : Script tr a b n → Script tr (x :: a) b (n + 1)
  | ins {a b n} (y : Nat) : Script tr a b n → Script tr a (y :: b) (n + 1)
  | sub {a b n} (x y : Nat) : Script tr a b n → Script tr (x :: a) (y :: b) (n + neq x y)
  | swap {a b n} (x y : Nat) : tr = true → Script tr a b n → Script tr (x :: y :: a) (y :: x :: b) (n + 1)

/-- `t` and `w` share the required prefix: the first `p` characters of the query word `w` (all of
    `w` when it is shorter than `p`) start `t`.  This is the reading of
    `expand_prefix(fieldname, text[:prefix])` in `IndexReader.terms_within`. -/
def sharePrefix (p : Nat) (t w : List Nat) : Bool := (w.take p).isPrefixOf t

/-- The terms of a lexicon within distance `d` of `w` that share a prefix of length `p` with it,
    in lexicon order. -/
def within (dist : List Nat → List Nat → Nat) (lex : List (List Nat)) (w : List Nat) (d p : Nat) :
    List (List Nat) :=
  lex.filter fun t => sharePrefix p t w && decide (dist t w ≤ d)

end WM.Edit
