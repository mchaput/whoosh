import WM.Model.Normalize
/-
The trees on which `normalize` is meaning-preserving (hypothesis of `WM.C15.normalize_sat_partial`).

`clean q` excludes exactly the rewrite rules of `CompoundQuery.normalize` / `Not.normalize` that are
recorded as genuine defects of the tree (known_findings.json) because the test-suite pins them:

* `and-null`        an `And` with some, but not all, clauses normalizing to `NullQuery`
                    (the Null clauses are dropped although `x AND <nothing>` matches nothing);
* `not-null`        `Not(q)` with `q` normalizing to `NullQuery` becomes `NullQuery`
                    (it matches every document);
* `and-every-field` an `And` with an `Every(f)` clause next to another clause on field `f`
                    (the other clause is dropped, `Every(f)` survives);
* `and-range-overlap` an `And` with two overlapping `TermRange`s (merged by `RangeMixin.merge`,
                    which returns the *outer* range for nested ranges and intersects term ranges
                    although a multi-valued field can satisfy both with different terms);
* `seq-child`       a `Sequence`/`Ordered` whose subqueries are changed by `normalize` (the spec
                    does not model spans, so nothing is claimed).

`defects q` lists the tags of the clauses `q` violates (used by the check to classify failing
inputs); `clean q` is their conjunction.
-/
namespace WM.Clean
open WM.Normalize

/-- (N) either every clause is Null or none is. -/
def nullMixOk (subs : List Q) : Bool := subs.all Q.isNull || subs.all (fun s => !s.isNull)

/-- (E) no fielded `Every` next to a different clause with the same field. -/
def everyFieldOk (subs : List Q) : Bool :=
  subs.all fun s =>
    match s with
    | .every (some f) _ => subs.all fun s' => s'.field != some f || s'.isEvery
    | _ => true

/-- (R) no `TermRange` overlaps a later one. -/
def rangesApart : List Q → Bool
  | [] => true
  | s :: rest =>
    (match s.asRange with
      | some r => rest.all fun s' =>
          match s'.asRange with
          | some r' => !r.overlaps r'
          | none => true
      | none => true) && rangesApart rest

mutual
def clean : Q → Bool
  | .comp k qs _ =>
    cleanList qs &&
      (k != .and ||
        (let subs := flatten k (normalizeList qs)
         nullMixOk subs && everyFieldOk subs && rangesApart subs))
  | .seq _ qs _ _ _ => normalizeList qs == qs
  | .not q _ => clean q && !(normalize q).isNull
  | .bin _ a b => clean a && clean b
  | _ => true
def cleanList : List Q → Bool
  | [] => true
  | q :: qs => clean q && cleanList qs
end

/-! ### The empty term

On an index that holds the empty term (an `ID` field with value `""`) one more rewrite is not meaning
preserving: an *exclusive* start that is open (`None`) or the empty string leaves the empty term out
of a `TermRange`, but `TermRange.normalize` turns `{ TO ...]` into `Every(f)` and the comparables of
`RangeMixin.overlaps/merge` forget the exclusion of an open start.  `emptyOk q` says that no such
range is a leaf that `normalize` rewrites or a clause of a merging loop (on an index without the empty
term nothing is demanded: hypothesis `emptyOk q = true ∨ no document holds the empty term`). -/

/-- The clause is not a `TermRange` with an exclusive open/empty start. -/
def rangeOk (s : Q) : Bool :=
  match s.asRange with
  | some r => !(r.lox && (r.lo == none || r.lo == some []))
  | none => true

mutual
def emptyOk : Q → Bool
  | .range _ lo _ lx _ _ _ => !(lx && (lo == none || lo == some []))
  | .comp k qs _ => emptyOkList qs && (flatten k (normalizeList qs)).all rangeOk
  | .not q _ => emptyOk q
  | .bin _ a b => emptyOk a && emptyOk b
  | _ => true
def emptyOkList : List Q → Bool
  | [] => true
  | q :: qs => emptyOk q && emptyOkList qs
end

mutual
def defects : Q → List String
  | .comp k qs _ =>
    defectsList qs ++
      (if k == .and then
        let subs := flatten k (normalizeList qs)
        (if nullMixOk subs then [] else ["and-null"])
          ++ (if everyFieldOk subs then [] else ["and-every-field"])
          ++ (if rangesApart subs then [] else ["and-range-overlap"])
      else [])
  | .seq _ qs _ _ _ => if normalizeList qs == qs then [] else ["seq-child"]
  | .not q _ => defects q ++ (if (normalize q).isNull then ["not-null"] else [])
  | .bin _ a b => defects a ++ defects b
  | _ => []
def defectsList : List Q → List String
  | [] => []
  | q :: qs => defects q ++ defectsList qs
end


/-! ### Hypotheses of the `accept`/`replace` theorems -/

mutual
/-- No `Not` node anywhere in the tree. -/
def notFree : Q → Bool
  | .comp _ qs _ => notFreeList qs
  | .seq _ qs _ _ _ => notFreeList qs
  | .not _ _ => false
  | .bin _ a b => notFree a && notFree b
  | .const q _ => notFree q
  | _ => true
def notFreeList : List Q → Bool
  | [] => true
  | q :: qs => notFree q && notFreeList qs
end

mutual
/-- No `Not` node below a `Sequence`/`Ordered` node.  (`Not.apply` forgets the boost of the `Not`;
    the positional part of a sequence is a function of the syntactic subqueries, so a rebuilt
    sequence is only guaranteed to mean the same if its subqueries are rebuilt identically.) -/
def seqNotFree : Q → Bool
  | .comp _ qs _ => seqNotFreeList qs
  | .seq _ qs _ _ _ => notFreeList qs
  | .not q _ => seqNotFree q
  | .bin _ a b => seqNotFree a && seqNotFree b
  | .const q _ => seqNotFree q
  | _ => true
def seqNotFreeList : List Q → Bool
  | [] => true
  | q :: qs => seqNotFree q && seqNotFreeList qs
end

mutual
/-- The term `(fld, old)` does not occur in the tree (in a `Term`, `FuzzyTerm`, `Variations` or
    `Phrase`: the classes whose `replace` looks at the text). -/
def absent (fld : Field) (old : Text) : Q → Bool
  | .term f t _ => !(f == fld && t == old)
  | .multi k f t _ _ => !((k == 0 || k == 1) && f == fld && t == old)
  | .phrase f ws _ _ => !(f == fld && ws.contains old)
  | .comp _ qs _ => absentList fld old qs
  | .seq _ qs _ _ _ => absentList fld old qs
  | .not q _ => absent fld old q
  | .bin _ a b => absent fld old a && absent fld old b
  | .const q _ => absent fld old q
  | _ => true
def absentList (fld : Field) (old : Text) : List Q → Bool
  | [] => true
  | q :: qs => absent fld old q && absentList fld old qs
end

end WM.Clean
