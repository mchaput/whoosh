import WM.Lemmas.IndexWF
/-! Term lookups (`postings`, `first_id`, `iter_postings`) versus the per-document data; `delete_by_query`,
`delete_by_term` and `update_document`: the numbers a query or `_find_unique` yields select (`Selects`) the live
documents it denotes. -/
namespace WM.C07
open WM.Dict WM.Index

def denote : Query → DocRec → Bool
  | .pred p => p
  | .term f t => fun d => d.hasTerm f t

end WM.C07
namespace WM.Index
open WM.Dict

/-- how many postings document `d` (as visible under `sc`) has for term `t` of field `f` -/
def termCount (sc : Schema) (f t : Nat) (d : DocRec) : Nat :=
  ((docPostings (restrict sc d) 0).filter (fun p => p.fld == f && p.term == t)).length

theorem hasTerm_iff (d : DocRec) (i f t : Nat) :
    d.hasTerm f t = true ↔ ∃ p ∈ docPostings d i, p.fld = f ∧ p.term = t := by
  simp only [DocRec.hasTerm, List.any_eq_true, Bool.and_eq_true, beq_iff_eq, docPostings, List.mem_flatMap,
    List.mem_map]
  constructor
  · rintro ⟨fd, hfd, rfl, k, hk, rfl⟩
    exact ⟨_, ⟨fd, hfd, k, hk, rfl⟩, rfl, rfl⟩
  · rintro ⟨p, ⟨fd, hfd, k, hk, rfl⟩, rfl, rfl⟩
    exact ⟨fd, hfd, rfl, k, hk, rfl⟩

theorem termHits_eq (sc : Schema) (f t : Nat) (d : DocRec) (i : Nat) :
    ((docPostings (restrict sc d) i).filter (fun p => p.fld == f && p.term == t)).map (·.doc)
      = List.replicate (termCount sc f t d) i := by
  rw [List.eq_replicate_iff]
  constructor
  · rw [List.length_map, termCount, ← docPostings_renumber (restrict sc d) 0 i, List.filter_map, List.length_map]
    rfl
  · intro b hb
    simp only [List.mem_map, List.mem_filter] at hb
    obtain ⟨p, ⟨hp, _⟩, rfl⟩ := hb
    exact docPostings_doc _ _ p hp

theorem termCount_pos (sc : Schema) (f t : Nat) (d : DocRec) :
    0 < termCount sc f t d ↔ (restrict sc d).hasTerm f t = true := by
  rw [hasTerm_iff (restrict sc d) 0, termCount, List.length_pos_iff_exists_mem]
  simp only [List.mem_filter, Bool.and_eq_true, beq_iff_eq]

theorem restrict_hasTerm_of_not_has (sc : Schema) (f t : Nat) (d : DocRec) (h : sc.has f = false) :
    (restrict sc d).hasTerm f t = false := by
  simp only [DocRec.hasTerm, restrict, List.any_eq_false, List.mem_filter]
  intro fd ⟨_, hfd⟩
  by_cases he : fd.fld = f
  · subst he; rw [h] at hfd; cases hfd
  · simp [he]

theorem termCount_eq_zero (sc : Schema) (f t : Nat) (d : DocRec) (h : sc.has f = false) : termCount sc f t d = 0 :=
  Nat.eq_zero_of_not_pos fun hp => by
    have := (termCount_pos sc f t d).mp hp
    rw [restrict_hasTerm_of_not_has sc f t d h] at this
    cases this

theorem Seg.postingDocs_perm (sc : Schema) (s : Seg) (f t : Nat) (hwf : s.WF) :
    (s.postingDocs sc f t).Perm (s.liveIdx.flatMap (fun q => List.replicate (termCount sc f t q.1) q.2)) := by
  unfold Seg.postingDocs
  cases hf : sc.has f with
  | false => simp [termCount_eq_zero sc f t _ hf]
  | true =>
    -- the term's live postings are the live postings of schema fields (`livePosts`) for the term
    have hrhs : s.liveIdx.flatMap (fun q => List.replicate (termCount sc f t q.1) q.2)
        = ((s.liveIdx.flatMap (fun q => docPostings (restrict sc q.1) q.2)).filter
            (fun p => p.fld == f && p.term == t)).map (·.doc) := by
      rw [List.filter_flatMap, List.map_flatMap]
      exact flatMap_congr (fun q _ => (termHits_eq sc f t q.1 q.2).symm)
    rw [hrhs, if_pos rfl, Seg.termPosts, List.filter_filter]
    refine (List.Perm.of_eq ?_).trans (((livePosts_perm sc s hwf.posts).filter _).map _)
    rw [Seg.livePosts, List.filter_filter]
    exact congrArg _ (List.filter_congr fun p _ => by
      rw [← Bool.and_assoc (p.fld == f && p.term == t), Schema.beq_and_and_has hf, Bool.and_comm])

theorem docsForQuery_term_perm (sc : Schema) (f t : Nat) (segs : List Seg) (base : Nat) (hwf : ∀ s ∈ segs, s.WF) :
    (docsForQuery sc (.term f t) segs base).Perm
      ((liveGlobal segs base).flatMap (fun q => List.replicate (termCount sc f t q.1) q.2)) := by
  induction segs generalizing base with
  | nil => simp [docsForQuery, liveGlobal]
  | cons s r ih =>
    simp only [docsForQuery, liveGlobal, List.flatMap_append, Seg.docsFor]
    refine List.Perm.append ?_ (ih _ (fun x hx => hwf x (by simp [hx])))
    refine ((Seg.postingDocs_perm sc s f t (hwf s (by simp))).map _).trans ?_
    rw [List.map_flatMap, List.flatMap_map]
    apply List.Perm.of_eq
    apply flatMap_congr
    intro q _
    simp

theorem mem_docsForQuery_term (sc : Schema) (f t : Nat) (segs : List Seg) (hwf : ∀ s ∈ segs, s.WF) (n : Nat) :
    n ∈ docsForQuery sc (.term f t) segs 0 ↔
      ∃ q ∈ liveGlobal segs 0, q.2 = n ∧ (restrict sc q.1).hasTerm f t = true := by
  rw [(docsForQuery_term_perm sc f t segs 0 hwf).mem_iff]
  simp only [List.mem_flatMap, List.mem_replicate, ← termCount_pos]
  constructor
  · rintro ⟨q, hq, hne, rfl⟩
    exact ⟨q, hq, rfl, Nat.pos_of_ne_zero hne⟩
  · rintro ⟨q, hq, rfl, h⟩
    exact ⟨q, hq, Nat.ne_of_gt h, rfl⟩

theorem docsForQuery_selects (sc : Schema) (q : Query) (segs : List Seg) (hwf : ∀ s ∈ segs, s.WF) :
    Selects (liveGlobal segs 0) (fun x => C07.denote q (restrict sc x.1)) (docsForQuery sc q segs 0) := by
  cases q with
  | pred p => exact docsForQuery_pred sc p segs 0 ▸ selects_filter _ _
  | term f t => exact mem_docsForQuery_term sc f t segs hwf

theorem docsForQuery_perm (sc : Schema) (q : Query) (segs : List Seg) (hwf : ∀ s ∈ segs, s.WF)
    (hone : ∀ f t, q = .term f t → ∀ x ∈ liveGlobal segs 0, termCount sc f t x.1 ≤ 1) :
    (docsForQuery sc q segs 0).Perm (((liveGlobal segs 0).filter (fun x => C07.denote q (restrict sc x.1))).map (·.2)) := by
  cases q with
  | pred p => exact List.Perm.of_eq (docsForQuery_pred sc p segs 0)
  | term f t =>
    refine (docsForQuery_term_perm sc f t segs 0 hwf).trans (List.Perm.of_eq ?_)
    -- a live document is listed once if it carries the term and not at all otherwise
    rw [List.map_eq_flatMap, ← flatMap_ite_filter]
    refine flatMap_congr (fun x hx => ?_)
    have h1 := hone f t rfl x hx
    have h2 : 0 < termCount sc f t x.1 ↔ C07.denote (.term f t) (restrict sc x.1) = true := termCount_pos sc f t x.1
    by_cases hc : 0 < termCount sc f t x.1
    · rw [if_pos (h2.mp hc), show termCount sc f t x.1 = 1 by omega]
      rfl
    · rw [if_neg (fun h => hc (h2.mpr h)), show termCount sc f t x.1 = 0 by omega]
      rfl

/-- the count `delete_by_query` returns -/
theorem docsForQuery_length (sc : Schema) (q : Query) (segs : List Seg) (hwf : ∀ s ∈ segs, s.WF)
    (hone : ∀ f t, q = .term f t → ∀ x ∈ liveGlobal segs 0, termCount sc f t x.1 ≤ 1) :
    (docsForQuery sc q segs 0).length = ((contentOf sc segs).filter (C07.denote q)).length := by
  rw [(docsForQuery_perm sc q segs hwf hone).length_eq, contentOf_eq_liveGlobal sc segs 0, List.filter_map,
    List.length_map, List.length_map]
  rfl

theorem globalPosts_perm (sc : Schema) (segs : List Seg) (base : Nat) (hwf : ∀ s ∈ segs, s.WF) :
    (globalPosts sc segs base).Perm ((liveGlobal segs base).flatMap (fun q => docPostings (restrict sc q.1) q.2)) := by
  induction segs generalizing base with
  | nil => simp [globalPosts, liveGlobal]
  | cons s r ih =>
    simp only [globalPosts, liveGlobal, List.flatMap_append]
    refine List.Perm.append ?_ (ih _ (fun x hx => hwf x (by simp [hx])))
    refine ((livePosts_perm sc s (hwf s List.mem_cons_self).posts).map _).trans ?_
    rw [List.map_flatMap, List.flatMap_map]
    apply List.Perm.of_eq
    apply flatMap_congr
    intro q _
    exact docPostings_map_doc _ _ _ _ (fun p hp => by rw [hp])

theorem globalPosts_content (t : Toc) (hwf : t.WF) :
    ((globalPosts t.schema t.segs 0).map (fun p => (p.fld, p.term, p.w, p.v))).Perm
      ((t.content.flatMap (fun d => docPostings d 0)).map (fun p => (p.fld, p.term, p.w, p.v))) := by
  refine ((globalPosts_perm t.schema t.segs 0 hwf).map _).trans ?_
  apply List.Perm.of_eq
  rw [Toc.content, contentOf_eq_liveGlobal _ _ 0, List.flatMap_map, List.map_flatMap, List.map_flatMap]
  apply flatMap_congr
  intro q _
  rw [← docPostings_renumber (restrict t.schema q.1) q.2 0, List.map_map]
  rfl

theorem SRel.step_delBy {w : Writer} {ss : Sess} (h : SRel w ss) (hwf : w.WF) (q : Query) :
    SRel (w.step (.delBy q)).1 (ss.step (w.specOp (.delBy q))) := by
  obtain ⟨w', h1, f1, hc⟩ := Writer.deleteMany_matching w _ (C07.denote q)
    (docsForQuery_selects w.schema q w.segs hwf.segs)
  rw [Writer.step_delBy_eq, h1]
  cases q <;> exact h.deleteWhere f1 _ hc

theorem firstId_eq_head (sc : Schema) (f t : Nat) (segs : List Seg) (base : Nat) :
    firstId sc f t segs base = (docsForQuery sc (.term f t) segs base).head? := by
  induction segs generalizing base with
  | nil => rfl
  | cons s r ih =>
    simp only [firstId, docsForQuery, Seg.docsFor, Seg.firstId, List.head?_append, List.head?_map]
    cases (s.postingDocs sc f t).head? with
    | none => simp [ih]
    | some i => simp [Nat.add_comm]

theorem findUnique_live (sc : Schema) (segs : List Seg) (us : List (Nat × Nat))
    (hwf : ∀ s ∈ segs, s.WF) (n : Nat) (hn : n ∈ findUnique sc segs us) :
    ∃ x ∈ liveGlobal segs 0, x.2 = n ∧ sharesUnique us (restrict sc x.1) = true := by
  simp only [findUnique, List.mem_eraseDups, List.mem_filterMap] at hn
  obtain ⟨ft, hft, hfirst⟩ := hn
  rw [firstId_eq_head] at hfirst
  obtain ⟨x, hx, he, ht⟩ := (mem_docsForQuery_term sc ft.1 ft.2 segs hwf n).mp (List.mem_of_mem_head? hfirst)
  exact ⟨x, hx, he, List.any_eq_true.mpr ⟨ft, hft, ht⟩⟩

theorem findUnique_selects (sc : Schema) (segs : List Seg) (us : List (Nat × Nat)) (hwf : ∀ s ∈ segs, s.WF)
    (hun : ∀ ft ∈ us, ((contentOf sc segs).filter (fun d => d.hasTerm ft.1 ft.2)).length ≤ 1) :
    Selects (liveGlobal segs 0) (fun x => sharesUnique us (restrict sc x.1)) (findUnique sc segs us) := by
  refine fun n => ⟨findUnique_live sc segs us hwf n, ?_⟩
  rintro ⟨x, hx, rfl, hs⟩
  obtain ⟨ft, hft, hterm⟩ := List.any_eq_true.mp hs
  simp only [findUnique, List.mem_eraseDups, List.mem_filterMap]
  refine ⟨ft, hft, ?_⟩
  rw [firstId_eq_head]
  have hmem : x.2 ∈ docsForQuery sc (.term ft.1 ft.2) segs 0 :=
    (mem_docsForQuery_term sc ft.1 ft.2 segs hwf _).mpr ⟨x, hx, rfl, hterm⟩
  cases hh : (docsForQuery sc (.term ft.1 ft.2) segs 0).head? with
  | none => rw [List.head?_eq_none_iff] at hh; rw [hh] at hmem; cases hmem
  | some m =>
    -- the head is a live carrier of the term; at most one live document carries it, so it is `x`
    obtain ⟨y, hy, rfl, hterm'⟩ := (mem_docsForQuery_term sc ft.1 ft.2 segs hwf m).mp (List.mem_of_mem_head? hh)
    have hlen := hun ft hft
    rw [contentOf_eq_liveGlobal sc segs 0, List.filter_map, List.length_map] at hlen
    rw [eq_of_length_le_one _ hlen y x (List.mem_filter.mpr ⟨hy, hterm'⟩) (List.mem_filter.mpr ⟨hx, hterm⟩)]

/-- the condition under which `update_document` means "delete all, then add": no unique term of
    the new document is carried by more than one live committed document -/
def Unambiguous (ss : Sess) (d : DocRec) : Prop :=
  ∀ ft ∈ uniqTerms ss.schema d, (ss.committed.filter (fun c => c.hasTerm ft.1 ft.2)).length ≤ 1

theorem SRel.step_update {w : Writer} {ss : Sess} (h : SRel w ss) (hwf : w.WF) (d : DocRec) (hun : Unambiguous ss d) :
    SRel (w.step (.update d)).1 (ss.step (w.specOp (.update d))) := by
  obtain ⟨w1, h1, f1, hc⟩ := Writer.deleteMany_matching w _ (sharesUnique (uniqTerms w.schema d))
    (findUnique_selects w.schema w.segs _ hwf.segs
      (fun ft hft => (h.committed.filter _).length_eq ▸ hun ft (h.schema ▸ hft)))
  -- the deletions are the specification's `deleteWhere`; what remains is an `add_document` on `w1`
  have hadd := (h.deleteWhere f1 _ hc).step_add d
  rw [Writer.step_update_eq, h1]
  simp only [Writer.specOp, f1.schema] at hadd ⊢
  split
  · next hf => simpa only [if_pos hf, Sess.step, Sess.update, h.schema] using hadd
  · next hf => simpa only [if_neg hf, Sess.step] using hadd

end WM.Index
