import WM.Lemmas.FindMatches
/-! `DFA.next_valid_string` returns the least accepted string at or after its argument - for a
DFA whose explicit labels are real characters and whose (reachable) states are non-empty and can
still reach a final state.  The stack is read as a continuation: the loop returns the least
candidate of the top entry, and what it returns on the entries below when there is none.  It ends
within the model's fuel when every transition lowers a rank (`Ranked`); both together are the
`NextValidSpec` the term walk asks for. -/
namespace WM.Lev

namespace DFA

/-- What is assumed of the states `next_valid_string` meets: they are truthy (non-empty sets),
    closed under defined transitions, and every one of them can reach a final state along a string
    of real characters; the explicit labels of the DFA are real characters. -/
structure Env (d : DFA) (G : Option SSet → Prop) : Prop where
  labels : ∀ X c T, d.lookupTrans X c = some T → Scalar c
  truthy : ∀ q, G q → truthy q = true
  step : ∀ q c T, G q → d.nextState q c = some T → G (some T)
  live : ∀ q, G q → ∃ u, Valid u ∧ d.accept q u = true

variable {d : DFA} {G : Option SSet → Prop}

theorem accept_none (d : DFA) (u : List Nat) : d.accept none u = false := by
  cases u with
  | nil => rfl
  | cons c u => simp [accept, nextState, truthy, isFinal]

theorem accept_cons (env : Env d G) {q : Option SSet} (hG : G q) (c : Nat) (u : List Nat) :
    d.accept q (c :: u) = d.accept (d.nextState q c) u := by
  simp only [accept]
  cases h : d.nextState q c with
  | none => simp [truthy, accept_none, isFinal]
  | some T => rw [if_pos (env.truthy _ (env.step q c T hG h))]

/-- First label `find_next_edge` may return. -/
def lo (lab : Option Nat) : Nat := match lab with | none => 0 | some l => l + 1

theorem nextLabel_spec (lab : Option Nat) :
    (∀ l0, nextLabel lab = some l0 → lo lab ≤ l0 ∧ Scalar l0 ∧ ∀ c', lo lab ≤ c' → Scalar c' → l0 ≤ c') ∧
    (nextLabel lab = none → maxCodePoint < lo lab) := by
  cases lab with
  | none =>
    refine ⟨fun l0 h => ?_, nofun⟩
    cases h
    exact ⟨Nat.le_refl _, ⟨Nat.zero_le _, Or.inl (by omega)⟩, fun _ _ _ => Nat.zero_le _⟩
  | some l =>
    simp only [nextLabel, lo, Scalar]
    split
    · exact ⟨nofun, fun _ => by omega⟩
    · simp only [maxCodePoint] at *
      split <;> exact ⟨fun l0 h => by cases h; exact ⟨by omega, by omega, fun c' _ _ => by omega⟩, nofun⟩

theorem lookupTrans_isSome_iff {X : SSet} {c : Nat} :
    (d.lookupTrans X c).isSome = true ↔ c ∈ d.outLabels X := by
  simp only [lookupTrans, Option.isSome_map, List.find?_isSome, Bool.and_eq_true, beq_iff_eq, Prod.exists,
    exists_and_right, exists_eq_right_right, outLabels, List.mem_filterMap, Option.ite_none_right_eq_some,
    Option.some.injEq]

theorem nextState_isSome {X : SSet} {c : Nat} :
    (d.nextState (some X) c).isSome = ((d.lookupTrans X c).isSome || (d.lookupDefault X).isSome) := by
  simp only [nextState]
  cases d.lookupTrans X c <;> rfl

theorem edgeFrom_spec (env : Env d G) {q : Option SSet} {l0 : Nat} (hl0 : Scalar l0) :
    (∀ c, d.edgeFrom q l0 = some c → l0 ≤ c ∧ Scalar c ∧ (d.nextState q c).isSome = true ∧
      ∀ c', l0 ≤ c' → (d.nextState q c').isSome = true → c ≤ c') ∧
    (d.edgeFrom q l0 = none → ∀ c', l0 ≤ c' → d.nextState q c' = none) := by
  unfold edgeFrom
  cases q with
  | none => exact ⟨nofun, fun _ _ _ => rfl⟩
  | some X =>
    simp only
    split
    · next hc =>
      refine ⟨fun c h => ?_, nofun⟩
      cases h
      exact ⟨Nat.le_refl _, hl0, nextState_isSome ▸ hc, fun c' hc' _ => hc'⟩
    · next hc =>
      -- no default: the edges are the explicit labels
      rw [Bool.or_eq_true, not_or, Bool.not_eq_true, Bool.not_eq_true] at hc
      have hiff : ∀ c, (d.nextState (some X) c).isSome = true ↔ c ∈ d.outLabels X := fun c => by
        rw [nextState_isSome, hc.2, Bool.or_false, lookupTrans_isSome_iff]
      constructor
      · intro c h
        obtain ⟨hmem, hmin⟩ := List.min?_eq_some_iff.mp h
        rw [List.mem_filter, decide_eq_true_eq] at hmem
        obtain ⟨T, hT⟩ := Option.isSome_iff_exists.mp (lookupTrans_isSome_iff.mpr hmem.1)
        exact ⟨hmem.2, env.labels X c T hT, (hiff c).mpr hmem.1,
          fun c' hc' hs' => hmin c' (List.mem_filter.mpr ⟨(hiff c').mp hs', decide_eq_true hc'⟩)⟩
      · intro h c' hc'
        rw [← Option.not_isSome_iff_eq_none, hiff]
        intro h1
        exact List.not_mem_nil (List.min?_eq_none_iff.mp h ▸ List.mem_filter.mpr ⟨h1, decide_eq_true hc'⟩)

theorem findNextEdge_spec (env : Env d G) {q : Option SSet} {lab : Option Nat} :
    (∀ c, d.findNextEdge q lab = some c → lo lab ≤ c ∧ Scalar c ∧ (d.nextState q c).isSome = true ∧
      ∀ c', lo lab ≤ c' → Scalar c' → (d.nextState q c').isSome = true → c ≤ c') ∧
    (d.findNextEdge q lab = none → ∀ c', lo lab ≤ c' → Scalar c' → d.nextState q c' = none) := by
  unfold findNextEdge
  cases hn : nextLabel lab with
  | none => exact ⟨nofun, fun _ c' hc' hs => by have := (nextLabel_spec lab).2 hn; have := hs.1; omega⟩
  | some l0 =>
    obtain ⟨hlo, hsc, hmin⟩ := (nextLabel_spec lab).1 l0 hn
    refine ⟨fun c h => ?_, fun h c' hc' hs => (edgeFrom_spec env hsc).2 h c' (hmin c' hc' hs)⟩
    obtain ⟨h1, h2, h3, h4⟩ := (edgeFrom_spec env hsc).1 c h
    exact ⟨Nat.le_trans hlo h1, h2, h3, fun c' hc' hs' => h4 c' (hmin c' hc' hs')⟩

theorem valid_append {a b : List Nat} : Valid (a ++ b) ↔ Valid a ∧ Valid b := by
  simp only [Valid, List.mem_append]
  constructor
  · intro h; exact ⟨fun c hc => h c (Or.inl hc), fun c hc => h c (Or.inr hc)⟩
  · rintro ⟨h1, h2⟩ c (hc | hc)
    · exact h1 c hc
    · exact h2 c hc

/-- The strings a stack entry `(path, q, lab)` stands for: `path`, then a real character at or
    after `lo lab`, then anything, accepted from `q`. -/
def Cand (d : DFA) (path : List Nat) (q : Option SSet) (lab : Option Nat) (t : List Nat) : Prop :=
  ∃ c u, t = path ++ c :: u ∧ lo lab ≤ c ∧ Valid (c :: u) ∧ d.accept q (c :: u) = true

theorem cand_of_live (env : Env d G) (path : List Nat) {q : Option SSet} (hG : G q)
    (hnf : d.isFinal q = false) : ∃ t, Cand d path q none t := by
  obtain ⟨u, hv, ha⟩ := env.live q hG
  cases u with
  | nil => rw [accept, hnf] at ha; cases ha
  | cons c u => exact ⟨_, c, u, rfl, Nat.zero_le _, hv, ha⟩

theorem cand_descend (env : Env d G) {path : List Nat} {q : Option SSet} (hG : G q)
    {lab : Option Nat} {c : Nat} (hlo : lo lab ≤ c) (hc : Scalar c) {t : List Nat}
    (h : Cand d (path ++ [c]) (d.nextState q c) none t) : Cand d path q lab t := by
  obtain ⟨c2, u2, rfl, _, hv, ha⟩ := h
  exact ⟨c, c2 :: u2, by rw [List.append_assoc]; rfl, hlo, valid_cons.mpr ⟨hc, hv⟩,
    by rw [accept_cons env hG]; exact ha⟩

theorem cand_cases (env : Env d G) {path : List Nat} {q : Option SSet} (hG : G q)
    {lab : Option Nat} {c : Nat}
    (hmin : ∀ c', lo lab ≤ c' → Scalar c' → (d.nextState q c').isSome = true → c ≤ c')
    {t : List Nat} (h : Cand d path q lab t) :
    (∃ c' u', t = path ++ c' :: u' ∧ c < c') ∨
    (∃ u', t = path ++ c :: u' ∧ Valid u' ∧ d.accept (d.nextState q c) u' = true) := by
  obtain ⟨c', u', rfl, hlo, hv, ha⟩ := h
  rw [accept_cons env hG] at ha
  have hle : c ≤ c' := by
    apply hmin c' hlo (valid_cons.mp hv).1
    cases hq : d.nextState q c' with
    | none => rw [hq, accept_none] at ha; cases ha
    | some T => rfl
  rcases Nat.lt_or_eq_of_le hle with hlt | rfl
  · exact Or.inl ⟨c', u', rfl, hlt⟩
  · exact Or.inr ⟨u', rfl, (valid_cons.mp hv).2, ha⟩

/-- What the loop returns on a stack whose upper part stands for the strings `P` and whose lower
    part is `stack`: the least of `P` if there is one, otherwise what it returns on `stack`. -/
def LeastOrElse (d : DFA) (P : List Nat → Prop) (stack : List (List Nat × Option SSet × Option Nat))
    (r : Option (List Nat)) : Prop :=
  (∃ m, r = some m ∧ P m ∧ ∀ t, P t → m ≤ t) ∨ ((∀ t, ¬ P t) ∧ ∃ fuel, d.wall fuel stack = .ok r)

/-- An upper part that stands for `P₁` on top of an entry that stands for `P₂`, all of `P₁`
    before all of `P₂`, stands for their union. -/
theorem LeastOrElse.seq {P P₁ P₂ : List Nat → Prop} {e : List Nat × Option SSet × Option Nat}
    {stack : List (List Nat × Option SSet × Option Nat)} {r : Option (List Nat)}
    (hP : ∀ t, P t ↔ P₁ t ∨ P₂ t) (hle : ∀ t t', P₁ t → P₂ t' → t ≤ t')
    (h₁ : LeastOrElse d P₁ (e :: stack) r)
    (h₂ : ∀ fuel, d.wall fuel (e :: stack) = .ok r → LeastOrElse d P₂ stack r) :
    LeastOrElse d P stack r := by
  rcases h₁ with ⟨m, hr, hm, hmin⟩ | ⟨hno, fuel, hw⟩
  · exact Or.inl ⟨m, hr, (hP m).mpr (Or.inl hm), fun t ht => ((hP t).mp ht).elim (hmin t) (hle m t hm)⟩
  · rcases h₂ fuel hw with ⟨m, hr, hm, hmin⟩ | ⟨hno₂, hw₂⟩
    · exact Or.inl ⟨m, hr, (hP m).mpr (Or.inr hm),
        fun t ht => ((hP t).mp ht).elim (fun h => absurd h (hno t)) (hmin t)⟩
    · exact Or.inr ⟨fun t ht => ((hP t).mp ht).elim (hno t) (hno₂ t), hw₂⟩

/-- The wall-following loop returns the least candidate of the top entry, and goes on to the
    entries below only when there is none: a state the loop descends into is live, so its entry
    has a candidate and the loop never comes back from it empty-handed. -/
theorem wall_top (env : Env d G) {stack : List (List Nat × Option SSet × Option Nat)} {r : Option (List Nat)} :
    ∀ {fuel : Nat} {path : List Nat} {q : Option SSet} {lab : Option Nat},
      G q → d.wall fuel ((path, q, lab) :: stack) = .ok r → LeastOrElse d (Cand d path q lab) stack r := by
  intro fuel
  induction fuel with
  | zero => intro _ _ _ _ h; cases h
  | succ fuel ih =>
    intro path q lab hG h
    rw [wall] at h
    cases he : d.findNextEdge q lab with
    | none =>
      -- no edge: the entry has no candidate and is popped
      rw [he] at h
      refine Or.inr ⟨?_, fuel, h⟩
      rintro t ⟨c, u, _, hlo, hv, ha⟩
      rw [accept_cons env hG, (findNextEdge_spec env).2 he c hlo (valid_cons.mp hv).1, accept_none] at ha
      cases ha
    | some c =>
      rw [he] at h
      simp only at h
      obtain ⟨hclo, hcs, hsome, hcmin⟩ := (findNextEdge_spec env).1 c he
      by_cases hfin : d.isFinal (d.nextState q c) = true
      · -- the edge leads to a final state: `path + c` is the least candidate
        rw [if_pos hfin] at h
        cases h
        refine Or.inl ⟨_, rfl, ⟨c, [], rfl, hclo, valid_cons.mpr ⟨hcs, fun _ h => nomatch h⟩,
          by rw [accept_cons env hG]; exact hfin⟩, fun t ht => ?_⟩
        rcases cand_cases env hG hcmin ht with ⟨c', u', rfl, hlt⟩ | ⟨u', rfl, _, _⟩
        · exact List.append_left_le (List.cons_le_cons_iff.mpr (Or.inl hlt))
        · exact List.append_left_le (List.cons_le_cons_iff.mpr (Or.inr ⟨rfl, List.nil_le _⟩))
      · -- the edge leads to a live state that is not final: its entry replaces the top entry; its
        -- candidates are the old entry's candidates through `c`, the others start with a greater
        -- character
        rw [if_neg hfin] at h
        obtain ⟨T, hT⟩ := Option.isSome_iff_exists.mp hsome
        have hGT : G (d.nextState q c) := hT ▸ env.step q c T hG hT
        have hnf : d.isFinal (d.nextState q c) = false := by simpa using hfin
        rcases ih hGT h with ⟨m, hr, hm, hmin⟩ | ⟨hno, _⟩
        · refine Or.inl ⟨m, hr, cand_descend env hG hclo hcs hm, fun t ht => ?_⟩
          rcases cand_cases env hG hcmin ht with ⟨c', u', rfl, hlt⟩ | ⟨u', rfl, hv', ha'⟩
          · obtain ⟨c2, u2, rfl, _, _, _⟩ := hm
            rw [List.append_assoc]
            exact List.append_left_le (List.cons_le_cons_iff.mpr (Or.inl hlt))
          · cases u' with
            | nil => rw [accept, hnf] at ha'; cases ha'
            | cons c3 u3 =>
              have := hmin _ ⟨c3, u3, rfl, Nat.zero_le _, hv', ha'⟩
              rwa [List.append_assoc] at this
        · obtain ⟨t0, ht0⟩ := cand_of_live env (path ++ [c]) hGT hnf
          exact absurd ht0 (hno t0)

/-- The accepted continuations of `path`, read from state `q`, that are greater than `rest`. -/
def Above (d : DFA) (path : List Nat) (q : Option SSet) (rest t : List Nat) : Prop :=
  ∃ u, t = path ++ u ∧ Valid u ∧ rest < u ∧ d.accept q u = true

theorem above_nil_iff {path : List Nat} {q : Option SSet} {t : List Nat} :
    Above d path q [] t ↔ Cand d path q none t := by
  constructor
  · rintro ⟨u, rfl, hv, hlt, ha⟩
    cases u with
    | nil => exact absurd hlt (List.lt_irrefl _)
    | cons c u => exact ⟨c, u, rfl, Nat.zero_le _, hv, ha⟩
  · rintro ⟨c, u, rfl, _, hv, ha⟩
    exact ⟨c :: u, rfl, hv, List.nil_lt_cons _ _, ha⟩

theorem above_cons_iff (env : Env d G) (path : List Nat) {q : Option SSet} (hG : G q) {c : Nat}
    (hc : Scalar c) (rest t : List Nat) :
    Above d path q (c :: rest) t ↔
      Above d (path ++ [c]) (d.nextState q c) rest t ∨ Cand d path q (some c) t := by
  constructor
  · rintro ⟨u, rfl, hv, hlt, ha⟩
    cases u with
    | nil => exact absurd hlt (List.not_lt_nil _)
    | cons c' u =>
      rcases List.cons_lt_cons_iff.mp hlt with h | ⟨rfl, h⟩
      · exact Or.inr ⟨c', u, rfl, h, hv, ha⟩
      · exact Or.inl ⟨u, by rw [List.append_assoc]; rfl, (valid_cons.mp hv).2, h,
          by rwa [accept_cons env hG] at ha⟩
  · rintro (⟨u, rfl, hv, hlt, ha⟩ | ⟨c', u, rfl, hlt, hv, ha⟩)
    · exact ⟨c :: u, by rw [List.append_assoc]; rfl, valid_cons.mpr ⟨hc, hv⟩,
        List.cons_lt_cons_iff.mpr (Or.inr ⟨rfl, hlt⟩), by rw [accept_cons env hG]; exact ha⟩
    · exact ⟨c' :: u, rfl, hv, List.cons_lt_cons_iff.mpr (Or.inl hlt), ha⟩

theorem above_le_cand {path : List Nat} {q q' : Option SSet} {c : Nat} {rest t t' : List Nat}
    (h : Above d (path ++ [c]) q' rest t) (h' : Cand d path q (some c) t') : t ≤ t' := by
  obtain ⟨u, rfl, _, _, _⟩ := h
  obtain ⟨c', u', rfl, hlt, _, _⟩ := h'
  rw [List.append_assoc]
  exact List.append_left_le (List.cons_le_cons_iff.mpr (Or.inl hlt))

theorem follow_spec (env : Env d G) :
    ∀ (rest path : List Nat) (q : Option SSet) (stack : List (List Nat × Option SSet × Option Nat)),
      G q → Valid rest →
      (∃ new, (d.follow path q rest stack).1 = new ++ stack ∧ new.length ≤ rest.length + 1 ∧
        ∀ e, e ∈ new → G e.2.1) ∧
      d.isFinal (d.follow path q rest stack).2 = d.accept q rest ∧
      ∀ fuel r, d.wall fuel (d.follow path q rest stack).1 = .ok r →
        LeastOrElse d (Above d path q rest) stack r := by
  intro rest path q stack
  induction path, q, rest, stack using follow.induct (d := d) with
  | case1 path q stack =>
    intro hG _
    refine ⟨⟨[(path, q, none)], rfl, Nat.le_refl _, fun e he => by cases List.mem_singleton.mp he; exact hG⟩,
      rfl, fun fuel r h => ?_⟩
    -- nothing on top of the entry
    exact LeastOrElse.seq (P₁ := fun _ => False) (fun t => by rw [false_or]; exact above_nil_iff)
      (fun _ _ h => h.elim) (Or.inr ⟨fun _ h => h, fuel, h⟩) fun _ => wall_top env hG
  | case2 path q c rest stack stack1 q' htr ih =>
    intro hG hv
    obtain ⟨hcv, hvr⟩ := valid_cons.mp hv
    have hGq' : G (d.nextState q c) := by
      cases hq : d.nextState q c with
      | none => exact absurd htr (by simp [q', hq, truthy])
      | some T => exact env.step q c T hG hq
    obtain ⟨⟨new', hst, hlen, hGn⟩, hfin, hw⟩ := ih hGq' hvr
    rw [follow, if_pos htr]
    refine ⟨⟨new' ++ [(path, q, some c)], by rw [hst, List.append_assoc]; rfl,
      by rw [List.length_append]; exact Nat.succ_le_succ hlen, fun e he => ?_⟩,
      by rw [hfin, accept_cons env hG], fun fuel r h => ?_⟩
    · rcases List.mem_append.mp he with h | h
      · exact hGn e h
      · cases List.mem_singleton.mp h; exact hG
    · exact LeastOrElse.seq (above_cons_iff env path hG hcv rest) (fun _ _ => above_le_cand)
        (hw fuel r h) fun _ => wall_top env hG
  | case3 path q c rest stack q' htr =>
    intro hG hv
    have hnone : d.nextState q c = none := by
      cases hq : d.nextState q c with
      | none => rfl
      | some T => exact absurd (env.truthy _ (env.step q c T hG hq)) (hq ▸ htr)
    rw [follow, if_neg htr]
    refine ⟨⟨[(path, q, some c)], rfl, Nat.le_add_left .., fun e he => by cases List.mem_singleton.mp he; exact hG⟩,
      by rw [accept_cons env hG, hnone, accept_none]; rfl, fun fuel r h => ?_⟩
    refine LeastOrElse.seq (above_cons_iff env path hG (valid_cons.mp hv).1 rest) (fun _ _ => above_le_cand)
      (Or.inr ⟨?_, fuel, h⟩) fun _ => wall_top env hG
    rintro t ⟨u, _, _, _, ha⟩
    rw [hnone, accept_none] at ha
    cases ha

theorem nextValidString_ok (env : Env d G)
    (hG0 : G (some d.initial)) {chain : Nat} {s : List Nat} (hv : Valid s) {r : Option (List Nat)}
    (h : d.nextValidString chain s = .ok r) :
    (r = none ∧ ∀ t, Valid t → s ≤ t → d.accept (some d.initial) t = false) ∨
    (∃ m, r = some m ∧ d.accept (some d.initial) m = true ∧ s ≤ m ∧
      (∀ t, Valid t → s ≤ t → d.accept (some d.initial) t = true → m ≤ t) ∧ Valid m) := by
  obtain ⟨_, hfin, hw⟩ := follow_spec env s [] (some d.initial) [] hG0 hv
  simp only [nextValidString] at h
  by_cases hf : d.isFinal (d.follow [] (some d.initial) s []).2 = true
  · rw [if_pos hf] at h
    cases h
    exact Or.inr ⟨s, rfl, by rw [← hfin]; exact hf, List.le_refl _, fun t _ hst' _ => hst', hv⟩
  · rw [if_neg hf] at h
    -- `s` is not accepted, so the accepted strings at or after it are those greater than `s`
    have habove : ∀ t, Valid t → s ≤ t → d.accept (some d.initial) t = true →
        Above d [] (some d.initial) s t := fun t hvt hle hat =>
      ⟨t, rfl, hvt, (List.le_iff_lt_or_eq.mp hle).resolve_right fun e => by
        rw [← e, ← hfin] at hat; exact hf hat, hat⟩
    rcases hw _ r h with ⟨m, hr, ⟨u, rfl, hvu, hltu, hau⟩, hmin⟩ | ⟨hno, fuel, hw⟩
    · exact Or.inr ⟨_, hr, hau, List.le_of_lt hltu, fun t hvt hle hat => hmin t (habove t hvt hle hat), hvu⟩
    · rw [wall] at hw
      cases hw
      exact Or.inl ⟨rfl, fun t hvt hle => Bool.eq_false_iff.mpr fun hat => hno t (habove t hvt hle hat)⟩

/-- A ranking of the states: along every defined transition the rank drops, and `N` ranks every
    state. -/
structure Ranked (d : DFA) (G : Option SSet → Prop) (rank : Option SSet → Nat → Prop) (N : Nat) : Prop where
  step : ∀ q c T h, G q → rank q h → d.nextState q c = some T → ∃ h', h' < h ∧ rank (some T) h'
  top : ∀ q, G q → rank q N

/-- The loop ends within `fuel` when the top entry has rank `h` and
    `h + 1 + rest.length * (N + 1) ≤ fuel`: a descent lowers the rank of the top entry, and an entry
    that comes to the top by a pop has rank `N`. -/
theorem wall_terminates {rank : Option SSet → Nat → Prop} {N : Nat} (env : Env d G) (rk : Ranked d G rank N) :
    ∀ {fuel : Nat} {path : List Nat} {q : Option SSet} {lab : Option Nat}
      {rest : List (List Nat × Option SSet × Option Nat)} {h : Nat},
      G q → rank q h → (∀ e, e ∈ rest → G e.2.1) → h + 1 + rest.length * (N + 1) ≤ fuel →
      ∃ r, d.wall fuel ((path, q, lab) :: rest) = .ok r := by
  intro fuel
  induction fuel with
  | zero => intro _ _ _ _ _ _ _ _ hle; omega
  | succ fuel ih =>
    intro path q lab rest h hGq hr hGr hle
    rw [wall]
    cases he : d.findNextEdge q lab with
    | none =>
      cases rest with
      | nil => exact ⟨none, by rw [wall]⟩
      | cons e rest =>
        obtain ⟨hGe, hGr⟩ := List.forall_mem_cons.mp hGr
        rw [List.length_cons, Nat.succ_mul] at hle
        exact ih hGe (rk.top _ hGe) hGr (by omega)
    | some c =>
      simp only
      obtain ⟨_, _, hcs, _⟩ := (findNextEdge_spec env).1 c he
      obtain ⟨T, hT⟩ := Option.isSome_iff_exists.mp hcs
      by_cases hfin : d.isFinal (d.nextState q c) = true
      · rw [if_pos hfin]; exact ⟨_, rfl⟩
      · rw [if_neg hfin, hT]
        obtain ⟨h', hlt, hr'⟩ := rk.step q c T h hGq hr hT
        exact ih (env.step q c T hGq hT) hr' hGr (by omega)

theorem nextValidString_terminates {rank : Option SSet → Nat → Prop} {N : Nat} (env : Env d G)
    (rk : Ranked d G rank N) (hG0 : G (some d.initial)) {chain : Nat} (hchain : N ≤ chain) (s : List Nat)
    (hv : Valid s) : ∃ r, d.nextValidString chain s = .ok r := by
  obtain ⟨⟨new, hst, hlen, hGn⟩, _⟩ := follow_spec env s [] (some d.initial) [] hG0 hv
  rw [List.append_nil] at hst
  unfold nextValidString
  simp only
  split
  · exact ⟨_, rfl⟩
  · rw [hst]
    cases new with
    | nil => exact ⟨none, by rw [wall]⟩
    | cons e rest =>
      obtain ⟨hGe, hGr⟩ := List.forall_mem_cons.mp hGn
      refine wall_terminates env rk hGe (rk.top _ hGe) hGr
        (Nat.le_trans ?_ (Nat.mul_le_mul hlen (Nat.add_le_add_right hchain 1)))
      rw [List.length_cons, Nat.succ_mul]
      omega

theorem nextValidString_spec {rank : Option SSet → Nat → Prop} {N : Nat} (env : Env d G)
    (rk : Ranked d G rank N) (hG0 : G (some d.initial)) {chain : Nat} (hchain : N ≤ chain) :
    NextValidSpec (fun t => d.accept (some d.initial) t) (d.nextValidString chain) := by
  intro s hv
  obtain ⟨r, hr⟩ := nextValidString_terminates env rk hG0 hchain s hv
  rcases nextValidString_ok env hG0 hv hr with ⟨rfl, hno⟩ | ⟨m, rfl, hm⟩
  · exact Or.inl ⟨hr, hno⟩
  · exact Or.inr ⟨m, hr, hm⟩

end DFA
end WM.Lev
