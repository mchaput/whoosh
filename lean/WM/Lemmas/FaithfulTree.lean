import WM.Lemmas.FaithfulUnion
import WM.Lemmas.FaithfulInter
import WM.Lemmas.FaithfulAndNot
import WM.Lemmas.FaithfulAndMaybe
import WM.Lemmas.FaithfulWrap
import WM.Lemmas.FaithfulInverse
import WM.Lemmas.FaithfulLeaf
import WM.Lemmas.FaithfulMulti
import WM.Lemmas.FaithfulCombo
/-! Every matcher tree is a faithful cursor: the per-node lemmas assembled along the `Shape` (and `asc_full`: the complete
list of a well-formed tree ascends); what the constructors of
`FilterMatcher`, `InverseMatcher`, `MultiMatcher` and `ArrayUnionMatcher` return (those of the aligning binary classes, for any
tree invariant, are in `ReplaceInter`). -/
namespace WM.Matcher

/-- Well-formedness of a matcher tree (DESIGN Appendix E): the invariant every constructor
    establishes and every operation preserves. -/
def WF : (s : Shape) → St s → Prop
  | .null, _ => True
  | .list, m => ListM.WF m
  | .leaf, m => LeafM.WF m
  | .union a b, m => WF a m.a ∧ WF b m.b
  | .dismax a b, m => WF a m.a ∧ WF b m.b
  | .inter a b, m => WF a m.a ∧ WF b m.b ∧ Inter.Aligned (den a) (den b) m
  | .andNot a b, m => WF a m.a ∧ WF b m.b ∧ AndNot.Ahead (den a) (den b) m
  | .andMaybe a b, m => WF a m.a ∧ WF b m.b ∧ AndMaybe.NotBehind (den a) (den b) m
  | .require a b, m => WF a m.a ∧ WF b m.b ∧ Inter.Aligned (den a) (den b) m
  | .boost c, m => WF c m.child
  | .filter c, m => WF c m.child ∧ Filter.Passes (den c) m.ids m.exclude m.child
  | .inverse c, m => WF c m.child ∧ Inverse.Stops (den c) m.limit m.missing m.child m.id
  | .const c, m => WF c m.child
  | .multi c, m => Multi.WF (ops c) (den c) (full c) (WF c) m
  | .aunion c, m => AUnion.WF (den c) (full c) (WF c) m

theorem tree_faithful : ∀ s : Shape, Faithful (ops s) (den s) (full s) (WF s)
  | .null => null_faithful
  | .list => ListM.faithful
  | .leaf => LeafM.faithful
  | .union a b => Union.faithful (tree_faithful a) (tree_faithful b)
  | .dismax a b => DisMax.faithful (tree_faithful a) (tree_faithful b)
  | .inter a b => Inter.faithful (tree_faithful a) (tree_faithful b)
  | .andNot a b => AndNot.faithful (tree_faithful a) (tree_faithful b)
  | .andMaybe a b => AndMaybe.faithful (tree_faithful a) (tree_faithful b)
  | .require a b => Require.faithful (tree_faithful a) (tree_faithful b)
  | .boost c => Boost.faithful (tree_faithful c)
  | .filter c => Filter.faithful (tree_faithful c)
  | .inverse c => Inverse.faithful (tree_faithful c)
  | .const c => Const.faithful (tree_faithful c)
  | .multi c => Multi.faithful (tree_faithful c)
  | .aunion c => AUnion.faithful (tree_faithful c)

theorem asc_full (s : Shape) (m : St s) (h : WF s m) : Asc (full s m) := by
  obtain ⟨m', -, hw, e1, -⟩ := (tree_faithful s).reset m h
  rw [← e1]; exact (tree_faithful s).asc m' hw

theorem mkFilter_spec {a : Any} (ha : WF a.1 a.2) (ids : List Nat) (excl : Bool) (boost : Rat) :
    Yields (mkFilter a ids excl boost) fun n => WF n.1 n.2 ∧ n.den = scale boost (keepIds ids excl a.den) :=
  .bind (Filter.init_spec (tree_faithful a.1) a.2 ids excl boost ha) fun _ g => .ok g

theorem mkInverse_spec {a : Any} (ha : WF a.1 a.2) (limit : Nat) (missing : List Nat) (w : Rat) (i : Nat) :
    Yields (mkInverse a limit missing w i) fun n => WF n.1 n.2 ∧ n.den = complement i limit missing a.den w :=
  .bind (Inverse.init_spec (tree_faithful a.1) a.2 limit missing w i ha) fun _ g => .ok g

theorem mkMulti_spec (c : Shape) (segs : List (St c × Nat)) (hw : ∀ s ∈ segs, WF c s.1)
    (hsub : ∀ s ∈ segs, IdSub (den c s.1) (full c s.1)) (hasc : Asc (Multi.denOf (full c) segs)) :
    WF (.multi c) (mkMulti c segs).2 ∧ (mkMulti c segs).den = Multi.denOf (den c) segs :=
  let ⟨g1, g2, _⟩ := Multi.nextMatcher_spec (tree_faithful c) (m := ⟨segs, 0⟩) hw hsub hasc
  ⟨g1, g2⟩

theorem mkAUnion_spec (c : Shape) (subs : List (St c)) (dc : Nat) (boost : Rat) (ps : Nat)
    (hw : ∀ s ∈ subs, WF c s) (hb : 0 < boost) (hps : 0 < ps)
    (hdp : ∀ s ∈ subs, ∀ p ∈ den c s, 0 < p.2) (hfp : ∀ s ∈ subs, ∀ p ∈ full c s, 0 < p.2) :
    Yields (mkAUnion c subs dc boost ps) fun m =>
      WF m.1 m.2 ∧ m.den = below dc (sumDens (subs.map fun s => scale boost (den c s))) := by
  unfold mkAUnion AUnion.init
  rw [if_neg (by simp; omega)]
  exact .bind (AUnion.refill_spec (tree_faithful c)
    (⟨subs, dc, boost, ps, List.replicate ps 0, 0, 0, 0⟩ : AUnion (St c)) hps hb hw hdp hfp) fun _ r => .ok ⟨r.1, r.2.2.1⟩

end WM.Matcher
