import WM.Lemmas.ParserBase
/-! `do_fieldnames`: the backward index loop as a structural scan of the reversed list (so the
filter never fails), and the scoping property of a field prefix. -/
namespace WM.Parser

/-- The backward loop on the reversed list: head = `group[i-1]`, the tail are the nodes before
    it; the output is in the order the loop appends to `newgroup`. -/
def fnRev : List Node → List Node
  | [] => []
  | [node] => [fnToWord node]
  | node :: .fname name o :: prevs =>
    if !(fnToWord node).isWs then setFieldname name false (fnToWord node) :: fnRev prevs
    else fnToWord node :: fnRev (.fname name o :: prevs)
  | node :: p :: prevs => fnToWord node :: fnRev (p :: prevs)

theorem fnLoop_zero (group acc : List Node) : fnLoop group 0 acc = .ok acc := by
  rw [fnLoop, dif_neg (Nat.lt_irrefl 0)]

theorem fnLoop_step {group : List Node} {i i' : Nat} {n : Node} (h : fnStep group (i + 1) = .ok (i', n))
    (acc : List Node) : fnLoop group (i + 1) acc = fnLoop group i' (acc ++ [n]) := by
  rw [fnLoop, dif_pos (Nat.succ_pos i)]
  split
  · next hs => rw [h] at hs; cases hs
  · next hs => rw [h] at hs; cases hs; rfl

theorem fnStep_two (prevs : List Node) (p cur : Node) (suf : List Node) :
    fnStep (prevs.reverse ++ p :: cur :: suf) (prevs.length + 1 + 1) = .ok (
      if !(fnToWord cur).isWs then
        match p with
        | .fname name _ => (prevs.length, setFieldname name false (fnToWord cur))
        | _ => (prevs.length + 1, fnToWord cur)
      else (prevs.length + 1, fnToWord cur)) := by
  unfold fnStep
  rw [← List.length_reverse,
    show ((prevs.reverse.length + 1 + 1 : Nat) : Int) - 1 = ((prevs.reverse.length + 1 : Nat) : Int) from
      pred_cast (Nat.succ_pos _),
    show ((prevs.reverse.length + 1 : Nat) : Int) - 1 = (prevs.reverse.length : Int) from pred_cast (Nat.succ_pos _),
    pyGet_nat.2 (getElem?_append_len_succ _ p cur suf), pyGet_append_len]
  dsimp only
  split
  · next h => rw [if_pos h.2]; cases p <;> rfl
  · next h => rw [if_neg fun hw => h ⟨Nat.succ_pos _, hw⟩]; rfl

theorem fnLoop_rev (prevs suf acc : List Node) :
    fnLoop (prevs.reverse ++ suf) prevs.length acc = .ok (acc ++ fnRev prevs) := by
  fun_induction fnRev prevs generalizing suf acc with
  | case1 => exact (fnLoop_zero _ _).trans (by rw [List.append_nil])
  | case2 node => exact (fnLoop_step (i := 0) rfl acc).trans (fnLoop_zero _ _)
  | case3 node name o prevs hws ih =>
    have hs := fnStep_two prevs (.fname name o) node suf
    simp only [if_pos hws, List.reverse_cons, List.append_assoc, List.cons_append, List.nil_append,
      List.length_cons] at hs ⊢
    rw [fnLoop_step hs, ih, List.append_assoc]; rfl
  | case4 node name o prevs hws ih =>
    have hs := fnStep_two prevs (.fname name o) node suf
    simp only [if_neg hws, List.reverse_cons, List.append_assoc, List.cons_append, List.nil_append,
      List.length_cons] at hs ih ⊢
    rw [fnLoop_step hs, ih, List.append_assoc]; rfl
  | case5 node p prevs hp ih =>
    have hs := fnStep_two prevs p node suf
    simp only [ite_self, List.reverse_cons, List.append_assoc, List.cons_append, List.nil_append,
      List.length_cons] at hs ih ⊢
    rw [fnLoop_step hs, ih, List.append_assoc]; rfl

theorem fnRev_cons_plain (cur : Node) {prevs : List Node} (h : ∀ p, prevs.head? = some p → p.isFname = false) :
    fnRev (cur :: prevs) = fnToWord cur :: fnRev prevs := by
  cases prevs with
  | nil => rfl
  | cons p prevs => exact fnRev.eq_4 _ _ _ fun name o e => nomatch e ▸ h p rfl

theorem fnToWord_not_fname {x : Node} (h : x.isFname = false) : fnToWord x = x := by
  cases x with
  | fname => cases h
  | _ => rfl

theorem fnRev_append (A : List Node) (x : Node) (B : List Node) (hx : x.isFname = false) :
    fnRev (A ++ x :: B) = fnRev A ++ fnRev (x :: B) := by
  fun_induction fnRev A with
  | case1 => rfl
  | case2 node => exact fnRev_cons_plain node fun p e => Option.some.inj e ▸ hx
  | case3 node name o prevs hws ih => exact (fnRev.eq_3 ..).trans ((if_pos hws).trans (congrArg (_ :: ·) ih))
  | case4 node name o prevs hws ih => exact (fnRev.eq_3 ..).trans ((if_neg hws).trans (congrArg (_ :: ·) ih))
  | case5 node p prevs hp ih => exact (fnRev.eq_4 _ _ _ hp).trans (congrArg (_ :: ·) ih)

/-- the scan in reading order -/
def fieldsScan (l : List Node) : List Node := (fnRev l.reverse).reverse

theorem fieldsScan_scope (pre post : List Node) (name orig : Str) (x : Node)
    (hw : x.isWs = false) (hf : x.isFname = false) :
    fieldsScan (pre ++ .fname name orig :: x :: post)
      = fieldsScan pre ++ setFieldname name false x :: fieldsScan post := by
  unfold fieldsScan
  have : (pre ++ Node.fname name orig :: x :: post).reverse
      = post.reverse ++ x :: (Node.fname name orig :: pre.reverse) := by simp
  rw [this, fnRev_append _ _ _ hf, fnRev, fnToWord_not_fname hf, hw]
  simp

theorem fieldsScan_plain (pre post : List Node) (x : Node) (hf : x.isFname = false)
    (hpre : ∀ n, pre.getLast? = some n → n.isFname = false) :
    fieldsScan (pre ++ x :: post) = fieldsScan pre ++ x :: fieldsScan post := by
  unfold fieldsScan
  have : (pre ++ x :: post).reverse = post.reverse ++ x :: pre.reverse := by simp
  rw [this, fnRev_append _ _ _ hf, fnRev_cons_plain x (by rwa [List.head?_reverse]),
    fnToWord_not_fname hf]
  simp

theorem doFieldnames_nongroup (c : Cfg) {n : Node} (h : n.isGroup = false) : doFieldnames c n = .ok n := by
  rw [doFieldnames]
  · rfl
  · rintro k ns b rfl; cases h

/-- the result of `do_fieldnames` as a total function (it never fails: `doFieldnames_eq_fieldsOut`) -/
def fieldsOut (c : Cfg) (n : Node) : Node := okOr (doFieldnames c n) n

/-- the first loop of `do_fieldnames` (unknown field names become text), when it applies -/
def stage1 (c : Cfg) (l : List Node) : List Node :=
  if c.removeUnknown = true ∧ c.schemaTruthy = true then fnStage1 c none l else l

theorem doFieldnames_group_of (c : Cfg) (k : GK) (ns : List Node) (b : Rat) {ns0 : List Node}
    (h : ns.mapM (doFieldnames c) = .ok ns0) :
    doFieldnames c (.group k ns b) = .ok (.group k (fieldsScan (stage1 c ns0)) b) := by
  have hl := fnLoop_rev (stage1 c ns0).reverse [] []
  rw [List.reverse_reverse, List.append_nil, List.length_reverse, List.nil_append] at hl
  rw [doFieldnames, h]
  unfold stage1 at hl
  simp only [bind, Except.bind, hl]
  rfl

theorem doFieldnames_eq_fieldsOut (c : Cfg) (n : Node) : doFieldnames c n = .ok (fieldsOut c n) := by
  induction n using Node.childrenInd with
  | leaf n h => rw [fieldsOut, doFieldnames_nongroup c h, okOr_ok]
  | group k ns b ih => rw [fieldsOut, doFieldnames_group_of c k ns b (mapM_eq_map ih), okOr_ok]

theorem fieldsOut_nongroup (c : Cfg) {n : Node} (h : n.isGroup = false) : fieldsOut c n = n :=
  okOr_of_eq (doFieldnames_nongroup c h)

theorem doFieldnames_group (c : Cfg) (k : GK) (ns : List Node) (b : Rat) :
    doFieldnames c (.group k ns b) = .ok (.group k (fieldsScan (stage1 c (ns.map (fieldsOut c)))) b) :=
  doFieldnames_group_of c k ns b (mapM_eq_map (fun y _ => doFieldnames_eq_fieldsOut c y))

/-- every field prefix at the top level of the list names a field of the schema -/
def knownNames (c : Cfg) (l : List Node) : Prop :=
  ∀ n ∈ l, ∀ name o, n = .fname name o → c.inSchema name = true

theorem fnStage1_id (c : Cfg) (l : List Node) (h : knownNames c l) : fnStage1 c none l = l := by
  induction l with
  | nil => rfl
  | cons n rest ih =>
    have ihr := ih (fun m hm => h m (.tail _ hm))
    cases n with
    | fname name o =>
      have := h (.fname name o) (.head _) name o rfl
      simp [fnStage1, this, ihr]
    | _ => exact congrArg (_ :: ·) ihr

theorem stage1_id (c : Cfg) (l : List Node)
    (h : c.removeUnknown = true → c.schemaTruthy = true → knownNames c l) : stage1 c l = l := by
  unfold stage1
  split
  · next hc => exact fnStage1_id c l (h hc.1 hc.2)
  · rfl

theorem fieldsOut_group (c : Cfg) (k : GK) (ns : List Node) (b : Rat) :
    fieldsOut c (.group k ns b) = .group k (fieldsScan (stage1 c (ns.map (fieldsOut c)))) b :=
  okOr_of_eq (doFieldnames_group c k ns b)

theorem fieldsOut_cases (c : Cfg) (m : Node) : fieldsOut c m = m ∨ ∃ k ns b, fieldsOut c m = .group k ns b := by
  cases hg : m.isGroup
  · exact .inl (fieldsOut_nongroup c hg)
  · cases m with
    | group k ns b => exact .inr ⟨k, _, b, fieldsOut_group c k ns b⟩
    | _ => cases hg

theorem stage1_map_fieldsOut (c : Cfg) (l : List Node)
    (h : c.removeUnknown = true → c.schemaTruthy = true → knownNames c l) :
    stage1 c (l.map (fieldsOut c)) = l.map (fieldsOut c) := by
  -- a node `do_fieldnames` has changed is a group, not a field prefix
  refine stage1_id c _ fun hr hs n hn name o he => ?_
  obtain ⟨m, hm, rfl⟩ := List.mem_map.1 hn
  obtain h1 | ⟨k, ns, b, h1⟩ := fieldsOut_cases c m
  · exact h hr hs m hm name o (h1 ▸ he)
  · rw [h1] at he; cases he

theorem fieldsOut_props (c : Cfg) (x : Node) (hw : x.isWs = false) (hf : x.isFname = false) :
    (fieldsOut c x).isWs = false ∧ (fieldsOut c x).isFname = false := by
  obtain h1 | ⟨k, ns, b, h1⟩ := fieldsOut_cases c x
  · rw [h1]; exact ⟨hw, hf⟩
  · rw [h1]; exact ⟨rfl, rfl⟩

end WM.Parser
