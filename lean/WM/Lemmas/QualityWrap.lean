import WM.Lemmas.FaithfulWrap
import WM.Lemmas.FaithfulInverse
import WM.Lemmas.Quality
/-! Quality contract of the single-child wrappers: boost, Filter, ConstantScore, Inverse. -/
namespace WM.Matcher

variable {α : Type} {A : Ops α} {dA fA : α → Den} {WQA W0A : α → Prop}

namespace Boost

/-- `PB` is the side condition on the boost (`0 < boost` for the quality bounds; `0 < boost ≤ 1` where
    `replace()` is concerned, see `WM.C12.replace_keeps_partial`) -/
theorem qfaithful (PB : Rat → Prop) (hPB : ∀ b, PB b → 0 < b) (QA : QFaithful A dA fA WQA W0A) :
    QFaithful (Boost.ops A) (fun m => scale m.boost (dA m.child)) (fun m => scale m.boost (fA m.child))
      (fun m => WQA m.child ∧ PB m.boost) (fun m => W0A m.child ∧ PB m.boost) where
  toW0 m h := ⟨QA.toW0 _ h.1, h.2⟩
  cur0 := Boost.faithful_inv QA.cur0 _ (fun _ h => h.1) fun _ _ h hc => ⟨hc, h.2⟩
  curQ := Boost.faithful_inv QA.curQ _ (fun _ h => h.1) fun _ _ h hc => ⟨hc, h.2⟩
  nn m h := nonNeg_scale (Rat.le_of_lt (hPB _ h.2)) (QA.nn _ h.1)
  sup m h := QA.sup _ h.1
  max m h :=
    have hb := Rat.le_of_lt (hPB _ h.2)
    (QA.max m.child h.1).bind fun _ hq => .ok ⟨bounded_scale hb hq.1, Rat.mul_nonneg hq.2 hb⟩
  block m h := (QA.block m.child h.1).bind fun q hq => .ok fun x r L hd => by
    cases hc : dA m.child with
    | nil => simp [hc, scale] at hd
    | cons p L' =>
      rw [hc] at hd
      cases hd
      exact Rat.mul_le_mul_of_nonneg_right (hq _ _ _ hc) (Rat.le_of_lt (hPB _ h.2))
  skipQ m q h hne := by
    have hpos := hPB _ h.2
    have hne' : dA m.child ≠ [] := by intro e; apply hne; simp [e, scale]
    refine .ite (fun hb => absurd hb (Rat.not_le.2 hpos)) fun _ => (QA.skipQ m.child (q / m.boost) h.1 hne').bind ?_
    rintro ⟨c, k⟩ g
    exact .ok ⟨⟨g.1, h.2⟩, keeps_scale hpos (QA.curQ.asc _ h.1) (QA.curQ.asc _ g.1) g.2.1,
      .wrap (c := (·.child)) (fun _ => rfl) g.2.2 (fun e => by simp only [e]) fun e => by simp only [e]⟩

end Boost

namespace Const

theorem qfaithful (QA : QFaithful A dA fA WQA W0A) :
    QFaithful (Const.ops A) (fun m => constScore m.score (dA m.child)) (fun m => constScore m.score (fA m.child))
      (fun m => WQA m.child ∧ 0 ≤ m.score) (fun m => W0A m.child ∧ 0 ≤ m.score) where
  toW0 _ h := ⟨QA.toW0 _ h.1, h.2⟩
  cur0 := Const.faithful_inv QA.cur0 _ (fun _ h => h.1) fun _ _ h hc => ⟨hc, h.2⟩
  curQ := Const.faithful_inv QA.curQ _ (fun _ h => h.1) fun _ _ h hc => ⟨hc, h.2⟩
  nn _ h := nonNeg_constScore h.2 _
  sup _ h := QA.sup _ h.1
  max m h := ⟨m.score, rfl, bounded_constScore _ _, h.2⟩
  block m _ := ⟨m.score, rfl, headBounded_of_bounded (bounded_constScore _ _)⟩
  skipQ _ _ h _ := .ok ⟨h, .refl _ _, .refl _ _ _ _⟩

end Const

namespace Filter

theorem qfaithful (PB : Rat → Prop) (hPB : ∀ b, PB b → 0 < b) (QA : QFaithful A dA fA WQA W0A) :
    QFaithful (Filter.ops A) (fun m => scale m.boost (keepIds m.ids m.exclude (dA m.child)))
      (fun m => scale m.boost (keepIds m.ids m.exclude (fA m.child)))
      (fun m => (WQA m.child ∧ Passes dA m.ids m.exclude m.child) ∧ PB m.boost)
      (fun m => (W0A m.child ∧ Passes dA m.ids m.exclude m.child) ∧ PB m.boost) where
  toW0 m h := ⟨⟨QA.toW0 _ h.1.1, h.1.2⟩, h.2⟩
  cur0 := Filter.faithful_inv QA.cur0 _ (fun _ h => h.1) fun _ _ h hc hp => ⟨⟨hc, hp⟩, h.2⟩
  curQ := Filter.faithful_inv QA.curQ _ (fun _ h => h.1) fun _ _ h hc hp => ⟨⟨hc, hp⟩, h.2⟩
  nn m h := nonNeg_scale (Rat.le_of_lt (hPB _ h.2)) (nonNeg_subset (keepIds_subset _ _ _) (QA.nn _ h.1.1))
  sup m h := QA.sup _ h.1.1
  max m h :=
    have hb := Rat.le_of_lt (hPB _ h.2)
    (QA.max m.child h.1.1).bind fun _ hq =>
      .ok ⟨bounded_scale hb (bounded_subset (keepIds_subset _ _ _) hq.1), Rat.mul_nonneg hq.2 hb⟩
  block m h := (QA.block m.child h.1.1).bind fun q hq => .ok fun x r L hd => by
    cases hc : dA m.child with
    | nil => simp [hc, keepIds, scale] at hd
    | cons p L' =>
      rw [head m h.1.2 hc] at hd
      cases hd
      exact Rat.mul_le_mul_of_nonneg_right (hq _ _ _ hc) (Rat.le_of_lt (hPB _ h.2))
  skipQ m q h hne := by
    have hpos := hPB _ h.2
    have hne' : dA m.child ≠ [] := by intro e; apply hne; simp [e, keepIds, scale]
    refine .ite (fun hb => absurd hb (Rat.not_le.2 hpos)) fun _ => (QA.skipQ m.child (q / m.boost) h.1.1 hne').bind ?_
    rintro ⟨c, k⟩ g
    obtain ⟨c', f1, f2, f3, f4, f5⟩ := findNext_spec QA.curQ { m with child := c } g.1
    refine ⟨({ m with child := c' }, k), by simp only [f1]; rfl, ⟨⟨f2, f3⟩, h.2⟩, ?_,
      .wrap (c := (·.child)) (fun _ => rfl) (g.2.2.trans f5) (fun e => by simp only [e]) fun e => by simp only [e]⟩
    simp only [f4]
    exact keeps_scale hpos (asc_keepIds _ _ (QA.curQ.asc _ h.1.1)) (asc_keepIds _ _ (QA.curQ.asc _ g.1))
      (keeps_keepIds _ _ (QA.curQ.asc _ h.1.1) (QA.curQ.asc _ g.1) g.2.1)

end Filter

/-! ### Inverse (never supports block quality; `max_quality` is its own weight) -/

namespace Inverse

theorem qfaithful (QA : QFaithful A dA fA WQA W0A) :
    QFaithful (Inverse.ops A) (fun m => complement m.id m.limit m.missing (dA m.child) m.weight)
      (fun m => complement 0 m.limit m.missing (fA m.child) m.weight) (fun _ => False)
      (fun m => (W0A m.child ∧ Stops dA m.limit m.missing m.child m.id) ∧ 0 ≤ m.weight) where
  toW0 _ h := h.elim
  cur0 := Inverse.faithful_inv QA.cur0 _ (fun _ h => h.1) fun _ _ _ h hc hs => ⟨⟨hc, hs⟩, h.2⟩
  curQ := Faithful.of_false _ _ _
  nn m h := by
    intro p hp
    obtain ⟨i, -, rfl⟩ := List.mem_map.1 hp
    exact h.2
  sup _ h := h.elim
  max m h := by
    refine ⟨m.weight, rfl, fun p hp => ?_, h.2⟩
    obtain ⟨i, -, rfl⟩ := List.mem_map.1 hp
    exact Rat.le_refl
  block _ h := h.elim
  skipQ _ _ h := h.elim

end Inverse

end WM.Matcher
