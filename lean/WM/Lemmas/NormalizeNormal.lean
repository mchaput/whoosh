import WM.Lemmas.NormalizeStable
/-! The normal forms of `normalize` (`Normal`): every pass of `CompoundQuery.normalize` has nothing left
    to do on the clause list.  Normal forms are fixed points, `normalize` produces them (hence is
    idempotent), and they have the shape `NF`. -/
namespace WM.Normalize

/-- `isinstance(q, self.__class__)` for a compound of class `k`. -/
def sameClass (k : CK) : Q → Bool
  | .comp k' _ _ => k' == k
  | _ => false

mutual
/-- Normal forms: exactly the shape `normalize` produces (and leaves alone). -/
def Normal : Q → Bool
  | .wild f t b c => wildNormalize f t b c == .wild f t b c
  | .range f lo hi lx hx b c => (Rng.mk f lo hi lx hx b c).proper
  | .phrase _ ws _ _ => decide (2 ≤ ws.length)
  | .comp k l _ =>
    NormalList l && decide (2 ≤ l.length)
      && l.all (fun x => !x.isNull && !x.isEveryAll && !sameClass k x)
      && stable [] l && dstable (efFinal [] l) [] l
  | .seq _ l _ _ _ => NormalList l
  | .not q _ => Normal q && !q.isNull
  | .bin _ a b => Normal a && Normal b && !a.isNull && !b.isNull
  | _ => true
def NormalList : List Q → Bool
  | [] => true
  | q :: qs => Normal q && NormalList qs
end

theorem NormalList_iff (l : List Q) : NormalList l = true ↔ ∀ q ∈ l, Normal q = true := by
  induction l with
  | nil => simp [NormalList]
  | cons q qs ih => simp [NormalList, ih]

theorem flatten_id (k : CK) (l : List Q) (h : ∀ x ∈ l, sameClass k x = false) : flatten k l = l := by
  fun_induction flatten k l with
  | case1 => rfl
  | case2 ss b rest ih =>
    have := h _ (List.mem_cons_self ..)
    simp [sameClass] at this
  | case3 _ _ _ _ _ ih | case4 _ _ _ ih => rw [ih fun x hx => h x (List.mem_cons_of_mem _ hx)]

theorem Normal_comp {k : CK} {l : List Q} {b : Rat} :
    Normal (.comp k l b) = true ↔ NormalList l = true ∧ 2 ≤ l.length
      ∧ (∀ x ∈ l, x.isNull = false ∧ x.isEveryAll = false ∧ sameClass k x = false)
      ∧ stable [] l = true ∧ dstable (efFinal [] l) [] l = true := by
  simp only [Normal, Bool.and_eq_true, decide_eq_true_eq, List.all_eq_true, Bool.not_eq_true', and_assoc]

theorem Normal_not {q : Q} {b : Rat} : Normal (.not q b) = true ↔ Normal q = true ∧ q.isNull = false := by
  simp only [Normal, Bool.and_eq_true, Bool.not_eq_true']

theorem Normal_bin {k : BK} {a b : Q} :
    Normal (.bin k a b) = true ↔ Normal a = true ∧ Normal b = true ∧ a.isNull = false ∧ b.isNull = false := by
  simp only [Normal, Bool.and_eq_true, Bool.not_eq_true', and_assoc]

theorem filter_notNull_of_none {l : List Q} (h : ∀ s ∈ l, s.isNull = false) :
    l.filter (fun q => !q.isNull) = l := by
  rw [List.filter_eq_self]
  intro a ha
  simp [h a ha]

theorem compNormalize_of_Normal {k : CK} {l : List Q} {b : Rat} (h : Normal (.comp k l b) = true) :
    compNormalize k l b = .comp k l b := by
  obtain ⟨-, hlen, hall, hst, hdst⟩ := Normal_comp.mp h
  have hnull : ∀ x ∈ l, x.isNull = false := fun x hx => (hall x hx).1
  have h1 : l.all Q.isNull = false := by
    match l, hlen, hnull with
    | x :: y :: rest, _, hnull => simp [hnull x (List.mem_cons_self ..)]
  have h2 : l.any Q.isEveryAll = false :=
    List.any_eq_false.mpr fun x hx => ne_true_of_eq_false (hall x hx).2.1
  simp only [compNormalize, flatten_id k l fun x hx => (hall x hx).2.2, h1, h2, Bool.false_eq_true, ↓reduceIte,
    Bool.false_and, compTail, mergeLoop_of_stable _ [] l hst, dedupe_of_dstable _ l [] hdst,
    filter_notNull_of_none hnull]
  match l, hlen with
  | x :: y :: rest, _ => rfl

mutual
theorem normalize_of_Normal : ∀ (q : Q), Normal q = true → normalize q = q
  | .wild f t b c, h => beq_iff_eq.mp h
  | .range f lo hi lx hx b c, h => rngNormalize_of_proper h
  | .phrase f ws s b, h => by
    have h : 2 ≤ ws.length := of_decide_eq_true h
    match ws, h with
    | x :: y :: rest, _ => rfl
  | .comp k l b, h => by
    show compNormalize k (normalizeList l) b = _
    rw [normalizeList_of_Normal l (Normal_comp.mp h).1, compNormalize_of_Normal h]
  | .seq c l s o b, h => congrArg (Q.seq c · s o b) (normalizeList_of_Normal l h)
  | .not q b, h => by
    obtain ⟨hq, hn⟩ := Normal_not.mp h
    show (if (normalize q).isNull = true then Q.null else .not (normalize q) b) = _
    rw [normalize_of_Normal q hq, if_neg (ne_true_of_eq_false hn)]
  | .bin k a b, h => by
    obtain ⟨ha, hb, hna, hnb⟩ := Normal_bin.mp h
    show binNormalize k (normalize a) (normalize b) = _
    rw [normalize_of_Normal a ha, normalize_of_Normal b hb]
    unfold binNormalize
    cases k <;> simp [hna, hnb]
  | .null, _ | .every _ _, _ | .term _ _ _, _ | .pre _ _ _ _, _ | .multi _ _ _ _ _, _ | .const _ _, _
  | .opq _ _, _ => rfl
theorem normalizeList_of_Normal : ∀ (l : List Q), NormalList l = true → normalizeList l = l
  | [], _ => rfl
  | q :: qs, h => by
    have h := (Bool.and_eq_true _ _).mp h
    show normalize q :: normalizeList qs = _
    rw [normalize_of_Normal q h.1, normalizeList_of_Normal qs h.2]
end

theorem sameClass_withBoost (k : CK) (q : Q) (b : Rat) : sameClass k (q.withBoost b) = sameClass k q := by
  cases q <;> try rfl
  rename_i k' x y
  cases k' <;> rfl

theorem wildNormalize_withBoost (f : Field) (t : Text) (b : Rat) (c : Bool) (b' : Rat) :
    (wildNormalize f t b c).withBoost b' = wildNormalize f t b' c := by
  simp only [wildNormalize, apply_ite (fun q => Q.withBoost q b'), Q.withBoost]

theorem wildNormalize_cases (f : Field) (t : Text) (b : Rat) (c : Bool) :
    wildNormalize f t b c ∈ [Q.wild f t b c, .every (some f) b, .term f t b, .pre f t.dropLast b true] := by
  unfold wildNormalize
  refine ite_cases ?_ (ite_cases ?_ (ite_cases ?_ (ite_cases ?_ ?_))) <;>
    simp only [List.mem_cons, true_or, or_true]

theorem binNormalize_cases (k : BK) (a b : Q) :
    binNormalize k a b = .null ∨ binNormalize k a b = a ∨ binNormalize k a b = b
      ∨ (binNormalize k a b = .bin k a b ∧ a.isNull = false ∧ b.isNull = false) := by
  cases ha : a.isNull <;> cases hb : b.isNull <;> cases k <;> simp [binNormalize, ha, hb]

theorem Normal_withBoost : ∀ (q : Q) (b : Rat), Normal q = true → Normal (q.withBoost b) = true
  | .wild f t b0 c, b, h => by
    simp only [Normal, beq_iff_eq] at h
    simp only [Q.withBoost, Normal, beq_iff_eq, ← wildNormalize_withBoost f t b0 c b, h]
  | .bin k x y, b, h => by
    obtain ⟨hx, hy, hnx, hny⟩ := Normal_bin.mp h
    have hx' := Normal_withBoost x b hx
    have hnx' := (withBoost_isNull x b).trans hnx
    -- `AndNot`, `Require`: the left side only; `AndMaybe`, `Otherwise`: both
    cases k <;> first
      | exact Normal_bin.mpr ⟨hx', hy, hnx', hny⟩
      | exact Normal_bin.mpr ⟨hx', Normal_withBoost y b hy, hnx', (withBoost_isNull y b).trans hny⟩
  | .range _ _ _ _ _ _ _, _, h => h
  | .phrase _ _ _ _, _, h => h
  | .comp _ _ _, _, h => h
  | .seq _ _ _ _ _, _, h => h
  | .not _ _, _, h => h
  | .null, _, _ | .every _ _, _, _ | .term _ _ _, _, _ | .pre _ _ _ _, _, _ | .multi _ _ _ _ _, _, _
  | .const _ _, _, _ | .opq _ _, _, _ => rfl

theorem Normal_rngNormalize (r : Rng) : Normal r.normalize = true := by
  rcases rngNormalize_cases r with e | e | ⟨t, e⟩ | ⟨e, hp⟩ <;> rw [e]
  · rfl
  · rfl
  · rfl
  · exact hp

theorem sameClass_rngNormalize (k : CK) (r : Rng) : sameClass k r.normalize = false := by
  rcases rngNormalize_cases r with e | e | ⟨t, e⟩ | ⟨e, _⟩ <;> rw [e] <;> rfl

theorem Normal_of_mem_flatten (k : CK) (l : List Q) (h : NormalList l = true) :
    ∀ x ∈ flatten k l, Normal x = true ∧ sameClass k x = false := by
  fun_induction flatten k l with
  | case1 => exact fun x hx => nomatch hx
  | case2 ss b rest ih =>
    obtain ⟨hs, hr⟩ := (Bool.and_eq_true ..).mp h
    obtain ⟨hN, -, hall, -⟩ := Normal_comp.mp hs
    refine List.forall_mem_append.mpr ⟨List.forall_mem_map.mpr fun y hy => ?_, ih hr⟩
    exact ⟨Normal_withBoost y _ ((NormalList_iff ss).mp hN y hy), (sameClass_withBoost ..).trans (hall y hy).2.2⟩
  | case3 k' ss b rest hk ih =>
    obtain ⟨hs, hr⟩ := (Bool.and_eq_true ..).mp h
    exact List.forall_mem_cons.mpr ⟨⟨hs, by simp [sameClass, hk]⟩, ih hr⟩
  | case4 s rest hs ih =>
    obtain ⟨hn, hr⟩ := (Bool.and_eq_true ..).mp h
    exact List.forall_mem_cons.mpr ⟨⟨hn, sameClass.eq_2 k s hs⟩, ih hr⟩

theorem Normal_finish (k : CK) (l : List Q) (b : Rat)
    (hN : ∀ x ∈ l, Normal x = true)
    (hcomp : 2 ≤ l.length → Normal (.comp k l b) = true) : Normal (finish k l b) = true := by
  unfold finish
  match l, hN, hcomp with
  | [], _, _ => rfl
  | [sub], hN, _ =>
    simp only
    split
    · exact hN sub (List.mem_cons_self ..)
    · exact Normal_withBoost _ _ (hN sub (List.mem_cons_self ..))
  | x :: y :: rest, _, hcomp => exact hcomp (by simp)

theorem Normal_compTail (k : CK) (l : List Q) (b : Rat)
    (h : ∀ x ∈ l, Normal x = true ∧ x.isEveryAll = false ∧ sameClass k x = false) :
    Normal (compTail k l b) = true := by
  unfold compTail
  have hst := mergeLoop_stable k.intersect [] l (by simp) fun x hx => (h x hx).2.1
  have hef := mergeLoop_snd k.intersect [] l
  have hall := mergeLoop_forall (i := k.intersect)
    (fun r rest _ _ => ⟨Normal_rngNormalize _, rngNormalize_not_everyAll _, sameClass_rngNormalize k _⟩) [] l h
  generalize mergeLoop k.intersect [] l = res at hst hef hall
  obtain ⟨out, ef⟩ := res
  simp only at hst hef hall ⊢
  subst hef
  have hsub4 : ((dedupe (efFinal [] out) [] out).filter fun q => !q.isNull).Sublist _ := List.filter_sublist
  have hsub := hsub4.trans (dedupe_sublist (efFinal [] out) out [])
  refine Normal_finish k _ b (fun x hx => (hall x (hsub.subset hx)).1) fun hlen =>
    Normal_comp.mpr ⟨?_, hlen, fun x hx => ⟨?_, (hall x (hsub.subset hx)).2⟩, ?_, ?_⟩
  · exact (NormalList_iff _).mpr fun x hx => (hall x (hsub.subset hx)).1
  · simpa using (List.mem_filter.mp hx).2
  · exact stable_mono hsub (fun o ho => ho) hst
  · exact dstable_mono hsub4 (efFinal_sublist hsub []) (fun x hx => hx) (dedupe_dstable _ out [])

theorem filter_notEveryAll_eq (l : List Q) :
    (if l.any Q.isEveryAll = true then l.filter (fun q => !q.isEveryAll) else l)
      = l.filter (fun q => !q.isEveryAll) := by
  split
  · rfl
  · rename_i h
    refine (List.filter_eq_self.mpr fun a ha => ?_).symm
    cases hc : a.isEveryAll
    · rfl
    · exact absurd (List.any_eq_true.mpr ⟨a, ha, hc⟩) h

theorem Normal_compNormalize (k : CK) (subs : List Q) (b : Rat) (h : NormalList subs = true) :
    Normal (compNormalize k subs b) = true := by
  have hN := Normal_of_mem_flatten k subs h
  unfold compNormalize
  generalize flatten k subs = l at hN
  simp only [filter_notEveryAll_eq]
  refine ite_cases (P := fun q => Normal q = true) rfl
    (ite_cases (P := fun q => Normal q = true) rfl (ite_cases (P := fun q => Normal q = true) rfl ?_))
  refine Normal_compTail k _ b fun x hx => ?_
  obtain ⟨hx, he⟩ := List.mem_filter.mp hx
  exact ⟨(hN x hx).1, by simpa using he, (hN x hx).2⟩

theorem Normal_binNormalize (k : BK) (a b : Q) (ha : Normal a = true) (hb : Normal b = true) :
    Normal (binNormalize k a b) = true := by
  rcases binNormalize_cases k a b with h | h | h | ⟨h, hna, hnb⟩ <;> rw [h]
  · rfl
  · exact ha
  · exact hb
  · exact Normal_bin.mpr ⟨ha, hb, hna, hnb⟩

theorem Normal_wildNormalize (f : Field) (t : Text) (b : Rat) (c : Bool) :
    Normal (wildNormalize f t b c) = true := by
  have h := wildNormalize_cases f t b c
  simp only [List.mem_cons, List.not_mem_nil, or_false] at h
  rcases h with h | h | h | h
  · rw [h]; exact beq_iff_eq.mpr h
  all_goals rw [h]; rfl

theorem Normal_phraseNormalize (f : Field) (ws : List Text) (s : Nat) (b : Rat) :
    Normal (phraseNormalize f ws s b) = true := by
  unfold phraseNormalize
  match ws with
  | [] => rfl
  | [w] => rfl
  | x :: y :: rest => simp [Normal]

mutual
theorem Normal_normalize : ∀ (q : Q), Normal (normalize q) = true
  | .wild f t b c => Normal_wildNormalize f t b c
  | .range f lo hi lx hx b c => Normal_rngNormalize _
  | .phrase f ws s b => Normal_phraseNormalize f ws s b
  | .comp k qs b => Normal_compNormalize k _ b (NormalList_normalizeList qs)
  | .seq _ qs _ _ _ => NormalList_normalizeList qs
  | .not q b => by
    show Normal (if (normalize q).isNull = true then Q.null else .not (normalize q) b) = true
    split
    · rfl
    · rename_i hn
      exact Normal_not.mpr ⟨Normal_normalize q, eq_false_of_ne_true hn⟩
  | .bin k a b => Normal_binNormalize k _ _ (Normal_normalize a) (Normal_normalize b)
  | .null | .every _ _ | .term _ _ _ | .pre _ _ _ _ | .multi _ _ _ _ _ | .const _ _ | .opq _ _ => rfl
theorem NormalList_normalizeList : ∀ (qs : List Q), NormalList (normalizeList qs) = true
  | [] => rfl
  | q :: qs => by
    show (Normal (normalize q) && NormalList (normalizeList qs)) = true
    rw [Normal_normalize q, NormalList_normalizeList qs]; rfl
end

mutual
/-- The shape of a result of `normalize` as far as it shows through compound nodes: a compound at the root, or
    a clause of such a compound, has at least two clauses, and a `TermRange` at the root or among those clauses
    is a fixed point of `TermRange.normalize`.  Nothing is said of what stands below a `Not`, a binary node, a
    `Sequence` or a `ConstantScoreQuery`; the shape at every depth is `Normal`. -/
def NF : Q → Bool
  | .comp _ l _ => decide (2 ≤ l.length) && NFList l
  | .range f lo hi lx hx b c => (Rng.mk f lo hi lx hx b c).proper
  | _ => true
def NFList : List Q → Bool
  | [] => true
  | q :: qs => NF q && NFList qs
end

mutual
theorem NF_of_Normal : ∀ (q : Q), Normal q = true → NF q = true
  | .comp k l b, h => by
    obtain ⟨hN, hl, -⟩ := Normal_comp.mp h
    simp only [NF, Bool.and_eq_true, decide_eq_true_eq]
    exact ⟨hl, NFList_of_NormalList l hN⟩
  | .range _ _ _ _ _ _ _, h => h
  | .null, _ | .every _ _, _ | .term _ _ _, _ | .pre _ _ _ _, _ | .wild _ _ _ _, _ | .multi _ _ _ _ _, _
  | .phrase _ _ _ _, _ | .seq _ _ _ _ _, _ | .not _ _, _ | .bin _ _ _, _ | .const _ _, _ | .opq _ _, _ => rfl
theorem NFList_of_NormalList : ∀ (l : List Q), NormalList l = true → NFList l = true
  | [], _ => rfl
  | q :: qs, h => by
    simp only [NormalList, Bool.and_eq_true] at h
    simp only [NFList, NF_of_Normal q h.1, NFList_of_NormalList qs h.2, Bool.and_self]
end

theorem normalize_NF (q : Q) : NF (normalize q) = true := NF_of_Normal _ (Normal_normalize q)

end WM.Normalize
