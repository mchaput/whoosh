import WM.Lemmas.NumericSplit
import WM.Lemmas.NumericBytes
import WM.Lemmas.NumericSortable
import WM.Lemmas.Basics
/-! `tiered_ranges`, `NUMERIC.index` and `_compile_query` composed. -/
namespace WM.Numeric
open WM.NumericSpec

theorem mem_shiftsFrom (n step : Nat) (hstep : 0 < step) (sh i : Nat) :
    sh ∈ shiftsFrom n step hstep i ↔ sh < n ∧ ∃ k, sh = i + k * step := by
  fun_induction shiftsFrom n step hstep i with
  | case1 i hi ih =>
    rw [List.mem_cons, ih]
    constructor
    · rintro (rfl | ⟨h, k, e⟩)
      · exact ⟨hi, 0, by rw [Nat.zero_mul, Nat.add_zero]⟩
      · exact ⟨h, k + 1, by rw [e, Nat.succ_mul, Nat.add_assoc, Nat.add_comm step]⟩
    · rintro ⟨h, k, e⟩
      cases k with
      | zero => exact Or.inl (by rw [e, Nat.zero_mul, Nat.add_zero])
      | succ k => exact Or.inr ⟨h, k, by rw [e, Nat.succ_mul, Nat.add_assoc, Nat.add_comm step]⟩
  | case2 i hi =>
    refine iff_of_false List.not_mem_nil fun ⟨h, k, e⟩ => hi ?_
    exact Nat.lt_of_le_of_lt (Nat.le_add_right i _) (e ▸ h)

theorem mem_indexShifts (n step sh : Nat) :
    sh ∈ indexShifts n step ↔ (if step = 0 then sh = 0 else sh < n ∧ sh % step = 0) := by
  unfold indexShifts
  by_cases h : step = 0
  · simp [h]
  · simp only [h, dite_false, if_false]
    rw [mem_shiftsFrom, ← Nat.dvd_iff_mod_eq_zero]
    simp only [Nat.zero_add, Nat.mul_comm _ step]
    rfl

theorem indexShifts_lt (n step sh : Nat) (h : sh ∈ indexShifts n step) : sh = 0 ∨ sh < n := by
  rw [mem_indexShifts] at h
  split at h
  · exact Or.inl h
  · exact Or.inr h.1

/-- The inclusive lower bound `tiered_ranges` computes. -/
def loBound (start : Option Int) (sx : Bool) : Int :=
  match start with
  | none => 0
  | some x => if sx then x + 1 else x

/-- The inclusive upper bound `tiered_ranges` computes. -/
def hiBound (n : Nat) (end_ : Option Int) (ex : Bool) : Int :=
  match end_ with
  | none => (2 : Int) ^ n - 1
  | some x => if ex then x - 1 else x

theorem tieredSortable_eq (n : Nat) (start end_ : Option Int) (step : Nat) (sx ex : Bool) :
    tieredSortable n start end_ step sx ex =
      if loBound start sx > hiBound n end_ ex then []
      else if h : step = 0 then [⟨(loBound start sx).toNat, (hiBound n end_ ex).toNat, 0⟩]
      else splitRanges n step (Nat.pos_of_ne_zero h) (loBound start sx).toNat
        (hiBound n end_ ex).toNat := by
  unfold tieredSortable loBound hiBound
  rfl

theorem inInterval_int (n : Nat) (start end_ : Option Int) (sx ex : Bool) (X : Nat) (hX : X < 2 ^ n) :
    inInterval intLt start end_ sx ex (X : Int) = true ↔
      (loBound start sx ≤ X ∧ (X : Int) ≤ hiBound n end_ ex) := by
  have nlt : ∀ a b : Int, (!intLt a b) = true ↔ b ≤ a := fun a b => by
    rw [Bool.not_eq_true']; exact decide_eq_false_iff_not.trans Int.not_lt
  unfold inInterval
  rw [Bool.and_eq_true]
  refine and_congr ?_ ?_
  · cases start with
    | none => exact iff_of_true rfl (Int.natCast_nonneg X)
    | some s =>
      cases sx
      · exact nlt X s
      · exact decide_eq_true_iff
  · cases end_ with
    | none =>
      exact iff_of_true rfl (Int.le_sub_one_of_lt (by rw [← two_pow_cast]; exact Int.ofNat_lt.mpr hX))
    | some e =>
      cases ex
      · exact nlt e X
      · exact decide_eq_true_iff.trans Int.le_sub_one_iff.symm

theorem toNat_lt_two_pow {z : Int} {n : Nat} (h : 0 ≤ z ∧ z < 2 ^ n) :
    z.toNat < 2 ^ n ∧ (z.toNat : Int) = z :=
  ⟨(Int.toNat_lt h.1).mpr (by rw [two_pow_cast]; exact h.2), Int.toNat_of_nonneg h.1⟩

theorem tieredSortable_spec (n step : Nat) (hn : 0 < n) (start end_ : Option Int) (sx ex : Bool)
    (hs : ∀ a, start = some a → 0 ≤ a ∧ a < 2 ^ n)
    (he : ∀ b, end_ = some b → 0 ≤ b ∧ b < 2 ^ n) :
    (∀ X : Nat, X < 2 ^ n →
      ((∃ r ∈ tieredSortable n start end_ step sx ex, r.test X = true) ↔
        inInterval intLt start end_ sx ex (X : Int) = true)) ∧
    ∀ r ∈ tieredSortable n start end_ step sx ex,
      r.shift ∈ indexShifts n step ∧ r.lo ≤ r.hi ∧ r.hi < 2 ^ n := by
  have hlo : 0 ≤ loBound start sx := by
    cases start with
    | none => exact Int.le_refl 0
    | some a =>
      cases sx
      · exact (hs a rfl).1
      · exact Int.le_add_one (hs a rfl).1
  have hhi : hiBound n end_ ex < 2 ^ n := by
    cases end_ with
    | none => exact Int.sub_one_lt_iff.mpr (Int.le_refl _)
    | some b =>
      cases ex
      · exact (he b rfl).2
      · exact Int.lt_of_le_of_lt (Int.sub_le_self b (by decide)) (he b rfl).2
  have hin := inInterval_int n start end_ sx ex
  rw [tieredSortable_eq]
  by_cases hgt : loBound start sx > hiBound n end_ ex
  · rw [if_pos hgt]
    refine ⟨fun X hX => ?_, nofun⟩
    rw [hin X hX]
    exact iff_of_false (fun ⟨_, h, _⟩ => nomatch h)
      fun h => Int.lt_irrefl _ (Int.lt_of_le_of_lt (Int.le_trans h.1 h.2) hgt)
  · -- a non-empty interval: both bounds are naturals `L ≤ H < 2^n`
    rw [if_neg hgt]
    have hLH := Int.not_lt.mp hgt
    obtain ⟨hH, eH⟩ := toNat_lt_two_pow ⟨Int.le_trans hlo hLH, hhi⟩
    have eL := Int.toNat_of_nonneg hlo
    rw [← eL, ← eH, Int.ofNat_le] at hLH
    generalize (loBound start sx).toNat = L at *
    generalize (hiBound n end_ ex).toNat = H at *
    simp only [← eL, ← eH, Int.ofNat_le] at hin
    simp only [mem_indexShifts]
    by_cases h : step = 0
    · simp only [h, dite_true, List.mem_singleton, forall_eq, exists_eq_left, R_test_iff, Nat.pow_zero,
        Nat.div_one, if_true, true_and]
      exact ⟨fun X hX => (hin X hX).symm, hLH, hH⟩
    · simp only [h, dite_false, if_false]
      refine ⟨fun X hX => (splitRanges_exact n step _ L H X hLH hH).trans (hin X hX).symm,
        fun r hr => ?_⟩
      have := splitRanges_shape n step _ hn L H hLH hH r hr
      exact ⟨⟨this.2.1, this.1⟩, this.2.2⟩

/-- The sub-query `_compile_query` builds for one range. -/
def subOf (w : Nat) (r : R) : Sub :=
  if r.lo = r.hi then .term (r.shift :: beBytes w (r.lo >>> r.shift))
  else .range (r.shift :: beBytes w (r.lo >>> r.shift)) (r.shift :: beBytes w (r.hi >>> r.shift))

/-- The term `NUMERIC.index` produces for level `sh`. -/
def termOf (w X sh : Nat) : List Nat := sh :: beBytes w (X >>> sh)

theorem sortableToBytes_ok (w x sh : Nat) (hsh : sh < 256) (hx : x < 256 ^ w) :
    sortableToBytes w x sh = .ok (termOf w x sh) := by
  have : x >>> sh < 256 ^ w := Nat.lt_of_le_of_lt (Nat.shiftRight_le x sh) hx
  simp [sortableToBytes, termOf, hsh, this]

theorem compileRanges_ok (w : Nat) (rs : List R)
    (h : ∀ r ∈ rs, r.shift < 256 ∧ r.lo ≤ r.hi ∧ r.hi < 256 ^ w) :
    compileRanges w rs = .ok (rs.map (subOf w)) := by
  induction rs with
  | nil => rfl
  | cons r rs ih =>
    have hr := h r (List.mem_cons_self)
    have ih' := ih (fun r' hr' => h r' (List.mem_cons_of_mem _ hr'))
    have hlo : r.lo < 256 ^ w := by omega
    rw [compileRanges, ih', sortableToBytes_ok _ _ _ hr.1 hr.2.2, sortableToBytes_ok _ _ _ hr.1 hlo]
    unfold subOf termOf
    by_cases he : r.lo = r.hi <;> simp [he, bind, Except.bind, pure, Except.pure]

/-- `8 * w ≤ 256`: every indexed shift is below `8 * w` and has to fit the one byte `pack_byte` gives it. -/
theorem indexTerms_ok (w step X : Nat) (hw' : 8 * w ≤ 256) (hX : X < 256 ^ w) :
    indexTerms w step X = .ok ((indexShifts (8 * w) step).map (termOf w X)) :=
  mapM_eq_map fun sh hsh =>
    sortableToBytes_ok w X sh (by have := indexShifts_lt _ _ _ hsh; omega) hX

theorem subOf_selects (w : Nat) (r : R) (sh X : Nat) (hr : r.lo ≤ r.hi ∧ r.hi < 256 ^ w)
    (hX : X < 256 ^ w) :
    (subOf w r).selects (termOf w X sh) = true ↔ (sh = r.shift ∧ r.test X = true) := by
  have lt : ∀ {x}, x ≤ r.hi → x >>> r.shift < 256 ^ w := fun h =>
    Nat.lt_of_le_of_lt (Nat.shiftRight_le _ _) (Nat.lt_of_le_of_lt h hr.2)
  unfold subOf termOf
  rw [selects_iff (r.lo = r.hi) w _ sh _ _ _ (congrArg (· >>> r.shift)) (lt hr.1) (lt (Nat.le_refl _))
    (Nat.lt_of_le_of_lt (Nat.shiftRight_le _ _) hX)]
  refine and_congr_right fun h => ?_
  rw [h, R.test, Bool.and_eq_true, decide_eq_true_eq, decide_eq_true_eq]

theorem matchesDoc_iff (w : Nat) (rs : List R) (shifts : List Nat) (X : Nat)
    (h : ∀ r ∈ rs, r.lo ≤ r.hi ∧ r.hi < 256 ^ w) (hX : X < 256 ^ w) :
    matchesDoc (rs.map (subOf w)) (shifts.map (termOf w X)) = true ↔
      ∃ r ∈ rs, r.shift ∈ shifts ∧ r.test X = true := by
  simp only [matchesDoc, List.any_eq_true, List.mem_map]
  constructor
  · rintro ⟨_, ⟨r, hr, rfl⟩, _, ⟨sh, hsh, rfl⟩, hsel⟩
    have := (subOf_selects w r sh X (h r hr) hX).1 hsel
    exact ⟨r, hr, this.1 ▸ hsh, this.2⟩
  · rintro ⟨r, hr, hsh, ht⟩
    exact ⟨_, ⟨r, hr, rfl⟩, _, ⟨r.shift, hsh, rfl⟩, (subOf_selects w r r.shift X (h r hr) hX).2 ⟨rfl, ht⟩⟩

theorem compileRanges_matchesDoc (w step : Nat) (hw' : 8 * w ≤ 256) (rs : List R)
    (shape : ∀ r ∈ rs, r.shift ∈ indexShifts (8 * w) step ∧ r.lo ≤ r.hi ∧ r.hi < 2 ^ (8 * w)) :
    ∃ subs, compileRanges w rs = .ok subs ∧
      ∀ X, X < 2 ^ (8 * w) →
        (matchesDoc subs ((indexShifts (8 * w) step).map (termOf w X)) = true ↔
          ∃ r ∈ rs, r.test X = true) := by
  have inDom : ∀ r ∈ rs, r.lo ≤ r.hi ∧ r.hi < 256 ^ w :=
    fun r hr => ⟨(shape r hr).2.1, by rw [pow_256]; exact (shape r hr).2.2⟩
  refine ⟨_, compileRanges_ok w _ fun r hr => ⟨?_, inDom r hr⟩, fun X hX => ?_⟩
  · have := indexShifts_lt _ _ _ (shape r hr).1; omega
  · rw [matchesDoc_iff w _ _ X inDom (by rw [pow_256]; exact hX)]
    exact ⟨fun ⟨r, hr, _, ht⟩ => ⟨r, hr, ht⟩, fun ⟨r, hr, ht⟩ => ⟨r, hr, (shape r hr).1, ht⟩⟩

theorem matchesDoc_congr (subs : List Sub) {ts ts' : List (List Nat)} (h : ∀ t, t ∈ ts ↔ t ∈ ts') :
    matchesDoc subs ts = matchesDoc subs ts' := by
  unfold matchesDoc
  congr 1
  funext sub
  rw [Bool.eq_iff_iff]
  simp only [List.any_eq_true]
  exact ⟨fun ⟨t, ht, hs⟩ => ⟨t, (h t).1 ht, hs⟩, fun ⟨t, ht, hs⟩ => ⟨t, (h t).2 ht, hs⟩⟩

/-- The de-duplication of shared tier terms does not change which terms the document owns. -/
theorem matchesDoc_list {α} (w step : Nat) (subs : List Sub) (g : α → Nat) (xs : List α)
    (hw' : 8 * w ≤ 256) (hxs : ∀ x ∈ xs, g x < 256 ^ w) :
    ∃ ts, indexTermsList w step (xs.map g) = .ok ts ∧
      (matchesDoc subs ts = true ↔
        ∃ x ∈ xs, matchesDoc subs ((indexShifts (8 * w) step).map (termOf w (g x))) = true) := by
  have h1 : (xs.map g).mapM (indexTerms w step)
      = .ok (xs.map fun x => (indexShifts (8 * w) step).map (termOf w (g x))) := by
    rw [List.mapM_map]
    exact mapM_eq_map (fun x hx => indexTerms_ok w step _ hw' (hxs x hx))
  refine ⟨_, by unfold indexTermsList; rw [h1]; rfl, ?_⟩
  simp only [matchesDoc, List.any_eq_true, List.mem_eraseDups, List.mem_flatten, List.mem_map]
  constructor
  · rintro ⟨s, hs, t, ⟨_, ⟨x, hx, rfl⟩, ht⟩, hsel⟩
    exact ⟨x, hx, s, hs, t, List.mem_map.mp ht, hsel⟩
  · rintro ⟨x, hx, s, hs, t, ht, hsel⟩
    exact ⟨s, hs, t, ⟨_, ⟨x, hx, rfl⟩, List.mem_map.mpr ht⟩, hsel⟩

end WM.Numeric
