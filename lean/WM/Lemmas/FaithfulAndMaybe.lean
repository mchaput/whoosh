import WM.Lemmas.Faithful
/-! `AndMaybeMatcher` is a faithful cursor over `leftJoin`. -/
namespace WM.Matcher

namespace AndMaybe
variable {α β : Type} {A : Ops α} {B : Ops β} {dA fA : α → Den} {dB fB : β → Den}
  {WA : α → Prop} {WB : β → Prop}

/-- both active ⇒ the optional matcher is not behind the required one -/
def NotBehind (dA : α → Den) (dB : β → Den) (m : Bin α β) : Prop :=
  ∀ x r La y s Lb, dA m.a = (x, r) :: La → dB m.b = (y, s) :: Lb → x ≤ y

/-- `b.skip_to(a.id())` when both are active: re-establishes the invariant without changing the meaning -/
theorem catchUp (FA : Faithful A dA fA WA) (FB : Faithful B dB fB WB) (a : α) (b : β) (wa : WA a) (wb : WB b)
    {x : Nat} {r : Rat} {La : Den} (ha : dA a = (x, r) :: La) (hb : dB b ≠ []) :
    Yields (B.skipTo b x) fun b' => Synced A B dA fA dB fB WA WB (NotBehind dA dB) leftJoin ⟨a, b⟩ ⟨a, b'⟩ := by
  have ascB := FB.asc _ wb
  refine (FB.skipTo_step x wb hb).mono fun b' sb => ⟨.right wa sb, ?_, ?_⟩
  · intro x' r' La' y s Lb h1 h2
    cases ha.symm.trans h1
    exact mem_dropBelow_ge ascB (p := (y, s)) (by rw [← sb.den_eq, h2]; exact List.mem_cons_self)
  · rw [sb.den_eq]; exact leftJoin_dropBelow_right ascB ((FA.asc _ wa).head_le ha)

/-- `if a.is_active() and b.is_active(): b.skip_to(a.id())` -/
theorem catchUpIf (FA : Faithful A dA fA WA) (FB : Faithful B dB fB WB) (a : α) (b : β) (wa : WA a) (wb : WB b) :
    Yields
      (if (A.isActive a && B.isActive b) = true then
          (do let x ← A.id a; let b' ← B.skipTo b x; pure (⟨a, b'⟩ : Bin α β))
        else pure ⟨a, b⟩)
      (Synced A B dA fA dB fB WA WB (NotBehind dA dB) leftJoin ⟨a, b⟩) := by
  rcases FA.head wa with ⟨ha, hAa⟩ | ⟨x, r, La, ha, hAa, hAid, -⟩
  · rw [hAa]; exact .ok (Synced.refl _ wa wb (headRel_of_nil_left ha))
  · rcases FB.head wb with ⟨hb, hBa⟩ | ⟨y, s, Lb, hb, hBa, -, -⟩
    · rw [hAa, hBa]; exact .ok (Synced.refl _ wa wb (headRel_of_nil_right hb))
    · rw [hAa, hBa, hAid]
      exact (catchUp FA FB a b wa wb ha (by simp [hb])).bind fun _ hs => .ok hs

theorem firstB_spec (FA : Faithful A dA fA WA) (FB : Faithful B dB fB WB) (m : Bin α β) (wa : WA m.a)
    (wb : WB m.b) :
    Yields (firstB A B m) (Synced A B dA fA dB fB WA WB (NotBehind dA dB) leftJoin m) := by
  unfold firstB
  rcases FA.head wa with ⟨ha, hAa⟩ | ⟨x, r, La, ha, hAa, hAid, -⟩
  · rw [hAa]; exact .ok (Synced.refl _ wa wb (headRel_of_nil_left ha))
  · rcases FB.head wb with ⟨hb, hBa⟩ | ⟨y, s, Lb, hb, hBa, hBid, -⟩
    · rw [hAa, hBa]; exact .ok (Synced.refl _ wa wb (headRel_of_nil_right hb))
    · rw [hAa, hBa, hAid, hBid]
      show Yields (if (x != y) = true then _ else _) _
      by_cases hxy : x = y
      · subst hxy
        rw [if_neg (by simp)]; exact .ok (Synced.refl _ wa wb (headRel_of_cons ha hb (Nat.le_refl _)))
      · rw [if_pos (by simp [hxy])]
        exact (catchUp FA FB m.a m.b wa wb ha (by simp [hb])).bind fun _ hs => .ok hs

theorem head (FB : Faithful B dB fB WB) (m : Bin α β) (wb : WB m.b) (hal : NotBehind dA dB m)
    {x : Nat} {r : Rat} {La : Den} (ha : dA m.a = (x, r) :: La) :
    leftJoin (dA m.a) (dB m.b) =
      (x, match dB m.b with
          | (y, s) :: _ => if x = y then r + s else r
          | [] => r) :: leftJoin La (dB m.b) := by
  rw [ha]
  simp only [leftJoin, List.map_cons]
  congr 2
  cases hb : dB m.b with
  | nil => rfl
  | cons q Lb =>
    obtain ⟨y, s⟩ := q
    have hxy := hal x r La y s Lb ha hb
    by_cases he : x = y
    · subst he; simp [lookup_cons]
    · have : lookup ((y, s) :: Lb) x = none := lookup_eq_none_of_lt_head (hb ▸ FB.asc _ wb) (by omega)
      simp [this, he]

theorem faithful (FA : Faithful A dA fA WA) (FB : Faithful B dB fB WB) :
    Faithful (AndMaybe.ops A B) (fun m => leftJoin (dA m.a) (dB m.b)) (fun m => leftJoin (fA m.a) (fB m.b))
      (fun m => WA m.a ∧ WB m.b ∧ NotBehind dA dB m) :=
  .of_state (fun m h => asc_leftJoin _ (FA.asc _ h.1))
    (fun m h => by
      -- the node is exhausted with `a`, or stands on `a`'s head, to which `b` adds its score if it is on the same document
      rcases FA.head h.1 with ⟨ha, hAa⟩ | ⟨x, ra, La, ha, hAa, hAid, hAsc⟩
      · exact .inl ⟨by rw [ha]; rfl, hAa⟩
      refine .inr ⟨x, _, _, head FB m h.2.1 h.2.2 ha, hAa, hAid, ?_, ?_, fun t => ?_⟩
      · show AndMaybe.score A B m = _
        unfold AndMaybe.score
        rcases FB.head h.2.1 with ⟨hb, hBi⟩ | ⟨y, s, Lb, hb, hBa, hBid, hBsc⟩
        · rw [hb, hBi]; exact hAsc
        · rw [hb, hBa, hAid, hBid, hAsc, hBsc]
          show (if (x == y) = true then _ else _) = Except.ok (if x = y then ra + s else ra)
          by_cases he : x = y
          · rw [if_pos (by simp [he]), if_pos he]; rfl
          · rw [if_neg (by simp [he]), if_neg he]
      · show Yields (AndMaybe.next A B m) _
        unfold AndMaybe.next
        rw [hAa]
        refine (FA.next_step h.1 ha).bind fun a' sa => (catchUpIf FA FB a' m.b sa.wf h.2.1).mono fun m' hm =>
          hm.step (.left h.2.1 sa) (fun _ => rfl) (by rw [sa.den_eq])
      · show Yields (AndMaybe.skipTo A B m t) _
        unfold AndMaybe.skipTo
        rw [hAa]
        refine (FA.skipTo_step t h.1 (by simp [ha])).bind fun a' sa => (catchUpIf FA FB a' m.b sa.wf h.2.1).mono fun m' hm =>
          hm.step (.left h.2.1 sa) (fun _ => rfl) (by rw [sa.den_eq]; exact leftJoin_dropBelow _ _ t))
    (fun m h => Synced.reset FA FB (firstB_spec FA FB) m h.1 h.2.1)

theorem init_spec (FA : Faithful A dA fA WA) (FB : Faithful B dB fB WB) (a : α) (b : β) (wa : WA a)
    (wb : WB b) :
    Yields (AndMaybe.init A B a b) fun m' => (WA m'.a ∧ WB m'.b ∧ NotBehind dA dB m') ∧
      leftJoin (dA m'.a) (dB m'.b) = leftJoin (dA a) (dB b) :=
  (firstB_spec FA FB ⟨a, b⟩ wa wb).mono fun _ h => ⟨⟨h.wa, h.wb, h.inv⟩, h.den_eq⟩

end AndMaybe
end WM.Matcher
