import WM.Model.Compound
/-! `SubFile.read(n)` chunking: a `SubFile` over `parent[offset : offset+length]` reads like an
in-memory file over the member bytes. -/
namespace WM.Compound

/-- the member a `SubFile` is a view of -/
def SubFile.member (parent : Bytes) (s : SubFile) : Bytes := (parent.drop s.offset).take s.length

theorem SubFile.length_member (parent : Bytes) (s : SubFile) (hfit : s.offset + s.length ≤ parent.length) :
    (s.member parent).length = s.length := by
  unfold SubFile.member
  rw [List.length_take, List.length_drop, Nat.min_eq_left (Nat.le_sub_of_add_le' hfit)]

theorem SubFile.length_member_drop_le (parent : Bytes) (s : SubFile) (p : Nat) :
    ((s.member parent).drop p).length ≤ s.length - p := by
  rw [List.length_drop]
  exact Nat.sub_le_sub_right (List.length_take_le _ _) p

theorem SubFile.read_none_eq_some (parent : Bytes) (s : SubFile) :
    s.read parent none = s.read parent (some ((s.length : Int) - s.pos)) := by
  unfold SubFile.read
  simp only [Int.min_self]

theorem take_min_of_length_le {α} (l : List α) (n L : Nat) (h : l.length ≤ L) : l.take (min n L) = l.take n := by
  by_cases hn : n ≤ L
  · rw [Nat.min_eq_left hn]
  · rw [Nat.min_eq_right (Nat.le_of_not_le hn), List.take_of_length_le h,
      List.take_of_length_le (Nat.le_trans h (Nat.le_of_not_le hn))]

theorem toNat_min (a b : Int) : (min a b).toNat = min a.toNat b.toNat := by
  rcases Int.le_total a b with h | h
  · rw [Int.min_eq_left h, Nat.min_eq_left (Int.toNat_le_toNat h)]
  · rw [Int.min_eq_right h, Nat.min_eq_right (Int.toNat_le_toNat h)]

/-- `read(n)` from a non-negative position, with the model's clamps in `Nat`: a negative size is `n.toNat = 0`,
    "at most what is left" is the `min` with the truncated `s.length - p`. -/
theorem SubFile.read_some (parent : Bytes) (s : SubFile) (n : Int) (p : Nat) (hp : s.pos = p) :
    s.read parent (some n)
      = some (((s.member parent).drop p).take n.toNat,
          { s with pos := ((p + min n.toNat (s.length - p) : Nat) : Int) }) := by
  have hc : ∀ z : Int, (if z < 0 then 0 else z) = (z.toNat : Int) := fun z => by split <;> omega
  have hkl : min n.toNat (s.length - p) ≤ s.length - p := Nat.min_le_right _ _
  unfold SubFile.read
  simp only [hp]
  rw [hc, toNat_min, Int.toNat_sub, ← take_min_of_length_le _ n.toNat _ (SubFile.length_member_drop_le parent s p)]
  generalize min n.toNat (s.length - p) = k at hkl ⊢
  by_cases h0 : k = 0
  · subst h0
    rw [if_neg (by decide), List.take_zero]
    obtain ⟨o, l, q⟩ := s
    cases hp
    rfl
  · rw [if_pos (Int.natCast_pos.mpr (Nat.pos_of_ne_zero h0)), ← Int.natCast_add, ← Int.natCast_add,
      if_neg (Int.not_lt.mpr (Int.natCast_nonneg _)), Int.toNat_natCast, Int.toNat_natCast]
    unfold SubFile.member
    rw [List.drop_take, List.take_take, List.drop_drop, Nat.min_eq_left hkl]

theorem SubFile.read_all_spec (parent : Bytes) (s : SubFile) (p : Nat) (hp : s.pos = p) :
    s.read parent none = some ((s.member parent).drop p, { s with pos := ((max p s.length : Nat) : Int) }) := by
  rw [SubFile.read_none_eq_some, hp, SubFile.read_some parent s _ p hp, Int.toNat_sub, Nat.min_self,
    List.take_of_length_le (SubFile.length_member_drop_le parent s p), Nat.add_comm, Nat.sub_add_eq_max, Nat.max_comm]

theorem SubFile.readChunks_spec (parent : Bytes) (n : Nat) (hn : 0 < n) : ∀ (fuel : Nat) (s : SubFile) (p : Nat),
    s.pos = p → s.offset + s.length ≤ parent.length → s.length - p < fuel →
    SubFile.readChunks parent (n : Int) s fuel
      = some ((s.member parent).drop p, { s with pos := ((max p s.length : Nat) : Int) })
  | 0, _, _, _, _, hf => absurd hf (Nat.not_lt_zero _)
  | fuel + 1, s, p, hp, hfit, hf => by
    have hml := SubFile.length_member parent s hfit
    unfold SubFile.readChunks
    rw [SubFile.read_some parent s n p hp, Int.toNat_natCast]
    simp only
    by_cases hend : s.length ≤ p
    · rw [List.drop_eq_nil_of_le (hml ▸ hend), Nat.sub_eq_zero_of_le hend, Nat.min_zero, Nat.max_eq_left hend,
        List.take_nil]
      rfl
    · have hlt : p < s.length := Nat.not_le.mp hend
      have htake := take_min_of_length_le _ n _ (SubFile.length_member_drop_le parent s p)
      have hm : 0 < min n (s.length - p) ∧ p + min n (s.length - p) ≤ s.length :=
        ⟨Nat.lt_min.mpr ⟨hn, Nat.sub_pos_of_lt hlt⟩,
          Nat.le_trans (Nat.add_le_add_left (Nat.min_le_right _ _) p) (Nat.le_of_eq (Nat.add_sub_cancel' (Nat.le_of_lt hlt)))⟩
      generalize min n (s.length - p) = m at hm htake ⊢
      have hie : (((s.member parent).drop p).take n).isEmpty = false := by
        rw [← htake, List.isEmpty_eq_false_iff, ← List.length_pos_iff, List.length_take, List.length_drop, hml]
        exact Nat.lt_min.mpr ⟨hm.1, Nat.sub_pos_of_lt hlt⟩
      rw [hie, SubFile.readChunks_spec parent n hn fuel { s with pos := ((p + m : Nat) : Int) } _ rfl hfit
        (Nat.lt_of_lt_of_le (Nat.sub_lt_sub_left hlt (Nat.lt_add_of_pos_right hm.1)) (Nat.le_of_lt_succ hf))]
      simp only [Bool.false_eq_true, ↓reduceIte]
      rw [← htake, ← List.drop_drop, Nat.max_eq_right hm.2, Nat.max_eq_right (Nat.le_of_lt hlt)]
      exact congrArg (fun l => some (l, _)) (List.take_append_drop m _)

end WM.Compound
