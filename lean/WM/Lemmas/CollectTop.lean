import WM.Lemmas.CollectLoop
import WM.Lemmas.SortOrder
import WM.Lemmas.Yields
/-! For C05: the ranking order and the heap; what a call within the C12 contract does to the pending
    postings (`Shrinks`); the invariants `Inv` of `TopCollector._collect` and `LoopInv` of
    `ScoredCollector.matches` (the collector invariant of DESIGN.md Appendix E); `runSegs_topK` is what C05 uses,
    for every consumer that is a filter in front of a `TopCollector` (`FilterCollects`: what a new wrapper has to show). -/
namespace WM.Collect
open WM.Rank

theorem rankLe_iff (a b : Hit) :
    rankLe a b = true ↔ b.score ≤ a.score ∧ (a.score ≤ b.score → a.doc ≤ b.doc) := by
  simp only [rankLe, Bool.or_eq_true, Bool.and_eq_true, decide_eq_true_eq, beq_iff_eq]
  constructor
  · rintro (h | ⟨h1, h2⟩)
    · exact ⟨Rat.le_of_lt h, fun h' => absurd h (Rat.not_lt.mpr h')⟩
    · exact ⟨h1 ▸ Rat.le_refl, fun _ => h2⟩
  · rintro ⟨h1, h2⟩
    by_cases h : a.score ≤ b.score
    · exact Or.inr ⟨Rat.le_antisymm h h1, h2 h⟩
    · exact Or.inl (Rat.not_le.mp h)

theorem rankLe_sortOrder : SortOrder rankLe where
  trans a b c := by
    simp only [rankLe_iff]
    intro ⟨h1, h1'⟩ ⟨h2, h2'⟩
    exact ⟨Rat.le_trans h2 h1, fun h => Nat.le_trans (h1' (Rat.le_trans h h2)) (h2' (Rat.le_trans h1 h))⟩
  total a b := by
    rw [Bool.or_eq_true, rankLe_iff, rankLe_iff]
    by_cases hab : b.score ≤ a.score
    · by_cases hba : a.score ≤ b.score
      · rcases Nat.le_total a.doc b.doc with h | h
        · exact Or.inl ⟨hab, fun _ => h⟩
        · exact Or.inr ⟨hba, fun _ => h⟩
      · exact Or.inl ⟨hab, fun h => absurd h hba⟩
    · exact Or.inr ⟨Rat.le_total.resolve_left hab, fun h => absurd h hab⟩
  antisymm a b := by
    simp only [rankLe_iff]
    intro ⟨h1, h1'⟩ ⟨h2, h2'⟩
    cases a; cases b
    simp only [Hit.mk.injEq]
    exact ⟨Nat.le_antisymm (h1' h2) (h2' h1), Rat.le_antisymm h2 h1⟩

theorem rankLe_refl (a : Hit) : rankLe a a = true := by simp [rankLe]

theorem heapLe_eq_rankLe (a b : Hit) : heapLe a b = rankLe b a := by
  unfold heapLe rankLe
  rw [Bool.beq_comm]

theorem score_le_of_heapLe {a b : Hit} (h : heapLe a b = true) : a.score ≤ b.score :=
  ((rankLe_iff b a).mp (heapLe_eq_rankLe a b ▸ h)).1

theorem heapLe_sortOrder : SortOrder heapLe := by
  have : heapLe = fun a b => rankLe b a := funext fun a => funext (heapLe_eq_rankLe a)
  rw [this]; exact rankLe_sortOrder.flip

theorem heapPush_perm (e : Hit) (l : List Hit) : (heapPush e l).Perm (e :: l) := by
  fun_induction heapPush e l with
  | case1 | case2 => exact .refl _
  | case3 h t _ ih => exact (ih.cons h).trans (.swap e h t)

theorem heapPush_length (e : Hit) (l : List Hit) : (heapPush e l).length = l.length + 1 := by
  simpa using (heapPush_perm e l).length_eq

theorem mem_heapPush {e x : Hit} {l : List Hit} : x ∈ heapPush e l ↔ x = e ∨ x ∈ l := by
  rw [(heapPush_perm e l).mem_iff]; simp

theorem heapPush_sorted (e : Hit) (l : List Hit) (hl : l.Pairwise (fun a b => heapLe a b = true)) :
    (heapPush e l).Pairwise (fun a b => heapLe a b = true) := by
  fun_induction heapPush e l with
  | case1 => exact List.pairwise_singleton _ _
  | case2 h t he =>
    refine List.pairwise_cons.mpr ⟨fun x hx => ?_, hl⟩
    rcases List.mem_cons.mp hx with rfl | hx
    · exact he
    · exact heapLe_sortOrder.trans e h x he (List.rel_of_pairwise_cons hl hx)
  | case3 h t he ih =>
    rw [List.pairwise_cons] at hl ⊢
    refine ⟨fun x hx => ?_, ih hl.2⟩
    rcases mem_heapPush.mp hx with rfl | hx
    · exact heapLe_sortOrder.of_not he
    · exact hl.1 x hx

/-- `q` is the posting `p`, possibly with a lowered score — lowered only if `p` was at or below the
    (non-zero) threshold. -/
def DescOf (thr : Rat) (q p : Posting) : Prop :=
  q.doc = p.doc ∧ q.orig = p.orig ∧ q.newBlock = p.newBlock ∧ q.score ≤ p.score ∧
    (q = p ∨ (p.score ≤ thr ∧ thr ≠ 0))

/-- `m'` (kept, possibly lowered) and `d` (dropped) account for the pending list `m` after a call with
    threshold `thr` that abides by the contract. -/
structure Shrinks (thr : Rat) (m' d m : List Posting) : Prop where
  perm : (m'.map Posting.origP ++ d.map Posting.origP).Perm (m.map Posting.origP)
  docs : (m'.map (·.doc)).Sublist (m.map (·.doc))
  kept : ∀ q ∈ m', ∃ p ∈ m, DescOf thr q p
  dropped : ∀ q ∈ d, ∃ p ∈ m, DescOf thr q p ∧ p.score ≤ thr ∧ thr ≠ 0

theorem DescOf.doc_eq {thr : Rat} {q p : Posting} (h : DescOf thr q p) : q.doc = p.doc := h.1
theorem DescOf.score_le {thr : Rat} {q p : Posting} (h : DescOf thr q p) : q.score ≤ p.score := h.2.2.2.1
theorem DescOf.eq_or_below {thr : Rat} {q p : Posting} (h : DescOf thr q p) :
    q = p ∨ (p.score ≤ thr ∧ thr ≠ 0) := h.2.2.2.2

theorem DescOf.refl (thr : Rat) (p : Posting) : DescOf thr p p :=
  ⟨rfl, rfl, rfl, Rat.le_refl, Or.inl rfl⟩

theorem DescOf.origP {thr : Rat} {q p : Posting} (h : DescOf thr q p) : q.origP = p.origP := by
  obtain ⟨h1, h2, h3, _, _⟩ := h
  cases q; cases p; simp_all [Posting.origP]

theorem Shrinks.refl (thr : Rat) (m : List Posting) : Shrinks thr m [] m :=
  ⟨by simp, List.Sublist.refl _, fun q hq => ⟨q, hq, DescOf.refl thr q⟩, fun q hq => by simp at hq⟩

theorem Shrinks.cons_keep {thr : Rat} {m' d m : List Posting} {q p : Posting} (hs : Shrinks thr m' d m)
    (hq : DescOf thr q p) : Shrinks thr (q :: m') d (p :: m) where
  perm := by
    simp only [List.map_cons, List.cons_append, hq.origP]
    exact hs.perm.cons _
  docs := by
    simp only [List.map_cons, hq.doc_eq]
    exact hs.docs.cons_cons _
  kept x hx := by
    rcases List.mem_cons.mp hx with rfl | hx
    · exact ⟨p, List.mem_cons_self, hq⟩
    · obtain ⟨y, hy, hd⟩ := hs.kept x hx
      exact ⟨y, List.mem_cons_of_mem _ hy, hd⟩
  dropped x hx := by
    obtain ⟨y, hy, hd⟩ := hs.dropped x hx
    exact ⟨y, List.mem_cons_of_mem _ hy, hd⟩

theorem Shrinks.cons_drop {thr : Rat} {m' d m : List Posting} {p : Posting} (hs : Shrinks thr m' d m)
    (hle : p.score ≤ thr) (hne : thr ≠ 0) : Shrinks thr m' (p :: d) (p :: m) where
  perm := by
    simp only [List.map_cons]
    exact List.perm_middle.trans (hs.perm.cons _)
  docs := hs.docs.cons _
  kept x hx := by
    obtain ⟨y, hy, hd⟩ := hs.kept x hx
    exact ⟨y, List.mem_cons_of_mem _ hy, hd⟩
  dropped x hx := by
    rcases List.mem_cons.mp hx with rfl | hx
    · exact ⟨x, List.mem_cons_self, DescOf.refl thr x, hle, hne⟩
    · obtain ⟨y, hy, hd⟩ := hs.dropped x hx
      exact ⟨y, List.mem_cons_of_mem _ hy, hd⟩

theorem dropMasked_shrinks (thr : Rat) (mask : List Wish) (m : List Posting) :
    ∃ d, Shrinks thr (dropMasked thr mask m) d m := by
  fun_induction dropMasked thr mask m with
  | case1 => exact ⟨[], Shrinks.refl thr []⟩
  | case2 ps => exact ⟨[], Shrinks.refl thr ps⟩
  | case3 ws p ps _ ih | case6 _ ws p ps _ ih =>
    obtain ⟨d, hs⟩ := ih
    exact ⟨d, hs.cons_keep (DescOf.refl thr p)⟩
  | case4 ws p ps hb ih =>
    obtain ⟨d, hs⟩ := ih
    simp only [Bool.and_eq_true, decide_eq_true_eq, bne_iff_ne, ne_eq] at hb
    exact ⟨p :: d, hs.cons_drop hb.2 hb.1⟩
  | case5 ws p ps hb s ih =>
    obtain ⟨d, hs⟩ := ih
    simp only [Bool.and_eq_true, decide_eq_true_eq, bne_iff_ne, ne_eq] at hb
    refine ⟨d, hs.cons_keep ?_⟩
    split
    · next hsle => exact ⟨rfl, rfl, rfl, hsle, Or.inr ⟨hb.2, hb.1⟩⟩
    · exact DescOf.refl thr p

theorem skipDrop_shrinks (thr : Rat) (hthr : thr ≠ 0) (n : Nat) (m : List Posting) :
    ∃ d, Shrinks thr (skipDrop thr n m).1 d m := by
  fun_induction skipDrop thr n m with
  | case3 n p ps hp r ih =>
    obtain ⟨d, hs⟩ := ih
    exact ⟨p :: d, hs.cons_drop hp hthr⟩
  | case1 | case2 | case4 => exact ⟨[], Shrinks.refl thr _⟩

/-- The heap is full and `b` is at most every score on it: it refuses a hit that scores `b` or less. -/
structure FullBound (k : Nat) (items : List Hit) (b : Rat) : Prop where
  full : items.length = k
  le : ∀ h ∈ items, b ≤ h.score

theorem FullBound.mono {k : Nat} {items : List Hit} {a b : Rat} (h : FullBound k items b) (hab : a ≤ b) :
    FullBound k items a :=
  ⟨h.full, fun x hx => Rat.le_trans hab (h.le x hx)⟩

/-- `thr` is a threshold the collector may hand to the matcher: 0 ("none"), or (heap full) a lower
    bound of every score on the heap. -/
def ThrOK (k : Nat) (items : List Hit) (thr : Rat) : Prop :=
  thr ≠ 0 → FullBound k items thr

/-- The heap is sorted and holds at most `k` hits, all with document numbers below everything still
    to come (`fut`); every hit lost so far (dropped by the schedule or refused/evicted by the
    heap) is beaten by all `k` hits of a full heap. -/
structure Inv (k : Nat) (fut : List Nat) (st : TopState) (losers : List Hit) : Prop where
  sorted : st.items.Pairwise (fun a b => heapLe a b = true)
  len : st.items.length ≤ k
  docs : ∀ h ∈ st.items, ∀ g ∈ fut, h.doc < g
  beat : ∀ l ∈ losers, st.items.length = k ∧ ∀ h ∈ st.items, rankLe h l = true

theorem Inv.mono {k : Nat} {fut fut' : List Nat} {st : TopState} {losers : List Hit}
    (h : Inv k fut st losers) (hsub : ∀ g ∈ fut', g ∈ fut) : Inv k fut' st losers :=
  ⟨h.sorted, h.len, fun x hx g hg => h.docs x hx g (hsub g hg), h.beat⟩

theorem Inv.absorb {k : Nat} {fut : List Nat} {st : TopState} {losers : List Hit}
    (h : Inv k fut st losers) (d : List Hit)
    (hd : ∀ x ∈ d, FullBound k st.items x.score ∧ x.doc ∈ fut) : Inv k fut st (losers ++ d) := by
  refine ⟨h.sorted, h.len, h.docs, fun l hl => ?_⟩
  rcases List.mem_append.mp hl with hl | hl
  · exact h.beat l hl
  · obtain ⟨⟨hfull, hall⟩, h3⟩ := hd l hl
    -- a tie on the score is lost by the later document: this is what `docs` is kept for
    exact ⟨hfull, fun x hx => (rankLe_iff x l).mpr ⟨hall x hx, fun _ => Nat.le_of_lt (h.docs x hx l.doc h3)⟩⟩

theorem collect_push {k : Nat} (st : TopState) (e : Hit) (h : st.items.length < k) :
    st.collect k e = .ok { st with total := st.total + 1, items := heapPush e st.items } := by
  simp [TopState.collect, h]

theorem collect_replace {k : Nat} (st : TopState) (e : Hit) {m x : Hit} {rest xs : List Hit}
    (hi : st.items = m :: rest) (hfull : ¬ st.items.length < k) (hadm : m.score < e.score)
    (hp : heapPush e rest = x :: xs) :
    st.collect k e = .ok { st with total := st.total + 1, items := x :: xs, minscore := x.score } := by
  rw [hi] at hfull
  simp only [TopState.collect, hi, if_neg hfull, if_pos hadm, hp]

theorem collect_refuse {k : Nat} (hk : 1 ≤ k) (st : TopState) (e : Hit) {b : Rat}
    (hb : FullBound k st.items b) (he : e.score ≤ b) :
    st.collect k e = .ok { st with total := st.total + 1 } := by
  have hnlt : ¬ st.items.length < k := by have := hb.full; omega
  cases hi : st.items with
  | nil => have := hb.full; rw [hi] at this; simp at this; omega
  | cons m rest =>
    have hm : ¬ m.score < e.score :=
      Rat.not_lt.mpr (Rat.le_trans he (hb.le m (by rw [hi]; exact List.mem_cons_self)))
    rw [hi] at hnlt
    simp only [TopState.collect, hi, if_neg hnlt, if_neg hm]

/-- `_collect` is handed `e'`: the hit `e`, or `e` with a lowered score if a full heap refuses `e`
    anyway. Whatever happens, it is `e` that joins the heap or the losers. -/
theorem collect_inv {k : Nat} (hk : 1 ≤ k) {fut : List Nat} {st : TopState} {losers : List Hit} {e' e : Hit}
    (hinv : Inv k (e.doc :: fut) st losers) (hfut : ∀ g ∈ fut, e.doc < g)
    (hmin : ThrOK k st.items st.minscore)
    (he : e' = e ∨ e'.score ≤ e.score ∧ FullBound k st.items e.score) :
    Yields (st.collect k e') fun st' => ∃ losers', Inv k fut st' losers' ∧
      (st'.items ++ losers').Perm (e :: (st.items ++ losers)) ∧
      ThrOK k st'.items st'.minscore ∧
      (∀ b, FullBound k st.items b → FullBound k st'.items b) := by
  by_cases hb : FullBound k st.items e.score
  · -- refused: `e` scores no more than anything on the full heap, and comes later
    have h' := (hinv.absorb [e] fun x hx => by
      rw [List.mem_singleton.mp hx]; exact ⟨hb, List.mem_cons_self⟩).mono fun g hg => List.mem_cons_of_mem _ hg
    refine ⟨_, collect_refuse hk st e' hb (he.elim (fun h => h ▸ Rat.le_refl) (·.1)), losers ++ [e],
      ⟨h'.sorted, h'.len, h'.docs, h'.beat⟩, ?_, hmin, fun b hb => hb⟩
    show (st.items ++ (losers ++ [e])).Perm (e :: (st.items ++ losers))
    rw [← List.append_assoc]
    exact List.perm_append_singleton e _
  obtain rfl : e' = e := he.resolve_right fun h => hb h.2
  by_cases hlt : st.items.length < k
  · -- the heap is not full: push; there are no losers yet
    refine ⟨_, collect_push st e' hlt, losers, ⟨heapPush_sorted e' _ hinv.sorted, ?_, ?_, ?_⟩,
      (heapPush_perm e' st.items).append_right losers, ?_, ?_⟩
    · show (heapPush e' st.items).length ≤ k
      rw [heapPush_length]; omega
    · intro x hx g hg
      rcases mem_heapPush.mp hx with rfl | hx
      · exact hfut g hg
      · exact hinv.docs x hx g (List.mem_cons_of_mem _ hg)
    · intro l hl; have := (hinv.beat l hl).1; omega
    · intro hne; have := (hmin hne).full; omega
    · intro b hb; have := hb.full; omega
  · -- `heapreplace`: the minimum `m` of the full heap scores less and joins the losers
    have hfull : st.items.length = k := by have := hinv.len; omega
    obtain ⟨m, rest, hitems⟩ := List.exists_cons_of_length_pos (by omega : 0 < st.items.length)
    obtain ⟨_, ms, tot⟩ := st
    subst hitems
    have hsorted : (m :: rest).Pairwise (fun a b => heapLe a b = true) := hinv.sorted
    have hadm : m.score < e'.score := Rat.not_le.mp fun hle => hb ⟨hfull, fun y hy => by
      rcases List.mem_cons.mp hy with rfl | hy
      · exact hle
      · exact Rat.le_trans hle (score_le_of_heapLe (List.rel_of_pairwise_cons hsorted hy))⟩
    obtain ⟨x, xs, hpush⟩ := List.exists_cons_of_length_pos (by rw [heapPush_length]; omega : 0 < (heapPush e' rest).length)
    have hps : (x :: xs).Pairwise (fun a b => heapLe a b = true) :=
      hpush ▸ heapPush_sorted e' rest hsorted.of_cons
    have hmem : ∀ y ∈ x :: xs, y = e' ∨ y ∈ rest := fun y hy => mem_heapPush.mp (hpush ▸ hy)
    have hlen : (x :: xs).length = k := by
      rw [← hpush, heapPush_length, ← hfull, List.length_cons]
    have hbeat_m : ∀ y ∈ x :: xs, rankLe y m = true := by
      intro y hy
      rcases hmem y hy with rfl | hy
      · exact (rankLe_iff _ m).mpr ⟨Rat.le_of_lt hadm, fun h => absurd hadm (Rat.not_lt.mpr h)⟩
      · rw [← heapLe_eq_rankLe]; exact List.rel_of_pairwise_cons hsorted hy
    refine ⟨_, collect_replace _ e' rfl hlt hadm hpush, m :: losers, ⟨hps, Nat.le_of_eq hlen, ?_, ?_⟩, ?_,
      fun _ => ⟨hlen, ?_⟩, ?_⟩
    · intro y hy g hg
      rcases hmem y hy with rfl | hy
      · exact hfut g hg
      · exact hinv.docs y (List.mem_cons_of_mem _ hy) g (List.mem_cons_of_mem _ hg)
    · intro l hl
      refine ⟨hlen, fun y hy => ?_⟩
      rcases List.mem_cons.mp hl with rfl | hl
      · exact hbeat_m y hy
      · exact rankLe_sortOrder.trans y m l (hbeat_m y hy) ((hinv.beat l hl).2 m List.mem_cons_self)
    · show (x :: xs ++ m :: losers).Perm (e' :: (m :: rest ++ losers))
      rw [← hpush]
      exact ((heapPush_perm e' rest).append_right _).trans (List.perm_middle.cons e')
    · intro y hy
      rcases List.mem_cons.mp hy with rfl | hy
      · exact Rat.le_refl
      · exact score_le_of_heapLe (List.rel_of_pairwise_cons hps hy)
    · intro b hb'
      refine ⟨hlen, fun y hy => ?_⟩
      rcases hmem y hy with rfl | hy
      · exact Rat.le_trans (hb'.le m List.mem_cons_self) (Rat.le_of_lt hadm)
      · exact hb'.le y (List.mem_cons_of_mem _ hy)

/-- the global document numbers still to come from the pending postings `m` of the segment at `off` -/
def futOf (off : Nat) (m : List Posting) : List Nat := m.map fun p => off + p.doc

theorem toHit_doc (cfg : Cfg) (final : Nat → Rat → Rat) (off : Nat) (p : Posting) :
    (toHit cfg final off p).doc = off + p.doc := rfl

theorem toHit_score_nofinal (cfg : Cfg) (final : Nat → Rat → Rat) (off : Nat) (p : Posting)
    (h : cfg.useFinal = false) : (toHit cfg final off p).score = p.score := by
  simp [toHit, h]

theorem origP_of_eq {p : Posting} (h : p.score = p.orig) : p.origP = p := by
  cases p; simp_all [Posting.origP]

/-- The hit of a pending posting is the hit at its original score, or scores less while a full heap
    refuses the hit at the original score anyway. -/
def PendOK (cfg : Cfg) (final : Nat → Rat → Rat) (off : Nat) (items : List Hit) (p : Posting) : Prop :=
  toHit cfg final off p = toHit cfg final off p.origP ∨
    (toHit cfg final off p).score ≤ (toHit cfg final off p.origP).score ∧
      FullBound cfg.limit items (toHit cfg final off p.origP).score

theorem PendOK.mono {cfg : Cfg} {final : Nat → Rat → Rat} {off : Nat} {items items' : List Hit} {p : Posting}
    (h : PendOK cfg final off items p) (hm : ∀ b, FullBound cfg.limit items b → FullBound cfg.limit items' b) :
    PendOK cfg final off items' p :=
  h.imp_right (And.imp_right (hm _))

/-- A call whose threshold, if any, is a lower bound of a full heap (and is not in `final()` units):
    what it keeps stays harmless, what it drops the heap refuses. -/
theorem Shrinks.pendOK {cfg : Cfg} {final : Nat → Rat → Rat} {off : Nat} {items : List Hit} {thr : Rat}
    {m' d m : List Posting} (hs : Shrinks thr m' d m)
    (hthr : thr ≠ 0 → cfg.useFinal = false ∧ FullBound cfg.limit items thr)
    (hm : ∀ p ∈ m, PendOK cfg final off items p) :
    (∀ q ∈ m', PendOK cfg final off items q) ∧
    (∀ q ∈ d, FullBound cfg.limit items (toHit cfg final off q.origP).score) := by
  have key : ∀ q p, p ∈ m → DescOf thr q p → p.score ≤ thr → thr ≠ 0 →
      (toHit cfg final off q).score ≤ (toHit cfg final off q.origP).score ∧
        FullBound cfg.limit items (toHit cfg final off q.origP).score := by
    intro q p hp hd hle hne
    obtain ⟨hfin, hfb⟩ := hthr hne
    rw [hd.origP, toHit_score_nofinal cfg final off q hfin]
    rcases hm p hp with h | ⟨h1, h2⟩
    · rw [← h, toHit_score_nofinal cfg final off p hfin]
      exact ⟨hd.score_le, hfb.mono hle⟩
    · rw [toHit_score_nofinal cfg final off p hfin] at h1
      exact ⟨Rat.le_trans hd.score_le h1, h2⟩
  constructor
  · intro q hq
    obtain ⟨p, hp, hd⟩ := hs.kept q hq
    rcases hd.eq_or_below with rfl | ⟨hle, hne⟩
    · exact hm q hp
    · exact Or.inr (key q p hp hd hle hne)
  · intro q hq
    obtain ⟨p, hp, hd, hle, hne⟩ := hs.dropped q hq
    exact (key q p hp hd hle hne).2

/-- A consumer that, for every yielded posting, either hands the hit to `TopCollector._collect`
    (`keep`) or leaves the `TopCollector` alone (filtered out). `topOf` projects the `TopCollector`
    out of the consumer's state. Both `TopCollector` alone and the Filter/Terms stack are of this form. -/
structure FilterCollects {σ : Type} (cfg : Cfg) (final : Nat → Rat → Rat) (topOf : σ → TopState)
    (consume : σ → Nat → Posting → Except Err σ) (keep : Nat → Bool) : Prop where
  kept : ∀ c off p t', keep (off + p.doc) = true →
    (topOf c).collect cfg.limit (toHit cfg final off p) = .ok t' →
    ∃ c', consume c off p = .ok c' ∧ topOf c' = t'
  dropped : ∀ c off p, keep (off + p.doc) = false → ∃ c', consume c off p = .ok c' ∧ topOf c' = topOf c

theorem FilterCollects.top (cfg : Cfg) (final : Nat → Rat → Rat) :
    FilterCollects cfg final (fun st : TopState => st) (topConsume cfg final) (fun _ => true) :=
  ⟨fun _ _ _ t' _ h => ⟨t', h, rfl⟩, fun _ _ _ h => nomatch h⟩

/-- `FilterCollector(TopCollector)`. -/
theorem FilterCollects.stack (cfg : Cfg) (final : Nat → Rat → Rat) (allow restrict : Option (List Nat)) :
    FilterCollects cfg final (fun st : StackSt => st.top)
      (stackConsume cfg final { allow := allow, restrict := restrict }) (fun g => !refuses allow restrict g) where
  kept c off p t' hkeep hc := by
    refine ⟨{ c with top := t' }, ?_, rfl⟩
    rw [Bool.not_eq_true'] at hkeep
    simp only [stackConsume, hkeep, hc, Bool.false_eq_true, if_false]
  dropped c off p hkeep := by
    refine ⟨{ c with filtered := c.filtered + 1 }, ?_, rfl⟩
    rw [Bool.not_eq_false'] at hkeep
    simp only [stackConsume, hkeep, if_true]

/-- The hits of `l` that pass the filter, at their original scores: what an exhaustive search sees. -/
def keptO (cfg : Cfg) (final : Nat → Rat → Rat) (keep : Nat → Bool) (off : Nat) (l : List Posting) : List Hit :=
  ((l.map Posting.origP).map (toHit cfg final off)).filter fun h => keep h.doc

section keptO
variable (cfg : Cfg) (final : Nat → Rat → Rat) (keep : Nat → Bool) (off : Nat)

theorem keptO_append (a b : List Posting) :
    keptO cfg final keep off (a ++ b) = keptO cfg final keep off a ++ keptO cfg final keep off b := by
  simp [keptO]

theorem keptO_cons_pos (p : Posting) (l : List Posting) (h : keep (off + p.doc) = true) :
    keptO cfg final keep off (p :: l) = toHit cfg final off p.origP :: keptO cfg final keep off l := by
  simp [keptO, toHit, Posting.origP, h]

theorem keptO_cons_neg (p : Posting) (l : List Posting) (h : keep (off + p.doc) = false) :
    keptO cfg final keep off (p :: l) = keptO cfg final keep off l := by
  simp [keptO, toHit, Posting.origP, h]

theorem mem_keptO {cfg : Cfg} {final : Nat → Rat → Rat} {keep : Nat → Bool} {off : Nat}
    {l : List Posting} {x : Hit} (hx : x ∈ keptO cfg final keep off l) :
    ∃ p ∈ l, x = toHit cfg final off p.origP := by
  obtain ⟨q, hq, rfl⟩ := List.mem_map.mp (List.mem_filter.mp hx).1
  obtain ⟨p, hp, rfl⟩ := List.mem_map.mp hq
  exact ⟨p, hp, rfl⟩

theorem keptO_fresh (l : List Posting) (h : ∀ p ∈ l, p.orig = p.score) :
    keptO cfg final keep off l = (l.map (toHit cfg final off)).filter fun h => keep h.doc := by
  have : l.map Posting.origP = l := by
    conv => rhs; rw [← List.map_id l]
    exact List.map_congr_left fun p hp => origP_of_eq (h p hp).symm
  rw [keptO, this]

theorem Shrinks.keptO_perm {thr : Rat} {m' d m : List Posting} (hs : Shrinks thr m' d m) :
    (keptO cfg final keep off m).Perm (keptO cfg final keep off m' ++ keptO cfg final keep off d) := by
  rw [← keptO_append]
  exact (((by simpa using hs.perm : ((m' ++ d).map Posting.origP).Perm (m.map Posting.origP)).map _).filter _).symm

end keptO

/-- With `m` pending, `later` the documents of the later segments, `lmin`/`luse` the generator's locals:
    `self.minscore` and the local `minscore` are thresholds the collector may hand out; block quality
    is only used without a `final()` hook; documents ascend; lowered pending postings are harmless;
    the heap, the hits lost so far and the pending hits that pass the filter, at their *original* scores
    whatever the matcher lowered, are together always the same `bag`. -/
structure LoopInv (cfg : Cfg) (final : Nat → Rat → Rat) (keep : Nat → Bool) (off : Nat) (later : List Nat)
    (bag : List Hit) (m : List Posting) (lmin : Rat) (luse : Bool) (t : TopState) : Prop where
  min : ThrOK cfg.limit t.items t.minscore
  loc : ThrOK cfg.limit t.items lmin
  use : luse = true → cfg.useFinal = false
  asc : (futOf off m ++ later).Pairwise (· < ·)
  pend : ∀ p ∈ m, PendOK cfg final off t.items p
  heap : ∃ losers, Inv cfg.limit (futOf off m ++ later) t losers ∧
    (t.items ++ losers ++ keptO cfg final keep off m).Perm bag

section loop
variable {cfg : Cfg} {final : Nat → Rat → Rat} {keep : Nat → Bool} {off : Nat} {later : List Nat} {bag : List Hit}
  {m : List Posting} {lmin : Rat} {luse : Bool} {t : TopState}

/-- A call within the contract with an admissible threshold: what it dropped joins the losers. -/
theorem LoopInv.shrink {thr : Rat} {m' : List Posting} (h : LoopInv cfg final keep off later bag m lmin luse t)
    (hs : ∃ d, Shrinks thr m' d m) (hthr : thr ≠ 0 → cfg.useFinal = false ∧ FullBound cfg.limit t.items thr) :
    LoopInv cfg final keep off later bag m' lmin luse t := by
  obtain ⟨d, hs⟩ := hs
  obtain ⟨losers, hinv, hbag⟩ := h.heap
  obtain ⟨hpend, hdrop⟩ := hs.pendOK hthr h.pend
  have hsub : (futOf off m' ++ later).Sublist (futOf off m ++ later) :=
    (by simpa [futOf, List.map_map, Function.comp_def] using hs.docs.map (off + ·) :
      (futOf off m').Sublist (futOf off m)).append_right later
  refine ⟨h.min, h.loc, h.use, h.asc.sublist hsub, hpend, losers ++ keptO cfg final keep off d,
    (hinv.absorb _ ?_).mono fun g hg => hsub.subset hg, ?_⟩
  · intro x hx
    obtain ⟨q, hq, rfl⟩ := mem_keptO hx
    obtain ⟨p, hp, hd, -⟩ := hs.dropped q hq
    refine ⟨hdrop q hq, List.mem_append_left _ ?_⟩
    exact List.mem_map.mpr ⟨p, hp, by simp [toHit_doc, Posting.origP, hd.doc_eq]⟩
  · refine .trans ?_ hbag
    simp only [List.append_assoc]
    exact ((List.perm_append_comm.trans (hs.keptO_perm cfg final keep off).symm).append_left _).append_left _

/-- The `replace` paragraph, `r` its outcome: `minscore` may have been set to `self.minscore`,
    `usequality` to what the new matcher supports. -/
theorem LoopInv.replace {lv : Locals} (h : LoopInv cfg final keep off later bag m lv.minscore lv.usequality t)
    {step : Step} {tr : Trace} {r : List Posting × Locals × Trace × Bool}
    (hr : r = replacePhase cfg t.minscore step m lv tr) :
    LoopInv cfg final keep off later bag r.1 r.2.1.minscore r.2.1.usequality t := by
  rcases replacePhase_cases cfg t.minscore step m lv tr hr with ⟨e1, -, -, e2, e3⟩ | ⟨e1, -, -, e2, e3⟩
  · rw [e1, e2, e3]; exact h
  · have h' := h.shrink (dropMasked_shrinks (replaceThreshold cfg lv) step.mask m) fun hne =>
      (replaceThreshold_cases cfg lv).elim (absurd · hne) fun e => ⟨e.2, e.1 ▸ h.loc (e.1 ▸ hne)⟩
    rw [e1]
    refine { h' with loc := e2.elim (· ▸ h'.loc) (· ▸ h'.min), use := fun hu => ?_ }
    rcases e3 with e3 | e3 <;> rw [e3] at hu
    · exact h'.use hu
    · simp only [useBlockQuality, Bool.and_eq_true, Bool.not_eq_true'] at hu
      exact hu.1.2

/-- `skip_to_quality(minscore)`, if called: the skipped prefix, then the sub-matchers' own skipping. -/
theorem LoopInv.skip {lv : Locals} (h : LoopInv cfg final keep off later bag m lv.minscore lv.usequality t)
    (step : Step) (tr : Trace) :
    LoopInv cfg final keep off later bag (skipPhase step m lv tr).1 lv.minscore lv.usequality t := by
  rcases skipPhase_cases step m lv tr with hsk | ⟨huse, hne, hsk, -⟩ <;> rw [hsk]
  · exact h
  · have hthr := fun (_ : lv.minscore ≠ 0) => And.intro (h.use huse) (h.loc hne)
    exact (h.shrink (skipDrop_shrinks lv.minscore hne step.skip m) hthr).shrink
      (dropMasked_shrinks lv.minscore step.skipMask _) hthr

variable {σ : Type} {topOf : σ → TopState} {consume : σ → Nat → Posting → Except Err σ}

/-- The next pending posting goes to the consumer: to `_collect` (the heap takes it, or refuses it —
    certainly if its score was lowered) or nowhere, if the filter refuses it. -/
theorem LoopInv.step (hfc : FilterCollects cfg final topOf consume keep) (hk : 1 ≤ cfg.limit)
    {p : Posting} {rest : List Posting} {c : σ}
    (h : LoopInv cfg final keep off later bag (p :: rest) lmin luse (topOf c)) :
    Yields (consume c off p) fun c' => LoopInv cfg final keep off later bag rest lmin luse (topOf c') := by
  have hasc : ((off + p.doc) :: (futOf off rest ++ later)).Pairwise (· < ·) := h.asc
  have hpend : ∀ q ∈ rest, PendOK cfg final off (topOf c).items q := fun q hq => h.pend q (List.mem_cons_of_mem _ hq)
  obtain ⟨losers, hinv, hbag⟩ := h.heap
  by_cases hkeep : keep (off + p.doc) = true
  · obtain ⟨t', hc, losers', hinv', hperm', hmin', hfb'⟩ :=
      collect_inv hk (e := toHit cfg final off p.origP) hinv (fun g hg => List.rel_of_pairwise_cons hasc hg) h.min
        (h.pend p List.mem_cons_self)
    obtain ⟨c', hcons, rfl⟩ := hfc.kept c off p t' hkeep hc
    refine ⟨c', hcons, hmin', fun hne => hfb' _ (h.loc hne), h.use, hasc.of_cons,
      fun q hq => (hpend q hq).mono hfb', losers', hinv', ?_⟩
    refine .trans ((hperm'.append_right _).trans List.perm_middle.symm) ?_
    rw [← keptO_cons_pos cfg final keep off p rest hkeep]
    exact hbag
  · have hkeep : keep (off + p.doc) = false := by simpa using hkeep
    obtain ⟨c', hcons, htop⟩ := hfc.dropped c off p hkeep
    rw [← htop] at h hpend hinv hbag
    exact ⟨c', hcons, h.min, h.loc, h.use, hasc.of_cons, hpend, losers,
      hinv.mono fun g hg => List.mem_cons_of_mem _ hg, keptO_cons_neg cfg final keep off p rest hkeep ▸ hbag⟩

theorem matchesLoop_gen (hfc : FilterCollects cfg final topOf consume keep) (hk : 1 ≤ cfg.limit)
    (sched : List Step) (m : List Posting) (lv : Locals) (c : σ) (tr : Trace)
    (h : LoopInv cfg final keep off later bag m lv.minscore lv.usequality (topOf c)) :
    Yields (matchesLoop cfg consume (fun c => (topOf c).minscore) off sched m lv c tr) fun (c', _, _) =>
      ∃ lmin luse, LoopInv cfg final keep off later bag [] lmin luse (topOf c') := by
  fun_induction matchesLoop cfg consume (fun c => (topOf c).minscore) off sched m lv c tr with
  | case1 sched m lv c tr hm =>
    rw [List.isEmpty_iff.mp hm] at h
    exact .ok ⟨_, _, h⟩
  | case2 sched m lv c tr hm step r hbrk =>
    have h' := h.replace (r := r) rfl
    rw [replacePhase_break hbrk] at h'
    exact .ok ⟨_, _, h'⟩
  | case3 sched m lv c tr hm step r hbrk s hs =>
    have h' := (h.replace (r := r) rfl).skip step r.2.2.1
    rw [hs] at h'
    exact .ok ⟨_, _, h'⟩
  | case4 sched m lv c tr hm step r hbrk s p rest hs e he =>
    have h' := (h.replace (r := r) rfl).skip step r.2.2.1
    rw [hs] at h'
    obtain ⟨c', hcons, -⟩ := h'.step hfc hk
    rw [he] at hcons; cases hcons
  | case5 sched m lv c tr hm step r hbrk s p rest hs c' hc ih =>
    have h' := (h.replace (r := r) rfl).skip step r.2.2.1
    rw [hs] at h'
    exact ih ((h'.step hfc hk).of_eq hc)

end loop

theorem globalDocs_cons (s : Seg) (segs : List Seg) :
    globalDocs (s :: segs) = futOf s.off s.postings ++ globalDocs segs := by
  simp [globalDocs, futOf]

/-- The postings a search starts from are at their original scores. -/
def Fresh (segs : List Seg) : Prop := ∀ s ∈ segs, ∀ p ∈ s.postings, p.orig = p.score

instance (segs : List Seg) : Decidable (Fresh segs) := by unfold Fresh; infer_instance

theorem runSegs_gen {σ : Type} {cfg : Cfg} {final : Nat → Rat → Rat} {topOf : σ → TopState}
    {consume : σ → Nat → Posting → Except Err σ} {keep : Nat → Bool}
    (hfc : FilterCollects cfg final topOf consume keep) (hk : 1 ≤ cfg.limit)
    (segs : List Seg) (sched : List Step) (c : σ) (tr : Trace) (losers : List Hit)
    (hinv : Inv cfg.limit (globalDocs segs) (topOf c) losers)
    (hmin : ThrOK cfg.limit (topOf c).items (topOf c).minscore)
    (hasc : (globalDocs segs).Pairwise (· < ·)) (hfresh : Fresh segs) :
    Yields (runSegs cfg consume (fun c => (topOf c).minscore) segs sched c tr) fun (c', _, _) =>
      ∃ losers', Inv cfg.limit [] (topOf c') losers' ∧
        ((topOf c').items ++ losers').Perm
          ((topOf c).items ++ losers ++ (allHits cfg final segs).filter fun h => keep h.doc) := by
  induction segs generalizing sched c tr losers with
  | nil => exact .ok ⟨losers, hinv, by simp [allHits]⟩
  | cons s segs ih =>
    rw [globalDocs_cons] at hinv hasc
    have hfs : ∀ p ∈ s.postings, p.orig = p.score := hfresh s List.mem_cons_self
    obtain ⟨⟨c', sched', tr'⟩, hrun, _, _, h'⟩ :=
      matchesLoop_gen hfc hk sched s.postings
        { supports := s.supports, minscore := (topOf c).minscore,
          usequality := useBlockQuality cfg s.supports, replacecounter := 0, checkquality := true }
        c { tr with supports := s.supports }
        ⟨hmin, hmin, fun h => by simp [useBlockQuality] at h; exact h.1.2, hasc,
          fun p hp => Or.inl (by rw [origP_of_eq (hfs p hp).symm]), losers, hinv, .refl _⟩
    obtain ⟨losers', hinv', hperm'⟩ := h'.heap
    have hperm' : ((topOf c').items ++ losers' ++ []).Perm _ := hperm'
    rw [List.append_nil, keptO_fresh cfg final keep s.off s.postings hfs] at hperm'
    simp only [runSegs, hrun]
    refine (ih sched' c' tr' losers' hinv' h'.min
      (hasc.sublist (List.sublist_append_right _ _)) fun s' hs' => hfresh s' (List.mem_cons_of_mem _ hs')).mono ?_
    rintro ⟨c'', _, _⟩ ⟨losers'', hinv'', hperm''⟩
    refine ⟨losers'', hinv'', hperm''.trans ((hperm'.append_right _).trans ?_)⟩
    rw [allHits_cons, List.filter_append, List.append_assoc]

/-- The end of the run: heap + losers is everything that passed the filter, so the heap read out
    in reverse is the top `k` of it. -/
theorem results_eq_topK {k : Nat} {st : TopState} {losers hits : List Hit}
    (hinv : Inv k [] st losers) (hperm : (st.items ++ losers).Perm hits) :
    st.results = topK k hits := by
  refine (rankLe_sortOrder.take_mergeSort_of_split k (losers := losers) (hperm.symm.trans ((List.reverse_perm _).symm.append_right _))
    ?_ (by simpa [TopState.results] using hinv.len) ?_).symm
  · exact List.pairwise_reverse.mpr (hinv.sorted.imp fun h => by rw [← heapLe_eq_rankLe]; exact h)
  · intro l hl
    obtain ⟨h1, h2⟩ := hinv.beat l hl
    exact ⟨by simpa [TopState.results] using h1, fun r hr => h2 r (by simpa [TopState.results] using hr)⟩

theorem runSegs_topK {σ : Type} {cfg : Cfg} {final : Nat → Rat → Rat} {topOf : σ → TopState}
    {consume : σ → Nat → Posting → Except Err σ} {keep : Nat → Bool}
    (hfc : FilterCollects cfg final topOf consume keep) (hk : 1 ≤ cfg.limit)
    (segs : List Seg) (sched : List Step) (c : σ) (tr : Trace) (hc : topOf c = {})
    (hwf : (globalDocs segs).Pairwise (· < ·)) (hfresh : Fresh segs) :
    Yields (runSegs cfg consume (fun c => (topOf c).minscore) segs sched c tr) fun (c', _, _) =>
      (topOf c').results = topK cfg.limit ((allHits cfg final segs).filter fun h => keep h.doc) := by
  refine (runSegs_gen hfc hk segs sched c tr [] (hc ▸ ⟨List.Pairwise.nil, Nat.zero_le _, fun h hh => by simp at hh, fun l hl => by simp at hl⟩)
    (fun hne => absurd (by rw [hc]) hne) hwf hfresh).mono ?_
  rintro ⟨c', _, _⟩ ⟨losers', hinv', hperm'⟩
  refine results_eq_topK hinv' ?_
  simpa [hc] using hperm'

end WM.Collect
