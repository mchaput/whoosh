import WM.Lemmas.IndexHistory
/-! MpWriter / SerialMpWriter: merging the sub-writers' results. -/
namespace WM.Index
open WM.Dict

theorem mergeSubs_spec (ndocs : List DocRec) (srcs : List (List Posting)) (subs : List Writer)
    (hs : ∀ s ∈ subs, s.pool = allPostings s.ndocs) :
    (mergeSubs ndocs srcs subs).1 = ndocs ++ (subs.map (·.ndocs)).flatten ∧
    (mergeSubs ndocs srcs subs).2.flatten.Perm
      (srcs.flatten ++ allPostings (subs.map (·.ndocs)).flatten ndocs.length) := by
  fun_induction mergeSubs ndocs srcs subs with
  | case1 ndocs srcs => simp [allPostings]
  | case2 ndocs srcs s r ih =>
    obtain ⟨h1, h2⟩ := ih fun x hx => hs x (List.mem_cons_of_mem _ hx)
    refine ⟨h1.trans (by rw [List.map_cons, List.flatten_cons, List.append_assoc]), h2.trans ?_⟩
    -- the run of `s` is the postings of its documents, numbered from `ndocs.length`
    rw [List.flatten_append, List.flatten_singleton, List.append_assoc, List.map_cons, List.flatten_cons,
      allPostings_append, List.length_append, subRun, hs s List.mem_cons_self, ← allPostings_shift s.ndocs ndocs.length]
    exact List.Perm.append_left _ (((List.mergeSort_perm _ _).map _).append_right _)

theorem Writer.mpFinal_spec (w : Writer) (subs : List Writer) (hwf : w.WF) (hna : w.added = false → w.ndocs = [])
    (hs : ∀ s ∈ subs, s.pool = allPostings s.ndocs) :
    (w.mpFinal subs).WF ∧ (w.mpFinal subs).docs = w.ndocs ++ (subs.map (·.ndocs)).flatten ∧
    (w.mpFinal subs).deleted = [] := by
  have hown : (if w.added then [w.pool.mergeSort Posting.le] else []).flatten.Perm (allPostings w.ndocs) := by
    split
    · rw [List.flatten_singleton]
      exact (List.mergeSort_perm _ _).trans hwf.pool
    · next ha =>
      rw [hna (Bool.eq_false_iff.mpr ha)]
      exact .refl _
  obtain ⟨h1, h2⟩ := mergeSubs_spec w.ndocs (if w.added then [w.pool.mergeSort Posting.le] else []) subs hs
  refine ⟨⟨by simp [Writer.mpFinal], by simp [Writer.mpFinal], ?_, Posting.sortOrder.sorted _⟩, h1, rfl⟩
  simp only [Writer.mpFinal, imerge]
  refine (List.mergeSort_perm _ _).trans (h2.trans ?_)
  rw [h1, allPostings_append, Nat.zero_add]
  exact hown.append_right _

/-- the sub-writer that indexed `ds` -/
def subResult (sc : Schema) (ds : List DocRec) : Writer :=
  { schema := sc, segs := [], gen := 0, ndocs := ds, pool := allPostings ds, added := !ds.isEmpty }

theorem subWriter_ok (sc : Schema) (docs : List DocRec) (h : ∀ d ∈ docs, d.fits sc = true) :
    subWriter sc docs = .ok (subResult sc docs) :=
  (Writer.foldlM_addDocument _ docs h).trans (congrArg _ (Writer.run_adds_of_fits _ docs h))

/-- `subs` are the writers the sub-processes produce for the assignment `assign`: the `i`-th ran
    `add_document` on the `i`-th list, none raised -/
inductive SubsOf (sc : Schema) : List (List DocRec) → List Writer → Prop
  | nil : SubsOf sc [] []
  | cons {ds s r rs} : subWriter sc ds = .ok s → SubsOf sc r rs → SubsOf sc (ds :: r) (s :: rs)

theorem subsOf_iff (sc : Schema) (assign : List (List DocRec)) (hfit : ∀ ds ∈ assign, ∀ d ∈ ds, d.fits sc = true)
    (subs : List Writer) : SubsOf sc assign subs ↔ subs = assign.map (subResult sc) := by
  constructor
  · intro h
    induction h with
    | nil => rfl
    | @cons ds s r rs hds _ ih =>
      rw [subWriter_ok sc ds (hfit ds List.mem_cons_self)] at hds
      cases hds
      rw [ih (fun x hx => hfit x (List.mem_cons_of_mem _ hx)), List.map_cons]
  · rintro rfl
    induction assign with
    | nil => exact .nil
    | cons ds r ih =>
      exact .cons (subWriter_ok sc ds (hfit ds List.mem_cons_self)) (ih fun x hx => hfit x (List.mem_cons_of_mem _ hx))

theorem Writer.mpCommit_spec (w : Writer) (hwf : w.WF) (hfits : ∀ d ∈ w.ndocs, d.fits w.schema = true)
    (hna : w.added = false → w.ndocs = []) (plan : Plan) (hplan : PlanOK plan)
    (assign : List (List DocRec)) (hfit : ∀ ds ∈ assign, ∀ d ∈ ds, d.fits w.schema = true) :
    Yields (w.mpCommit (assign.map (subResult w.schema)) plan) fun t' => t'.WF ∧ t'.schema = w.schema ∧
      t'.content.Perm (contentOf w.schema w.segs ++ w.ndocs ++ assign.flatten) := by
  -- `w1`: the writer after `add_reader` on the segments the plan merges; the one new segment
  -- (`mpFinal`) holds `w1`'s documents followed by every sub-writer's, the plan's other segments stay
  obtain ⟨w1, h1, wf1⟩ := Writer.addReaders_ok w (plan w.segs).1 hwf
    (fun s hs => hwf.segs s (hplan.sub _ s (Or.inl hs)))
  obtain ⟨b1, _, b5⟩ := Writer.addReaders_fields h1
  obtain ⟨fwf, fdocs, fdel⟩ := Writer.mpFinal_spec w1 (assign.map (subResult w.schema)) wf1
    (Writer.addReaders_notAdded h1 hna)
    (fun s hs => by obtain ⟨ds, _, rfl⟩ := List.mem_map.mp hs; rfl)
  refine ⟨_, by unfold Writer.mpCommit; simp only [h1, Except.map]; rfl, ?_, b1, ?_⟩
  · exact forall_mem_snoc (fun s hs => hwf.segs s (hplan.sub _ s (Or.inr hs))) fwf
  · have hfl : ((assign.map (subResult w.schema)).map (·.ndocs)).flatten = assign.flatten := by
      simp [List.map_map, Function.comp_def, subResult]
    have hfin : contentOf w.schema [w1.mpFinal (assign.map (subResult w.schema))]
        = w.ndocs ++ contentOf w.schema (plan w.segs).1 ++ assign.flatten := by
      rw [contentOf_singleton, liveDocs_of_no_deletions _ fdel, fdocs, hfl, List.map_append,
        map_restrict_of_fits _ w1.ndocs (b1 ▸ Writer.addReaders_fits h1 hfits),
        map_restrict_of_fits _ assign.flatten (fun d hd => by
          obtain ⟨ds, hds, hd'⟩ := List.mem_flatten.mp hd; exact hfit ds hds d hd'), b5]
    simp only [Toc.content, contentOf_append, b1, hfin]
    rw [← List.append_assoc]
    exact (hplan.content_perm w.schema w.segs w.ndocs).append_right _

theorem Writer.mpCommitMulti_of_commitPlan {w : Writer} (subs : List Writer) {plan : Plan} {t : Toc}
    (h : w.commitPlan plan = .ok t) :
    Yields (w.mpCommitMulti subs plan) fun t' => t'.schema = t.schema ∧
      t'.segs.Perm (t.segs ++ subs.map Writer.finalizeSegment) := by
  refine (Writer.commitPlan_inv h).map ?_
  rintro w1 rfl
  refine ⟨rfl, ?_⟩
  simp only
  split
  · simp only [List.append_assoc]
    exact List.Perm.append_left _ List.perm_append_comm
  · rw [List.append_nil]

theorem contentOf_subResult (sc : Schema) (assign : List (List DocRec)) (hfit : ∀ ds ∈ assign, ∀ d ∈ ds, d.fits sc = true) :
    contentOf sc ((assign.map (subResult sc)).map Writer.finalizeSegment) = assign.flatten := by
  rw [contentOf, List.map_map, List.flatMap_map, ← List.flatMap_id (L := assign)]
  exact flatMap_congr fun ds hds =>
    (contentOf_singleton _ _).symm.trans (Writer.finalizeSegment_content (subResult sc ds) (hfit ds hds))

theorem Writer.mpCommitMulti_spec (w : Writer) (hwf : w.WF) (hfits : ∀ d ∈ w.ndocs, d.fits w.schema = true)
    (hna : w.added = false → w.ndocs = []) (plan : Plan) (hplan : PlanOK plan)
    (assign : List (List DocRec)) (hfit : ∀ ds ∈ assign, ∀ d ∈ ds, d.fits w.schema = true) :
    Yields (w.mpCommitMulti (assign.map (subResult w.schema)) plan) fun t' => t'.WF ∧ t'.schema = w.schema ∧
      t'.content.Perm (contentOf w.schema w.segs ++ w.ndocs ++ assign.flatten) := by
  obtain ⟨t, ht, wft⟩ := Writer.commitPlan_ok w plan hwf (hplan.sub _)
  have hsc := Writer.commitPlan_schema ht
  have hc := Writer.commitPlan_content_perm hplan ht hfits hna
  refine (Writer.mpCommitMulti_of_commitPlan (assign.map (subResult w.schema)) ht).mono ?_
  rintro t' ⟨hsc', hsegs⟩
  refine ⟨fun s hs => ?_, hsc'.trans hsc, (contentOf_perm _ hsegs).trans ?_⟩
  · rcases List.mem_append.mp (hsegs.mem_iff.mp hs) with hs | hs
    · exact wft s hs
    · obtain ⟨x, hx, rfl⟩ := List.mem_map.mp hs
      obtain ⟨ds, _, rfl⟩ := List.mem_map.mp hx
      exact Writer.finalizeSegment_wf _ ⟨by intro s hs; simp [subResult] at hs, List.Perm.refl _⟩
  · rw [contentOf_append, hsc', hsc, contentOf_subResult w.schema assign hfit]
    rw [Toc.content, hsc] at hc
    exact hc.append_right _

end WM.Index
