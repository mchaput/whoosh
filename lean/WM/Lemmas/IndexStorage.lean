import WM.Model.Index
/-! Storage back-ends, reduced to stores of named blobs: what `saveToc` writes, `loadToc` reads back over any store
that satisfies the map laws. -/
namespace WM.Index
open WM.Dict

/-- what the index keeps in a storage: segment files (by segment name) and TOC files (by generation) -/
inductive Blob where
  | seg (s : Seg)
  | toc (schema : Schema) (gen : Nat) (names : List Nat)
deriving DecidableEq

/-- a storage back-end, reduced to what the index needs of it: named blobs -/
structure Store (σ : Type) where
  get : σ → Nat → Option Blob
  put : σ → Nat → Blob → σ

/-- the map laws (what `Storage.create_file/open_file` are trusted to satisfy) -/
structure Store.Lawful {σ : Type} (st : Store σ) : Prop where
  get_put_same : ∀ s k v, st.get (st.put s k v) k = some v
  get_put_other : ∀ s k k' v, k' ≠ k → st.get (st.put s k v) k' = st.get s k'

/-- write the segments under the given names (`saveToc`: then the TOC) -/
def saveSegs {σ} (st : Store σ) : σ → List Nat → List Seg → σ
  | s, n :: ns, g :: gs => saveSegs st (st.put s n (.seg g)) ns gs
  | s, _, _ => s

def saveToc {σ} (st : Store σ) (s : σ) (tocName : Nat) (names : List Nat) (t : Toc) : σ :=
  st.put (saveSegs st s names t.segs) tocName (.toc t.schema t.gen names)

def loadSegs {σ} (st : Store σ) (s : σ) : List Nat → Option (List Seg)
  | [] => some []
  | n :: ns =>
    match st.get s n, loadSegs st s ns with
    | some (.seg g), some gs => some (g :: gs)
    | _, _ => none

/-- open the index: read the TOC, then the segments it names -/
def loadToc {σ} (st : Store σ) (s : σ) (tocName : Nat) : Option Toc :=
  match st.get s tocName with
  | some (.toc sc gen names) => (loadSegs st s names).map fun segs => { schema := sc, segs := segs, gen := gen }
  | _ => none

theorem get_saveSegs_other {σ} (st : Store σ) (hl : st.Lawful) (s : σ) (names : List Nat) (segs : List Seg) (k : Nat)
    (hk : k ∉ names) : st.get (saveSegs st s names segs) k = st.get s k := by
  induction names generalizing s segs with
  | nil => cases segs <;> rfl
  | cons n ns ih =>
    cases segs with
    | nil => rfl
    | cons g gs =>
      simp only [saveSegs]
      rw [ih _ gs (by intro h; exact hk (by simp [h])), hl.get_put_other _ _ _ _ (by intro h; exact hk (by simp [h]))]

theorem loadSegs_saveSegs {σ} (st : Store σ) (hl : st.Lawful) (s : σ) (names : List Nat) (segs : List Seg)
    (hn : names.Nodup) (hlen : names.length = segs.length) :
    loadSegs st (saveSegs st s names segs) names = some segs := by
  induction names generalizing s segs with
  | nil => cases segs with
    | nil => rfl
    | cons _ _ => simp at hlen
  | cons n ns ih =>
    cases segs with
    | nil => simp at hlen
    | cons g gs =>
      simp only [List.nodup_cons] at hn
      simp only [saveSegs, loadSegs]
      rw [get_saveSegs_other st hl _ ns gs n hn.1, hl.get_put_same, ih _ gs hn.2 (by simpa using hlen)]

theorem loadSegs_put_other {σ} (st : Store σ) (hl : st.Lawful) (s : σ) (names : List Nat) (k : Nat) (v : Blob)
    (hk : k ∉ names) : loadSegs st (st.put s k v) names = loadSegs st s names := by
  induction names with
  | nil => rfl
  | cons n ns ih =>
    simp only [loadSegs]
    rw [hl.get_put_other _ _ _ _ (by intro h; exact hk (by simp [h])), ih (by intro h; exact hk (by simp [h]))]

theorem storage_roundtrip {σ} (st : Store σ) (hl : st.Lawful) (s : σ) (tocName : Nat) (names : List Nat) (t : Toc)
    (hn : names.Nodup) (hlen : names.length = t.segs.length) (htoc : tocName ∉ names) :
    loadToc st (saveToc st s tocName names t) tocName = some t := by
  simp only [loadToc, saveToc, hl.get_put_same]
  rw [loadSegs_put_other st hl _ names tocName _ htoc, loadSegs_saveSegs st hl s names t.segs hn hlen]
  rfl

/-- `RamStorage`: a dictionary (association list, newest first) -/
def ramStore : Store (List (Nat × Blob)) where
  get := fun s k => s.lookup k
  put := fun s k v => (k, v) :: s

theorem ramStore_lawful : ramStore.Lawful where
  get_put_same := by intro s k v; simp [ramStore]
  get_put_other := by
    intro s k k' v h
    have : (k' == k) = false := by simpa using h
    simp [ramStore, List.lookup_cons, this]

/-- a directory: names to files, as a function -/
def dirStore : Store (Nat → Option Blob) where
  get := fun s k => s k
  put := fun s k v => fun k' => if k' = k then some v else s k'

theorem dirStore_lawful : dirStore.Lawful where
  get_put_same := by intro s k v; simp [dirStore]
  get_put_other := by intro s k k' v h; simp [dirStore, h]

end WM.Index
