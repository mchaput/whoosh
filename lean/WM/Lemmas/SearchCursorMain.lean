import WM.Lemmas.SearchCursorBuild
/-! The cursor tree `build` constructs denotes `compile` (mutual induction over the query). -/
namespace WM.Compile
open WM.Search
open WM.Matcher (Any)

theorem compound_denotes {many : List Any → MR Any} {manyL : List PL → PL} (b : Rat) {ms : List Any} {pls : List PL}
    (h : DenotesL ms pls) (hmany : 2 ≤ ms.length → Yields (many ms) (Denotes · (manyL pls))) :
    Yields (compoundM many b ms) (Denotes · (compoundL manyL b pls)) := by
  fun_induction DenotesL ms pls with
  | case1 => exact .ok denotes_null
  | case2 m ms l ls =>
    fun_induction DenotesL ms ls with
    | case1 => exact .ok (denotes_boostM b h.1)
    | case2 => exact hmany (Nat.le_add_left 2 _)
    | case3 => cases h.2
  | case3 => cases h

theorem compileList_length (ls : LeafScore) (so : ShapeOracle) (s : Segment) (ctx : Ctx) :
    ∀ qs : List Query, (compileList ls so s ctx qs).length = qs.length
  | [] => rfl
  | _ :: qs => congrArg Nat.succ (compileList_length ls so s ctx qs)

theorem lexicon_postings_sorted (ls : LeafScore) (s : Segment) (f : String) (b : Rat) :
    Sorted (constL (wOf b) (unionAll ((lexicon s f).map (postings ls s f)))) :=
  constL_sorted _ (unionAll_spec (List.forall_mem_map.mpr fun t _ => postings_sorted ls s f t)).1

theorem denotesL_postings (ls : LeafScore) (s : Segment) (f : String) :
    ∀ ts : List Term, DenotesL (ts.map (fun t => listOf (postings ls s f t))) (ts.map (postings ls s f))
  | [] => trivial
  | t :: ts => ⟨denotes_listOf (postings_sorted ls s f t), denotesL_postings ls s f ts⟩

/-- for the array-union arm of `Or`: clauses that are plain terms of boost 1 (what a multi-term query expands to) build
    `listOf` of their compiled lists, and these are ascending with positive scores and ids below the segment size, which
    is what `OrOK` asks of the sub-matchers of a scored array union -/
theorem unitTerms_lists (ls : LeafScore) (so : ShapeOracle) (s : Segment) (ctx : Ctx) (qs : List Query)
    (h : ∀ q ∈ qs, ∃ f t, q = Query.term f t 1 ∧ ∀ e ∈ postings ls s f t, 0 < e.score) :
    buildList ls so s ctx qs = .ok ((compileList ls so s ctx qs).map listOf) ∧
    ∀ l ∈ compileList ls so s ctx qs, Sorted l ∧ ∀ e ∈ l, 0 < e.score ∧ e.id < s.size := by
  induction qs with
  | nil => exact ⟨rfl, nofun⟩
  | cons q qs ih =>
    obtain ⟨⟨f, t, rfl, hpos⟩, hqs⟩ := List.forall_mem_cons.mp h
    obtain ⟨ih1, ih2⟩ := ih hqs
    have hc : compile ls so s ctx (.term f t 1) = postings ls s f t := boostL_one _
    have hb : build ls so s ctx (.term f t 1) = .ok (listOf (postings ls s f t)) := congrArg Except.ok (if_pos rfl)
    refine ⟨?_, List.forall_mem_cons.mpr
      ⟨hc ▸ ⟨postings_sorted ls s f t, fun e he => ⟨hpos e he, canon_id_lt e he⟩⟩, ih2⟩⟩
    show (do let m ← build ls so s ctx (.term f t 1); let ms ← buildList ls so s ctx qs; pure (m :: ms)) = _
    rw [hb, ih1, ← hc]; rfl

theorem UnionOK.orOK {ls : LeafScore} {s : Segment} {ctx : Ctx} {qs : List Query} {b : Rat} (h : UnionOK ls s ctx qs b)
    {ms : List Any} {pls : List PL} (hlen : ms.length = qs.length) (h2 : 2 ≤ ms.length)
    (harr : (∀ q ∈ qs, ∃ f t, q = Query.term f t 1 ∧ ∀ e ∈ postings ls s f t, 0 < e.score) →
      ms = pls.map listOf ∧ ∀ l ∈ pls, Sorted l ∧ ∀ e ∈ l, 0 < e.score ∧ e.id < s.size) :
    OrOK ctx s.size b ms pls := by
  intro hn
  rcases h with hle | ⟨hlt, hor⟩ | ⟨hsc, hb, hall⟩
  · exact (hn ⟨hlen ▸ Nat.lt_of_le_of_lt hle (by decide), .inl (.inr (Nat.le_antisymm (hlen ▸ hle) h2))⟩).elim
  · exact (hn ⟨hlen ▸ hlt, hor.elim (.inl ∘ .inl) .inr⟩).elim
  · exact ⟨hsc, hb, harr hall⟩

theorem or_denotes {ls : LeafScore} {so : ShapeOracle} {s : Segment} {ctx : Ctx} {qs : List Query} (b : Rat)
    (hl : Yields (buildList ls so s ctx qs) (DenotesL · (compileList ls so s ctx qs))) (hu : UnionOK ls s ctx qs b) :
    Yields (build ls so s ctx (.or qs b)) (Denotes · (compile ls so s ctx (.or qs b))) := by
  obtain ⟨ms, hms, hd⟩ := hl
  show Yields (buildList ls so s ctx qs >>= _) _
  rw [hms]
  exact compound_denotes b hd fun h2 => orManyM_denotes (so qs) hd h2
    (hu.orOK (hd.length.trans (compileList_length ls so s ctx qs)) h2 fun hall =>
      have ⟨h1, h3⟩ := unitTerms_lists ls so s ctx qs hall
      ⟨Except.ok.inj (hms.symm.trans h1), h3⟩)

/-- a multi-term query that expands to two or more terms is `Or([Term(f, t) ...])` -/
theorem termsOr_denotes (ls : LeafScore) (so : ShapeOracle) (s : Segment) (ctx : Ctx) (f : String) (b : Rat)
    (ts : List Term) (h2 : 2 ≤ ts.length) (h : UnionOK ls s ctx (ts.map fun t => Query.term f t 1) b) :
    Yields (orManyM ctx s.size (so (ts.map fun t => Query.term f t 1)) (ts.map fun t => listOf (postings ls s f t)) b)
      (Denotes · (orMany ctx s.size (so (ts.map fun t => Query.term f t 1)) (ts.map (postings ls s f)) b)) := by
  have h2' : 2 ≤ (ts.map fun t => listOf (postings ls s f t)).length := by rwa [List.length_map]
  refine orManyM_denotes _ (denotesL_postings ls s f ts) h2'
    (h.orOK (by rw [List.length_map, List.length_map]) h2' fun hall => ?_)
  refine ⟨(List.map_map (g := listOf)).symm, List.forall_mem_map.mpr fun t ht =>
    ⟨postings_sorted ls s f t, fun e he => ⟨?_, canon_id_lt e he⟩⟩⟩
  obtain ⟨_, _, hq, hpos⟩ := hall _ (List.mem_map_of_mem ht)
  cases hq
  exact hpos e he

theorem multi_denotes (ls : LeafScore) (so : ShapeOracle) (s : Segment) (f : String) (p : TermPred) (b : Rat) (cs : Bool)
    (ctx : Ctx) (h : CursorOK ls s ctx (.multi f p b cs)) :
    Yields (build ls so s ctx (.multi f p b cs)) (Denotes · (compile ls so s ctx (.multi f p b cs))) := by
  show Yields (if isAllPred p = true then _ else _) fun m => Denotes m (if isAllPred p = true then _ else _)
  by_cases hall : isAllPred p = true
  · rw [if_pos hall, if_pos hall]
    exact .ok (denotes_listOf (lexicon_postings_sorted ls s f b))
  · have hu := h.resolve_left hall
    rw [if_neg hall, if_neg hall]
    generalize (lexicon s f).filter p.test = ts at hu ⊢
    rcases ts with _ | ⟨t, _ | ⟨t', ts⟩⟩
    · exact .ok denotes_null
    · have hd := denotes_listOf (postings_sorted ls s f t)
      cases cs with
      | true => exact csM_denotes ctx b hd
      | false => exact .ok (denotes_boostM b hd)
    · have hm := termsOr_denotes ls so s _ f b (t :: t' :: ts) (Nat.le_add_left 2 _) hu
      cases cs with
      | true => exact hm.bind fun _ h => csM_denotes ctx b h
      | false => exact hm.bind fun _ h => .ok h

mutual
theorem build_denotes (ls : LeafScore) (so : ShapeOracle) (s : Segment) :
    ∀ (q : Query) (ctx : Ctx), CursorOK ls s ctx q →
      ∃ m, build ls so s ctx q = .ok m ∧ Denotes m (compile ls so s ctx q)
  | .term f t b, _, _ => Yields.ok (denotes_boostM b (denotes_listOf (postings_sorted ls s f t)))
  | .null, _, _ => Yields.ok denotes_null
  | .and qs b, ctx, h =>
    Yields.bind (buildList_denotes ls so s qs ctx h) fun _ hd =>
      compound_denotes b hd fun _ => treeM_denotes opOk_inter hd (so qs) b
  | .or qs b, ctx, h => or_denotes b (buildList_denotes ls so s qs ctx h.1) h.2
  | .dismax qs b, ctx, h =>
    Yields.bind (buildList_denotes ls so s qs ctx h) fun _ hd =>
      compound_denotes b hd fun _ => treeM_denotes opOk_dismax hd (so qs) b
  | .not q, _, h => Yields.bind (build_denotes ls so s q boolCtx h) fun _ hc => inverse_denotes s hc
  | .andNot a b, ctx, h =>
    Yields.bind (build_denotes ls so s a ctx h.1) fun _ hx =>
      Yields.bind (build_denotes ls so s b boolCtx h.2) fun _ hy => opOk_andNot hx hy
  | .andMaybe a b, ctx, h =>
    Yields.bind (build_denotes ls so s a ctx h.1) fun _ hx =>
      Yields.bind (build_denotes ls so s b ctx h.2) fun _ hy => opOk_andMaybe hx hy
  | .require a b, ctx, h =>
    Yields.bind (build_denotes ls so s a ctx h.1) fun _ hx =>
      Yields.bind (build_denotes ls so s b boolCtx h.2) fun _ hy => opOk_require hx hy
  | .constScore q sc, ctx, h => Yields.bind (build_denotes ls so s q ctx h) fun _ hc => csM_denotes ctx sc hc
  | .every none _, _, _ => Yields.ok (denotes_listOf (List.pairwise_map.mpr (live_asc s)))
  | .every (some f) b, _, _ => Yields.ok (denotes_listOf (lexicon_postings_sorted ls s f b))
  | .multi f p b cs, ctx, h => multi_denotes ls so s f p b cs ctx h
  | .phrase _ _ _ _, _, h => h.elim
  | .numRange _ _ _ _ _ _, _, h => h.elim
theorem buildList_denotes (ls : LeafScore) (so : ShapeOracle) (s : Segment) :
    ∀ (qs : List Query) (ctx : Ctx), CursorOKL ls s ctx qs →
      ∃ ms, buildList ls so s ctx qs = .ok ms ∧ DenotesL ms (compileList ls so s ctx qs)
  | [], _, _ => Yields.ok trivial
  | q :: qs, ctx, h =>
    Yields.bind (build_denotes ls so s q ctx h.1) fun _ hd =>
      Yields.bind (buildList_denotes ls so s qs ctx h.2) fun _ hds => Yields.ok ⟨hd, hds⟩
end

mutual
theorem treeOnly_cursorOK (ls : LeafScore) (s : Segment) : ∀ (q : Query) (ctx : Ctx), TreeOnly s ctx q → CursorOK ls s ctx q
  | .term _ _ _, _, _ => trivial
  | .null, _, _ => trivial
  | .and qs _, ctx, h => treeOnlyL_cursorOKL ls s qs ctx h
  | .or qs _, ctx, h => ⟨treeOnlyL_cursorOKL ls s qs ctx h.1, h.2.elim .inl fun h2 => .inr (.inl h2)⟩
  | .dismax qs _, ctx, h => treeOnlyL_cursorOKL ls s qs ctx h
  | .not q, _, h => treeOnly_cursorOK ls s q boolCtx h
  | .andNot a b, ctx, h => ⟨treeOnly_cursorOK ls s a ctx h.1, treeOnly_cursorOK ls s b boolCtx h.2⟩
  | .andMaybe a b, ctx, h => ⟨treeOnly_cursorOK ls s a ctx h.1, treeOnly_cursorOK ls s b ctx h.2⟩
  | .require a b, ctx, h => ⟨treeOnly_cursorOK ls s a ctx h.1, treeOnly_cursorOK ls s b boolCtx h.2⟩
  | .constScore q _, ctx, h => treeOnly_cursorOK ls s q ctx h
  | .multi _ _ _ _, _, h => h.elim
  | .phrase _ _ _ _, _, h => h.elim
  | .numRange _ _ _ _ _ _, _, h => h.elim
  | .every _ _, _, h => h.elim
theorem treeOnlyL_cursorOKL (ls : LeafScore) (s : Segment) :
    ∀ (qs : List Query) (ctx : Ctx), TreeOnlyL s ctx qs → CursorOKL ls s ctx qs
  | [], _, _ => trivial
  | q :: qs, ctx, h => ⟨treeOnly_cursorOK ls s q ctx h.1, treeOnlyL_cursorOKL ls s qs ctx h.2⟩
end

theorem unionOK_of_pos {ls : LeafScore} {s : Segment} (hleaf : PosLeaf ls s) {ctx : Ctx} {qs : List Query} {b : Rat}
    (hsc : ctx.scored = true) (hb : 0 < b) (hq : ∀ q ∈ qs, ∃ f t, q = Query.term f t 1) : UnionOK ls s ctx qs b := by
  refine .inr (.inr ⟨hsc, hb, fun q hq' => ?_⟩)
  obtain ⟨f, t, rfl⟩ := hq q hq'
  refine ⟨f, t, rfl, fun e he => ?_⟩
  unfold postings at he
  obtain ⟨i, hi, rfl⟩ := List.mem_map.mp he
  have := List.mem_filter.mp hi
  exact hleaf i this.1 f t this.2

end WM.Compile
