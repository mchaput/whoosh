import WM.Lemmas.CodecFormats
import WM.Lemmas.Basics
/-! The pool → `add_postings` path: the posting list of a term is, in document order, each
containing document's `word_values` item for that term. -/
namespace WM.Codec

theorem poolLe_iff {a b : Post} :
    poolLe a b = true ↔ a.term ≤ b.term ∧ (a.term = b.term → a.docnum ≤ b.docnum) := by
  unfold poolLe
  split
  · next h => rw [decide_eq_true_eq]; exact ⟨fun hd => ⟨h ▸ String.le_refl _, fun _ => hd⟩, fun hd => hd.2 h⟩
  · next h => rw [decide_eq_true_eq]; exact ⟨fun ht => ⟨ht, fun e => absurd e h⟩, And.left⟩

theorem poolLe_total (a b : Post) : (poolLe a b || poolLe b a) = true := by
  rw [Bool.or_eq_true, poolLe_iff, poolLe_iff]
  by_cases e : a.term = b.term
  · exact (Int.le_total a.docnum b.docnum).imp (fun h => ⟨e ▸ String.le_refl _, fun _ => h⟩)
      (fun h => ⟨e ▸ String.le_refl _, fun _ => h⟩)
  · exact (String.le_total a.term b.term).imp (fun h => ⟨h, fun e' => absurd e' e⟩)
      (fun h => ⟨h, fun e' => absurd e'.symm e⟩)

theorem poolLe_trans (a b c : Post) (h1 : poolLe a b = true) (h2 : poolLe b c = true) :
    poolLe a c = true := by
  obtain ⟨t1, d1⟩ := poolLe_iff.mp h1
  obtain ⟨t2, d2⟩ := poolLe_iff.mp h2
  refine poolLe_iff.mpr ⟨String.le_trans t1 t2, fun e => ?_⟩
  -- `b.term` lies between two equal terms
  have eab : a.term = b.term := String.le_antisymm t1 (e ▸ t2)
  exact Int.le_trans (d1 eab) (d2 (eab ▸ e))

theorem groupOf_cons (t : String) (ps : List Post) (gs : List (String × List Post)) (w : String) :
    groupOf ((t, ps) :: gs) w = if t = w then ps else groupOf gs w := by
  by_cases h : t = w
  · simp [groupOf, h]
  · have : (t == w) = false := by simpa using h
    simp [groupOf, this, h]

theorem groupRuns_head (p : Post) (rest : List Post) :
    ∃ ps gs, groupRuns (p :: rest) = (p.term, ps) :: gs := by
  simp only [groupRuns]
  split
  · next t ps gs _ =>
    by_cases ht : t = p.term
    · rw [if_pos ht, ht]; exact ⟨_, _, rfl⟩
    · rw [if_neg ht]; exact ⟨_, _, rfl⟩
  · exact ⟨_, _, rfl⟩

theorem groupRuns_find (l : List Post) (hs : l.Pairwise (fun a b => a.term ≤ b.term)) (w : String) :
    groupOf (groupRuns l) w = l.filter (fun p => p.term == w) := by
  induction l with
  | nil => rfl
  | cons p rest ih =>
    obtain ⟨hle, hs'⟩ := List.pairwise_cons.mp hs
    have ih' := ih hs'
    cases rest with
    | nil =>
      show groupOf [(p.term, [p])] w = _
      rw [groupOf_cons, List.filter_cons]
      by_cases hw : p.term = w <;> simp [hw, groupOf]
    | cons q rest' =>
      obtain ⟨ps, gs, hg⟩ := groupRuns_head q rest'
      rw [hg, groupOf_cons] at ih'
      rw [groupRuns, hg, List.filter_cons]
      show groupOf (if q.term = p.term then (q.term, p :: ps) :: gs
        else (p.term, [p]) :: (q.term, ps) :: gs) w = _
      by_cases ht : q.term = p.term <;> by_cases hw : p.term = w
      · simp only [ht, hw, if_true, groupOf_cons, beq_self_eq_true] at ih' ⊢
        rw [ih']
      · simp only [ht, hw, if_true, if_false, groupOf_cons, beq_iff_eq] at ih' ⊢
        exact ih'
      · -- `p` is the only post with this term: every later term is at least `q.term`, which is larger
        have hnone : (q :: rest').filter (fun x => x.term == w) = [] := by
          rw [List.filter_eq_nil_iff]
          intro x hx hxw
          have hqx : q.term ≤ x.term := by
            rcases List.mem_cons.mp hx with rfl | hx'
            · exact String.le_refl _
            · exact (List.pairwise_cons.mp hs').1 x hx'
          rw [beq_iff_eq.mp hxw, ← hw] at hqx
          exact ht (String.le_antisymm hqx (hle q (List.mem_cons_self ..)))
        rw [if_neg ht, groupOf_cons, if_pos hw]
        simp only [hw, beq_self_eq_true, if_true, hnone]
      · simp only [ht, hw, if_false, groupOf_cons, beq_iff_eq] at ih' ⊢
        exact ih'

/-- The `word_values` item of document `d` for term `w`, as a pool post. -/
def docPost (f32 : Rat → Rat) (fmt : Fmt) (fb : Rat) (w : String) (d : DocIn) : Option Post :=
  ((wordValues f32 fmt fb d.toks).find? (fun x => x.1 == w)).map fun x =>
    { term := x.1, docnum := d.docnum, weight := x.2.2.1 * d.boost, value := x.2.2.2 }

theorem docPosts_filter (f32 : Rat → Rat) (fmt : Fmt) (fb : Rat) (w : String) (d : DocIn) :
    (docPosts f32 fmt fb d).filter (fun p => p.term == w) =
      if w ∈ distinctTexts d.toks then
        [{ term := w, docnum := d.docnum
           weight := (itemOf f32 fmt fb (occ d.toks w)).2.1 * d.boost
           value := (itemOf f32 fmt fb (occ d.toks w)).2.2 }]
      else [] := by
  unfold docPosts
  rw [wordValues_eq, List.map_map, List.filter_map]
  show ((distinctTexts d.toks).filter (· == w)).map _ = _
  rw [List.filter_beq, (nodup_distinctTexts d.toks).count]
  split <;> rfl

theorem docPost_eq_head? (f32 : Rat → Rat) (fmt : Fmt) (fb : Rat) (w : String) (d : DocIn) :
    docPost f32 fmt fb w d = ((docPosts f32 fmt fb d).filter (fun p => p.term == w)).head? := by
  unfold docPost docPosts
  rw [List.filter_map, List.head?_map, List.head?_filter]
  rfl

/-- `docPost` in the shape of `specPostings`. -/
theorem docPost_eq (f32 : Rat → Rat) (fmt : Fmt) (fb : Rat) (w : String) (d : DocIn) :
    docPost f32 fmt fb w d =
      if (occ d.toks w).isEmpty then none
      else some { term := w, docnum := d.docnum
                  weight := (itemOf f32 fmt fb (occ d.toks w)).2.1 * d.boost
                  value := (itemOf f32 fmt fb (occ d.toks w)).2.2 } := by
  rw [docPost_eq_head?, docPosts_filter]
  simp only [← occ_isEmpty_eq_false_iff]
  cases (occ d.toks w).isEmpty <;> rfl

theorem docPost_eq_some {f32 : Rat → Rat} {fmt : Fmt} {fb : Rat} {w : String} {d : DocIn} {p : Post}
    (h : docPost f32 fmt fb w d = some p) :
    (occ d.toks w).isEmpty = false ∧
      p = { term := w, docnum := d.docnum
            weight := (itemOf f32 fmt fb (occ d.toks w)).2.1 * d.boost
            value := (itemOf f32 fmt fb (occ d.toks w)).2.2 } := by
  rw [docPost_eq] at h
  split at h
  · cases h
  · next he => cases h; exact ⟨Bool.not_eq_true _ ▸ he, rfl⟩

theorem termPostings_eq (f32 : Rat → Rat) (fmt : Fmt) (fb : Rat) (docs : List DocIn) (w : String)
    (hs : docs.Pairwise (fun a b => a.docnum < b.docnum)) :
    termPostings f32 fmt fb docs w = docs.filterMap (docPost f32 fmt fb w) := by
  unfold termPostings
  have hsorted := List.pairwise_mergeSort (le := poolLe) poolLe_trans poolLe_total
    (docs.flatMap (docPosts f32 fmt fb))
  have hterm : (pool f32 fmt fb docs).Pairwise (fun a b => a.term ≤ b.term) :=
    hsorted.imp fun h => (poolLe_iff.mp h).1
  rw [groupRuns_find _ hterm w]
  have hdoc : (docs.filterMap (docPost f32 fmt fb w)).Pairwise (fun a b => a.docnum < b.docnum) :=
    hs.filterMap _ fun _ _ h _ hp _ hq => by rwa [(docPost_eq_some hp).2, (docPost_eq_some hq).2]
  have hperm : ((pool f32 fmt fb docs).filter (fun p => p.term == w)).Perm
      (docs.filterMap (docPost f32 fmt fb w)) := by
    refine ((List.mergeSort_perm _ _).filter _).trans ?_
    rw [List.filter_flatMap, ← flatMap_toList]
    refine List.Perm.of_eq (congrArg (docs.flatMap ·) (funext fun d => ?_))
    rw [docPost_eq_head?, docPosts_filter]
    split <;> rfl
  -- both are sorted by document number, and a document number determines the post
  refine List.Perm.eq_of_pairwise (le := fun a b : Post => a.docnum ≤ b.docnum)
    (fun a b ha hb h1 h2 => eq_of_pairwise_ne (·.docnum) (hdoc.imp Int.ne_of_lt) (hperm.subset ha) hb
      (Int.le_antisymm h1 h2)) ?_ (hdoc.imp Int.le_of_lt) hperm
  refine (List.Pairwise.and_mem.mp (hsorted.filter (fun p => p.term == w))).imp ?_
  rintro a b ⟨ha, hb, hab⟩
  simp only [List.mem_filter, beq_iff_eq] at ha hb
  exact (poolLe_iff.mp hab).2 (ha.2.trans hb.2.symm)

end WM.Codec
