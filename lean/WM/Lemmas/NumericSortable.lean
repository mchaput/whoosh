import WM.Model.Numeric
import WM.Lemmas.NumericTotalOrder
/-! Closed forms of the float sortable encodings; the signed one is the key of the total order moved
    into `[0, 2^64)`. -/
namespace WM.Numeric
open WM.NumericSpec

theorem one_shiftLeft_cast (k : Nat) : ((1 <<< k : Nat) : Int) = (2 : Int) ^ k := by
  rw [Nat.one_shiftLeft]; exact Int.natCast_pow 2 k

theorem xor_all_ones (a k : Nat) (h : a < 2 ^ k) : a ^^^ (2 ^ k - 1) = 2 ^ k - 1 - a := by
  have e : 2 ^ k - 1 - a = 2 ^ k - (a + 1) := by omega
  rw [e]
  apply Nat.eq_of_testBit_eq
  intro i
  rw [Nat.testBit_two_pow_sub_succ h, Nat.testBit_xor, Nat.testBit_two_pow_sub_one]
  by_cases hi : i < k
  · simp [hi]
  · have : a.testBit i = false :=
      Nat.testBit_lt_two_pow (Nat.lt_of_lt_of_le h (Nat.pow_le_pow_right (by omega) (by omega)))
    simp [hi, this]

theorem M63_eq : M63 = 2 ^ 63 - 1 := by decide

/-- `x ^ (2^k - 1)` on a negative value that fits `k` bits flips its low `k` bits. -/
theorem pyXor_neg (x : Int) (k : Nat) (h1 : x < 0) (h2 : -(2 : Int) ^ k ≤ x) :
    pyXor x (2 ^ k - 1) = -x - 1 - 2 ^ k := by
  match x, h1, h2 with
  | .negSucc a, _, h2 =>
    have e : ((2 ^ k : Nat) : Int) = (2 : Int) ^ k := by norm_cast
    have ha : a < 2 ^ k := by
      have := Int.negSucc_eq a
      omega
    simp only [pyXor, xor_all_ones a k ha]
    rw [Int.negSucc_eq, Int.negSucc_eq, ← e]
    generalize 2 ^ k = T at *
    omega

theorem bitsOfQ_qOfBits (b : Nat) (hb : b < 2 ^ 64) : bitsOfQ (qOfBits b) = .ok b := by
  have hb' : (b : Int) < 2 ^ 64 := by omega
  have e : ((b : Int) % 2 ^ 64).toNat = b := by
    rw [Int.emod_eq_of_lt (Int.natCast_nonneg b) hb', Int.toNat_natCast]
  unfold bitsOfQ qOfBits
  split
  · rw [if_pos (by omega), e]
  · rw [if_pos (by omega), Int.sub_emod_right, e]

/-- Closed form of the signed float sortable encoding. -/
def fsort (b : Nat) : Int := if b < 2 ^ 63 then (b : Int) + 2 ^ 63 else 2 ^ 64 - 1 - (b : Int)

theorem fsort_range (b : Nat) (hb : b < 2 ^ 64) : 0 ≤ fsort b ∧ fsort b < 2 ^ 64 := by
  unfold fsort; split <;> omega

theorem fsort_eq_tkey (b : Nat) (hb : b < 2 ^ 64) : fsort b = tkey b + 2 ^ 63 := by
  unfold fsort
  rw [tkey_eq b hb]
  split <;> omega

theorem totalLt_iff_fsort (a b : Nat) (ha : a < 2 ^ 64) (hb : b < 2 ^ 64) :
    totalLt a b = true ↔ fsort a < fsort b := by
  rw [totalLt_iff_tkey, fsort_eq_tkey a ha, fsort_eq_tkey b hb, Int.add_lt_add_iff_right]

theorem totalLt_unsigned (a b : Nat) (ha : a < 2 ^ 63) (hb : b < 2 ^ 63) :
    totalLt a b = true ↔ (a : Int) < (b : Int) := by
  rw [totalLt_iff_fsort a b (by omega) (by omega)]
  unfold fsort; simp only [ha, hb, if_true]; omega

theorem floatToSortable_signed (b : Nat) (hb : b < 2 ^ 64) : floatToSortable b true = .ok (fsort b) := by
  unfold floatToSortable qOfBits fsort
  by_cases h : b < 2 ^ 63
  · have h0 : ¬ ((b : Int) < 0) := by omega
    have h1 : ¬ ((b : Int) + 2 ^ 63 < 0) := by omega
    simp only [h, if_true, h0, false_and, if_false, one_shiftLeft_cast, h1]
  · have h0 : ((b : Int) - 2 ^ 64 < 0) := by omega
    simp only [h, if_false, h0, Bool.not_true, if_true, one_shiftLeft_cast]
    rw [M63_eq, pyXor_neg _ 63 h0 (by omega)]
    have h1 : ¬ (-((b : Int) - 2 ^ 64) - 1 - 2 ^ 63 + 2 ^ 63 < 0) := by omega
    simp only [Bool.false_eq_true, and_false, if_false, h1]
    exact congrArg _ (by omega)

theorem sortableToFloat_fsort (b : Nat) (hb : b < 2 ^ 64) : sortableToFloat (fsort b) true = .ok b := by
  rw [← bitsOfQ_qOfBits b hb]
  unfold sortableToFloat fsort qOfBits
  simp only [if_true, one_shiftLeft_cast]
  by_cases h : b < 2 ^ 63
  · simp only [h, if_true]
    rw [if_neg (by omega)]
    exact congrArg _ (by omega)
  · simp only [h, if_false]
    rw [if_pos (by omega), M63_eq, pyXor_neg _ 63 (by omega) (by omega)]
    exact congrArg _ (by omega)

theorem fsort_surj (s : Nat) (hs : s < 2 ^ 64) : ∃ b, b < 2 ^ 64 ∧ fsort b = s := by
  by_cases h : 2 ^ 63 ≤ s
  · exact ⟨s - 2 ^ 63, by omega, by unfold fsort; rw [if_pos (by omega)]; omega⟩
  · exact ⟨2 ^ 64 - 1 - s, by omega, by unfold fsort; rw [if_neg (by omega)]; omega⟩

theorem floatToSortable_unsigned (b : Nat) (hb : b < 2 ^ 64) :
    floatToSortable b false = if b < 2 ^ 63 then .ok (b : Int) else .error .valueError := by
  unfold floatToSortable qOfBits
  by_cases h : b < 2 ^ 63
  · have h0 : ¬ ((b : Int) < 0) := by omega
    simp only [h, if_true, h0, false_and, if_false, Bool.false_eq_true]
  · have h0 : ((b : Int) - 2 ^ 64 < 0) := by omega
    simp only [h, if_false, h0, Bool.not_false, and_self, if_true]

theorem sortableToFloat_unsigned (s : Nat) :
    sortableToFloat (s : Int) false = if s < 2 ^ 63 then .ok s else .error .structError := by
  unfold sortableToFloat
  simp only [Bool.false_eq_true, if_false, if_neg (Int.not_lt.mpr (Int.natCast_nonneg s))]
  split
  · next h => rw [← bitsOfQ_qOfBits s (by omega)]; unfold qOfBits; rw [if_pos h]
  · next h => unfold bitsOfQ; rw [if_neg (by omega)]

end WM.Numeric
