import WM.Lemmas.HashBuilt
/-! `HashReader` on any file with the parts `build` produces (`Built`: unbounded positions and hash values): what
the probe loop sees under the table invariant, then `all`, `get`, `__contains__`, `items`.
`WM/Props/C20Hash.lean` restates them for the writers with the struct-format limits. -/
namespace WM.HashFile

theorem scan_eq {β} (T : List Slot) (kh : Nat) (check : Nat → Option β) (H : Nat) (hn : 0 < T.length) :
    ∀ (fuel d : Nat), d + fuel = T.length →
      scan T kh check (P T.length H d) fuel
        = (((List.range' d fuel).map fun d => T.getD (P T.length H d) null).takeWhile nz).filterMap
            (fun s => if s.1 = kh then check s.2 else none) := by
  intro fuel
  induction fuel with
  | zero => intro d _; simp [scan]
  | succ f ih =>
    intro d hd
    have hP := P_lt hn H d
    unfold scan
    rw [List.getElem?_eq_getElem hP, List.range'_succ, List.map_cons, List.takeWhile_cons]
    rw [← List.getElem_eq_getD (h := hP)]
    rcases hs : T[P T.length H d] with ⟨sh, ip⟩
    simp only
    by_cases hip : ip = 0
    · subst hip; simp [nz]
    · have hnz : nz (sh, ip) = true := by simp [nz, hip]
      rw [if_neg hip, hnz]
      simp only [↓reduceIte, List.filterMap_cons]
      rw [← succ_mod_eq hP, P_succ, ih (d + 1) (by omega)]
      by_cases hk : sh = kh
      · simp only [hk, ↓reduceIte]
        cases check ip <;> rfl
      · simp only [hk, ↓reduceIte]

theorem scan_inv {β} {T entries : List Slot} (hinv : Inv T entries) (kh : Nat) (check : Nat → Option β)
    (hn : 0 < T.length) :
    scan T kh check ((kh / 256) % T.length) T.length
      = (entries.filter (fun s => s.1 == kh)).filterMap (fun s => check s.2) := by
  have h0 : (kh / 256) % T.length = P T.length (home T.length kh) 0 := by
    unfold P home; simp
  have hq := hinv.q kh
  unfold visited probeList at hq
  rw [h0, scan_eq T kh check (home T.length kh) hn T.length 0 (Nat.zero_add _), ← List.range_eq_range', ← hq,
    List.filterMap_filter]
  simp only [beq_iff_eq]

variable {α : Type} {hash : Key → Nat} {vlen : α → Nat} {so : Nat} {kvs : List (Key × α)} {f : File α}

theorem all_built (hb : Built hash vlen so kvs f) (key : Key) :
    all hash f key = kvs.filterMap (fun kv => if kv.1 = key then some kv.2 else none) := by
  obtain ⟨T, hT, hlen, hinv⟩ := hb.tables _ (Nat.mod_lt (hash key) (by decide : 0 < 256))
  -- what a probe for `hash key` finds among the entries of its bucket, record by record: a record
  -- with the key has the key's hash, so the two filters on the hash let it through
  have hmain : ((bucketEntries hash f.recs (hash key % 256)).filter (fun s => s.1 == hash key)).filterMap
        (fun s => checkKey f key s.2)
      = kvs.filterMap (fun kv => if kv.1 = key then some kv.2 else none) := by
    conv => rhs; rw [hb.kvs_eq, List.filterMap_map]
    unfold bucketEntries
    rw [List.filter_map, List.filterMap_map, List.filter_filter, List.filterMap_filter]
    apply filterMap_congr
    intro r hr
    simp only [Function.comp, checkKey, hb.recAt_pos hr]
    by_cases hk : r.key = key
    · simp [hk]
    · simp [hk]
  unfold all
  simp only [hT]
  by_cases h0 : T.length = 0
  · rw [if_pos h0, ← hmain, List.eq_nil_of_length_eq_zero (by omega : (bucketEntries hash f.recs _).length = 0)]
    rfl
  · rw [if_neg h0, scan_inv hinv (hash key) _ (by omega), hmain]

theorem get_contains_built (hb : Built hash vlen so kvs f) (key : Key) :
    WM.HashFile.get hash f key = (kvs.find? (fun kv => kv.1 == key)).map (·.2)
      ∧ (containsKey hash f key = true ↔ key ∈ kvs.map (·.1)) := by
  unfold WM.HashFile.get containsKey
  rw [all_built hb key]
  constructor
  · -- the head of a `filterMap` and a `find?` are both a `findSome?`
    rw [List.head?_filterMap, List.find?_eq_findSome?_guard, List.map_findSome?]
    congr 1
    funext kv
    simp only [Function.comp_apply, Option.guard, beq_iff_eq]
    split <;> rfl
  · rw [Bool.not_eq_true', List.isEmpty_eq_false_iff, Ne, List.filterMap_eq_nil_iff, Classical.not_forall, List.mem_map]
    refine exists_congr fun kv => ?_
    by_cases h : kv.1 = key <;> simp [h]

theorem items_built (hb : Built hash vlen so kvs f) : items vlen f = kvs := by
  unfold items
  rw [hb.start, walk_layout vlen f hb.sorted kvs _ (hb.recs ▸ List.suffix_refl _) hb.eod, layout_kvs]

end WM.HashFile
