import WM.Lemmas.Faithful
import WM.Lemmas.KeepsComb
import WM.Lemmas.Yields
import WM.Model.MatcherWalk
/-!
`QFaithful`: the quality contract (C12) of an operation table.  Its parameter `WQ` is the invariant of states that
support block quality, `W0` the weaker invariant of all states of the node (what `replace()` may meet); both are
preserved by the cursor operations (for trees they are `WQ`/`W0` of `QualityTree`).  `Advances` (`Faithful.lean`) is what
a quality skip does to the loop budget and the complete list.
What the contract gives the quality walk of a top-N consumer is `runWith_hi`.
The contract is proved here for `NullMatcher` and `ListMatcher`.
-/
namespace WM.Matcher

structure QFaithful {σ : Type} (O : Ops σ) (den full : σ → Den) (WQ W0 : σ → Prop) : Prop where
  toW0 : ∀ s, WQ s → W0 s
  /-- the cursor contract under either invariant: `replace()` and the unscored operands of `AndNotMatcher` and
      `RequireMatcher` move states of which only `W0` is known -/
  cur0 : Faithful O den full W0
  curQ : Faithful O den full WQ
  nn : ∀ s, W0 s → NonNegDen (den s)
  sup : ∀ s, WQ s → O.supportsBQ s = true
  /-- never negative, so that `minquality - other.max_quality()` never exceeds `minquality` -/
  max : ∀ s, W0 s → Yields (O.maxQuality s) fun q => BoundedBy q (den s) ∧ 0 ≤ q
  /-- bounds the current entry only (a posting list's bounds its whole block: `C12.leaf_bound`) -/
  block : ∀ s, WQ s → Yields (O.blockQuality s) fun q => HeadBoundedBy q (den s)
  skipQ : ∀ s q, WQ s → den s ≠ [] →
    Yields (O.skipToQuality s q) fun out => WQ out.1 ∧ Keeps q (den out.1) (den s) ∧ Advances O den full s out.1

namespace QFaithful
variable {σ : Type} {O : Ops σ} {den full : σ → Den} {WQ W0 : σ → Prop}

theorem maxA (Q : QFaithful O den full WQ W0) (s : σ) (h : W0 s) :
    Yields (O.maxQualityA s) fun q => BoundedBy q (den s) ∧ 0 ≤ q := by
  unfold Ops.maxQualityA
  rcases Q.cur0.head h with ⟨hd, ha⟩ | ⟨x, r, L, -, ha, -⟩
  · rw [ha, hd]
    exact ⟨0, rfl, fun _ hp => (nomatch hp), Rat.le_refl⟩
  · rw [ha]
    exact Q.max s h

theorem blockA (Q : QFaithful O den full WQ W0) (s : σ) (h : WQ s) :
    Yields (O.blockQualityA s) fun q => HeadBoundedBy q (den s) ∧ 0 ≤ q := by
  unfold Ops.blockQualityA
  rcases Q.curQ.head h with ⟨hd, ha⟩ | ⟨x, r, L, hd, ha, -⟩
  · rw [ha, hd]
    exact ⟨0, rfl, headBounded_nil 0, Rat.le_refl⟩
  · rw [ha]
    obtain ⟨q, h1, h2⟩ := Q.block s h
    exact ⟨q, h1, h2, Rat.le_trans (Q.nn s (Q.toW0 s h) (x, r) (hd ▸ List.mem_cons_self)) (h2 x r L hd)⟩

end QFaithful

theorem runWith_hi {σ : Type} {O : Ops σ} {den full : σ → Den} {WQ W0 : σ → Prop}
    (Q : QFaithful O den full WQ W0) (top : Rat) :
    ∀ (prog : List QOp) (m : σ), WQ m → (∀ q, QOp.skipq q ∈ prog → q ≤ top) →
      ∃ m' v, runWith O m prog = .ok (m', v) ∧ WQ m' ∧ hi top (den m) = hi top v ++ hi top (den m') ∧
        full m' = full m := by
  intro prog
  induction prog with
  | nil => exact fun m h _ => ⟨m, [], rfl, h, rfl, rfl⟩
  | cons op rest ih =>
    intro m h ht
    cases ha : O.isActive m with
    | false => exact ⟨m, [], by simp [runWith, ha]; rfl, h, rfl, rfl⟩
    | true =>
      have hne : den m ≠ [] := (Q.curQ.active m h).1 ha
      have ht' : ∀ q, QOp.skipq q ∈ rest → q ≤ top := fun q hq => ht q (List.mem_cons_of_mem _ hq)
      cases op with
      | next =>
        obtain ⟨⟨x, r⟩, L, hd⟩ := List.exists_cons_of_ne_nil hne
        obtain ⟨m1, hn, hw1, hd1, -, hf1⟩ := Q.curQ.next m x r L h hd
        obtain ⟨m', v, hr, hw', hk, hf'⟩ := ih m1 hw1 ht'
        refine ⟨m', (x, r) :: v, ?_, hw', ?_, hf'.trans hf1⟩
        · simp [runWith, ha, Q.curQ.id m x r L h hd, Q.curQ.score m x r L h hd, hn, hr, bind, Except.bind, pure,
            Except.pure]
        · rw [hd, ← hd1]
          show hi top ([(x, r)] ++ den m1) = hi top ([(x, r)] ++ v) ++ _
          rw [hi_append, hi_append, hk, List.append_assoc]
      | skipq q =>
        obtain ⟨⟨m1, k⟩, hs, hw1, hkeep, adv⟩ := Q.skipQ m q h hne
        obtain ⟨m', v, hr, hw', hk, hf'⟩ := ih m1 hw1 ht'
        refine ⟨m', v, by simp [runWith, ha, hs, hr, bind, Except.bind], hw', ?_, hf'.trans adv.full_eq⟩
        rw [← hi_eq_of_le (ht q List.mem_cons_self) hkeep.hi_eq, hk]

theorem null_qfaithful : QFaithful nullOps (fun _ => []) (fun _ => []) (fun _ => True) (fun _ => True) where
  toW0 _ h := h
  cur0 := null_faithful
  curQ := null_faithful
  nn _ _ := by intro p hp; cases hp
  sup _ _ := rfl
  max _ _ := ⟨0, rfl, fun _ hp => (nomatch hp), Rat.le_refl⟩
  block _ _ := ⟨0, rfl, headBounded_nil 0⟩
  skipQ _ _ _ h := absurd rfl h

theorem foldl_max_ge (w : Rat) (ws : List Rat) : ∀ v ∈ w :: ws, v ≤ ws.foldl max w :=
  have h := foldl_sel_spec (· ≤ ·) max (fun _ => Rat.le_refl) (fun _ _ _ => Rat.le_trans)
    (fun _ _ => rat_le_max_of_le_left Rat.le_refl) (fun _ _ => rat_le_max_of_le_right Rat.le_refl)
    (fun a b => by rw [Rat.max_def]; split <;> simp) ws w
  List.forall_mem_cons.2 ⟨h.1, h.2.1⟩

namespace ListM

def NN (m : ListM) : Prop := ∀ w ∈ m.weights, 0 ≤ w

theorem le_blockMaxWeight (m : ListM) {w : Rat} (hw : w ∈ m.weights) : w ≤ m.blockMaxWeight := by
  unfold blockMaxWeight
  cases h : m.weights with
  | nil => rw [h] at hw; cases hw
  | cons u us => exact foldl_max_ge u us w (h ▸ hw)

theorem weight_of_mem_den {m : ListM} {p : Nat × Rat} (hp : p ∈ m.den) : p.2 ∈ m.weights :=
  (List.of_mem_zip (List.mem_of_mem_drop hp)).2

theorem den_bounded (m : ListM) : BoundedBy m.blockMaxWeight m.den :=
  fun _ hp => le_blockMaxWeight m (weight_of_mem_den hp)

theorem qfaithful : QFaithful ops den full (fun m => (WF m ∧ NN m) ∧ m.scorer = true) (fun m => WF m ∧ NN m) where
  toW0 _ h := h.1
  cur0 := faithful_inv _ (fun _ h => h.1) fun _ _ h => h
  curQ := faithful_inv _ (fun _ h => h.1.1) fun _ _ h => h
  nn m h := fun p hp => h.2 p.2 (weight_of_mem_den hp)
  sup m h := h.2
  max m h := by
    refine ⟨m.blockMaxWeight, rfl, den_bounded m, ?_⟩
    unfold blockMaxWeight
    cases hw : m.weights with
    | nil => decide
    | cons u us => exact Rat.le_trans (h.2 u (hw ▸ List.mem_cons_self)) (foldl_max_ge u us u List.mem_cons_self)
  block m h := by
    exact ⟨m.blockMaxWeight, by show m.blockQuality = _; simp [blockQuality, h.2],
      headBounded_of_bounded (den_bounded m)⟩
  skipQ m q h hne := by
    have hlt : m.i < m.ids.length := by
      have := (not_congr (den_eq_nil_iff h.1.1)).1 hne; omega
    show Yields (m.skipToQuality q) _
    unfold skipToQuality
    have hbq : m.blockQuality = .ok m.blockMaxWeight := by simp [blockQuality, h.2]
    simp only [hlt, ↓reduceIte, hbq]
    refine .ite (fun hq => .ok ⟨h, ?_, .of_lt ?_ rfl⟩) fun _ => .ok ⟨h, .refl _ _, .refl _ _ _ _⟩
    · have hnil : ({ m with i := m.ids.length } : ListM).den = [] := by
        rw [den_eq_nil_iff (m := { m with i := m.ids.length }) h.1.1]; exact Nat.le_refl _
      rw [hnil]
      exact keeps_nil_of_bounded fun p hp => Rat.le_trans (den_bounded m p hp) hq
    · show m.ids.length - m.ids.length < m.ids.length - m.i
      omega

end ListM

end WM.Matcher
