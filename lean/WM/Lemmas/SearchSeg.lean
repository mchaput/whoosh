import WM.Lemmas.SearchOps
/-!
Segment level: postings of a term against their pointwise specification, the term dictionary, folds over
lists of terms, the expansion of a multi-term query, the balanced shape of `make_binary_tree`.
-/
namespace WM.Compile
open WM.Search

def termSpec (ls : LeafScore) (s : Segment) (f : String) (t : Term) : PSpec := fun i =>
  if i ∈ s.live ∧ (s.doc i).hasTerm f t = true then some (ls (s.doc i) f t) else none

theorem agreeP_canon (sc : Bool) (s : Segment) (p : Nat → Bool) (g : Nat → Rat) :
    AgreeP sc (canon s.live p g) (fun i => if i ∈ s.live ∧ p i = true then some (g i) else none) :=
  ⟨canon_sorted (live_asc s) _ _, fun i => R.of_eq (lookup_canon _ _ _ i)⟩

theorem postings_agree (sc : Bool) (ls : LeafScore) (s : Segment) (f : String) (t : Term) :
    AgreeP sc (postings ls s f t) (termSpec ls s f t) :=
  agreeP_canon sc s _ _

theorem postings_sorted (ls : LeafScore) (s : Segment) (f : String) (t : Term) : Sorted (postings ls s f t) :=
  (postings_agree true ls s f t).1

theorem postingsL_agree (sc : Bool) (ls : LeafScore) (s : Segment) (f : String) :
    ∀ ts : List Term, AgreeL sc (ts.map (postings ls s f)) (ts.map (termSpec ls s f))
  | [] => trivial
  | t :: ts => ⟨postings_agree sc ls s f t, postingsL_agree sc ls s f ts⟩

theorem mem_lexicon {s : Segment} {f : String} {t : Term} :
    t ∈ lexicon s f ↔ ∃ d ∈ s.docs, t ∈ d.terms f := by
  unfold lexicon
  rw [mem_dedup, List.mem_flatMap]

theorem postings_nil_of_not_lexicon (ls : LeafScore) (s : Segment) (f : String) (t : Term)
    (h : ¬ t ∈ lexicon s f) : postings ls s f t = [] := by
  unfold postings
  rw [List.filter_eq_nil_iff.mpr fun i hi hh =>
    h (mem_lexicon.mpr ⟨s.doc i, live_doc_mem hi, hasTerm_iff_mem.mp hh⟩)]
  rfl

theorem foldr_add_terms (ls : LeafScore) (s : Segment) (f : String) (ts : List Term) (i : Nat) :
    ((ts.map (termSpec ls s f)).map (fun sp => sp i)).foldr (optMerge (· + ·)) none =
      if i ∈ s.live ∧ ts.any (fun t => (s.doc i).hasTerm f t) = true then
        some (((ts.filter (fun t => (s.doc i).hasTerm f t)).map (ls (s.doc i) f)).sum)
      else none := by
  rw [List.map_map]
  exact foldr_add_guard _ _ _ ts

theorem foldr_both_terms (ls : LeafScore) (s : Segment) (f : String) (ws : List Term) (i : Nat) (hne : ws ≠ []) :
    ((ws.map (termSpec ls s f)).map (fun sp => sp i)).foldr optBoth (some 0) =
      if i ∈ s.live ∧ ws.all (fun w => (s.doc i).hasTerm f w) = true then some ((ws.map (ls (s.doc i) f)).sum)
      else none := by
  rw [List.map_map]
  exact foldr_both_guard _ _ _ ws hne

theorem any_expansion {s : Segment} {f : String} (p : Term → Bool) {d : Doc} (hd : d ∈ s.docs) :
    ((lexicon s f).filter p).any (fun t => d.hasTerm f t) = (d.terms f).any p := by
  rw [Bool.eq_iff_iff]
  simp only [List.any_eq_true, List.mem_filter, mem_lexicon, hasTerm_iff_mem]
  exact ⟨fun ⟨t, ⟨_, hp⟩, ht⟩ => ⟨t, ht, hp⟩, fun ⟨t, ht, hp⟩ => ⟨t, ⟨⟨d, hd, ht⟩, hp⟩, ht⟩⟩

theorem expansion_perm {s : Segment} {f : String} (p : Term → Bool) {d : Doc}
    (hd : d ∈ s.docs) :
    (((lexicon s f).filter p).filter (fun t => d.hasTerm f t)).Perm
      ((dedup (d.terms f)).filter p) := by
  apply (List.perm_ext_iff_of_nodup _ _).mpr
  · intro t
    simp only [List.mem_filter, mem_dedup, mem_lexicon]
    constructor
    · rintro ⟨⟨_, hp⟩, ht⟩
      exact ⟨hasTerm_iff_mem.mp ht, hp⟩
    · rintro ⟨ht, hp⟩
      exact ⟨⟨⟨d, hd, ht⟩, hp⟩, hasTerm_iff_mem.mpr ht⟩
  · exact ((nodup_dedup _ : (lexicon s f).Nodup).filter _ |>.filter _)
  · exact (nodup_dedup _).filter _

theorem posSpecs_terms {ls : LeafScore} {s : Segment} (hleaf : PosLeaf ls s) (f : String) (ts : List Term) (sc : Bool) :
    PosSpecs sc (ts.map (termSpec ls s f)) := by
  intro _ sp hsp i v hv
  obtain ⟨t, _, rfl⟩ := List.mem_map.mp hsp
  obtain ⟨hc, hv⟩ := Option.ite_none_right_eq_some.mp hv
  cases hv
  exact hleaf i hc.1 f t hc.2

theorem balanced_leaves : ∀ (fuel lo n : Nat), 1 ≤ n → n ≤ fuel →
    (balanced lo fuel n).leaves = List.range' lo n
  | 0, _, _, h1, h2 => by omega
  | _ + 1, _, 1, _, _ => rfl
  | fuel + 1, lo, n + 2, _, h2 => by
    show (balanced lo fuel ((n + 2) / 2)).leaves ++
      (balanced (lo + (n + 2) / 2) fuel (n + 2 - (n + 2) / 2)).leaves = _
    -- the halves `m + 1` and `k + 1` (`m = n / 2`, `m + k = n`) are non-empty and fit the remaining fuel
    rw [Nat.add_div_right n (by decide : 0 < 2)]
    obtain ⟨k, hk⟩ := Nat.exists_eq_add_of_le (Nat.div_le_self n 2)
    generalize n / 2 = m at hk ⊢
    have hn : n + 2 = (m + 1) + (k + 1) := by omega
    rw [hn, Nat.add_sub_cancel_left, balanced_leaves fuel lo (m + 1) (Nat.le_add_left 1 m) (by omega),
      balanced_leaves fuel (lo + (m + 1)) (k + 1) (Nat.le_add_left 1 k) (by omega), List.range'_append_1]

theorem balancedShape_valid (n : Nat) (h : 1 ≤ n) : (balancedShape n).Valid n := by
  unfold balancedShape Shape.Valid
  rw [balanced_leaves n 0 n h (Nat.le_refl n), List.range_eq_range']

theorem balancedOracle_valid : ValidOracle balancedOracle := by
  intro qs h
  exact balancedShape_valid qs.length (by omega)

end WM.Compile
