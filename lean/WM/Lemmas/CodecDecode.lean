import WM.Lemmas.CodecBasic
/-! Reading a written block yields the chunk it was written from. -/
namespace WM.Codec

variable {ι μ : Type}

theorem all_beq_replicate (ws : List Rat) (w : Rat) (h : ws.all (· == w) = true) :
    List.replicate ws.length w = ws :=
  (List.eq_replicate_iff.mpr ⟨rfl, fun b hb => by simpa using List.all_eq_true.mp h b hb⟩).symm

theorem readWeights_mini (b : DiskBlock ι μ) (ws : List Rat) (hmw : b.mw = miniWeights ws)
    (hc : b.info.count = ws.length) : readWeights b = ws := by
  unfold readWeights
  rw [hmw, hc]
  unfold miniWeights
  by_cases h1 : ws.all (· == 1) = true
  · simp only [h1, if_true]; exact all_beq_replicate ws 1 h1
  · simp only [h1]
    cases ws with
    | nil => simp at h1
    | cons w ws =>
      simp only
      by_cases h2 : (w :: ws).all (· == w) = true
      · simp only [h2, if_true]; exact all_beq_replicate (w :: ws) w h2
      · simp [h2]

theorem storedValues_eq (ch : List (Posting ι)) (h : ∀ p ∈ ch, p.value ≠ []) :
    storedValues ch = ch.map (·.value) := by
  unfold storedValues
  apply List.filter_eq_self.mpr
  intro v hv
  simp only [List.mem_map] at hv
  obtain ⟨p, hp, rfl⟩ := hv
  have := h p hp
  cases hpv : p.value with
  | nil => exact absurd hpv this
  | cons a l => rfl

theorem ValuesOk.ne_nil {fs : Option Nat} {ps : List (Posting ι)} (h : ValuesOk fs ps)
    (h0 : fs ≠ some 0) : ∀ p ∈ ps, p.value ≠ [] := by
  cases fs with
  | none => exact h
  | some k =>
    cases k with
    | zero => exact absurd rfl h0
    | succ k => exact fun p hp e => by have := h p hp; rw [e] at this; cases this

theorem readValues_encode (c : Cfg ι μ) (last : Bool) (ch : List (Posting ι)) (lid : ι)
    (hv : ValuesOk c.fixedsize ch) :
    readValues c.fixedsize (encodeBlock c last ch lid)
      = .ok (ch.map fun p => (expected c p).value) := by
  unfold readValues encodeBlock miniValues expected
  cases hfs : c.fixedsize with
  | none =>
    rw [hfs] at hv
    simp only [ValuesOk] at hv
    simp [storedValues_eq ch hv]
  | some k =>
    cases k with
    | zero =>
      simp only [List.map_const']
    | succ k =>
      rw [hfs] at hv
      simp only [storedValues_eq ch (hv.ne_nil (by simp))]
      simp only [ValuesOk] at hv
      rw [chunks_flatten (k + 1) _ (by omega)]
      · simp
      · intro v hv'
        simp only [List.mem_map] at hv'
        obtain ⟨p, hp, rfl⟩ := hv'
        exact hv p hp

theorem readIds_encode (c : Cfg ι μ) (hk : c.ids.Lawful) (last : Bool) (ch : List (Posting ι)) (lid : ι) :
    readIds c.ids (encodeBlock c last ch lid) = ch.map (·.id) := hk _

theorem readWeights_encode (c : Cfg ι μ) (last : Bool) (ch : List (Posting ι)) (lid : ι) :
    readWeights (encodeBlock c last ch lid) = ch.map (fun p => c.f32 p.weight) :=
  readWeights_mini _ _ rfl (List.length_map _).symm

theorem blockEntries_encode (c : Cfg ι μ) (hk : c.ids.Lawful) (last : Bool) (ch : List (Posting ι))
    (lid : ι) (hv : ValuesOk c.fixedsize ch) :
    blockEntries c.ids c.fixedsize (encodeBlock c last ch lid) = .ok (ch.map (expected c)) := by
  unfold blockEntries
  rw [readValues_encode c last ch lid hv]
  simp only
  rw [readIds_encode c hk, readWeights_encode, zip3_eq_zip, List.zip_map', List.zip_map', List.map_map]
  rfl

theorem ValuesOk.sub {fs : Option Nat} {ps ch : List (Posting ι)} (h : ValuesOk fs ps)
    (hsub : ∀ p ∈ ch, p ∈ ps) : ValuesOk fs ch := by
  unfold ValuesOk at *
  cases fs with
  | none => exact fun p hp => h p (hsub p hp)
  | some k => cases k with
    | zero => trivial
    | succ k => exact fun p hp => h p (hsub p hp)

end WM.Codec
