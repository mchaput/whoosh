import WM.Model.Lev
/-! The term-cursor walk of `Automata.find_matches`: given a `next_valid_string` that returns the
least accepted string at or after its argument (`NextValidSpec`), the walk returns exactly the
accepted terms of the (sorted) lexicon.  Before it, what the modules of the group share: Python's
string order is the order of lists (`lexLt_iff`, `lexLe_iff`), `t ++ [0]` is the successor of `t`,
strings of real characters (`Valid`), sorted lexicons (`SortedLex`). -/
namespace WM.Lev

theorem lexLt_iff (a b : List Nat) : lexLt a b = true ↔ a < b := by
  induction a generalizing b with
  | nil =>
    cases b with
    | nil => simp [lexLt]
    | cons y b => simp [lexLt]
  | cons x a ih =>
    cases b with
    | nil => simp [lexLt]
    | cons y b =>
      simp only [lexLt, Bool.or_eq_true, decide_eq_true_eq, Bool.and_eq_true, beq_iff_eq,
        List.cons_lt_cons_iff, ih]

theorem lexLe_iff (a b : List Nat) : lexLe a b = true ↔ a ≤ b := by
  unfold lexLe
  rw [Bool.not_eq_true', ← Bool.not_eq_true, lexLt_iff, List.not_lt]

theorem lexLe_eq_false (a b : List Nat) : lexLe a b = false ↔ b < a := by
  rw [lexLe, Bool.not_eq_false', lexLt_iff]

theorem lt_snoc_zero (t : List Nat) : t < t ++ [0] := by
  induction t with
  | nil => exact List.nil_lt_cons _ _
  | cons a t ih => rw [List.cons_append, List.cons_lt_cons_iff]; exact Or.inr ⟨rfl, ih⟩

theorem snoc_zero_le_of_lt (t x : List Nat) (h : t < x) : t ++ [0] ≤ x := by
  induction t generalizing x with
  | nil =>
    cases x with
    | nil => exact absurd h (List.lt_irrefl _)
    | cons y x =>
      exact List.cons_le_cons_iff.mpr
        ((Nat.eq_zero_or_pos y).elim (fun h0 => Or.inr ⟨h0.symm, List.nil_le _⟩) Or.inl)
  | cons a t ih =>
    cases x with
    | nil => exact absurd h (List.not_lt_nil _)
    | cons y x =>
      rw [List.cons_append, List.cons_le_cons_iff]
      exact (List.cons_lt_cons_iff.mp h).imp id fun ⟨e, h'⟩ => ⟨e, ih x h'⟩

theorem snoc_zero_le_iff (t x : List Nat) : t ++ [0] ≤ x ↔ t < x :=
  ⟨Std.lt_of_lt_of_le (lt_snoc_zero t), snoc_zero_le_of_lt t x⟩

/-- A real character: a Unicode scalar value - at most U+10FFFF (`sys.maxunicode`) and not a
    surrogate (UTF-8, the encoding of the term dictionary, cannot express U+D800..U+DFFF). -/
def Scalar (c : Nat) : Prop := c ≤ maxCodePoint ∧ (c < 0xD800 ∨ 0xDFFF < c)

theorem scalar_iff (c : Nat) : Scalar c ↔ isScalar c = true := by
  simp only [Scalar, isScalar, Bool.and_eq_true, decide_eq_true_eq, Bool.not_eq_true',
    Bool.and_eq_false_iff, decide_eq_false_iff_not]
  omega

instance (c : Nat) : Decidable (Scalar c) := by unfold Scalar; infer_instance

/-- A string of real characters: every code point is a scalar value. -/
def Valid (t : List Nat) : Prop := ∀ c, c ∈ t → Scalar c

theorem valid_cons {c : Nat} {u : List Nat} : Valid (c :: u) ↔ Scalar c ∧ Valid u := by
  simp [Valid]

theorem valid_snoc_zero {t : List Nat} (h : Valid t) : Valid (t ++ [0]) := by
  intro c hc
  rcases List.mem_append.mp hc with h1 | h1
  · exact h c h1
  · have : c = 0 := by simpa using h1
    subst this; exact ⟨Nat.zero_le _, Or.inl (by omega)⟩

/-- `nv` is a correct `next_valid_string` for the acceptance predicate `acc`: on every string (of
    real characters) it returns the least accepted string (of real characters) at or after its
    argument, `None` when there is none - and never fails.  That the returned string consists of
    real characters matters to the byte-level cursor (`cur.find(match)` encodes it as UTF-8). -/
def NextValidSpec (acc : List Nat → Bool) (nv : List Nat → Except Err (Option (List Nat))) : Prop :=
  ∀ s, Valid s → (nv s = .ok none ∧ ∀ t, Valid t → s ≤ t → acc t = false) ∨
    (∃ m, nv s = .ok (some m) ∧ acc m = true ∧ s ≤ m ∧ (∀ t, Valid t → s ≤ t → acc t = true → m ≤ t) ∧
      Valid m)

theorem NextValidSpec.valid {acc : List Nat → Bool} {nv : List Nat → Except Err (Option (List Nat))}
    (hnv : NextValidSpec acc nv) {s x : List Nat} (hs : Valid s) (hr : nv s = .ok (some x)) :
    Valid x := by
  rcases hnv s hs with ⟨h, _⟩ | ⟨m, h, _, _, _, hvm⟩
  · rw [h] at hr; cases hr
  · rw [h] at hr; cases hr; exact hvm

/-- A lexicon: strictly ascending in Python string order. -/
def SortedLex (lex : List (List Nat)) : Prop := lex.Pairwise (· < ·)

theorem sorted_head_le {a : List Nat} {l : List (List Nat)} (hs : SortedLex (a :: l)) (t : List Nat)
    (ht : t ∈ a :: l) : a ≤ t := by
  rcases List.mem_cons.mp ht with rfl | h
  · exact List.le_refl _
  · exact List.le_of_lt ((List.pairwise_cons.mp hs).1 t h)

theorem filter_split {α} {p : α → Bool} {as bs : List α} (ha : ∀ a, a ∈ as → p a = false)
    (hb : ∀ b, b ∈ bs → p b = true) : (as ++ bs).filter p = bs := by
  rw [List.filter_append, List.filter_eq_self.mpr hb, List.filter_eq_nil_iff.mpr, List.nil_append]
  intro a h; rw [ha a h]; exact Bool.false_ne_true

/-- Potential of the walk that asks `next_valid_string` at `s`: the lexicon terms at or after `s`
    plus those after `s` (at or after its successor `s ++ [0]`).  Both counts fall as `s` grows; a
    yield moves `s` behind a term (the first count drops), a skip moves it onto a term that was
    after it (the second drops), so a term costs at most two rounds. -/
def potential (lex : List (List Nat)) (s : List Nat) : Nat :=
  (lex.filter (lexLe s)).length + (lex.filter (lexLe (s ++ [0]))).length

theorem potential_lt (lex : List (List Nat)) (s : List Nat) : potential lex s < 2 * lex.length + 2 := by
  have h1 := List.length_filter_le (lexLe s) lex
  have h2 := List.length_filter_le (lexLe (s ++ [0])) lex
  unfold potential
  omega

theorem ge_length_anti (lex : List (List Nat)) {s s' : List Nat} (h : s ≤ s') :
    (lex.filter (lexLe s')).length ≤ (lex.filter (lexLe s)).length := by
  rw [← List.countP_eq_length_filter, ← List.countP_eq_length_filter]
  exact List.countP_mono_left fun t _ ht => (lexLe_iff s t).mpr (List.le_trans h ((lexLe_iff s' t).mp ht))

theorem potential_anti (lex : List (List Nat)) {s s' : List Nat} (h : s ≤ s') :
    potential lex s' ≤ potential lex s :=
  Nat.add_le_add (ge_length_anti lex h)
    (ge_length_anti lex ((snoc_zero_le_iff s _).mpr (List.lt_of_le_of_lt h (lt_snoc_zero s'))))

theorem filter_ge_split {as bs : List (List Nat)} {t : List Nat} (hs : SortedLex (as ++ t :: bs)) :
    (∀ x, (∀ a, a ∈ as → a < x) → x ≤ t → (as ++ t :: bs).filter (lexLe x) = t :: bs) ∧
    (as ++ t :: bs).filter (lexLe t) = t :: bs ∧
    (as ++ t :: bs).filter (lexLe (t ++ [0])) = bs := by
  rw [SortedLex, List.pairwise_append, List.pairwise_cons] at hs
  obtain ⟨_, ⟨hbs, _⟩, has⟩ := hs
  have hat : ∀ a, a ∈ as → a < t := fun a ha => has a ha t (List.mem_cons_self ..)
  have hge : ∀ x, (∀ a, a ∈ as → a < x) → x ≤ t → (as ++ t :: bs).filter (lexLe x) = t :: bs := by
    intro x ha hx
    refine filter_split (fun a h => (lexLe_eq_false x a).mpr (ha a h)) fun b hb => (lexLe_iff x b).mpr ?_
    rcases List.mem_cons.mp hb with rfl | hb
    · exact hx
    · exact List.le_trans hx (List.le_of_lt (hbs b hb))
  refine ⟨hge, hge t hat (List.le_refl t), ?_⟩
  rw [List.append_cons as]
  refine filter_split (fun a ha => (lexLe_eq_false _ a).mpr ?_) fun b hb =>
    (lexLe_iff _ b).mpr (snoc_zero_le_of_lt t b (hbs b hb))
  rcases List.mem_append.mp ha with ha | ha
  · exact List.lt_trans (hat a ha) (lt_snoc_zero t)
  · rw [List.mem_singleton.mp ha]; exact lt_snoc_zero t

/-- Stated for the loop entered with the result of `nv s`, which is how `find_matches`,
    `find_all_matches` and the loop itself enter it: the answer then depends on `s` alone. -/
theorem findLoop_spec (acc : List Nat → Bool) (nv : List Nat → Except Err (Option (List Nat)))
    (hnv : NextValidSpec acc nv) (lex : List (List Nat)) (hv : ∀ t, t ∈ lex → Valid t)
    (hs : SortedLex lex) :
    ∀ (fuel : Nat) (s : List Nat), Valid s → potential lex s < fuel →
      ∃ r, nv s = .ok r ∧ findLoop nv lex fuel r = .ok ((lex.filter (lexLe s)).filter acc) := by
  intro fuel
  induction fuel with
  | zero => intro s _ h; exact absurd h (Nat.not_lt_zero _)
  | succ fuel ih =>
    intro s hvs hpot
    rcases hnv s hvs with ⟨hnone, hno⟩ | ⟨m, hsome, hacc, hsm, hmin, _⟩
    · refine ⟨none, hnone, ?_⟩
      rw [findLoop, List.filter_eq_nil_iff.mpr]
      intro t ht
      obtain ⟨htl, hst⟩ := List.mem_filter.mp ht
      rw [hno t (hv t htl) ((lexLe_iff s t).mp hst)]
      exact Bool.false_ne_true
    · refine ⟨some m, hsome, ?_⟩
      -- an accepted term at or after `s` is at or after the next match `m`: from here on `m` stands for `s`
      have hsm' : (lex.filter (lexLe s)).filter acc = (lex.filter (lexLe m)).filter acc := by
        rw [List.filter_filter, List.filter_filter]
        apply List.filter_congr
        intro t ht
        rw [Bool.eq_iff_iff, Bool.and_eq_true, Bool.and_eq_true, lexLe_iff, lexLe_iff]
        exact and_congr_right fun hat => ⟨fun h => hmin t (hv t ht) h hat, List.le_trans hsm⟩
      have hpm := Nat.lt_of_le_of_lt (potential_anti lex hsm) hpot
      rw [hsm', findLoop, cursorFind]
      cases hf : lex.find? (lexLe m) with
      | none =>
        simp only
        rw [List.filter_eq_nil_iff.mpr (List.find?_eq_none.mp hf)]; rfl
      | some term =>
        obtain ⟨hmt, as, bs, rfl, has⟩ := List.find?_eq_some_iff_append.mp hf
        rw [lexLe_iff] at hmt
        obtain ⟨hge, ht, ht0⟩ := filter_ge_split hs
        have hm := hge m (fun a ha => (lexLe_eq_false m a).mp ((Bool.not_eq_true' _).mp (has a ha))) hmt
        have hterm : term ∈ as ++ term :: bs := List.mem_append_right _ (List.mem_cons_self ..)
        have e1 := congrArg List.length hm
        have e2 := congrArg List.length ht
        have e3 := congrArg List.length ht0
        unfold potential at hpm
        rw [List.length_cons] at e1 e2
        simp only
        by_cases hmterm : m = term
        · -- the match is a term: yield it, continue behind it
          subst hmterm
          have h3 := ge_length_anti (as ++ m :: bs) (List.le_of_lt (lt_snoc_zero (m ++ [0])))
          obtain ⟨r, hr, hfl⟩ := ih (m ++ [0]) (valid_snoc_zero (hv m hterm)) (by unfold potential; omega)
          rw [if_pos rfl, hr]
          simp only
          rw [hfl, hm, ht0, List.filter_cons, if_pos hacc]; rfl
        · -- the cursor landed behind the match: ask for the next match from there
          have h2 := ge_length_anti (as ++ term :: bs)
            ((snoc_zero_le_iff m term).mpr ((List.le_iff_lt_or_eq.mp hmt).resolve_right hmterm))
          obtain ⟨r, hr, hfl⟩ := ih term (hv term hterm) (by unfold potential; omega)
          rw [if_neg hmterm, hr]
          simp only
          rw [hfl, hm, ht]

theorem findMatches_spec (acc : List Nat → Bool) (nv : List Nat → Except Err (Option (List Nat)))
    (hnv : NextValidSpec acc nv) (lex : List (List Nat)) (hv : ∀ t, t ∈ lex → Valid t)
    (hs : SortedLex lex) :
    findMatches nv lex = .ok (lex.filter acc) := by
  unfold findMatches
  cases lex with
  | nil => rfl
  | cons t0 l =>
    obtain ⟨r, hr, h⟩ := findLoop_spec acc nv hnv (t0 :: l) hv hs _ t0 (hv t0 (List.mem_cons_self ..))
      (potential_lt _ _)
    simp only [List.head?_cons]
    rw [hr]
    simp only
    rw [h, List.filter_eq_self.mpr fun t ht => (lexLe_iff t0 t).mpr (sorted_head_le hs t ht)]

end WM.Lev
