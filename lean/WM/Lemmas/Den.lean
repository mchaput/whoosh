import WM.Spec.Den
import WM.Lemmas.Basics
/-!
The algebra of result lists (`Den`).  Everything is reduced to the pointwise view `lookup L d`, in which the node combinators
are trivial (`optUnion` is that view of `unionWith`), plus extensionality for ascending lists (`den_ext`).  The operators
over one list are `filterMap`s that decide by the id alone (`asc_filterMap_key`, `lookup_filterMap_key`), and so is
`dropBelow` on an ascending list (`dropBelow_eq_filter`); without the order it is a `dropWhile` and takes what core proves of
that.  Of the operators of `WM/Spec/Den.lean` (`sumDens` and `below`, which only the array matchers use, are in `ComboDen`,
with the operators that the model files of `MultiMatcher` and the array matchers define): that each keeps the order (`asc_…`),
and what the cursor proofs of the matcher classes use of it - the pointwise view (`lookup_…`; `shift` and `hi` are used
without one), how it commutes with `dropBelow` (`skip_to`) and what it is on an empty list or on a head entry (`next`).  A
law is named by the left side of its equation: `dropBelow_filter` pushes `dropBelow` into a `filter`, `unionWith_dropBelow` is
about the union of two lists cut by `dropBelow`.  Then the ids of a list (`L.map (·.1)`, what `all_ids()` yields), the order
facts of the `Dominated`/`Keeps` contract of the quality operations (its pointwise reading is `keeps_iff_at` in `KeepsComb`),
`IdSub` (the ids of one list are ids of another), and that a program of `CmdR` commands leaves a suffix of the list it starts
on.  The first lemmas are about plain lists: what the leaf and segment cursors need of `zip`, `drop` and `set`.
-/
namespace WM.Matcher

theorem drop_zip {α β} (l : List α) (l' : List β) (i : Nat) :
    (l.zip l').drop i = (l.drop i).zip (l'.drop i) :=
  List.drop_zipWith ..

theorem drop_of_get {β} {l : List β} {n : Nat} {s : β} (hs : l[n]? = some s) : l.drop n = s :: l.drop (n + 1) :=
  List.drop_eq_getElem?_toList_append.trans (hs ▸ rfl)

theorem drop_set_self {β} {l : List β} {n : Nat} {s x : β} (hs : l[n]? = some s) :
    (l.set n x).drop n = x :: l.drop (n + 1) := by
  have hlt := (List.getElem?_eq_some_iff.1 hs).1
  rw [List.set_eq_take_append_cons_drop, if_pos hlt, List.drop_left' (List.length_take_of_le (Nat.le_of_lt hlt))]

@[simp] theorem lookup_nil (d : Nat) : lookup [] d = none := rfl

theorem lookup_cons (x : Nat) (s : Rat) (L : Den) (d : Nat) :
    lookup ((x, s) :: L) d = if x = d then some s else lookup L d := rfl

@[simp] theorem asc_nil : Asc [] := List.Pairwise.nil

theorem asc_cons {p : Nat × Rat} {L : Den} :
    Asc (p :: L) ↔ (∀ q ∈ L, p.1 < q.1) ∧ Asc L := List.pairwise_cons

theorem Asc.tail {p : Nat × Rat} {L : Den} (h : Asc (p :: L)) : Asc L := (asc_cons.1 h).2

theorem Asc.head_lt {p : Nat × Rat} {L : Den} (h : Asc (p :: L)) : ∀ q ∈ L, p.1 < q.1 :=
  (asc_cons.1 h).1

theorem Asc.lt_of_lt_head {x : Nat} {s : Rat} {L : Den} (h : Asc ((x, s) :: L)) {d : Nat} (hd : d < x) :
    ∀ q ∈ (x, s) :: L, d < q.1 :=
  List.forall_mem_cons.2 ⟨hd, fun q hq => Nat.lt_trans hd (h.head_lt q hq)⟩

theorem Asc.head_le {L : Den} {x : Nat} {r : Rat} {M : Den} (hL : Asc L) (h : L = (x, r) :: M) :
    ∀ p ∈ L, x ≤ p.1 := by
  subst h
  exact List.forall_mem_cons.2 ⟨Nat.le_refl _, fun p hp => Nat.le_of_lt (hL.head_lt p hp)⟩

theorem asc_append {L M : Den} : Asc (L ++ M) ↔ Asc L ∧ Asc M ∧ ∀ a ∈ L, ∀ b ∈ M, a.1 < b.1 :=
  List.pairwise_append

theorem lookup_some_mem {L : Den} {d : Nat} {r : Rat} (h : lookup L d = some r) : (d, r) ∈ L := by
  induction L with
  | nil => simp at h
  | cons p L ih =>
    obtain ⟨x, s⟩ := p
    rw [lookup_cons] at h
    split at h
    · next hx => cases h; subst hx; exact List.mem_cons_self
    · exact List.mem_cons_of_mem _ (ih h)

theorem lookup_eq_none_of_forall_lt {L : Den} {d : Nat} (h : ∀ q ∈ L, d < q.1) : lookup L d = none := by
  induction L with
  | nil => rfl
  | cons p L ih =>
    obtain ⟨x, s⟩ := p
    rw [List.forall_mem_cons] at h
    rw [lookup_cons, if_neg (Nat.ne_of_gt h.1), ih h.2]

theorem lookup_eq_none_of_forall_le_of_lt {L : Den} {d y : Nat} (h : ∀ q ∈ L, y ≤ q.1) (hd : d < y) :
    lookup L d = none :=
  lookup_eq_none_of_forall_lt fun q hq => Nat.lt_of_lt_of_le hd (h q hq)

theorem lookup_eq_none_of_lt_head {L : Den} {d x : Nat} {s : Rat} (h : Asc ((x, s) :: L)) (hd : d < x) :
    lookup ((x, s) :: L) d = none :=
  lookup_eq_none_of_forall_lt (h.lt_of_lt_head hd)

theorem mem_lookup {L : Den} (hL : Asc L) {d : Nat} {r : Rat} (h : (d, r) ∈ L) :
    lookup L d = some r := by
  induction L with
  | nil => simp at h
  | cons p L ih =>
    obtain ⟨x, s⟩ := p
    rw [lookup_cons]
    rcases List.mem_cons.1 h with h | h
    · cases h; simp
    · rw [if_neg (Nat.ne_of_lt (hL.head_lt _ h)), ih hL.tail h]

theorem mem_iff_lookup {L : Den} (hL : Asc L) {d : Nat} {r : Rat} :
    (d, r) ∈ L ↔ lookup L d = some r := ⟨mem_lookup hL, lookup_some_mem⟩

theorem lookup_head (x : Nat) (s : Rat) (L : Den) : lookup ((x, s) :: L) x = some s := by
  simp [lookup_cons]

theorem lookup_tail_of_ne {x : Nat} {s : Rat} {L : Den} {d : Nat} (h : x ≠ d) :
    lookup ((x, s) :: L) d = lookup L d := by simp [lookup_cons, h]

theorem lookup_append (A B : Den) (d : Nat) :
    lookup (A ++ B) d = match lookup A d with | some r => some r | none => lookup B d := by
  induction A with
  | nil => rfl
  | cons p A ih =>
    obtain ⟨x, s⟩ := p
    rw [List.cons_append, lookup_cons, lookup_cons]
    by_cases hx : x = d
    · simp [hx]
    · simp only [hx, ↓reduceIte]; exact ih

theorem den_ext_mem {L₁ L₂ : Den} (h₁ : Asc L₁) (h₂ : Asc L₂) (h : ∀ p, p ∈ L₁ ↔ p ∈ L₂) : L₁ = L₂ :=
  pairwise_ext (fun h => Nat.lt_asymm h) h₁ h₂ h

theorem den_ext {L₁ L₂ : Den} (h₁ : Asc L₁) (h₂ : Asc L₂)
    (h : ∀ d, lookup L₁ d = lookup L₂ d) : L₁ = L₂ :=
  den_ext_mem h₁ h₂ fun p => by rw [mem_iff_lookup h₁, mem_iff_lookup h₂, h]

theorem asc_sublist {L L' : Den} (h : L'.Sublist L) (hL : Asc L) : Asc L' :=
  List.Pairwise.sublist h hL

theorem asc_zip {ids : List Nat} {ws : List Rat} (h : ids.Pairwise (· < ·)) : Asc (ids.zip ws) := by
  induction ids generalizing ws with
  | nil => simp
  | cons x xs ih =>
    cases ws with
    | nil => simp
    | cons w ws =>
      rw [List.zip_cons_cons]
      refine asc_cons.2 ⟨?_, ih (List.Pairwise.of_cons h)⟩
      intro q hq
      have := (List.of_mem_zip hq).1
      exact List.rel_of_pairwise_cons h this

theorem asc_filterMap_key {L : Den} (g : Nat × Rat → Option (Nat × Rat))
    (hg : ∀ p q, g p = some q → q.1 = p.1) (hL : Asc L) : Asc (L.filterMap g) :=
  hL.filterMap g fun p p' h q hq q' hq' => by rw [hg p q hq, hg p' q' hq']; exact h

/-- Whether an entry stays is decided by its id alone (`k x = none`: it goes), so no order is needed: `filter` by
    the id, `map` on the score and `interWith` are the instances. -/
theorem lookup_filterMap_key {g : Nat × Rat → Option (Nat × Rat)} (k : Nat → Option (Rat → Rat))
    (hg : ∀ x s, g (x, s) = (k x).map fun h => (x, h s)) (L : Den) (d : Nat) :
    lookup (L.filterMap g) d = (k d).bind fun h => (lookup L d).map h := by
  induction L with
  | nil => cases k d <;> rfl
  | cons p L ih =>
    obtain ⟨x, s⟩ := p
    rw [List.filterMap_cons, hg]
    by_cases hd : x = d
    · subst hd
      rw [lookup_head]
      cases hk : k x with
      | none => rw [hk] at ih; exact ih
      | some h => exact lookup_head ..
    · rw [lookup_tail_of_ne hd, ← ih]
      cases k x with
      | none => rfl
      | some h => exact lookup_tail_of_ne hd

theorem lookup_filter {A : Den} (p : Nat → Bool) (d : Nat) :
    lookup (A.filter fun e => p e.1) d = if p d then lookup A d else none := by
  rw [← List.filterMap_eq_filter, lookup_filterMap_key (fun x => if p x then some id else none)
    fun x s => by cases hp : p x <;> simp [Option.guard, hp]]
  cases p d <;> cases lookup A d <;> rfl

theorem asc_map_key {L : Den} (g : Nat × Rat → Rat) (hL : Asc L) :
    Asc (L.map fun p => (p.1, g p)) := List.pairwise_map.2 hL

theorem lookup_map_key {L : Den} (g : Nat × Rat → Rat) (d : Nat) :
    lookup (L.map fun p => (p.1, g p)) d = (lookup L d).map fun s => g (d, s) := by
  rw [← List.filterMap_eq_map]
  exact lookup_filterMap_key (fun x => some fun s => g (x, s)) (fun _ _ => rfl) L d

theorem map_key_eq_nil (g : Nat × Rat → Rat) (L : Den) : (L.map fun p => (p.1, g p)) = [] ↔ L = [] := by
  simp

@[simp] theorem dropBelow_nil (t : Nat) : dropBelow t [] = [] := rfl

theorem dropBelow_cons (t x : Nat) (s : Rat) (L : Den) :
    dropBelow t ((x, s) :: L) = if x < t then dropBelow t L else (x, s) :: L := by
  simp only [dropBelow, List.dropWhile_cons, decide_eq_true_eq]

theorem asc_dropBelow {L : Den} (t : Nat) (h : Asc L) : Asc (dropBelow t L) :=
  asc_sublist (List.dropWhile_sublist _) h

theorem dropBelow_eq_filter {L : Den} (hL : Asc L) (t : Nat) :
    dropBelow t L = L.filter fun p => decide (t ≤ p.1) := by
  induction L with
  | nil => rfl
  | cons p L ih =>
    obtain ⟨x, s⟩ := p
    rw [dropBelow_cons, List.filter_cons]
    by_cases hx : x < t
    · rw [if_pos hx, if_neg (by simpa using hx), ih hL.tail]
    · rw [if_neg hx, if_pos (by simpa using hx), List.filter_eq_self.2 fun q hq =>
        decide_eq_true (Nat.le_trans (Nat.le_of_not_lt hx) (Nat.le_of_lt (hL.head_lt q hq)))]

theorem dropBelow_filter {L : Den} (hL : Asc L) (t : Nat) (p : Nat × Rat → Bool) :
    dropBelow t (L.filter p) = (dropBelow t L).filter p := by
  rw [dropBelow_eq_filter hL, dropBelow_eq_filter (asc_sublist List.filter_sublist hL), List.filter_filter,
    List.filter_filter]
  exact List.filter_congr fun _ _ => Bool.and_comm ..

theorem lookup_dropBelow {L : Den} (hL : Asc L) (t d : Nat) :
    lookup (dropBelow t L) d = if d < t then none else lookup L d := by
  rw [dropBelow_eq_filter hL, lookup_filter fun i => decide (t ≤ i)]
  by_cases h : d < t
  · rw [if_pos h, if_neg (by simpa using h)]
  · rw [if_neg h, if_pos (by simpa using h)]

theorem mem_dropBelow_ge {L : Den} (h : Asc L) {t : Nat} {p : Nat × Rat} (hp : p ∈ dropBelow t L) : t ≤ p.1 := by
  rw [dropBelow_eq_filter h] at hp
  exact of_decide_eq_true (List.mem_filter.1 hp).2

theorem dropBelow_dropBelow {L : Den} (hL : Asc L) (t u : Nat) :
    dropBelow t (dropBelow u L) = dropBelow (max t u) L := by
  rw [dropBelow_eq_filter (asc_dropBelow u hL), dropBelow_eq_filter hL, dropBelow_eq_filter hL, List.filter_filter]
  exact List.filter_congr fun p _ => (Bool.decide_and ..).symm.trans (decide_eq_decide.2 Nat.max_le.symm)

theorem dropBelow_map_key (g : Nat × Rat → Rat) (t : Nat) (L : Den) :
    dropBelow t (L.map fun p => (p.1, g p)) = (dropBelow t L).map fun p => (p.1, g p) :=
  List.dropWhile_map

theorem dropBelow_of_le_head {x : Nat} {s : Rat} {L : Den} {t : Nat} (h : t ≤ x) :
    dropBelow t ((x, s) :: L) = (x, s) :: L := by
  rw [dropBelow_cons, if_neg (Nat.not_lt.2 h)]

theorem dropBelow_eq_self {t : Nat} {L : Den} (h : ∀ p ∈ L, t ≤ p.1) : dropBelow t L = L := by
  cases L with
  | nil => rfl
  | cons p L => exact dropBelow_of_le_head (x := p.1) (s := p.2) (h p List.mem_cons_self)

theorem tail_eq_dropBelow {x : Nat} {s : Rat} {L : Den} (h : Asc ((x, s) :: L)) :
    dropBelow (x + 1) ((x, s) :: L) = L := by
  rw [dropBelow_cons, if_pos (Nat.lt_succ_self x)]
  exact dropBelow_eq_self h.head_lt

theorem dropBelow_eq_nil_or (L : Den) (t : Nat) :
    dropBelow t L = [] ∨ ∃ x s L', dropBelow t L = (x, s) :: L' ∧ t ≤ x := by
  induction L with
  | nil => left; rfl
  | cons p L ih =>
    obtain ⟨x, s⟩ := p
    rw [dropBelow_cons]
    by_cases hx : x < t
    · rw [if_pos hx]; exact ih
    · rw [if_neg hx]; right; exact ⟨x, s, L, rfl, Nat.le_of_not_lt hx⟩

theorem dropBelow_ne_of_head_lt {x y : Nat} {r : Rat} {L : Den} (h : x < y) :
    dropBelow y ((x, r) :: L) ≠ (x, r) :: L := by
  intro he
  rcases dropBelow_eq_nil_or ((x, r) :: L) y with h0 | ⟨_, _, _, h1, hle⟩
  · rw [he] at h0; cases h0
  · rw [he] at h1; cases h1; exact Nat.not_le_of_lt h hle

theorem dropBelow_nil_of_lt {L : Den} (t : Nat) : dropBelow t L = [] → ∀ p ∈ L, p.1 < t := by
  induction L with
  | nil => exact fun _ _ hp => nomatch hp
  | cons q L ih =>
    obtain ⟨x, s⟩ := q
    rw [dropBelow_cons]
    split
    · next hx => exact fun h => List.forall_mem_cons.2 ⟨hx, ih h⟩
    · exact fun h => nomatch h

theorem dropBelow_append_of_lt {t : Nat} {P S : Den} (h : ∀ p ∈ P, p.1 < t) :
    dropBelow t (P ++ S) = dropBelow t S :=
  List.dropWhile_append_of_pos fun p hp => decide_eq_true (h p hp)

theorem dropBelow_append_of_ne_nil {t : Nat} {L M : Den} (h : dropBelow t L ≠ []) :
    dropBelow t (L ++ M) = dropBelow t L ++ M :=
  List.dropWhile_append.trans (if_neg (mt List.isEmpty_iff.1 h))

theorem dropBelow_append_of_nil {t : Nat} {L M : Den} (h : dropBelow t L = []) :
    dropBelow t (L ++ M) = dropBelow t M :=
  List.dropWhile_append.trans (if_pos (List.isEmpty_iff.2 h))

theorem dropBelow_append_of_ge {t : Nat} {L M : Den} (h : ∀ b ∈ M, t ≤ b.1) :
    dropBelow t (L ++ M) = dropBelow t L ++ M := by
  by_cases hn : dropBelow t L = []
  · rw [dropBelow_append_of_nil hn, hn, dropBelow_eq_self h]; rfl
  · exact dropBelow_append_of_ne_nil hn

theorem asc_hi {L : Den} (q : Rat) (h : Asc L) : Asc (hi q L) :=
  asc_sublist List.filter_sublist h

theorem mem_hi {L : Den} {q : Rat} {p : Nat × Rat} : p ∈ hi q L ↔ p ∈ L ∧ q < p.2 := by
  simp [hi]

theorem hi_append (q : Rat) (L M : Den) : hi q (L ++ M) = hi q L ++ hi q M :=
  List.filter_append ..

theorem hi_cons (q : Rat) (y : Nat × Rat) (T : Den) :
    hi q (y :: T) = if q < y.2 then y :: hi q T else hi q T := by
  simp [hi, List.filter_cons]

/-- The pointwise meaning of `unionWith`. -/
def optUnion (f : Rat → Rat → Rat) : Option Rat → Option Rat → Option Rat
  | some s, some t => some (f s t)
  | some s, none => some s
  | none, o => o

theorem optUnion_none_right (f : Rat → Rat → Rat) (o : Option Rat) : optUnion f o none = o := by
  cases o <;> rfl

theorem optUnion_comm {f : Rat → Rat → Rat} (hf : ∀ s t, f s t = f t s) (a b : Option Rat) :
    optUnion f a b = optUnion f b a := by
  cases a <;> cases b <;> simp [optUnion, hf]

theorem unionWith_nil_left (f) (B : Den) : unionWith f [] B = B := unionWith.eq_1 f B

theorem unionWith_nil_right (f) (A : Den) : unionWith f A [] = A := by
  cases A <;> (unfold unionWith; rfl)

theorem unionWith_cons (f) (x y : Nat) (s t : Rat) (A B : Den) :
    unionWith f ((x, s) :: A) ((y, t) :: B) =
      if x < y then (x, s) :: unionWith f A ((y, t) :: B)
      else if y < x then (y, t) :: unionWith f ((x, s) :: A) B
      else (x, f s t) :: unionWith f A B :=
  unionWith.eq_3 ..

/-- Every entry of a union comes from the left list, from the right list, or from both with the scores combined: a
    property `Q` of entries holds throughout the union if it follows from what is known of either side (`PA`, `PB`) in
    each of the three cases. -/
theorem forall_unionWith (f) {PA PB Q : Nat × Rat → Prop} {A B : Den} (hA : ∀ p ∈ A, PA p) (hB : ∀ p ∈ B, PB p)
    (hl : ∀ p, PA p → Q p) (hr : ∀ p, PB p → Q p) (hf : ∀ x s t, PA (x, s) → PB (x, t) → Q (x, f s t)) :
    ∀ p ∈ unionWith f A B, Q p := by
  fun_induction unionWith f A B with
  | case1 B => exact fun p hp => hr p (hB p hp)
  | case2 A _ => exact fun p hp => hl p (hA p hp)
  | case3 x s A y t B _ ih =>
    rw [List.forall_mem_cons] at hA ⊢
    exact ⟨hl _ hA.1, ih hA.2 hB⟩
  | case4 x s A y t B _ _ ih =>
    rw [List.forall_mem_cons] at hB ⊢
    exact ⟨hr _ hB.1, ih hA hB.2⟩
  | case5 x s A y t B hxy hyx ih =>
    cases Nat.le_antisymm (Nat.le_of_not_lt hyx) (Nat.le_of_not_lt hxy)
    rw [List.forall_mem_cons] at hA hB ⊢
    exact ⟨hf _ _ _ hA.1 hB.1, ih hA.2 hB.2⟩

theorem unionWith_keys_ge (f) {A B : Den} {k : Nat} (hA : ∀ p ∈ A, k ≤ p.1) (hB : ∀ p ∈ B, k ≤ p.1) :
    ∀ p ∈ unionWith f A B, k ≤ p.1 :=
  forall_unionWith f hA hB (fun _ h => h) (fun _ h => h) fun _ _ _ h _ => h

theorem asc_unionWith (f) {A B : Den} (hA : Asc A) (hB : Asc B) : Asc (unionWith f A B) := by
  fun_induction unionWith f A B with
  | case1 B => exact hB
  | case2 A _ => exact hA
  | case3 x s A y t B hxy ih =>
    exact asc_cons.2 ⟨unionWith_keys_ge f (k := x + 1) hA.head_lt (hB.lt_of_lt_head hxy), ih hA.tail hB⟩
  | case4 x s A y t B _ hyx ih =>
    exact asc_cons.2 ⟨unionWith_keys_ge f (k := y + 1) (hA.lt_of_lt_head hyx) hB.head_lt, ih hA hB.tail⟩
  | case5 x s A y t B hxy hyx ih =>
    cases Nat.le_antisymm (Nat.le_of_not_lt hyx) (Nat.le_of_not_lt hxy)
    exact asc_cons.2 ⟨unionWith_keys_ge f (k := x + 1) hA.head_lt hB.head_lt, ih hA.tail hB.tail⟩

theorem lookup_unionWith (f) {A B : Den} (hA : Asc A) (hB : Asc B) (d : Nat) :
    lookup (unionWith f A B) d = optUnion f (lookup A d) (lookup B d) := by
  fun_induction unionWith f A B with
  | case1 B => rfl
  | case2 A _ => cases lookup A d <;> rfl
  | case3 x s A y t B hxy ih =>
    rw [lookup_cons, lookup_cons x, ih hA.tail hB]
    split
    · next hd => rw [← hd, lookup_eq_none_of_lt_head hB hxy]; rfl
    · rfl
  | case4 x s A y t B _ hyx ih =>
    rw [lookup_cons, lookup_cons y, ih hA hB.tail]
    split
    · next hd => rw [← hd, lookup_eq_none_of_lt_head hA hyx]; rfl
    · rfl
  | case5 x s A y t B hxy hyx ih =>
    cases Nat.le_antisymm (Nat.le_of_not_lt hyx) (Nat.le_of_not_lt hxy)
    rw [lookup_cons, lookup_cons x, lookup_cons x, ih hA.tail hB.tail]
    split <;> rfl

theorem unionWith_comm {f : Rat → Rat → Rat} (hf : ∀ s t, f s t = f t s) {A B : Den} (hA : Asc A) (hB : Asc B) :
    unionWith f A B = unionWith f B A :=
  den_ext (asc_unionWith f hA hB) (asc_unionWith f hB hA) fun d => by
    rw [lookup_unionWith f hA hB, lookup_unionWith f hB hA, optUnion_comm hf]

theorem unionWith_dropBelow (f) {A B : Den} (hA : Asc A) (hB : Asc B) (t : Nat) :
    unionWith f (dropBelow t A) (dropBelow t B) = dropBelow t (unionWith f A B) := by
  apply den_ext (asc_unionWith f (asc_dropBelow t hA) (asc_dropBelow t hB))
    (asc_dropBelow t (asc_unionWith f hA hB))
  intro d
  rw [lookup_unionWith f (asc_dropBelow t hA) (asc_dropBelow t hB), lookup_dropBelow hA,
    lookup_dropBelow hB, lookup_dropBelow (asc_unionWith f hA hB), lookup_unionWith f hA hB]
  by_cases h : d < t <;> simp [h, optUnion]

/-- The head of a union of two non-empty lists, and what `next()` leaves: each side loses its head iff that is the
    smaller id (both on a tie). -/
theorem unionWith_cons_eq (f) (x y : Nat) (s t : Rat) (A B : Den) :
    unionWith f ((x, s) :: A) ((y, t) :: B) =
      (min x y, if x < y then s else if y < x then t else f s t) ::
        unionWith f (if x ≤ y then A else (x, s) :: A) (if y ≤ x then B else (y, t) :: B) := by
  rw [unionWith_cons]
  rcases Nat.lt_trichotomy x y with h | h | h
  · rw [if_pos h, if_pos h, if_pos (Nat.le_of_lt h), if_neg (Nat.not_le_of_lt h), Nat.min_eq_left (Nat.le_of_lt h)]
  · subst h
    rw [if_neg (Nat.lt_irrefl _), if_neg (Nat.lt_irrefl _), if_neg (Nat.lt_irrefl _), if_neg (Nat.lt_irrefl _),
      if_pos (Nat.le_refl _), if_pos (Nat.le_refl _), Nat.min_self]
  · rw [if_neg (Nat.lt_asymm h), if_pos h, if_neg (Nat.lt_asymm h), if_pos h, if_neg (Nat.not_le_of_lt h),
      if_pos (Nat.le_of_lt h), Nat.min_eq_right (Nat.le_of_lt h)]

theorem interWith_nil_left (f) (B : Den) : interWith f [] B = [] := rfl

theorem interWith_nil_right (f) (A : Den) : interWith f A [] = [] :=
  List.filterMap_eq_nil_iff.2 fun _ _ => rfl

theorem mem_interWith {f : Rat → Rat → Rat} {A B : Den} {p : Nat × Rat} :
    p ∈ interWith f A B ↔ ∃ a ∈ A, ∃ t, lookup B a.1 = some t ∧ p = (a.1, f a.2 t) := by
  rw [interWith, List.mem_filterMap]
  refine exists_congr fun a => and_congr_right fun _ => ?_
  cases lookup B a.1 <;> simp [eq_comm]

theorem asc_interWith (f) {A : Den} (B : Den) (hA : Asc A) : Asc (interWith f A B) := by
  apply asc_filterMap_key _ _ hA
  intro p q h
  cases hb : lookup B p.1 <;> simp [hb] at h
  rw [← h]

theorem lookup_interWith (f) {A : Den} (B : Den) (d : Nat) :
    lookup (interWith f A B) d =
      match lookup A d, lookup B d with
      | some s, some t => some (f s t)
      | _, _ => none :=
  (lookup_filterMap_key (fun x => (lookup B x).map fun t s => f s t)
    (fun x _ => by cases lookup B x <;> rfl) A d).trans (by cases lookup A d <;> cases lookup B d <;> rfl)

theorem interWith_comm {f : Rat → Rat → Rat} (hf : ∀ s t, f s t = f t s) {A B : Den} (hA : Asc A) (hB : Asc B) :
    interWith f A B = interWith f B A :=
  den_ext (asc_interWith f B hA) (asc_interWith f A hB) fun d => by
    rw [lookup_interWith, lookup_interWith]
    cases lookup A d <;> cases lookup B d <;> simp only [hf]

theorem interWith_congr_right (f) {A B B' : Den} (h : ∀ p ∈ A, lookup B p.1 = lookup B' p.1) :
    interWith f A B = interWith f A B' :=
  filterMap_congr fun p hp => by rw [h p hp]

theorem interWith_dropBelow_left (f) {A B : Den} {y : Nat} (hA : Asc A) (hB : ∀ p ∈ B, y ≤ p.1) :
    interWith f (dropBelow y A) B = interWith f A B := by
  apply den_ext (asc_interWith f B (asc_dropBelow y hA)) (asc_interWith f B hA)
  intro d
  rw [lookup_interWith f B, lookup_interWith f B, lookup_dropBelow hA]
  by_cases h : d < y
  · rw [if_pos h, lookup_eq_none_of_forall_le_of_lt hB h]
    cases lookup A d <;> rfl
  · rw [if_neg h]

theorem interWith_dropBelow_right (f) {A B : Den} {x : Nat} (hB : Asc B)
    (hA' : ∀ p ∈ A, x ≤ p.1) : interWith f A (dropBelow x B) = interWith f A B :=
  interWith_congr_right f fun p hp => by rw [lookup_dropBelow hB, if_neg (Nat.not_lt.2 (hA' p hp))]

theorem interWith_cons_right (f) {x : Nat} {s : Rat} {La Lb : Den} (h : ∀ p ∈ La, x < p.1) :
    interWith f La ((x, s) :: Lb) = interWith f La Lb :=
  interWith_congr_right f fun p hp => lookup_tail_of_ne (Nat.ne_of_lt (h p hp))

theorem interWith_cons_left (f) {x : Nat} {r : Rat} {La Lb : Den} (h : ∀ p ∈ Lb, x < p.1) :
    interWith f ((x, r) :: La) Lb = interWith f La Lb :=
  List.filterMap_cons_none (by rw [lookup_eq_none_of_forall_lt h]; rfl)

theorem interWith_dropBelow (f) {A B : Den} (hA : Asc A) (hB : Asc B) (t : Nat) :
    interWith f (dropBelow t A) (dropBelow t B) = dropBelow t (interWith f A B) := by
  apply den_ext (asc_interWith f _ (asc_dropBelow t hA)) (asc_dropBelow t (asc_interWith f B hA))
  intro d
  rw [lookup_interWith f _, lookup_dropBelow hA, lookup_dropBelow hB,
    lookup_dropBelow (asc_interWith f B hA), lookup_interWith f B]
  by_cases h : d < t <;> simp [h]

theorem interWith_cons_cons (f) {x : Nat} {r s : Rat} {La Lb : Den} (hA : Asc ((x, r) :: La)) :
    interWith f ((x, r) :: La) ((x, s) :: Lb) = (x, f r s) :: interWith f La Lb := by
  rw [← interWith_cons_right f hA.head_lt (s := s)]
  simp only [interWith, List.filterMap_cons, lookup_head, Option.map_some]

theorem diff_nil_left (B : Den) : diff [] B = [] := rfl

theorem diff_nil_right (A : Den) : diff A [] = A := by
  simp [diff]

theorem asc_diff {A : Den} (B : Den) (hA : Asc A) : Asc (diff A B) :=
  asc_sublist List.filter_sublist hA

theorem lookup_diff {A : Den} (B : Den) (d : Nat) :
    lookup (diff A B) d = if (lookup B d).isNone then lookup A d else none :=
  lookup_filter (fun i => (lookup B i).isNone) d

theorem diff_dropBelow_right {A B : Den} {x : Nat} (hB : Asc B) (hA : ∀ p ∈ A, x ≤ p.1) :
    diff A (dropBelow x B) = diff A B :=
  List.filter_congr fun p hp => by rw [lookup_dropBelow hB, if_neg (Nat.not_lt.2 (hA p hp))]

theorem diff_dropBelow {A B : Den} (hA : Asc A) (hB : Asc B) (t : Nat) :
    diff (dropBelow t A) (dropBelow t B) = dropBelow t (diff A B) :=
  (diff_dropBelow_right hB fun _ => mem_dropBelow_ge hA).trans (dropBelow_filter hA t _).symm

theorem diff_cons_of_absent {x : Nat} {r : Rat} {La B : Den} (h : lookup B x = none) :
    diff ((x, r) :: La) B = (x, r) :: diff La B := by
  simp [diff, h]

theorem diff_cons_of_present {x : Nat} {r s : Rat} {La B : Den} (h : lookup B x = some s) :
    diff ((x, r) :: La) B = diff La B := by
  simp [diff, h]

theorem leftJoin_nil_left (B : Den) : leftJoin [] B = [] := rfl

theorem leftJoin_nil_right (A : Den) : leftJoin A [] = A := by
  induction A with
  | nil => rfl
  | cons p A ih => simp only [leftJoin, List.map_cons, lookup_nil] at ih ⊢; rw [ih]

theorem asc_leftJoin {A : Den} (B : Den) (hA : Asc A) : Asc (leftJoin A B) :=
  asc_map_key _ hA

theorem lookup_leftJoin {A : Den} (B : Den) (d : Nat) :
    lookup (leftJoin A B) d =
      (lookup A d).map fun s => match lookup B d with | some t => s + t | none => s :=
  lookup_map_key _ d

theorem leftJoin_dropBelow (A B : Den) (t : Nat) :
    leftJoin (dropBelow t A) B = dropBelow t (leftJoin A B) :=
  (dropBelow_map_key _ t A).symm

theorem leftJoin_dropBelow_right {A B : Den} {x : Nat} (hB : Asc B) (hA : ∀ p ∈ A, x ≤ p.1) :
    leftJoin A (dropBelow x B) = leftJoin A B :=
  List.map_congr_left fun p hp => by rw [lookup_dropBelow hB, if_neg (Nat.not_lt.2 (hA p hp))]

theorem asc_scale {A : Den} (w : Rat) (hA : Asc A) : Asc (scale w A) := asc_map_key _ hA
theorem lookup_scale (w : Rat) (A : Den) (d : Nat) :
    lookup (scale w A) d = (lookup A d).map (· * w) := lookup_map_key _ d

theorem mem_scale {w : Rat} {A : Den} {p : Nat × Rat} : p ∈ scale w A ↔ ∃ q ∈ A, p = (q.1, q.2 * w) := by
  simp [scale, List.mem_map, eq_comm]

theorem asc_constScore {A : Den} (c : Rat) (hA : Asc A) : Asc (constScore c A) := asc_map_key _ hA
theorem lookup_constScore (c : Rat) (A : Den) (d : Nat) :
    lookup (constScore c A) d = (lookup A d).map (fun _ => c) := lookup_map_key _ d

theorem asc_keepIds {A : Den} (S : List Nat) (excl : Bool) (hA : Asc A) : Asc (keepIds S excl A) :=
  asc_sublist List.filter_sublist hA
theorem lookup_keepIds {A : Den} (S : List Nat) (excl : Bool) (d : Nat) :
    lookup (keepIds S excl A) d = if (S.contains d) != excl then lookup A d else none :=
  lookup_filter (fun i => (S.contains i) != excl) d

theorem keepIds_dropBelow (S : List Nat) (excl : Bool) {L : Den} (hL : Asc L) (t : Nat) :
    keepIds S excl (dropBelow t L) = dropBelow t (keepIds S excl L) :=
  (dropBelow_filter hL t _).symm

theorem keepIds_cons (S : List Nat) (excl : Bool) (x : Nat) (r : Rat) (L : Den) :
    keepIds S excl ((x, r) :: L) =
      if (S.contains x != excl) then (x, r) :: keepIds S excl L else keepIds S excl L :=
  List.filter_cons

theorem lookup_const_list (l : List Nat) (w : Rat) (d : Nat) :
    lookup (l.map fun i => (i, w)) d = if d ∈ l then some w else none := by
  induction l with
  | nil => simp
  | cons x l ih =>
    rw [List.map_cons, lookup_cons, ih]
    by_cases h : x = d
    · subst h; simp
    · have : ¬ d = x := fun e => h e.symm
      simp [h, this]

theorem asc_complement (lo limit : Nat) (missing : List Nat) (C : Den) (w : Rat) :
    Asc (complement lo limit missing C w) :=
  List.Pairwise.map _ (fun _ _ hab => hab) (List.Pairwise.filter _ (List.pairwise_lt_range'))

theorem lookup_complement (lo limit : Nat) (missing : List Nat) (C : Den) (w : Rat) (d : Nat) :
    lookup (complement lo limit missing C w) d =
      if lo ≤ d ∧ d < limit ∧ missing.contains d = false ∧ lookup C d = none then some w else none := by
  unfold complement
  rw [lookup_const_list]
  congr 1
  simp only [List.mem_filter, List.mem_range'_1, Bool.and_eq_true, Bool.not_eq_eq_eq_not, Bool.not_true,
    Option.isNone_iff_eq_none, eq_iff_iff, and_assoc]
  exact and_congr_right fun h1 => and_congr_left' (by omega)

theorem complement_step {lo limit : Nat} (h : lo < limit) (missing : List Nat) (C : Den) (w : Rat) :
    complement lo limit missing C w =
      if missing.contains lo = false ∧ lookup C lo = none then (lo, w) :: complement (lo + 1) limit missing C w
      else complement (lo + 1) limit missing C w := by
  unfold complement
  rw [show limit - lo = (limit - (lo + 1)) + 1 by omega, List.range'_succ, List.filter_cons]
  by_cases hc : missing.contains lo = false ∧ lookup C lo = none
  · rw [if_pos hc, if_pos (by rw [hc.1, hc.2]; rfl)]; rfl
  · rw [if_neg hc, if_neg (fun h' => hc (by simpa using h'))]

theorem complement_congr {lo limit : Nat} {missing : List Nat} {C C' : Den} {w : Rat}
    (h : ∀ d, lo ≤ d → (lookup C d = none ↔ lookup C' d = none)) :
    complement lo limit missing C w = complement lo limit missing C' w := by
  unfold complement
  congr 1
  apply List.filter_congr
  intro d hd
  rw [List.mem_range'_1] at hd
  congr 1
  rw [Bool.eq_iff_iff, Option.isNone_iff_eq_none, Option.isNone_iff_eq_none]
  exact h d hd.1

theorem dropBelow_complement (lo limit : Nat) (missing : List Nat) (C : Den) (w : Rat) (t : Nat) :
    dropBelow t (complement lo limit missing C w) = complement (max lo t) limit missing C w := by
  apply den_ext (asc_dropBelow t (asc_complement ..)) (asc_complement ..)
  intro d
  rw [lookup_dropBelow (asc_complement ..), lookup_complement, lookup_complement]
  by_cases h : d < t
  · rw [if_pos h, if_neg fun h' => Nat.not_le_of_lt h (Nat.le_trans (Nat.le_max_right lo t) h'.1)]
  · rw [if_neg h]
    simp only [Nat.max_le, Nat.le_of_not_lt h, and_true]

theorem complement_eq_nil_of_ge {lo limit : Nat} (h : limit ≤ lo) (missing : List Nat) (C : Den) (w : Rat) :
    complement lo limit missing C w = [] := by
  unfold complement
  rw [Nat.sub_eq_zero_of_le h]; rfl

theorem shift_eq_nil (o : Nat) (L : Den) : shift o L = [] ↔ L = [] := by simp [shift]

theorem shift_cons (o x : Nat) (r : Rat) (L : Den) : shift o ((x, r) :: L) = (x + o, r) :: shift o L := rfl

theorem asc_shift (o : Nat) {L : Den} (h : Asc L) : Asc (shift o L) :=
  List.Pairwise.map _ (fun _ _ hab => Nat.add_lt_add_right hab o) h

theorem shift_dropBelow (o t : Nat) (h : o ≤ t) (L : Den) : shift o (dropBelow (t - o) L) = dropBelow t (shift o L) := by
  unfold shift dropBelow
  rw [List.dropWhile_map]
  congr 2
  funext p
  simp only [Function.comp_apply, decide_eq_decide]
  omega

theorem hi_shift (q : Rat) (o : Nat) (L : Den) : hi q (shift o L) = shift o (hi q L) :=
  List.filter_map ..

theorem mem_ids {L : Den} {x : Nat} : x ∈ L.map (·.1) ↔ ∃ r, (x, r) ∈ L := by simp

theorem ids_map_key (g : Nat × Rat → Rat) (L : Den) : (L.map fun p => (p.1, g p)).map (·.1) = L.map (·.1) := by
  rw [List.map_map]; rfl

theorem ids_shift (o : Nat) (L : Den) : (shift o L).map (·.1) = (L.map (·.1)).map (· + o) := by
  rw [shift, List.map_map, List.map_map]; rfl

theorem mem_ids_interWith {f : Rat → Rat → Rat} {A B : Den} (hB : Asc B) {x : Nat} :
    x ∈ (interWith f A B).map (·.1) ↔ x ∈ A.map (·.1) ∧ x ∈ B.map (·.1) := by
  simp only [mem_ids, mem_interWith]
  constructor
  · rintro ⟨_, a, ha, t, hb, he⟩
    cases he
    exact ⟨⟨a.2, ha⟩, t, lookup_some_mem hb⟩
  · rintro ⟨⟨r, hr⟩, t, ht⟩
    exact ⟨f r t, (x, r), hr, t, mem_lookup hB ht, rfl⟩

theorem Dominated.refl (L : Den) : Dominated L L := fun p hp => ⟨p.2, hp, Rat.le_refl⟩

theorem Keeps.refl (q : Rat) (L : Den) : Keeps q L L := ⟨rfl, Dominated.refl L⟩

theorem Dominated.trans {L₁ L₂ L₃ : Den} (h₁ : Dominated L₁ L₂) (h₂ : Dominated L₂ L₃) :
    Dominated L₁ L₃ := by
  intro p hp
  obtain ⟨r, hr, hle⟩ := h₁ p hp
  obtain ⟨r', hr', hle'⟩ := h₂ (p.1, r) hr
  exact ⟨r', hr', Rat.le_trans hle hle'⟩

theorem Keeps.trans {q : Rat} {L₁ L₂ L₃ : Den} (h₁ : Keeps q L₁ L₂) (h₂ : Keeps q L₂ L₃) :
    Keeps q L₁ L₃ := ⟨h₁.hi_eq.trans h₂.hi_eq, h₁.dom.trans h₂.dom⟩

theorem hi_eq_of_le {q q' : Rat} {L' L : Den} (hq : q' ≤ q) (h : hi q' L' = hi q' L) :
    hi q L' = hi q L := by
  have key (M : Den) : hi q (hi q' M) = hi q M := by
    rw [hi, hi, List.filter_filter]
    exact List.filter_congr fun p _ => by
      by_cases h1 : q < p.2
      · simp [h1, Std.lt_of_le_of_lt hq h1]
      · simp [h1]
  rw [← key L', h, key]

theorem Keeps.mono {q q' : Rat} {L' L : Den} (hq : q' ≤ q) (h : Keeps q' L' L) : Keeps q L' L :=
  ⟨hi_eq_of_le hq h.hi_eq, h.dom⟩

theorem Keeps.of_eq {q : Rat} {L' L : Den} (h : L' = L) : Keeps q L' L := h ▸ Keeps.refl q L

theorem Dominated.shift {o : Nat} {L' L : Den} (h : Dominated L' L) : Dominated (shift o L') (shift o L) := fun p hp => by
  obtain ⟨p', hp', rfl⟩ := List.mem_map.1 hp
  obtain ⟨r, hr, hle⟩ := h p' hp'
  exact ⟨r, List.mem_map.2 ⟨(p'.1, r), hr, rfl⟩, hle⟩

theorem Dominated.append {A' A B' B : Den} (h₁ : Dominated A' A) (h₂ : Dominated B' B) :
    Dominated (A' ++ B') (A ++ B) := fun p hp => by
  rcases List.mem_append.1 hp with hp | hp
  · obtain ⟨r, hr, hle⟩ := h₁ p hp
    exact ⟨r, List.mem_append_left _ hr, hle⟩
  · obtain ⟨r, hr, hle⟩ := h₂ p hp
    exact ⟨r, List.mem_append_right _ hr, hle⟩

theorem Keeps.shift {q : Rat} {o : Nat} {L' L : Den} (h : Keeps q L' L) : Keeps q (shift o L') (shift o L) :=
  ⟨by rw [hi_shift, hi_shift, h.hi_eq], h.dom.shift⟩

theorem Keeps.append {q : Rat} {A' A B' B : Den} (h₁ : Keeps q A' A) (h₂ : Keeps q B' B) :
    Keeps q (A' ++ B') (A ++ B) :=
  ⟨by rw [hi_append, hi_append, h₁.hi_eq, h₂.hi_eq], h₁.dom.append h₂.dom⟩

theorem bounded_of_dominated {b : Rat} {L' L : Den} (d : Dominated L' L) (h : BoundedBy b L) : BoundedBy b L' := by
  intro p hp
  obtain ⟨r, hr, hle⟩ := d p hp
  exact Rat.le_trans hle (h (p.1, r) hr)

theorem dominated_key_ge {L' : Den} {y : Nat} {r : Rat} {L : Den} (hL : Asc ((y, r) :: L))
    (d : Dominated L' ((y, r) :: L)) : ∀ p ∈ L', y ≤ p.1 := by
  intro p hp
  obtain ⟨r', hr', -⟩ := d p hp
  rcases List.mem_cons.1 hr' with e | hm
  · cases e; exact Nat.le_refl _
  · exact Nat.le_of_lt (hL.head_lt (p.1, r') hm)

theorem dominated_cons {x : Nat} {s : Rat} {L L' : Den} (hasc : Asc ((x, s) :: L)) (hasc' : Asc L')
    (hdom : Dominated L' ((x, s) :: L)) :
    ((∀ y ∈ L', y.1 ≠ x) ∧ Dominated L' L) ∨ ∃ s' T, L' = (x, s') :: T ∧ s' ≤ s ∧ Dominated T L := by
  have hlt : ∀ y ∈ L, x < y.1 := fun y hy => List.rel_of_pairwise_cons hasc hy
  have tail : ∀ y ∈ L', x < y.1 → ∃ r, (y.1, r) ∈ L ∧ y.2 ≤ r := by
    intro y hy hxy
    obtain ⟨r, hr, hle⟩ := hdom y hy
    rcases List.mem_cons.mp hr with h | h
    · exact absurd (Prod.mk.inj h).1 (Nat.ne_of_gt hxy)
    · exact ⟨r, h, hle⟩
  cases L' with
  | nil => exact Or.inl ⟨fun _ h => (nomatch h), fun _ h => (nomatch h)⟩
  | cons y T =>
    have hT : ∀ z ∈ T, y.1 < z.1 := fun z hz => List.rel_of_pairwise_cons hasc' hz
    obtain ⟨r, hr, hle⟩ := hdom y List.mem_cons_self
    rcases List.mem_cons.mp hr with h | h
    · obtain ⟨hyx, rfl⟩ := Prod.mk.inj h
      refine Or.inr ⟨y.2, T, by rw [← hyx], hle, fun z hz => tail z (List.mem_cons_of_mem _ hz) ?_⟩
      rw [← hyx]; exact hT z hz
    · have hxy : x < y.1 := hlt (y.1, r) h
      have hall : ∀ z ∈ y :: T, x < z.1 := fun z hz => by
        rcases List.mem_cons.mp hz with rfl | hz
        · exact hxy
        · exact Nat.lt_trans hxy (hT z hz)
      exact Or.inl ⟨fun z hz => Nat.ne_of_gt (hall z hz), fun z hz => tail z hz (hall z hz)⟩

def IdSub (L' L : Den) : Prop := ∀ p ∈ L', ∃ r, (p.1, r) ∈ L

theorem IdSub.refl (L : Den) : IdSub L L := fun p hp => ⟨p.2, hp⟩

theorem IdSub.of_sublist {L' L : Den} (h : L'.Sublist L) : IdSub L' L := fun p hp => ⟨p.2, h.subset hp⟩

theorem IdSub.trans {L₁ L₂ L₃ : Den} (h₁ : IdSub L₁ L₂) (h₂ : IdSub L₂ L₃) : IdSub L₁ L₃ := fun p hp => by
  obtain ⟨r, hr⟩ := h₁ p hp
  exact h₂ (p.1, r) hr

theorem IdSub.of_dominated {L' L : Den} (h : Dominated L' L) : IdSub L' L := fun p hp => by
  obtain ⟨r, hr, -⟩ := h p hp
  exact ⟨r, hr⟩

theorem IdSub.shift {o : Nat} {L' L : Den} (h : IdSub L' L) : IdSub (shift o L') (shift o L) := fun p hp => by
  obtain ⟨p', hp', rfl⟩ := List.mem_map.1 hp
  obtain ⟨r, hr⟩ := h p' hp'
  exact ⟨r, List.mem_map.2 ⟨(p'.1, r), hr, rfl⟩⟩

theorem cmdR_spec_suffix : ∀ (c : CmdR) (L0 L1 : Den), c.spec L0 = some L1 → L1 <:+ L0
  | .next, _ :: _, _, h => Option.some.inj h ▸ List.suffix_cons _ _
  | .skipTo _, _ :: _, _, h => Option.some.inj h ▸ List.dropWhile_suffix _
  | .replace0, _, _, h => Option.some.inj h ▸ List.suffix_refl _
  | .next, [], _, h => nomatch h
  | .skipTo _, [], _, h => nomatch h

theorem runSpecR_suffix : ∀ (prog : List CmdR) (L0 L : Den), runSpecR prog L0 = some L → L <:+ L0
  | [], _, _, h => Option.some.inj h ▸ List.suffix_refl _
  | c :: cs, L0, L, h => by
    obtain ⟨L1, h1, h2⟩ := Option.bind_eq_some_iff.mp h
    exact (runSpecR_suffix cs L1 L h2).trans (cmdR_spec_suffix c L0 L1 h1)

end WM.Matcher
