import WM.Lemmas.FaithfulMulti
import WM.Lemmas.Quality
/-! The quality contract (C12) of `MultiMatcher` over sub-matchers that satisfy it. -/
namespace WM.Matcher

namespace Multi
variable {α : Type} {A : Ops α} {dA fA : α → Den} {WQ W0 : α → Prop}

variable (QA : QFaithful A dA fA WQ W0)
include QA

theorem maxOf_spec (l : List (α × Nat)) (hne : l ≠ []) (hw : ∀ s ∈ l, W0 s.1) :
    Yields (maxOf A l) fun q => BoundedBy q (denOf dA l) ∧ 0 ≤ q := by
  fun_induction maxOf A l with
  | case1 => exact absurd rfl hne
  | case2 s =>
    refine (QA.max s.1 (hw s List.mem_cons_self)).mono fun q hq => ⟨?_, hq.2⟩
    show BoundedBy q (shift s.2 (dA s.1) ++ [])
    rw [List.append_nil]; exact bounded_shift hq.1
  | case3 s ss hss ih =>
    refine (QA.max s.1 (hw s List.mem_cons_self)).bind fun a ha =>
      (ih (by simpa using hss) fun x hx => hw x (List.mem_cons_of_mem _ hx)).bind fun b hb =>
        .ok ⟨fun p hp => ?_, rat_le_max_of_le_right hb.2⟩
    rcases List.mem_append.1 hp with hp | hp
    · exact rat_le_max_of_le_left (bounded_shift ha.1 p hp)
    · exact rat_le_max_of_le_right (hb.1 p hp)

theorem skipQLoop_spec (q : Rat) : ∀ (n : Nat) (m : Multi α) (k : Nat), WF A dA fA WQ m → m.segs.length - m.cur < n →
    Yields (skipQLoop A q n m k) fun out => WF A dA fA WQ out.1 ∧ Keeps q (den dA out.1) (den dA m) ∧
      Advances (ops A) (den dA) (full fA) m out.1 := by
  intro n
  induction n with
  | zero => exact fun _ _ _ hn => absurd hn (Nat.not_lt_zero _)
  | succ n ih =>
    intro m k h hn
    unfold skipQLoop
    rcases head QA.curQ h with ⟨-, hs⟩ | ⟨s, x0, r0, L0, -, hs, hws, h0, -⟩
    · rw [hs]; exact .ok ⟨h, .refl _ _, .refl _ _ _ _⟩
    rw [hs]
    refine (QA.skipQ s.1 q hws (by simp [h0])).bind ?_
    rintro ⟨c, j⟩ ⟨c2, c3, c4⟩
    have g := settle_spec QA.curQ h hs c2 (.of_dominated c3.dom) c4
    have K : Keeps q (den dA (settle A m c s.2)) (den dA m) := by
      rw [g.den_eq, den_of_get hs]
      exact Keeps.append c3.shift (Keeps.refl _ _)
    refine .ite (fun _ => .ok ⟨g.wf, K, g.adv⟩) fun ha => ?_
    exact (ih (settle A m c s.2) (k + j) g.wf (Nat.lt_of_lt_of_le (settle_remaining_lt hs ha) (Nat.le_of_lt_succ hn))).mono
      fun _ i => ⟨i.1, i.2.1.trans K, g.adv.trans i.2.2⟩

theorem qfaithful : QFaithful (ops A) (den dA) (full fA) (WF A dA fA WQ) (WF A dA fA W0) where
  toW0 _ h := h.mono QA.toW0
  cur0 := faithful QA.cur0
  curQ := faithful QA.curQ
  nn m h p hp := by
    obtain ⟨s, hs, hp⟩ := mem_denOf.1 hp
    exact nonNeg_shift (QA.nn s.1 (h.child s (List.mem_of_mem_drop hs))) p hp
  sup m h := by
    show supportsBQ A m = true
    unfold supportsBQ
    rw [List.all_eq_true]
    intro s hs
    exact QA.sup s.1 (h.child s (List.mem_of_mem_drop hs))
  max m h := by
    show ∃ q, maxQuality A m = .ok q ∧ _
    unfold maxQuality
    by_cases ha : isActive m = true
    · simp only [ha, ↓reduceIte]
      have hlt : m.cur < m.segs.length := by simpa [isActive] using ha
      exact maxOf_spec QA (m.segs.drop m.cur) (by simp; omega) fun s hs => h.child s (List.mem_of_mem_drop hs)
    · simp only [ha, Bool.false_eq_true, ↓reduceIte]
      refine ⟨0, rfl, ?_, Rat.le_refl⟩
      have : den dA m = [] := ((faithful QA.cur0).inactive h).1 (by show isActive m = false; simpa using ha)
      rw [this]; intro p hp; cases hp
  block m h := by
    show ∃ q, blockQuality A m = .ok q ∧ _
    unfold blockQuality
    rcases head QA.curQ h with ⟨hd, hs⟩ | ⟨s, x0, r0, L0, hd, hs, hws, h0, -⟩
    · exact ⟨0, by rw [hs], hd ▸ headBounded_nil 0⟩
    · obtain ⟨q, h1, h2⟩ := QA.block s.1 hws
      refine ⟨q, by rw [hs]; exact h1, fun x r L hd' => ?_⟩
      rw [hd] at hd'; cases hd'
      exact h2 x0 r0 L0 h0
  skipQ m q h _ := skipQLoop_spec QA q (m.segs.length - m.cur + 1) m 0 h (by omega)

end Multi

end WM.Matcher
