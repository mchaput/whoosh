import WM.Model.Base85
import WM.Lemmas.SpecIdSet
/-! Base 85 (C20): the alphabet as code points, digit lists as numbers. -/
namespace WM.C20
open WM.Base85
open WM.Spec.IdSet (Sorted sorted_cons_cons)

/-- The one place where the string is evaluated. -/
theorem chars_eq : chars =
    [33, 36, 37, 38, 42, 43, 44, 45, 46, 47, 48, 49, 50, 51, 52, 53, 54, 55, 56, 57, 58, 59, 60, 61,
     62, 63, 64, 65, 66, 67, 68, 69, 70, 71, 72, 73, 74, 75, 76, 77, 78, 79, 80, 81, 82, 83, 84, 85,
     86, 87, 88, 89, 90, 94, 95, 97, 98, 99, 100, 101, 102, 103, 104, 105, 106, 107, 108, 109, 110,
     111, 112, 113, 114, 115, 116, 117, 118, 119, 120, 121, 122, 123, 124, 125, 126] := by
  have h : "!$%&*+,-./0123456789:;<=>?@ABCDEFGHIJKLMNOPQRSTUVWXYZ^_abcdefghijklmnopqrstuvwxyz{|}~".toList =
      ['!', '$', '%', '&', '*', '+', ',', '-', '.', '/', '0', '1', '2', '3', '4', '5', '6', '7', '8', '9',
       ':', ';', '<', '=', '>', '?', '@', 'A', 'B', 'C', 'D', 'E', 'F', 'G', 'H', 'I', 'J', 'K', 'L', 'M',
       'N', 'O', 'P', 'Q', 'R', 'S', 'T', 'U', 'V', 'W', 'X', 'Y', 'Z', '^', '_', 'a', 'b', 'c', 'd', 'e',
       'f', 'g', 'h', 'i', 'j', 'k', 'l', 'm', 'n', 'o', 'p', 'q', 'r', 's', 't', 'u', 'v', 'w', 'x', 'y',
       'z', '{', '|', '}', '~'] := String.toList_ofList
  exact (congrArg (List.map Char.toNat) h).trans (by decide +kernel)

theorem chars_ascending : chars.Pairwise (· < ·) := by
  rw [chars_eq]
  show Sorted _
  simp only [sorted_cons_cons, Nat.reduceLT, true_and]
  exact List.pairwise_singleton ..

theorem chars_length : chars.length = 85 := by rw [chars_eq]; rfl

theorem decChar_getElem {d : Nat} (h : d < chars.length) : decChar chars[d] = some d := by
  unfold decChar
  simp only
  rw [List.Nodup.idxOf_getElem (chars_ascending.imp Nat.ne_of_lt) d h, if_pos h]

theorem digits_lt (n x : Nat) (acc : List Nat) (h : ∀ d ∈ acc, d < 85) : ∀ d ∈ digits n x acc, d < 85 := by
  fun_induction digits n x acc with
  | case1 => exact h
  | case2 n x acc ih =>
    exact ih fun d hd => (List.mem_cons.mp hd).elim (· ▸ Nat.mod_lt _ (by decide)) (h d)

theorem length_digits (n x : Nat) (acc : List Nat) : (digits n x acc).length = n + acc.length := by
  fun_induction digits n x acc with
  | case1 => exact (Nat.zero_add _).symm
  | case2 n x acc ih => rw [ih, List.length_cons]; exact (Nat.succ_add ..).symm

/-- Reading digits back (`acc * 85 + d`, the loop of `from_base85`) undoes the `n` rounds of `to_base85`: they
    stand for `x % 85 ^ n`, shifted in behind what was read before them. -/
theorem foldl_digits (n x : Nat) (acc : List Nat) (v : Nat) :
    (digits n x acc).foldl (fun a d => a * 85 + d) v = acc.foldl (fun a d => a * 85 + d) (v * 85 ^ n + x % 85 ^ n) := by
  fun_induction digits n x acc with
  | case1 => rw [Nat.pow_zero, Nat.mod_one, Nat.mul_one, Nat.add_zero]
  | case2 n x acc ih =>
    rw [ih, List.foldl_cons, Nat.pow_succ', Nat.mod_mul, Nat.mul_left_comm, Nat.add_mul,
      Nat.mul_comm _ 85, Nat.mul_comm _ 85, Nat.add_assoc, Nat.add_comm (x % 85)]

theorem foldlM_decChar_chars : ∀ (ds : List Nat) (acc : Nat), (∀ d ∈ ds, d < 85) →
    ∃ cs, ds.mapM (fun d => chars[d]?) = some cs ∧ cs.length = ds.length ∧
      cs.foldlM (fun a c => (decChar c).map fun d => a * 85 + d) acc
        = some (ds.foldl (fun a d => a * 85 + d) acc)
  | [], acc, _ => ⟨[], rfl, rfl, rfl⟩
  | d :: t, acc, h => by
    have hd : d < chars.length := by rw [chars_length]; exact h d (by simp)
    rcases foldlM_decChar_chars t (acc * 85 + d) (fun x hx => h x (List.mem_cons_of_mem _ hx)) with ⟨cs, h1, h2, h3⟩
    refine ⟨chars[d] :: cs, by simp [List.mapM_cons, List.getElem?_eq_getElem hd, h1], by simp [h2], ?_⟩
    simp only [List.foldlM_cons, decChar_getElem hd, Option.map_some, Option.bind_eq_bind, Option.bind_some,
      List.foldl_cons]
    exact h3

end WM.C20
