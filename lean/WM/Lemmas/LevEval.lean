import WM.Lemmas.LevDP
import WM.Lemmas.LevUtf8
/-! Concrete instances of the C19 statements are checked by evaluation.  Their side conditions are
decidable; the specification distances are defined by well-founded recursion, which the kernel does
not unfold, so they are computed by the DP routine, which `dp_none` proves equal to them. -/
namespace WM.Lev
open WM.Edit

instance (t : List Nat) : Decidable (Valid t) :=
  inferInstanceAs (Decidable (∀ c, c ∈ t → Scalar c))

instance (lex : List (List Nat)) : Decidable (SortedLex lex) :=
  inferInstanceAs (Decidable (lex.Pairwise (· < ·)))

instance (lex : List (List Nat)) : Decidable (SortedBytes lex) :=
  inferInstanceAs (Decidable ((lex.map utf8).Pairwise (· < ·)))

theorem lev_eq_dp (a b : List Nat) : lev a b = (levenshtein a b none).getD 0 := by
  rw [levenshtein, dp_none]; rfl

theorem osa_eq_dp (a b : List Nat) : osa a b = (damerauLevenshtein a b none).getD 0 := by
  rw [damerauLevenshtein, dp_none]; rfl

/-- "`A` holds exactly the members of the lists in `B`": the lexicon of a segment against its
    documents, a merged term list against the segments. -/
instance {α} [DecidableEq α] (A : List α) (B : List (List α)) :
    Decidable (∀ t, t ∈ A ↔ ∃ l, l ∈ B ∧ t ∈ l) :=
  decidable_of_iff (A ⊆ B.flatten ∧ B.flatten ⊆ A) <| by
    simp only [List.subset_def, List.mem_flatten, iff_iff_implies_and_implies, forall_and]

end WM.Lev
