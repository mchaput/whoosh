import WM.Lemmas.ColumnsBytes
import WM.Lemmas.ColumnsRows
/-! `GrowableArray` and the `VarBytesColumn` writer/reader: the writer keeps the rows, their lengths
and offsets; the reader recovers them from the trailer of the file. -/
namespace WM.Columns

/-- Every item fits the array's typecode.  `GrowableArray(allow_longs=False)` widens up to `"I"` and
    raises `OverflowError` beyond: hence the bound 4294967296 = 2^32 on what is appended below. -/
def GArr.WF (a : GArr) : Prop := ∀ x ∈ a.items, x ≤ a.tc.max

theorem TC.max_lt (tc : TC) : tc.max < 256 ^ tc.size := by
  cases tc <;> decide

theorem GArr.WF.lt {a : GArr} (h : a.WF) : ∀ x ∈ a.items, x < 256 ^ a.tc.size :=
  fun x hx => Nat.lt_of_le_of_lt (h x hx) a.tc.max_lt

theorem GArr.wf_init : GArr.WF {} := fun _ hx => nomatch hx

theorem GArr.WF.snoc {a : GArr} (h : a.WF) (tc : TC) (n : Nat) (hn : n ≤ tc.max)
    (hold : a.tc = tc ∨ a.tc.max ≤ n) : GArr.WF { tc := tc, items := a.items ++ [n] } :=
  forall_mem_snoc (fun x hx => hold.elim (fun e => e ▸ h x hx) fun hle =>
    Nat.le_trans (Nat.le_trans (h x hx) hle) hn) hn

theorem GArr.append_ok (a : GArr) (n : Nat) (h : a.WF) (hn : n < 4294967296) :
    Yields (a.append false n) fun a' => a'.items = a.items ++ [n] ∧ a'.WF := by
  unfold GArr.append
  refine .ite (fun h0 => .ok ⟨rfl, h.snoc a.tc n h0 (Or.inl rfl)⟩) fun h0 => ?_
  have hgt : a.tc.max ≤ n := Nat.le_of_lt (Nat.lt_of_not_le h0)
  refine .ite (fun h1 => .ok ⟨rfl, h.snoc .H n (Nat.le_of_lt_succ h1) (Or.inr hgt)⟩) fun _ => ?_
  refine .ite (fun h2 => .ok ⟨rfl, h.snoc .i n (Nat.le_of_lt_succ h2) (Or.inr hgt)⟩) fun _ => ?_
  rw [if_pos hn]
  exact .ok ⟨rfl, h.snoc .I n (Nat.le_of_lt_succ hn) (Or.inr hgt)⟩

theorem GArr.extendRep_ok (a : GArr) (n k : Nat) (h : a.WF) (hn : n < 4294967296) :
    Yields (a.extendRep false n k) fun a' => a'.items = a.items ++ List.replicate k n ∧ a'.WF := by
  induction k generalizing a with
  | zero => exact ⟨a, rfl, (List.append_nil _).symm, h⟩
  | succ k ih =>
    obtain ⟨a1, h1, hi1, hw1⟩ := a.append_ok n h hn
    obtain ⟨a2, h2, hi2, hw2⟩ := ih a1 hw1
    refine ⟨a2, by rw [GArr.extendRep, h1]; exact h2, ?_, hw2⟩
    rw [hi2, hi1, List.replicate_succ, List.append_assoc]
    rfl

theorem flatten_pad (rows : List Bytes) (k : Nat) : (rows ++ List.replicate k []).flatten = rows.flatten := by
  rw [List.flatten_append, List.flatten_replicate_nil, List.append_nil]

/-- The writer invariant: the rows written so far (empty rows for skipped documents). -/
structure VarW.Inv (w : VarW) (rows : List Bytes) : Prop where
  out : w.out = rows.flatten
  lens : w.lengths.items = rows.map List.length
  offs : w.offsets.items = deriveOffsets 0 (rows.map List.length)
  base : w.offsetBase = rows.flatten.length
  wfl : w.lengths.WF
  wfo : w.offsets.WF

theorem VarW.inv_init : VarW.Inv {} [] :=
  ⟨rfl, rfl, rfl, rfl, GArr.wf_init, GArr.wf_init⟩

theorem VarW.fill_inv (w : VarW) (rows : List Bytes) (docnum : Nat) (h : w.Inv rows)
    (hcount : w.count = rows.length) (hsize : rows.flatten.length < 4294967296) :
    Yields (w.fill docnum) fun w' => w'.Inv (rows ++ List.replicate (docnum - rows.length) []) := by
  unfold VarW.fill
  rw [hcount]
  refine .ite (fun _ => ?_) fun hgt => ?_
  · obtain ⟨ls, hl1, hl2, hl3⟩ := w.lengths.extendRep_ok 0 (docnum - rows.length) h.wfl (by decide)
    obtain ⟨os, ho1, ho2, ho3⟩ := w.offsets.extendRep_ok w.offsetBase (docnum - rows.length) h.wfo
      (by rw [h.base]; exact hsize)
    simp only [hl1, ho1]
    refine .ok ⟨?_, ?_, ?_, ?_, hl3, ho3⟩
    · rw [flatten_pad]; exact h.out
    · show ls.items = _
      rw [hl2, h.lens, List.map_append, List.map_replicate]; rfl
    · show os.items = _
      rw [ho2, h.offs, List.map_append, List.map_replicate, List.length_nil,
        deriveOffsets_append, deriveOffsets_replicate_zero, h.base, List.length_flatten, Nat.zero_add]
    · rw [flatten_pad]; exact h.base
  · rw [Nat.sub_eq_zero_of_le (Nat.le_of_not_lt hgt), List.replicate_zero, List.append_nil]
    exact .ok h

theorem VarW.add_inv (w : VarW) (rows : List Bytes) (docnum : Nat) (v : Bytes) (h : w.Inv rows)
    (hcount : w.count = rows.length) (hsize : rows.flatten.length + v.length < 4294967296) :
    Yields (w.add docnum v) fun w' =>
      w'.Inv (rows ++ List.replicate (docnum - rows.length) [] ++ [v]) ∧ w'.count = docnum + 1 := by
  obtain ⟨w1, hf, hi1⟩ := w.fill_inv rows docnum h hcount (Nat.lt_of_le_of_lt (Nat.le_add_right _ _) hsize)
  rw [← flatten_pad rows (docnum - rows.length)] at hsize
  generalize rows ++ List.replicate (docnum - rows.length) [] = rows1 at hi1 hsize ⊢
  obtain ⟨ls, hl1, hl2, hl3⟩ := w1.lengths.append_ok v.length hi1.wfl (Nat.lt_of_le_of_lt (Nat.le_add_left _ _) hsize)
  obtain ⟨os, ho1, ho2, ho3⟩ := w1.offsets.append_ok w1.offsetBase hi1.wfo
    (by rw [hi1.base]; exact Nat.lt_of_le_of_lt (Nat.le_add_right _ _) hsize)
  simp only [VarW.add, hf, hl1, ho1]
  refine .ok ⟨⟨?_, ?_, ?_, ?_, hl3, ho3⟩, rfl⟩
  · show w1.out ++ v = _
    rw [List.flatten_append, List.flatten_singleton, hi1.out]
  · show ls.items = _
    rw [hl2, hi1.lens, List.map_append]; rfl
  · show os.items = _
    rw [ho2, hi1.offs, hi1.base, List.map_append, deriveOffsets_append, List.length_flatten, Nat.zero_add]
    rfl
  · show w1.offsetBase + v.length = _
    rw [hi1.base, List.flatten_append, List.flatten_singleton, List.length_append]

/-- The size of all values.  Every length and offset the writer appends to its `GrowableArray`s is at
    most this, so below 2^32 none overflows. -/
def totalBytes (adds : List (Nat × Bytes)) : Nat := (adds.map (·.2.length)).sum

theorem extendRows_flatten_length (rows : List Bytes) (adds : List (Nat × Bytes)) :
    (extendRows [] rows adds).flatten.length = rows.flatten.length + totalBytes adds := by
  induction adds generalizing rows with
  | nil => rfl
  | cons p rest ih =>
    simp only [extendRows, ih, totalBytes, List.map_cons, List.sum_cons, List.flatten_append,
      List.flatten_replicate_nil, List.append_nil, List.flatten_singleton, List.length_append,
      Nat.add_assoc]

theorem VarW.addAll_inv (adds : List (Nat × Bytes)) (w : VarW) (rows : List Bytes) (h : w.Inv rows)
    (hcount : w.count = rows.length) (hinc : Increasing adds) (hge : ∀ p ∈ adds, rows.length ≤ p.1)
    (hsize : rows.flatten.length + totalBytes adds < 4294967296) :
    Yields (w.addAll adds) fun w' => w'.Inv (extendRows [] rows adds) ∧
      w'.count = (extendRows [] rows adds).length := by
  induction adds generalizing w rows with
  | nil => exact ⟨w, rfl, h, hcount⟩
  | cons p rest ih =>
    obtain ⟨d, v⟩ := p
    have hlen := length_pad_snoc [] v rows d (hge _ List.mem_cons_self)
    obtain ⟨hgt, hinc'⟩ := List.pairwise_cons.mp hinc
    have hsize' := hsize
    rw [← extendRows_flatten_length rows, extendRows, extendRows_flatten_length] at hsize'
    obtain ⟨w1, ha, hi1, hc1⟩ := w.add_inv rows d v h hcount (by
      simp only [totalBytes, List.map_cons, List.sum_cons] at hsize; omega)
    rw [VarW.addAll, ha]
    exact ih w1 _ hi1 (hc1.trans hlen.symm) hinc' (fun q hq => by rw [hlen]; exact hgt q hq) hsize'

theorem TC.ofCode_code' (tc : TC) : TC.ofCode tc.code = some tc := by cases tc <;> rfl
theorem TC.code_ne_88 (tc : TC) : tc.code ≠ 88 := by cases tc <;> decide

theorem getElem?_append_len {α : Type} (xs ys : List α) (k : Nat) :
    (xs ++ ys)[xs.length + k]? = ys[k]? := by
  rw [List.getElem?_append_right (Nat.le_add_right _ _), Nat.add_sub_cancel_left]

theorem unpackArr_drop (sz : Nat) (pre : Bytes) (xs : List Nat) (rest : Bytes) (n : Nat)
    (hn : xs.length = n) (h : ∀ x ∈ xs, x < 256 ^ sz) :
    unpackArr sz n ((pre ++ packArr sz xs ++ rest).drop pre.length) = xs := by
  rw [List.append_assoc, List.drop_left, ← hn, unpackArr_packArr sz xs rest h]

theorem VarR.open_derived (body : Bytes) (lc : TC) (n : Nat) :
    VarR.open (body ++ [lc.code]) n = .ok
      { data := body ++ [lc.code]
        offsets := deriveOffsets 0 (unpackArr lc.size n ((body ++ [lc.code]).drop (body.length - lc.size * n)))
        lengths := unpackArr lc.size n ((body ++ [lc.code]).drop (body.length - lc.size * n))
        hadStoredOffsets := false } := by
  simp only [VarR.open, List.length_append, List.length_singleton, Nat.add_sub_cancel,
    List.getElem?_concat_length, lc.code_ne_88, if_false, TC.ofCode_code']

theorem VarR.open_stored (body : Bytes) (lc oc : TC) (n : Nat) :
    VarR.open (body ++ [lc.code, oc.code, 88]) n = .ok
      { data := body ++ [lc.code, oc.code, 88]
        offsets := unpackArr oc.size n ((body ++ [lc.code, oc.code, 88]).drop (body.length - n * oc.size))
        lengths := unpackArr lc.size n
          ((body ++ [lc.code, oc.code, 88]).drop (body.length - n * oc.size - lc.size * n))
        hadStoredOffsets := true } := by
  have hlen : (body ++ [lc.code, oc.code, 88]).length - 1 = body.length + 2 := by
    rw [List.length_append]; rfl
  have h0 : (body ++ [lc.code, oc.code, 88])[body.length]? = some lc.code :=
    getElem?_append_len body _ 0
  have h1 : (body ++ [lc.code, oc.code, 88])[body.length + 2 - 1]? = some oc.code :=
    getElem?_append_len body _ 1
  have h2 : (body ++ [lc.code, oc.code, 88])[body.length + 2]? = some 88 :=
    getElem?_append_len body _ 2
  simp only [VarR.open, hlen, h0, h1, h2, if_true, Option.bind_eq_bind, Option.bind_some,
    TC.ofCode_code', Nat.add_sub_cancel]

/-- `L`, `O`: the lengths and offsets arrays as the writer's trailer packs them (typecodes `ltc`, `otc`);
    `wo`: whether the offsets were written, otherwise the reader derives them from `L`. -/
theorem VarR.open_layout (flat : Bytes) (ltc otc : TC) (L O : List Nat) (wo : Bool) (n : Nat)
    (hL : L.length = n) (hLw : ∀ x ∈ L, x < 256 ^ ltc.size)
    (hOw : ∀ x ∈ O, x < 256 ^ otc.size) (hOd : O = deriveOffsets 0 L) :
    VarR.open (flat ++ packArr ltc.size L ++ (if wo then packArr otc.size O else [])
        ++ [ltc.code] ++ (if wo then [otc.code, 88] else [])) n
      = .ok { data := flat ++ packArr ltc.size L ++ (if wo then packArr otc.size O else [])
                ++ [ltc.code] ++ (if wo then [otc.code, 88] else [])
              offsets := O, lengths := L, hadStoredOffsets := wo } := by
  have hO : O.length = n := by rw [hOd, deriveOffsets_length, hL]
  have hk : (flat ++ packArr ltc.size L).length - ltc.size * n = flat.length := by
    rw [List.length_append, packArr_length, hL, Nat.add_sub_cancel]
  cases wo with
  | false =>
    simp only [Bool.false_eq_true, if_false, List.append_nil]
    rw [VarR.open_derived, hk, unpackArr_drop ltc.size flat L _ n hL hLw, hOd]
  | true =>
    simp only [if_true]
    have hfile : flat ++ packArr ltc.size L ++ packArr otc.size O ++ [ltc.code] ++ [otc.code, 88]
        = (flat ++ packArr ltc.size L ++ packArr otc.size O) ++ [ltc.code, otc.code, 88] := by
      simp only [List.append_assoc, List.cons_append, List.nil_append]
    have hk' : (flat ++ packArr ltc.size L ++ packArr otc.size O).length - n * otc.size
        = (flat ++ packArr ltc.size L).length := by
      rw [List.length_append, packArr_length, hO, Nat.mul_comm, Nat.add_sub_cancel]
    rw [hfile, VarR.open_stored, hk', hk,
      unpackArr_drop otc.size (flat ++ packArr ltc.size L) O _ n hO hOw,
      List.append_assoc (flat ++ packArr ltc.size L),
      unpackArr_drop ltc.size flat L _ n hL hLw]

theorem varWrite_open (allow : Bool) (cutoff : Nat) (adds : List (Nat × Bytes)) (doccount : Nat)
    (hinc : Increasing adds) (hwithin : Within adds doccount) (hsize : totalBytes adds < 4294967296) :
    ∃ tail so, varWrite allow cutoff adds doccount = .ok ((rowsOf [] adds doccount).flatten ++ tail) ∧
      VarR.open ((rowsOf [] adds doccount).flatten ++ tail) doccount = .ok
        { data := (rowsOf [] adds doccount).flatten ++ tail
          offsets := deriveOffsets 0 ((rowsOf [] adds doccount).map List.length)
          lengths := (rowsOf [] adds doccount).map List.length, hadStoredOffsets := so } := by
  obtain ⟨w1, ha, hi1, hc1⟩ := VarW.addAll_inv adds {} [] VarW.inv_init rfl hinc
    (fun _ _ => Nat.zero_le _) (by rw [List.flatten_nil, List.length_nil, Nat.zero_add]; exact hsize)
  have hrows := extendRows_final ([] : Bytes) adds doccount hinc hwithin
  obtain ⟨w2, hf, hi2⟩ := w1.fill_inv _ doccount hi1 hc1
    (by rw [extendRows_flatten_length, List.flatten_nil, List.length_nil, Nat.zero_add]; exact hsize)
  rw [hrows] at hi2
  have hlen : ((rowsOf ([] : Bytes) adds doccount).map List.length).length = doccount := by
    rw [List.length_map, rowsOf_length]
  have hopen := VarR.open_layout (rowsOf [] adds doccount).flatten w2.lengths.tc w2.offsets.tc _ _
    (allow && decide (doccount > cutoff)) doccount hlen
    (hi2.lens ▸ hi2.wfl.lt) (hi2.offs ▸ hi2.wfo.lt) rfl
  simp only [List.append_assoc] at hopen
  refine ⟨_, _, ?_, hopen⟩
  simp only [varWrite, ha, VarW.finish, hf, hi2.out, hi2.lens, hi2.offs, List.append_assoc]

theorem VarR.get_row (rows : List Bytes) (tail : Bytes) (so : Bool) (d : Nat) (row : Bytes)
    (h : rows[d]? = some row) :
    VarR.get { data := rows.flatten ++ tail, offsets := deriveOffsets 0 (rows.map List.length)
               lengths := rows.map List.length, hadStoredOffsets := so } d = .ok row := by
  have hd : d < (rows.map List.length).length := by
    rw [List.length_map]; exact (List.getElem?_eq_some_iff.mp h).1
  have hs := slice_flatten rows tail d row h
  simp only [VarR.get, List.getElem?_map, h, Option.map_some, deriveOffsets_getElem? 0 _ d hd,
    Nat.zero_add, ← List.map_take]
  cases row with
  | nil => rfl
  | cons a l => exact congrArg Except.ok hs

theorem varIterFrom_flatten (pre : Bytes) (rows : List Bytes) (tail : Bytes) :
    varIterFrom (pre ++ rows.flatten ++ tail) pre.length (rows.map List.length) = rows := by
  induction rows generalizing pre with
  | nil => rfl
  | cons r rs ih =>
    simp only [List.map_cons, varIterFrom, List.flatten_cons]
    congr 1
    · simp [slice, List.append_assoc]
    · have := ih (pre ++ r)
      simp only [List.length_append, List.append_assoc] at this ⊢
      exact this

end WM.Columns
