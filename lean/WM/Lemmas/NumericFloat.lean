import WM.Lemmas.NumericField
/-! Float fields: `prepare_number`, and the range query for any encoding that agrees with
    `float_to_sortable_long` on the admissible patterns. -/
namespace WM.Numeric
open WM.NumericSpec

theorem minMaxFloat_signed : minMaxFloat true = .ok (2 ^ 64 - 1, 2 ^ 63 - 1) := rfl

theorem minMaxFloat_unsigned : minMaxFloat false = .ok (0, 2 ^ 63 - 1) := rfl

theorem fIsNaN_allones : fIsNaN (2 ^ 64 - 1) = true ∧ fIsNaN (2 ^ 63 - 1) = true := by decide

theorem fLt_nan (a b : Nat) (h : fIsNaN a = true ∨ fIsNaN b = true) : fLt a b = false :=
  if_pos (Bool.or_eq_true _ _ ▸ h)

theorem fLt_zero (b : Nat) (hb : b < 2 ^ 63) : fLt b 0 = false := by
  have e : fSign b = 0 := by rw [fSign, Nat.div_eq_of_lt hb]
  unfold fLt
  rw [e]
  -- both signs clear: the magnitudes decide, and none is below 0
  show (if _ then false else if _ then false else decide (fMag b < 0)) = false
  rw [decide_eq_false (Nat.not_lt_zero _), ite_self, ite_self]

/-- All limits but the lower one of an unsigned field are NaN patterns (what `sortable_long_to_float` makes of
    the extreme sortable values), and no comparison with a NaN holds: `prepare_number` rejects exactly what is
    below `+0.0` on an unsigned field. -/
theorem prepareFloat_eq (signed : Bool) (b : Nat) :
    prepareFloat signed b = if !signed && fLt b 0 then .error .valueError else .ok b := by
  have h1 : fLt (2 ^ 63 - 1) b = false := fLt_nan _ b (.inl fIsNaN_allones.2)
  have h2 : fLt b (2 ^ 64 - 1) = false := fLt_nan b _ (.inr fIsNaN_allones.1)
  unfold prepareFloat
  cases signed
  · rw [minMaxFloat_unsigned]
    simp only [bind, Except.bind, h1, Bool.or_false, Bool.not_false, Bool.true_and]
  · rw [minMaxFloat_signed]
    simp only [bind, Except.bind, h1, h2, Bool.or_false, Bool.not_true, Bool.false_and, Bool.false_eq_true,
      if_false]

theorem prepareFloat_signed (b : Nat) : prepareFloat true b = .ok b :=
  prepareFloat_eq true b

theorem prepareFloat_unsigned (b : Nat) (hb : b < 2 ^ 63) : prepareFloat false b = .ok b := by
  rw [prepareFloat_eq, fLt_zero b hb]; rfl

/-- In this and the next two, `P` is the set of admissible 64-bit patterns and `f` what `float_to_sortable_long`
    computes on them: `fsort` on all patterns for a signed field, the identity below `2 ^ 63` for an unsigned one. -/
theorem tieredFloat_eq (signed : Bool) (f : Nat → Int) (P : Nat → Prop) (step : Nat)
    (hf : ∀ b, P b → floatToSortable b signed = .ok (f b)) (start end_ : Option Nat)
    (sx ex : Bool) (hs : ∀ a, start = some a → P a) (he : ∀ b, end_ = some b → P b) :
    tieredFloat signed start end_ step sx ex
      = .ok (tieredSortable 64 (start.map f) (end_.map f) step sx ex) := by
  have hfs := fun a h => hf a (hs a h)
  have hfe := fun a h => hf a (he a h)
  unfold tieredFloat
  cases start <;> cases end_ <;>
    simp [hfs, hfe, bind, Except.bind, pure, Except.pure, Except.map]

theorem compileFloat_eq (signed : Bool) (f : Nat → Int) (P : Nat → Prop) (step : Nat)
    (hf : ∀ b, P b → floatToSortable b signed = .ok (f b))
    (hp : ∀ b, P b → prepareFloat signed b = .ok b) (start end_ : Option Nat)
    (sx ex : Bool) (hs : ∀ a, start = some a → P a) (he : ∀ b, end_ = some b → P b) :
    compileFloat signed step start end_ sx ex
      = compileRanges 8 (tieredSortable 64 (start.map f) (end_.map f) step sx ex) := by
  have ht := tieredFloat_eq signed f P step hf start end_ sx ex hs he
  have hps := fun a h => hp a (hs a h)
  have hpe := fun a h => hp a (he a h)
  unfold compileFloat
  cases start <;> cases end_ <;>
    simp [hps, hpe, ht, bind, Except.bind, pure, Except.pure, Except.map]

theorem range_query_float_enc (signed : Bool) (f : Nat → Int) (P : Nat → Prop) (step : Nat)
    (hf : ∀ b, P b → floatToSortable b signed = .ok (f b))
    (hp : ∀ b, P b → prepareFloat signed b = .ok b)
    (hr : ∀ b, P b → 0 ≤ f b ∧ f b < 2 ^ 64)
    (hlt : ∀ a b, P a → P b → (totalLt a b = true ↔ f a < f b))
    (start end_ : Option Nat) (sx ex : Bool)
    (hs : ∀ a, start = some a → P a) (he : ∀ b, end_ = some b → P b) :
    ∃ subs, compileFloat signed step start end_ sx ex = .ok subs ∧
      Answers 8 step subs f P (inInterval totalLt start end_ sx ex) := by
  rw [compileFloat_eq signed f P step hf hp start end_ sx ex hs he]
  exact range_query_enc totalLt f P 8 step (by decide) (by decide) hr hlt start end_ sx ex hs he

theorem range_query_float_answers (step : Nat) (start end_ : Option Nat) (sx ex : Bool)
    (hs : ∀ a, start = some a → a < 2 ^ 64) (he : ∀ a, end_ = some a → a < 2 ^ 64) :
    ∃ subs, compileFloat true step start end_ sx ex = .ok subs ∧
      Answers 8 step subs fsort (fun b => b < 2 ^ 64) (inInterval totalLt start end_ sx ex) :=
  range_query_float_enc true fsort (fun a => a < 2 ^ 64) step floatToSortable_signed
    (fun b _ => prepareFloat_signed b) fsort_range totalLt_iff_fsort start end_ sx ex hs he

end WM.Numeric
