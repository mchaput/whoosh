import WM.Model.NumPack
import WM.Lemmas.NumLists
import Mathlib.Tactic.Ring
/-! Simple16 (C20): bit packing as arithmetic (`s16pk`), and what the readers need of a word of `_compress`
(`S16Word`). -/
namespace WM.NumPack
open WM.NumLists

/-- the numbers fit the widths of the layout, one by one -/
def s16fits : List Nat → List Nat → Bool
  | _, [] => true
  | [], _ :: _ => false
  | w :: ws, x :: xs => decide (x < 2 ^ w) && s16fits ws xs

/-- the packed low bits as a number: `x₀ + 2^w₀ (x₁ + 2^w₁ (…))` -/
def s16pk : List Nat → List Nat → Nat
  | _, [] => 0
  | [], _ :: _ => 0
  | w :: ws, x :: xs => x + 2 ^ w * s16pk ws xs

theorem s16pk_lt : ∀ (ws xs : List Nat), s16fits ws xs = true → s16pk ws xs < 2 ^ ws.sum
  | ws, [], _ => by
    cases ws <;> simp [s16pk]
  | [], _ :: _, h => by simp [s16fits] at h
  | w :: ws, x :: xs, h => by
    simp only [s16fits, Bool.and_eq_true, decide_eq_true_eq] at h
    simp only [s16pk, List.sum_cons, Nat.pow_add]
    calc x + 2 ^ w * s16pk ws xs < 2 ^ w * (s16pk ws xs + 1) := by rw [Nat.mul_succ]; omega
      _ ≤ 2 ^ w * 2 ^ ws.sum := Nat.mul_le_mul_left _ (s16pk_lt ws xs h.2)

theorem or_shift_eq_add (L x bits : Nat) (hL : L < 2 ^ bits) : L ||| (x <<< bits) = L + 2 ^ bits * x := by
  rw [Nat.or_comm, ← Nat.shiftLeft_add_eq_or_of_lt hL, Nat.shiftLeft_eq, Nat.add_comm, Nat.mul_comm]

/-- the accumulator of the inner loop of `_compress`: what was packed before stays below, whatever
    follows is shifted over it -/
theorem s16pack_acc : ∀ (ws xs : List Nat) (value bits : Nat),
    s16pack ws xs value bits = (s16pack ws xs 0 0).map (value ||| · <<< bits)
  | ws, [], _, _ => by cases ws <;> simp [s16pack]
  | [], _ :: _, _, _ => rfl
  | w :: ws, x :: xs, value, bits => by
    simp only [s16pack]
    split
    · rw [s16pack_acc ws xs, s16pack_acc ws xs (0 ||| _), Option.map_map]
      congr 1
      funext p
      simp [Nat.shiftLeft_or_distrib, Nat.or_assoc, ← Nat.shiftLeft_add, Nat.add_comm]
    · rfl

theorem s16pack_zero : ∀ (ws xs : List Nat),
    s16pack ws xs 0 0 = if s16fits ws xs then some (s16pk ws xs) else none
  | ws, [] => by cases ws <;> rfl
  | [], _ :: _ => rfl
  | w :: ws, x :: xs => by
    simp only [s16pack, s16fits, s16pk, Nat.one_shiftLeft]
    by_cases hx : x < 2 ^ w
    · rw [if_pos hx, s16pack_acc, s16pack_zero ws xs]
      simp only [hx, decide_true, Bool.true_and]
      split
      · simp [or_shift_eq_add x _ w hx]
      · rfl
    · simp [hx]

theorem s16pack_key (ws xs : List Nat) (key : Nat) (hs : ws.sum = 28) :
    s16pack ws xs (key <<< 28) 0 = if s16fits ws xs then some (key * 2 ^ 28 + s16pk ws xs) else none := by
  rw [s16pack_acc, s16pack_zero]
  split
  · next hf =>
    have hlt := s16pk_lt ws xs hf
    rw [hs] at hlt
    simp only [Option.map, Nat.shiftLeft_zero]
    rw [← Nat.shiftLeft_add_eq_or_of_lt hlt, Nat.shiftLeft_eq]
  · rfl

theorem s16mask_eq : ∀ w, w ≤ 32 → 4294967295 >>> (32 - w) = 2 ^ w - 1 := by decide

/-- `H` is whatever stands above the packed fields in the word (the 4-bit layout key); `bits` is how far the
    reader has shifted so far. -/
theorem s16unpack_eq : ∀ (ws xs : List Nat) (value bits H : Nat), s16fits ws xs = true →
    (∀ w ∈ ws, w ≤ 32) → value / 2 ^ bits = s16pk ws xs + 2 ^ ws.sum * H →
    s16unpack ws xs.length value bits = xs
  | ws, [], _, _, _, _, _, _ => by cases ws <;> simp [s16unpack]
  | [], _ :: _, _, _, _, h, _, _ => by simp [s16fits] at h
  | w :: ws, x :: xs, value, bits, H, h, hw, hv => by
    simp only [s16fits, Bool.and_eq_true, decide_eq_true_eq] at h
    simp only [List.length_cons, s16unpack]
    have hw32 : w ≤ 32 := hw w (by simp)
    rw [s16mask_eq w hw32, Nat.and_two_pow_sub_one_eq_mod, Nat.shiftRight_eq_div_pow, hv]
    simp only [s16pk, List.sum_cons]
    have e : x + 2 ^ w * s16pk ws xs + 2 ^ (w + ws.sum) * H
        = x + 2 ^ w * (s16pk ws xs + 2 ^ ws.sum * H) := by rw [Nat.pow_add]; ring
    rw [e, Nat.add_mul_mod_self_left, Nat.mod_eq_of_lt h.1]
    congr 1
    apply s16unpack_eq ws xs value (bits + w) H h.2 (fun w' hw' => hw w' (by simp [hw']))
    rw [Nat.pow_add, ← Nat.div_div_eq_div_mul, hv]
    simp only [s16pk, List.sum_cons]
    rw [e, Nat.add_mul_div_left _ _ (Nat.two_pow_pos _), Nat.div_eq_of_lt h.1, Nat.zero_add]

theorem s16fits_lt : ∀ (ws xs : List Nat), (∀ w ∈ ws, w ≤ 28) → s16fits ws xs = true → ∀ x ∈ xs, x < 2 ^ 28
  | _, [], _, _ => by simp
  | [], _ :: _, _, h => by simp [s16fits] at h
  | w :: ws, x :: xs, hw, h => by
    simp only [s16fits, Bool.and_eq_true, decide_eq_true_eq] at h
    intro y hy
    simp only [List.mem_cons] at hy
    rcases hy with rfl | hy
    · exact Nat.lt_of_lt_of_le h.1 (Nat.pow_le_pow_right (by decide) (hw w (by simp)))
    · exact s16fits_lt ws xs (fun w' hw' => hw w' (by simp [hw'])) h.2 y hy

theorem s16bits_ok : ∀ ws ∈ s16bits, ws.sum = 28 ∧ 0 < ws.length ∧ ∀ w ∈ ws, w ≤ 28 := by decide

theorem ite_lt_eq_min (a b : Nat) : (if a < b then a else b) = min a b := by
  split <;> omega

theorem s16compressFrom_eq (xs : List Nat) : ∀ (tbl : List (List Nat)) (key : Nat),
    s16compressFrom xs key tbl = (tbl.zipIdx key).findSome? fun (ws, k) =>
      (s16pack ws (xs.take (min ws.length xs.length)) (k <<< 28) 0).map (·, min ws.length xs.length)
  | [], _ => rfl
  | ws :: tbl, key => by
    rw [s16compressFrom, ite_lt_eq_min, List.zipIdx_cons, List.findSome?_cons, s16compressFrom_eq xs tbl]
    dsimp only
    cases s16pack ws (xs.take (min ws.length xs.length)) (key <<< 28) 0 <;> rfl

/-- What `_compress` guarantees about the word it returns for `xs`, in the terms the readers use: with
    `ws` the layout the key in the top four bits selects, it took `min(len(ws), len(xs))` numbers,
    at least one, each below 2^28, and unpacking the word by `ws` gives them back. -/
structure S16Word (xs : List Nat) (value num : Nat) : Prop where
  num_eq : num = min (s16bits.getD (value >>> 28) []).length xs.length
  num_pos : 0 < num
  num_le : num ≤ xs.length
  value_lt : value < 4294967296
  wpos : 0 < (s16bits.getD (value >>> 28) []).length
  w28 : ∀ w ∈ s16bits.getD (value >>> 28) [], w ≤ 28
  unpack : s16unpack (s16bits.getD (value >>> 28) []) num value 0 = xs.take num
  taken_lt : ∀ y ∈ xs.take num, y < 2 ^ 28

theorem s16compress_word (xs : List Nat) (value num : Nat) (hne : xs ≠ []) (h : s16compress xs = some (value, num)) :
    S16Word xs value num := by
  rw [s16compress, s16compressFrom_eq] at h
  obtain ⟨⟨ws, key⟩, hmem, hp⟩ := List.exists_of_findSome?_eq_some h
  have hk : s16bits[key]? = some ws := List.mk_mem_zipIdx_iff_getElem?.mp hmem
  have hok := s16bits_ok ws (List.mem_of_getElem? hk)
  dsimp only at hp
  rw [s16pack_key _ _ _ hok.1] at hp
  split at hp
  · next hf =>
    obtain ⟨hv, rfl⟩ := Prod.mk.inj (Option.some.inj hp)
    have hlt := s16pk_lt _ _ hf
    rw [hok.1] at hlt
    have hk16 : key < 16 := (List.getElem?_eq_some_iff.mp hk).1
    have hkey : value >>> 28 = key := by
      rw [← hv, Nat.shiftRight_eq_div_pow, Nat.mul_comm, Nat.mul_add_div (Nat.two_pow_pos _),
        Nat.div_eq_of_lt hlt, Nat.add_zero]
    have hget : s16bits.getD (value >>> 28) [] = ws := by
      rw [hkey, List.getD_eq_getElem?_getD, hk]; rfl
    have hle := Nat.min_le_right ws.length xs.length
    have hu := s16unpack_eq ws _ value 0 key hf (fun w hw => Nat.le_trans (hok.2.2 w hw) (by decide))
      (by rw [hok.1, ← hv]; simp [Nat.mul_comm, Nat.add_comm])
    rw [List.length_take_of_le hle] at hu
    subst hget
    exact ⟨rfl, Nat.lt_min.mpr ⟨hok.2.1, List.length_pos_iff.mpr hne⟩, hle, by omega, hok.2.1, hok.2.2, hu,
      s16fits_lt _ _ hok.2.2 hf⟩
  · cases hp

theorem S16Word.decompress {xs : List Nat} {value num : Nat} (hw : S16Word xs value num) :
    s16decompress value xs.length = xs.take num := by
  rw [s16decompress, ite_lt_eq_min, ← hw.num_eq]
  exact hw.unpack

/-- a first number below 2^28 is always taken by some layout (at the latest by key 15) -/
theorem s16compress_isSome (x : Nat) (t : List Nat) (hx : x < 2 ^ 28) : s16compress (x :: t) ≠ none := by
  intro h
  rw [s16compress, s16compressFrom_eq, List.findSome?_eq_none_iff] at h
  have := h ([28], 15) (by decide)
  simp [s16pack] at this
  have hx' : x < 268435456 := hx
  omega

theorem s16unpack_getElem : ∀ (ws : List Nat) (n value bits i : Nat) (_hn : i < n) (hi : i < ws.length),
    (s16unpack ws n value bits)[i]? =
      some ((value >>> (bits + (ws.take i).sum)) &&& (4294967295 >>> (32 - ws[i])))
  | [], _, _, _, _, _, hi => absurd hi (Nat.not_lt_zero _)
  | _ :: _, 0, _, _, _, hn, _ => absurd hn (Nat.not_lt_zero _)
  | w :: ws, n + 1, value, bits, 0, _, _ => by
    simp only [s16unpack, List.getElem?_cons_zero, List.take_zero, List.sum_nil, Nat.add_zero,
      List.getElem_cons_zero]
  | w :: ws, n + 1, value, bits, i + 1, hn, hi => by
    simp only [s16unpack, List.getElem?_cons_succ, List.take_succ_cons, List.sum_cons, List.getElem_cons_succ]
    rw [s16unpack_getElem ws n value (bits + w) i (Nat.lt_of_succ_lt_succ hn) (Nat.lt_of_succ_lt_succ hi),
      Nat.add_assoc]

theorem S16Word.read {xs : List Nat} {value num : Nat} (hw : S16Word xs value num) (rest : List Nat) :
    s16read xs.length (encodeLE 4 value ++ rest)
      = (s16read (xs.drop num).length rest).map fun (ys, r) => (xs.take num ++ ys, r) := by
  obtain ⟨n, hn⟩ := Nat.exists_eq_succ_of_ne_zero (Nat.pos_iff_ne_zero.mp (Nat.lt_of_lt_of_le hw.num_pos hw.num_le))
  have hd := hw.decompress
  have hle := hw.num_le
  rw [List.length_drop]
  rw [hn] at hd hle ⊢
  have hl := length_encodeLE 4 value
  rw [s16read]
  simp only [List.take_left' hl, List.drop_left' hl, hl, ↓reduceIte, decodeLE_encodeLE 4 value hw.value_lt, hd,
    List.length_take_of_le hw.num_le, hw.num_pos, hle, and_self, ↓reduceDIte]

theorem S16Word.get {xs : List Nat} {value num : Nat} (hw : S16Word xs value num) (rest : List Nat) (i : Nat)
    (hi : i < xs.length) :
    s16get (encodeLE 4 value ++ rest) i = if i < num then some xs[i] else s16get rest (i - num) := by
  have hnum := hw.num_eq
  have hl := length_encodeLE 4 value
  rw [s16get]
  simp only [List.take_left' hl, List.drop_left' hl, hl, ↓reduceIte, decodeLE_encodeLE 4 value hw.value_lt, hw.wpos, and_true]
  by_cases hlt : i < (s16bits.getD (value >>> 28) []).length
  · have hit : i < num := hnum ▸ Nat.lt_min.mpr ⟨hlt, hi⟩
    have hg := s16unpack_getElem _ num value 0 i hit hlt
    rw [hw.unpack, List.getElem?_take_of_lt hit, List.getElem?_eq_getElem hi,
      s16mask_eq _ (Nat.le_trans (hw.w28 _ (List.getElem_mem hlt)) (by decide)), Nat.zero_add] at hg
    rw [dif_neg (Nat.not_le.mpr hlt), if_pos hit, List.getElem?_eq_getElem hlt, hg]
  · have hge := Nat.le_of_not_lt hlt
    rw [Nat.min_eq_left (Nat.le_of_lt (Nat.lt_of_le_of_lt hge hi))] at hnum
    rw [dif_pos hge, if_neg (hnum ▸ hlt), hnum]

theorem s16write_spec (xs : List Nat) (hx : ∀ x ∈ xs, x < 2 ^ 28) :
    ∃ bs, s16write xs = some bs ∧ (∀ rest, s16read xs.length (bs ++ rest) = some (xs, rest)) ∧
      ∀ rest i (hi : i < xs.length), s16get (bs ++ rest) i = some xs[i] := by
  fun_induction s16write xs with
  | case1 => exact ⟨[], rfl, fun _ => by simp [s16read], fun _ _ hi => nomatch hi⟩
  | case2 x t hc => exact absurd hc (s16compress_isSome x t (hx x List.mem_cons_self))
  | case3 x t value taken hc _ _ ih =>
    have hw := s16compress_word (x :: t) value taken (List.cons_ne_nil _ _) hc
    obtain ⟨bs, hbs, hr, hg⟩ := ih fun y hy => hx y (List.mem_of_mem_drop hy)
    refine ⟨encodeLE 4 value ++ bs, by rw [hbs]; rfl, fun rest => ?_, fun rest i hi => ?_⟩
    · rw [List.append_assoc, hw.read, hr]
      simp only [Option.map, List.take_append_drop]
    · rw [List.append_assoc, hw.get _ i hi]
      split
      · rfl
      · next h =>
        have h := Nat.le_of_not_lt h
        rw [hg rest (i - taken) (by rw [List.length_drop]; exact Nat.sub_lt_sub_right h hi), List.getElem_drop]
        congr 2
        exact Nat.add_sub_cancel' h
  | case4 x t value taken hc _ hlt =>
    exact absurd (s16compress_word _ _ _ (List.cons_ne_nil _ _) hc).value_lt hlt
  | case5 x t value taken hc hpos =>
    exact absurd (s16compress_word _ _ _ (List.cons_ne_nil _ _) hc).num_pos hpos

end WM.NumPack
