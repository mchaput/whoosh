import WM.Spec.SearchStats
import WM.Lemmas.SearchSeg
import WM.Lemmas.SearchWF
import WM.Lemmas.ScoringMono
/-! Collection statistics as sums over all documents, hence invariant under re-segmentation.  The shipped rational
weighting models give positive leaf scores and depend only on the multiset of documents. -/
namespace WM.Compile
open WM.Search

theorem allDocs_cons (s : Segment) (rest : Index) : allDocs (s :: rest) = s.docs ++ allDocs rest :=
  List.flatMap_cons

theorem docCount_eq (idx : Index) : (idx.map (·.size)).sum = (allDocs idx).length := by
  induction idx with
  | nil => rfl
  | cons s rest ih =>
    rw [List.map_cons, List.sum_cons, ih, allDocs_cons, List.length_append]; rfl

theorem docFreq_eq (idx : Index) (f : String) (t : Term) :
    (idx.map (fun s => s.docFreq f t)).sum = ((allDocs idx).filter (fun d => d.hasTerm f t)).length := by
  induction idx with
  | nil => rfl
  | cons s rest ih =>
    rw [List.map_cons, List.sum_cons, ih, allDocs_cons, List.filter_append, List.length_append]; rfl

theorem collFreq_eq (idx : Index) (f : String) (t : Term) :
    (idx.map (fun s => s.collFreq f t)).sum = ((allDocs idx).map (fun d => d.weight f t)).sum := by
  induction idx with
  | nil => rfl
  | cons s rest ih =>
    rw [List.map_cons, List.sum_cons, ih, allDocs_cons, List.map_append, List.sum_append]; rfl

theorem fieldLength_eq (idx : Index) (f : String) :
    (idx.map (fun s => s.fieldLength f)).sum =
      ((allDocs idx).map (fun d => WM.LengthByte.approx (d.length f))).sum := by
  induction idx with
  | nil => rfl
  | cons s rest ih =>
    rw [List.map_cons, List.sum_cons, ih, allDocs_cons, List.map_append, List.sum_append]; rfl

theorem termStats_perm {idx idx' : Index} (h : (allDocs idx).Perm (allDocs idx')) (f : String) (t : Term) :
    termStats idx f t = termStats idx' f t := by
  unfold termStats
  rw [docCount_eq, docCount_eq, docFreq_eq, docFreq_eq, collFreq_eq, collFreq_eq, fieldLength_eq, fieldLength_eq,
    h.length_eq, (h.filter _).length_eq, perm_sum_map _ h, (h.map _).sum_nat]

theorem live_eq_range_of_noDeletions {s : Segment} (h : s.deleted = []) : s.live = List.range s.size := by
  unfold Segment.live
  rw [h]
  simp

theorem map_doc_range (s : Segment) : (List.range s.size).map s.doc = s.docs :=
  (map_range_getD s.docs ⟨[]⟩ id).trans (List.map_id _)

theorem liveDocs_eq_allDocs {idx : Index} (h : NoDeletions idx) : liveDocs idx = allDocs idx := by
  unfold liveDocs allDocs
  rw [List.flatMap_def, List.flatMap_def]
  exact congrArg List.flatten (List.map_congr_left fun s hs => by
    rw [live_eq_range_of_noDeletions (h s hs), map_doc_range])

theorem avgFieldLength_pos (st : TermStats) : 0 < avgFieldLength st := by
  unfold avgFieldLength
  generalize hq : (st.fieldLength : Rat) / (if st.docCount = 0 then 1 else (st.docCount : Rat)) = a
  have hn : 0 ≤ a := by
    rw [← hq]
    apply div_nonneg' Rat.natCast_nonneg
    split
    · decide
    · exact Rat.natCast_nonneg
  simp only
  by_cases h0 : a = 0
  · rw [if_pos h0]; decide
  · rw [if_neg h0]; exact Rat.lt_of_le_of_ne hn (Ne.symm h0)

theorem bm25_pos {idf avgfl B K1 tf : Rat} (fl : Nat) (hidf : 0 < idf) (havg : 0 < avgfl) (hB0 : 0 ≤ B)
    (hB1 : B ≤ 1) (hK : 0 ≤ K1) (htf : 0 < tf) : 0 < WM.Matcher.bm25 idf avgfl B K1 tf fl := by
  -- numerator and denominator are `tf` times resp. plus something non-negative
  have hden : 0 < tf + WM.Matcher.bmC avgfl B K1 fl :=
    add_pos_of_pos_of_nonneg htf (WM.Matcher.bmC_nonneg havg hB0 hB1 hK fl)
  have hnum : 0 < tf * (K1 + 1) :=
    Rat.mul_pos htf (Rat.add_comm 1 K1 ▸ add_pos_of_pos_of_nonneg (by decide) hK)
  unfold WM.Matcher.bm25
  rw [Rat.div_def]
  exact Rat.mul_pos hidf (Rat.mul_pos hnum (Rat.inv_pos.2 hden))

/-- hypotheses on a BM25F parameter set: what `scoring.BM25F` is used with -/
structure Bm25Ok (p : Bm25) : Prop where
  idf_pos : ∀ n df, 0 < p.idf n df
  k1 : 0 ≤ p.K1
  b0 : ∀ f, 0 ≤ p.B f
  b1 : ∀ f, p.B f ≤ 1

theorem posLeaf_tfidf {idf : Idf} (hidf : ∀ n df, 0 < idf n df) (idx : Index) {s : Segment}
    (h : wfSegment s = true) : PosLeaf (tfidfLeaf idf idx) s := by
  intro i hi f t ht
  have hw := posLeaf_freq h i hi f t ht
  unfold freqLeaf at hw
  unfold tfidfLeaf WM.Matcher.tfidfScore
  exact Rat.mul_pos hw (hidf _ _)

theorem posLeaf_bm25f {p : Bm25} (hp : Bm25Ok p) (idx : Index) {s : Segment} (h : wfSegment s = true) :
    PosLeaf (bm25fLeaf p idx) s := by
  intro i hi f t ht
  have hw := posLeaf_freq h i hi f t ht
  unfold freqLeaf at hw
  unfold bm25fLeaf
  simp only
  split
  · exact bm25_pos _ (hp.idf_pos _ _) (avgFieldLength_pos _) (hp.b0 f) (hp.b1 f) hp.k1 hw
  · exact hw

theorem bm25fLeaf_perm (p : Bm25) {idx idx' : Index} (h : (allDocs idx).Perm (allDocs idx')) :
    bm25fLeaf p idx = bm25fLeaf p idx' := by
  funext d f t
  simp only [bm25fLeaf, termStats_perm h f t]

theorem tfidfLeaf_perm (idf : Idf) {idx idx' : Index} (h : (allDocs idx).Perm (allDocs idx')) :
    tfidfLeaf idf idx = tfidfLeaf idf idx' := by
  funext d f t
  simp only [tfidfLeaf, termStats_perm h f t]

end WM.Compile
