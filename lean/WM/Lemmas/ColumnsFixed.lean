import WM.Lemmas.ColumnsBytes
import WM.Lemmas.ColumnsRows
/-! Fixed-width columns (`FixedBytesColumn`, `NumericColumn`, `StructColumn`): the writer lays down
rows of one width, defaults elided; the `i < count` shortcut of iteration; `struct` packing of the integer
codes. -/
namespace WM.Columns

/-- The writer invariant: the rows written so far (the default's bytes for skipped documents), each of
    width `k`. -/
structure FixW.Inv (k : Nat) (w : FixW) (rows : List Bytes) : Prop where
  out : w.out = rows.flatten
  count : w.count = rows.length
  width : ∀ r ∈ rows, r.length = k

theorem FixW.inv_init (k : Nat) : FixW.Inv k {} [] := ⟨rfl, rfl, fun _ h => nomatch h⟩

theorem FixW.add_inv (k : Nat) (db : Bytes) (chk : Bool) (hdb : db.length = k) (w : FixW)
    (rows : List Bytes) (h : FixW.Inv k w rows) (d : Nat) (vb : Bytes) (hd : rows.length ≤ d)
    (hvb : vb.length = k) :
    Yields (FixW.add k db chk w d false vb) fun w' =>
      FixW.Inv k w' (rows ++ List.replicate (d - rows.length) db ++ [vb]) := by
  have hout : (if d > w.count then FixW.fill db w d else w).out
      = (rows ++ List.replicate (d - rows.length) db).flatten := by
    by_cases hgt : d > w.count
    · rw [if_pos hgt, FixW.fill, if_pos hgt, h.out, h.count, List.flatten_append]
    · rw [if_neg hgt, h.out, Nat.sub_eq_zero_of_le (h.count ▸ Nat.le_of_not_lt hgt), List.replicate_zero,
        List.append_nil]
  simp only [FixW.add, Bool.false_eq_true, if_false, hvb, bne_self_eq_false, Bool.and_false]
  refine .ok ⟨?_, ?_, ?_⟩
  · rw [hout, List.flatten_append (L₂ := [vb]), List.flatten_singleton]
  · exact (length_pad_snoc db vb rows d hd).symm
  · intro r hr
    simp only [List.mem_append, List.mem_replicate, List.mem_singleton] at hr
    rcases hr with (hr | ⟨_, rfl⟩) | rfl
    · exact h.width r hr
    · exact hdb
    · exact hvb

/-- The adds that are actually written (non-default ones), as `(docnum, bytes)`. -/
def written (adds : List (Nat × Bool × Bytes)) : List (Nat × Bytes) :=
  (adds.filter fun p => !p.2.1).map fun p => (p.1, p.2.2)

theorem mem_written (adds : List (Nat × Bool × Bytes)) (d : Nat) (vb : Bytes) :
    (d, vb) ∈ written adds ↔ (d, false, vb) ∈ adds := by
  simp only [written, List.mem_map, List.mem_filter, Bool.not_eq_true', Prod.mk.injEq]
  constructor
  · rintro ⟨⟨d', isd, vb'⟩, ⟨hm, hf⟩, rfl, rfl⟩
    cases hf; exact hm
  · exact fun hm => ⟨_, ⟨hm, rfl⟩, rfl, rfl⟩

theorem written_increasing (adds : List (Nat × Bool × Bytes)) (h : Increasing adds) :
    Increasing (written adds) :=
  List.pairwise_map.mpr ((List.Pairwise.filter _ h).imp id)

theorem FixW.addAll_inv (k : Nat) (db : Bytes) (chk : Bool) (hdb : db.length = k)
    (adds : List (Nat × Bool × Bytes)) (w : FixW) (rows : List Bytes) (h : FixW.Inv k w rows)
    (hinc : Increasing adds) (hge : ∀ p ∈ adds, rows.length ≤ p.1)
    (hw : ∀ p ∈ adds, p.2.2.length = k) :
    Yields (FixW.addAll k db chk w adds) fun w' => FixW.Inv k w' (extendRows db rows (written adds)) := by
  induction adds generalizing w rows with
  | nil => exact ⟨w, rfl, h⟩
  | cons p rest ih =>
    obtain ⟨d, isd, vb⟩ := p
    obtain ⟨hgt, hinc'⟩ := List.pairwise_cons.mp hinc
    have hd : rows.length ≤ d := hge _ List.mem_cons_self
    have hw' : ∀ q ∈ rest, q.2.2.length = k := fun q hq => hw q (List.mem_cons_of_mem _ hq)
    cases isd with
    | true =>
      exact ih w rows h hinc' (fun q hq => Nat.le_trans hd (Nat.le_of_lt (hgt q hq))) hw'
    | false =>
      obtain ⟨w1, ha, hi1⟩ := FixW.add_inv k db chk hdb w rows h d vb hd (hw _ List.mem_cons_self)
      rw [FixW.addAll, ha]
      exact ih w1 _ hi1 hinc' (fun q hq => by rw [length_pad_snoc db vb rows d hd]; exact hgt q hq) hw'

theorem fixGet_rows (k : Nat) (hk : 0 < k) (db : Bytes) (rows : List Bytes)
    (hw : ∀ r ∈ rows, r.length = k) (d : Nat) :
    fixGet k db rows.flatten d = (rows[d]?).getD db := by
  rw [fixGet, flatten_uniform_length k rows hw, Nat.mul_div_cancel_left _ hk]
  by_cases hd : d ≥ rows.length
  · rw [if_pos hd, List.getElem?_eq_none hd]; rfl
  · have hlt : d < rows.length := Nat.lt_of_not_le hd
    have := slice_uniform k rows [] hw d rows[d] (List.getElem?_eq_getElem hlt)
    rw [List.append_nil] at this
    rw [if_neg hd, this, List.getElem?_eq_getElem hlt]; rfl

theorem fixIter_eq_map {α : Type} (k : Nat) (default : α) (get : Nat → α) (data : Bytes) (doccount : Nat)
    (h : ∀ i, data.length / k ≤ i → get i = default) :
    fixIter k default get data doccount = (List.range doccount).map get := by
  unfold fixIter
  refine List.map_congr_left fun i _ => ?_
  split
  · rfl
  · rename_i hi; exact (h i (Nat.le_of_not_lt hi)).symm

theorem cell_written (db : Bytes) (adds : List (Nat × Bool × Bytes)) (hinc : Increasing adds) (d : Nat) :
    cell db (written adds) d = (match lookup adds d with
      | some (isd, vb) => if isd then db else vb
      | none => db) := by
  have key (vb : Bytes) : lookup (written adds) d = some vb ↔ lookup adds d = some (false, vb) := by
    rw [lookup_eq_some_iff (written_increasing adds hinc), lookup_eq_some_iff hinc, mem_written]
  have hnone (hx : ∀ vb, lookup adds d ≠ some (false, vb)) : lookup (written adds) d = none :=
    Option.eq_none_iff_forall_ne_some.mpr fun vb e => hx vb ((key vb).mp e)
  rw [cell]
  cases h : lookup adds d with
  | none => rw [hnone fun vb e => by rw [h] at e; cases e]; rfl
  | some x =>
    obtain ⟨isd, vb⟩ := x
    cases isd with
    | false => rw [(key vb).mpr h]; rfl
    | true => rw [hnone fun vb' e => by rw [h] at e; cases e]; rfl

theorem NumCode.range (c : NumCode) :
    (c.modulus : Int) = c.hi - c.lo + 1 ∧ c.lo ≤ 0 ∧ 0 ≤ c.hi ∧ (c.signed = false → c.lo = 0) := by
  cases c <;> decide

theorem NumCode.pow_size (c : NumCode) : 256 ^ c.size = c.modulus := by
  cases c <;> decide

theorem NumCode.size_pos (c : NumCode) : 0 < c.size := by cases c <;> decide

theorem NumCode.unpack_be (c : NumCode) (x : Int) (h0 : 0 ≤ x) (hM : x < c.modulus) :
    c.unpack (be c.size x.toNat) = if c.signed ∧ x > c.hi then x - c.modulus else x := by
  have hn : (x.toNat : Int) = x := Int.toNat_of_nonneg h0
  rw [NumCode.unpack, unbe_be _ _ (by rw [c.pow_size, ← Int.ofNat_lt, hn]; exact hM), hn]
  cases c.signed <;> simp

theorem NumCode.pack_spec (c : NumCode) (v : Int) (hr : c.lo ≤ v ∧ v ≤ c.hi) :
    Yields (c.pack v) fun bs => bs.length = c.size ∧ c.unpack bs = v := by
  refine ⟨_, if_pos hr, be_length _ _, ?_⟩
  obtain ⟨hM, hlo, hhi, hu⟩ := c.range
  by_cases hv : v < 0
  · -- two's complement: `v` is stored as `v + modulus`, which lies above `hi`
    have hs : c.signed = true := by
      cases h : c.signed
      · exact absurd (hu h ▸ hr.1) (Int.not_le.mpr hv)
      · rfl
    have hx : c.hi < v + c.modulus := by omega
    rw [if_pos hv, c.unpack_be _ (Int.le_trans hhi (Int.le_of_lt hx)) (by omega), if_pos ⟨hs, hx⟩,
      Int.add_sub_cancel]
  · rw [if_neg hv, c.unpack_be v (Int.not_lt.mp hv) (by omega), if_neg fun h => Int.not_lt.mpr hr.2 h.2]

/-- `NumericColumn.Writer` is the fixed-width writer over the packed values (`g`: what `pack` gives). -/
theorem numWrite_eq (c : NumCode) (default : Int) (g : Int → Bytes) (hdb : c.pack default = .ok (g default))
    (adds : List (Nat × Int)) (w : FixW) (hr : ∀ p ∈ adds, c.pack p.2 = .ok (g p.2)) :
    numWrite c default w adds =
      match FixW.addAll c.size (g default) false w (adds.map fun p => (p.1, decide (p.2 = default), g p.2)) with
      | .ok w' => .ok w'.out
      | .error e => .error e := by
  induction adds generalizing w with
  | nil => rfl
  | cons p rest ih =>
    obtain ⟨d, v⟩ := p
    have hr' : ∀ q ∈ rest, c.pack q.2 = .ok (g q.2) := fun q hq => hr q (List.mem_cons_of_mem _ hq)
    simp only [numWrite, hdb, List.map_cons, FixW.addAll]
    by_cases hv : v = default
    · subst hv
      simp only [if_true, decide_true, FixW.add, if_true]
      exact ih w hr'
    · simp only [hv, if_false, hr (d, v) List.mem_cons_self, decide_false]
      cases hadd : FixW.add c.size (g default) false w d false (g v) with
      | error e => rfl
      | ok w' => exact ih w' hr'

end WM.Columns
