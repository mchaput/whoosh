/-! `Yields x P`: the computation `x` succeeds and its result satisfies `P`.  Code that can raise is
specified once in this form; that it does not raise (`Yields.exists`) and what holds of a result one
already has in hand (`Yields.of_eq`) are read off.  A computation that never raises is used as a total
function through `okOr`; a result in hand goes through a closing `pure` by `bind_pure_ok`. -/
namespace WM

def Yields {ε α} (x : Except ε α) (P : α → Prop) : Prop := ∃ a, x = .ok a ∧ P a

def okOr {ε α} (x : Except ε α) (d : α) : α :=
  match x with
  | .ok a => a
  | .error _ => d

theorem okOr_ok {ε α} (a d : α) : okOr (.ok a : Except ε α) d = a := rfl

theorem okOr_of_eq {ε α} {x : Except ε α} {a d : α} (h : x = .ok a) : okOr x d = a := h ▸ rfl

theorem bind_pure_ok {ε α β : Type} {x : Except ε α} {a : α} (h : x = .ok a) (f : α → β) :
    (do let m ← x; pure (f m)) = .ok (f a) := by rw [h]; rfl

namespace Yields
variable {ε α β : Type _} {x : Except ε α} {P Q : α → Prop}

theorem ok {a : α} (h : P a) : Yields (.ok a : Except ε α) P := ⟨a, rfl, h⟩

theorem of_eq {a : α} (h : Yields x P) (e : x = .ok a) : P a := by
  obtain ⟨_, rfl, ha⟩ := h
  cases e; exact ha

theorem mono (h : Yields x P) (hpq : ∀ a, P a → Q a) : Yields x Q :=
  h.imp fun a ha => ⟨ha.1, hpq a ha.2⟩

theorem «exists» (h : Yields x P) : ∃ a, x = .ok a := h.imp fun _ => And.left

theorem eq_okOr (h : Yields x P) (d : α) : x = .ok (okOr x d) := by
  obtain ⟨a, rfl, _⟩ := h
  rfl

theorem bind {f : α → Except ε β} {R : β → Prop} (hx : Yields x P) (hf : ∀ a, P a → Yields (f a) R) :
    Yields (x.bind f) R := by
  obtain ⟨a, rfl, ha⟩ := hx
  exact hf a ha

theorem map {f : α → β} {R : β → Prop} (hx : Yields x P) (hf : ∀ a, P a → R (f a)) : Yields (x.map f) R := by
  obtain ⟨a, rfl, ha⟩ := hx
  exact .ok (hf a ha)

theorem ite {c : Prop} [Decidable c] {y : Except ε α} (hx : c → Yields x P) (hy : ¬c → Yields y P) :
    Yields (if c then x else y) P := by
  split
  · exact hx ‹_›
  · exact hy ‹_›

theorem mapM {f : α → Except ε β} {R : β → Prop} {l : List α} (h : ∀ x ∈ l, Yields (f x) R) :
    Yields (l.mapM f) (∀ y ∈ ·, R y) := by
  induction l with
  | nil => exact .ok nofun
  | cons a t ih =>
    rw [List.forall_mem_cons] at h
    obtain ⟨y, hy, hq⟩ := h.1
    obtain ⟨ys, hys, hqs⟩ := ih h.2
    exact ⟨y :: ys, by rw [List.mapM_cons, hy, hys]; rfl, List.forall_mem_cons.2 ⟨hq, hqs⟩⟩

end Yields
end WM
