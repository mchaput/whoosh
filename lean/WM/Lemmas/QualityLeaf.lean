import WM.Lemmas.FaithfulLeaf
import WM.Lemmas.Quality
/-! `W3LeafMatcher`: block and term statistics bound the scores when the scorer is monotone (C12 `leaf_bound`). -/
namespace WM.Matcher

/-- the scorer grows with the weight and shrinks with the field length (what
    `WeightLengthScorer.block_quality` silently assumes) -/
def Monotone2 (sc : Rat → Nat → Rat) : Prop := ∀ w w' l l', 0 ≤ w → w ≤ w' → l' ≤ l → sc w l ≤ sc w' l'

namespace LeafM

/-- the stored statistics are true aggregates, the scorer is monotone and non-negative on the postings -/
structure QData (m : LeafM) : Prop where
  blockStats : ∀ B ∈ m.blocks, ∀ p ∈ B.posts, p.weight ≤ B.maxWeight ∧ B.minLength ≤ p.length
  termStats : ∀ B ∈ m.blocks, B.maxWeight ≤ m.termMaxWeight ∧ m.termMinLength ≤ B.minLength
  weightNonneg : ∀ B ∈ m.blocks, 0 ≤ B.maxWeight ∧ ∀ p ∈ B.posts, 0 ≤ p.weight
  mono : Monotone2 m.sc
  nonneg : ∀ B ∈ m.blocks, ∀ p ∈ B.posts, 0 ≤ m.sc p.weight p.length

theorem QData.of_same {m m' : LeafM} (h : Same m m') (d : QData m) : QData m' := by
  obtain ⟨h1, h2, h3, h4⟩ := h
  exact ⟨by rw [h1]; exact d.blockStats, by rw [h1, h3, h4]; exact d.termStats, by rw [h1]; exact d.weightNonneg,
    by rw [h2]; exact d.mono,
    by rw [h1, h2]; exact d.nonneg⟩

theorem mem_den {m : LeafM} {e : Nat × Rat} (h : e ∈ m.den) :
    ∃ B ∈ m.blocks, ∃ p ∈ B.posts, e = entry m.sc p := by
  rw [den_eq_rest] at h
  obtain ⟨p, hp, rfl⟩ := List.mem_map.1 h
  obtain ⟨B, hB, hpB⟩ := List.mem_flatMap.1 ((rest_sublist m).subset hp)
  exact ⟨B, hB, p, hpB, rfl⟩

theorem faithfulQ : Faithful LeafM.ops LeafM.den LeafM.full (fun m => WF m ∧ QData m) :=
  faithful_inv _ (fun _ h => h.1) fun _ _ h hs hw => ⟨hw, h.2.of_same hs⟩

theorem entry_le_block {m : LeafM} (d : QData m) {B : Block} (hB : B ∈ m.blocks) {p : Posting} (hp : p ∈ B.posts) :
    m.sc p.weight p.length ≤ m.sc B.maxWeight B.minLength :=
  d.mono _ _ _ _ ((d.weightNonneg B hB).2 p hp) (d.blockStats B hB p hp).1 (d.blockStats B hB p hp).2

theorem block_le_term {m : LeafM} (d : QData m) {B : Block} (hB : B ∈ m.blocks) :
    m.sc B.maxWeight B.minLength ≤ m.sc m.termMaxWeight m.termMinLength :=
  d.mono _ _ _ _ (d.weightNonneg B hB).1 (d.termStats B hB).1 (d.termStats B hB).2

theorem blockQualityV_eq {m : LeafM} (hb : m.b < m.blocks.length) :
    m.blockQualityV = m.sc (m.blocks[m.b]).maxWeight (m.blocks[m.b]).minLength := by
  simp [blockQualityV, curBlock_eq hb]

theorem qfaithful : QFaithful LeafM.ops LeafM.den LeafM.full (fun m => WF m ∧ QData m) (fun m => WF m ∧ QData m) where
  toW0 _ h := h
  cur0 := faithfulQ
  curQ := faithfulQ
  nn m h := by
    intro e he
    obtain ⟨B, hB, p, hp, rfl⟩ := mem_den he
    exact h.2.nonneg B hB p hp
  sup _ _ := rfl
  max m h := by
    have le_term : ∀ B ∈ m.blocks, ∀ p ∈ B.posts, m.sc p.weight p.length ≤ m.sc m.termMaxWeight m.termMinLength :=
      fun B hB p hp => Rat.le_trans (entry_le_block h.2 hB hp) (block_le_term h.2 hB)
    refine ⟨m.sc m.termMaxWeight m.termMinLength, rfl, fun e he => ?_, ?_⟩
    · obtain ⟨B, hB, p, hp, rfl⟩ := mem_den he
      exact le_term B hB p hp
    · have hb := h.1.2.1
      have hB : m.blocks[m.b] ∈ m.blocks := List.getElem_mem hb
      obtain ⟨p, hp⟩ := List.exists_mem_of_ne_nil _ (h.1.1.nonempty _ hB)
      exact Rat.le_trans (h.2.nonneg _ hB p hp) (le_term _ hB p hp)
  block m h := by
    refine ⟨m.blockQualityV, rfl, ?_⟩
    intro x r L hd
    rw [den_eq_rest] at hd
    rcases head h.1 with ⟨h0, -⟩ | ⟨p, L', hr, -, -⟩
    · rw [h0] at hd; cases hd
    · rw [hr] at hd; cases hd
      rw [blockQualityV_eq h.1.2.1]
      obtain ⟨pp, hpp, hr'⟩ := rest_active h.1 (atend_of_rest_cons hr)
      rw [hr] at hr'; cases hr'
      exact entry_le_block h.2 (List.getElem_mem _) (List.mem_of_getElem? hpp)
  skipQ m q h hne := by
    show Yields (m.skipToQuality q) _
    unfold skipToQuality
    refine .ite (fun _ => .ok ⟨h, .refl _ _, .refl _ _ _ _⟩) fun _ => ?_
    -- the generic block-skipping lemma, with the static data (and the scorer) carried along
    refine (skipBlocksWhile_spec (fun m => decide (m.blockQualityV ≤ q))
      (fun p => m.sc p.weight p.length ≤ q) (fun m' => QData m' ∧ m'.sc = m.sc)
      (fun a b hab hq => ⟨hq.1.of_same hab, hab.2.1.trans hq.2⟩)
      (fun m' hw _ hp hq post hpost => by
        simp only [decide_eq_true_eq] at hp
        rw [blockQualityV_eq hw.2.1] at hp
        rw [← hq.2]
        exact Rat.le_trans (entry_le_block hq.1 (List.getElem_mem _) hpost) hp)
      (m.blocks.length + 1) m h.1 ⟨h.2, rfl⟩ (by unfold blocksLeft; split <;> omega)).mono ?_
    rintro ⟨m', k⟩ ⟨g2, -⟩
    obtain ⟨P, hP, hP'⟩ := g2.split
    have hden : m.den = P.map (entry m.sc) ++ m'.den := by
      rw [den_eq_rest, den_eq_rest, hP, List.map_append, g2.same.2.1]
    refine ⟨⟨g2.wf, h.2.of_same g2.same⟩, ?_, g2.rem_le, fun hne => g2.rem_lt fun e => hne ?_,
      full_of_same g2.same⟩
    · rw [hden]; exact keeps_append_left fun e he => by
        obtain ⟨p, hp, rfl⟩ := List.mem_map.1 he; exact hP' p hp
    · rw [den_eq_rest, den_eq_rest, e, g2.same.2.1]

end LeafM
end WM.Matcher
