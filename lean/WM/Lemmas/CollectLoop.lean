import WM.Model.Collect
/-! The loop of `ScoredCollector.matches`: what its two optimisation phases can do, and an evaluator; before them
    what `allHits`, the exhaustive result the loop is compared with, is segment by segment.

    Proofs about the loop go by `fun_induction matchesLoop`; its cases are the ways an iteration ends:
    1 nothing is pending; 2 the loop breaks after `replace` (outcome `r`); 3 the skip (outcome `s`)
    leaves nothing; 4 the consumer fails on the next posting `p`; 5 it takes `p`, on with `rest`. -/
namespace WM.Collect

variable {σ : Type} (cfg : Cfg) (consume : σ → Nat → Posting → Except Err σ) (minOf : σ → Rat) (off : Nat)

theorem allHits_cons (cfg : Cfg) (final : Nat → Rat → Rat) (s : Seg) (segs : List Seg) :
    allHits cfg final (s :: segs) = s.postings.map (toHit cfg final s.off) ++ allHits cfg final segs := by
  simp [allHits]

theorem allHits_docs (cfg : Cfg) (final : Nat → Rat → Rat) (segs : List Seg) :
    (allHits cfg final segs).map (·.doc) = globalDocs segs := by
  simp only [allHits, globalDocs, List.map_flatMap, List.map_map]
  rfl

theorem allHits_cfg {cfg cfg' : Cfg} (h : cfg.useFinal = cfg'.useFinal) (final : Nat → Rat → Rat) (segs : List Seg) :
    allHits cfg final segs = allHits cfg' final segs := by
  have : toHit cfg final = toHit cfg' final := by
    funext off p; simp only [toHit, h]
  simp only [allHits, this]

/-- The `if replace:` paragraph: only the counter moves, or `replace(replaceThreshold)` is called and
    the loop breaks iff nothing is left pending. -/
theorem replacePhase_cases (selfMin : Rat) (step : Step) (m : List Posting) (lv : Locals) (tr : Trace)
    {r : List Posting × Locals × Trace × Bool} (hr : r = replacePhase cfg selfMin step m lv tr) :
    r.1 = m ∧ r.2.2.1 = tr ∧ r.2.2.2 = false ∧ r.2.1.minscore = lv.minscore ∧
      r.2.1.usequality = lv.usequality ∨
    r.1 = dropMasked (replaceThreshold cfg lv) step.mask m ∧
      r.2.2.1.mayHaveDropped = (tr.mayHaveDropped || replaceThreshold cfg lv != 0) ∧
      r.2.2.2 = r.1.isEmpty ∧
      (r.2.1.minscore = lv.minscore ∨ r.2.1.minscore = selfMin) ∧
      (r.2.1.usequality = lv.usequality ∨ r.2.1.usequality = useBlockQuality cfg step.supports) := by
  subst hr
  unfold replacePhase
  by_cases h1 : (cfg.replace != 0) = true
  · rw [if_pos h1]
    by_cases h2 : (lv.replacecounter == 0 || selfMin != lv.minscore) = true
    · rw [if_pos h2]
      right
      dsimp only
      by_cases h3 : (dropMasked (replaceThreshold cfg lv) step.mask m).isEmpty = true
      · rw [if_pos h3]
        exact ⟨rfl, rfl, h3.symm, Or.inl rfl, Or.inl rfl⟩
      · rw [if_neg h3]
        refine ⟨rfl, rfl, (Bool.eq_false_iff.mpr h3).symm, ?_, Or.inr ?_⟩
        · by_cases h4 : (selfMin != lv.minscore) = true
          · rw [if_pos h4]; exact Or.inr rfl
          · rw [if_neg h4]; exact Or.inl rfl
        · by_cases h4 : (selfMin != lv.minscore) = true
          · rw [if_pos h4]
          · rw [if_neg h4]
    · rw [if_neg h2]; exact Or.inl ⟨rfl, rfl, rfl, rfl, rfl⟩
  · rw [if_neg h1]; exact Or.inl ⟨rfl, rfl, rfl, rfl, rfl⟩

theorem replacePhase_break {cfg : Cfg} {selfMin : Rat} {step : Step} {m : List Posting} {lv : Locals} {tr : Trace}
    (h : (replacePhase cfg selfMin step m lv tr).2.2.2 = true) : (replacePhase cfg selfMin step m lv tr).1 = [] := by
  rcases replacePhase_cases cfg selfMin step m lv tr rfl with ⟨-, -, e, -⟩ | ⟨-, -, e, -⟩ <;> rw [e] at h
  · cases h
  · exact List.isEmpty_iff.mp h

theorem replaceThreshold_cases (lv : Locals) :
    replaceThreshold cfg lv = 0 ∨ replaceThreshold cfg lv = lv.minscore ∧ cfg.useFinal = false := by
  unfold replaceThreshold
  by_cases h : (cfg.useFinal || !lv.supports) = true
  · rw [if_pos h]; exact Or.inl rfl
  · rw [if_neg h]
    simp only [Bool.or_eq_true, not_or, Bool.not_eq_true] at h
    exact Or.inr ⟨rfl, h.1⟩

theorem skipPhase_cases (step : Step) (m : List Posting) (lv : Locals) (tr : Trace) :
    skipPhase step m lv tr = (m, tr) ∨
    lv.usequality = true ∧ lv.minscore ≠ 0 ∧
      (skipPhase step m lv tr).1 = dropMasked lv.minscore step.skipMask (skipDrop lv.minscore step.skip m).1 ∧
      (skipPhase step m lv tr).2.mayHaveDropped = true := by
  unfold skipPhase
  split
  · next h =>
    simp only [Bool.and_eq_true, bne_iff_ne, ne_eq] at h
    exact Or.inr ⟨h.1.1, h.2, rfl, rfl⟩
  · exact Or.inl rfl

/-- `matchesLoop` with the same body, recursing on a bound for the number of pending postings, so that
    the kernel can evaluate concrete runs. They agree when `m.length ≤ n`: no phase lengthens the
    pending list and an iteration consumes a posting. -/
def loopFuel : Nat → List Step → List Posting → Locals → σ → Trace → Except Err (σ × List Step × Trace)
  | 0, sched, _, _, c, tr => .ok (c, sched, tr)
  | n + 1, sched, m, lv, c, tr =>
    if m.isEmpty then .ok (c, sched, tr) else
    let step := sched.headD Step.none
    let r := replacePhase cfg (minOf c) step m lv tr
    if r.2.2.2 then .ok (c, sched.tail, r.2.2.1) else
    let s := skipPhase step r.1 r.2.1 r.2.2.1
    match s.1 with
    | [] => .ok (c, sched.tail, s.2)
    | p :: rest =>
      match consume c off p with
      | .error e => .error e
      | .ok c' => loopFuel n sched.tail rest { r.2.1 with checkquality := nextFlag rest } c' s.2

theorem matchesLoop_eq_loopFuel : ∀ (n : Nat) (sched : List Step) (m : List Posting) (lv : Locals) (c : σ)
    (tr : Trace), m.length ≤ n →
    matchesLoop cfg consume minOf off sched m lv c tr = loopFuel cfg consume minOf off n sched m lv c tr
  | 0, sched, m, lv, c, tr, h => by
    have : m = [] := List.length_eq_zero_iff.mp (Nat.le_zero.mp h)
    subst this
    rw [matchesLoop]; rfl
  | n + 1, sched, m, lv, c, tr, h => by
    rw [matchesLoop, loopFuel]
    by_cases hm : m.isEmpty = true
    · rw [if_pos hm, if_pos hm]
    · rw [if_neg hm, if_neg hm]
      dsimp only
      by_cases hb : (replacePhase cfg (minOf c) (sched.headD Step.none) m lv tr).2.2.2 = true
      · rw [if_pos hb, if_pos hb]
      · rw [if_neg hb, if_neg hb]
        split
        · next hs => simp only [hs]
        · next p rest hs =>
          simp only [hs]
          cases consume c off p with
          | error e => rfl
          | ok c' =>
            refine matchesLoop_eq_loopFuel n _ rest _ _ _ ?_
            have h1 := replacePhase_length_le cfg (minOf c) (sched.headD Step.none) m lv tr
            have h2 := skipPhase_length_le (sched.headD Step.none)
              (replacePhase cfg (minOf c) (sched.headD Step.none) m lv tr).1
              (replacePhase cfg (minOf c) (sched.headD Step.none) m lv tr).2.1
              (replacePhase cfg (minOf c) (sched.headD Step.none) m lv tr).2.2.1
            rw [hs, List.length_cons] at h2
            omega

theorem matchesLoop_eval (sched : List Step) (m : List Posting) (lv : Locals) (c : σ) (tr : Trace) :
    matchesLoop cfg consume minOf off sched m lv c tr = loopFuel cfg consume minOf off m.length sched m lv c tr :=
  matchesLoop_eq_loopFuel cfg consume minOf off m.length sched m lv c tr (Nat.le_refl _)

/-- A concrete search is evaluated by `rw [runSegs_eval]; decide +kernel`. -/
theorem runSegs_eval (segs : List Seg) (sched : List Step) (c : σ) (tr : Trace) :
    runSegs cfg consume minOf segs sched c tr =
      segs.foldlM (fun r s => loopFuel cfg consume minOf s.off s.postings.length r.2.1 s.postings
        { supports := s.supports, minscore := minOf r.1, usequality := useBlockQuality cfg s.supports,
          replacecounter := 0, checkquality := true } r.1 { r.2.2 with supports := s.supports }) (c, sched, tr) := by
  induction segs generalizing sched c tr with
  | nil => rfl
  | cons s segs ih =>
    rw [runSegs, matchesLoop_eval, List.foldlM_cons]
    split
    · next h => rw [h]; rfl
    · next h => rw [h, ih]; rfl

end WM.Collect
