import WM.Lemmas.FSRun
/-! The invariant behind C02: "the newest TOC name is complete and everything it references is
complete", its preservation by every event the commit protocol allows and by a crash, and what
follows along a trace the checker accepts: every prefix is accepted and keeps the invariant
(`chkRun_take`), and the phase reached says whether the rename has happened (`chkRun_phase`). -/
namespace WM.FS

/-- `t` is the committed state of the directory. -/
structure Holds (ix : Name) (fs : FS) (t : Toc) : Prop where
  latest : IsLatest ix fs t.gen
  tocfile : ∃ i, fs.dir (tocName ix t.gen) = some i ∧ (fs.data i).st = .complete ∧
    (fs.data i).toc = some t
  files : ∀ f ∈ t.files, fs.isComplete f = true

theorem holds_iff {ix : Name} {fs : FS} (hwf : WF fs) (t : Toc) :
    Holds ix fs t ↔ readToc ix fs = .ok t ∧ readable fs t = true := by
  rw [readToc_eq_ok_iff, latestGen_eq_some_iff hwf, readable_iff]
  exact ⟨fun h => ⟨⟨h.latest, h.tocfile⟩, h.files⟩, fun h => ⟨h.1.1, h.1.2, h.2⟩⟩

theorem holds_crash {ix : Name} {fs : FS} {t : Toc} (h : Holds ix fs t) (τ : Nat → Nat) :
    Holds ix (crash fs τ) t := by
  have keep : ∀ i, (fs.data i).st = .complete → (crash fs τ).data i = fs.data i := fun i hi =>
    crash_data_of_not_writing fs τ i (by rw [hi]; decide)
  refine ⟨h.latest, ?_, fun f hf => ?_⟩
  · obtain ⟨i, hi, hst, htoc⟩ := h.tocfile
    exact ⟨i, hi, by rw [keep i hst]; exact hst, by rw [keep i hst]; exact htoc⟩
  · obtain ⟨i, hi, hc⟩ := (isComplete_iff fs f).1 (h.files f hf)
    exact (isComplete_iff _ f).2 ⟨i, hi, by rw [keep i hc]; exact hc⟩

theorem consistent_crash {ix : Name} {fs : FS} {t : Toc} (hwf : WF fs) (h : Holds ix fs t)
    (τ : Nat → Nat) : Consistent ix t (crash fs τ) :=
  have hwf' : WF (crash fs τ) := ⟨hwf.support, hwf.range, hwf.inj⟩
  have hr := (holds_iff hwf' t).1 (holds_crash h τ)
  ⟨hr.1, hr.2, crash_noWriting _ τ, hwf'.support, hwf'.range, hwf'.inj⟩

theorem holds_step {ix : Name} {fs : FS} {t : Toc} (hwf : WF fs) (h : Holds ix fs t) (e : Event)
    (hpin : ∀ m, (m = tocName ix t.gen ∨ m ∈ t.files) → ¬ Touches e m)
    (hc : ∀ n, e = .create n → fs.dir n = none)
    (hnew : ∀ n, newName e = some n → tocGen ix n = none) : Holds ix (step fs e) t := by
  obtain ⟨i, hi, hst, htoc⟩ := h.tocfile
  obtain ⟨f1, f2⟩ := step_frame hwf e _ i hi (by rw [hst]; decide) (hpin _ (Or.inl rfl)) hc
  refine ⟨⟨?_, ?_⟩, ⟨i, f1, by rw [f2]; exact hst, by rw [f2]; exact htoc⟩, ?_⟩
  · exact ⟨tocName ix t.gen, by rw [f1]; rfl, tocGen_tocName ix t.gen⟩
  · intro m g' hb hg'
    rcases bound_step fs e m hb with hb' | hcr
    · exact h.latest.2 m g' hb' hg'
    · rw [hnew m hcr] at hg'; cases hg'
  · intro f hf
    exact isComplete_step hwf e f (h.files f hf) (hpin f (Or.inr hf)) hc

/-- The publishing rename: the temp file becomes the newest TOC name (`hgen`: one above the old
    newest), and the rename unbinds only the temp name, which is no file of `new` (`hanew`). -/
theorem holds_rename {ix : Name} {fs : FS} {old new : Toc} (h : Holds ix fs old)
    (hnew : ∀ f ∈ new.files, fs.isComplete f = true) (a : Name)
    (ha : fs.isComplete a = true) (hat : (fs.file? a).bind (·.toc) = some new)
    (hgen : new.gen = old.gen + 1) (hb : fs.dir (tocName ix new.gen) = none)
    (hanew : a ∉ new.files) : Holds ix (step fs (.rename a (tocName ix new.gen))) new := by
  rw [isComplete_iff] at ha
  obtain ⟨i, hi, hst⟩ := ha
  have htoc : (fs.data i).toc = some new := by simpa [FS.file?, hi] using hat
  rw [step_rename_bound hi]
  refine ⟨⟨⟨tocName ix new.gen, by simp, tocGen_tocName ix new.gen⟩, ?_⟩,
    ⟨i, if_pos rfl, hst, htoc⟩, ?_⟩
  · intro m g' hbm hg'
    by_cases hmb : m = tocName ix new.gen
    · rw [hmb, tocGen_tocName] at hg'; cases hg'; exact Nat.le_refl _
    · simp only [if_neg hmb] at hbm
      by_cases hma : m = a
      · rw [if_pos hma] at hbm; cases hbm
      · rw [if_neg hma] at hbm
        have := h.latest.2 m g' hbm hg'
        omega
  · intro f hf
    obtain ⟨j, hj, hjs⟩ := (isComplete_iff _ _).1 (hnew f hf)
    have hfa : f ≠ a := fun h => hanew (h ▸ hf)
    have hfb : f ≠ tocName ix new.gen := by intro h; rw [h, hb] at hj; cases hj
    exact (isComplete_iff _ _).2 ⟨j, by simp only [if_neg hfb, if_neg hfa]; exact hj, hjs⟩

/-- the committed TOC in phase `ph` -/
def curToc (old new : Toc) (ph : Phase) : Toc := if ph = .post then new else old

/-- the names the invariant of phase `ph` rests on: the committed TOC and its files, and, while the
    temp file exists, the files of `new` -/
def Protected (ix : Name) (old new : Toc) (ph : Phase) (m : Name) : Prop :=
  (m = tocName ix (curToc old new ph).gen ∨ m ∈ (curToc old new ph).files) ∨
    (ph = .tmpOpen ∨ ph = .tmpClosed) ∧ m ∈ new.files

/-- `okEvent`, read off case by case: the accepted event, the phase it leads to, and those of the
    checks that the invariant needs (left out: the `isWriting` tests of `write` / `setToc` / `close`,
    the content and phase tests of `setToc`, and that a `delete` between the creation of the temp
    file and the rename spares the temp name). -/
inductive Ok (ix : Name) (old new : Toc) (tmp : Option Name) (c : Chk) : Event → Phase → Prop
  | create (n : Name) : n ∉ c.fs.names → c.fs.dir n = none → tocGen ix n = none →
      Ok ix old new tmp c (.create n) c.phase
  | createTmp (n : Name) : n ∉ c.fs.names → c.fs.dir n = none → tocGen ix n = none →
      some n = tmp → c.phase = .pre → readable c.fs new = true →
      Ok ix old new tmp c (.create n) .tmpOpen
  | write (n : Name) (k : Nat) : Ok ix old new tmp c (.write n k) c.phase
  | setToc (n : Name) (t : Toc) : Ok ix old new tmp c (.setToc n t) c.phase
  | close (n : Name) : Ok ix old new tmp c (.close n) c.phase
  | closeTmp (n : Name) : some n = tmp → c.phase = .tmpOpen →
      Ok ix old new tmp c (.close n) .tmpClosed
  | rename (a : Name) : some a = tmp → c.phase = .tmpClosed → c.fs.isComplete a = true →
      (c.fs.file? a).bind (·.toc) = some new → new.gen = old.gen + 1 →
      c.fs.dir (tocName ix new.gen) = none → tocName ix new.gen ∉ c.fs.names →
      Ok ix old new tmp c (.rename a (tocName ix new.gen)) .post
  | delete (n : Name) : ¬ Protected ix old new c.phase n → Ok ix old new tmp c (.delete n) c.phase
  | other : Ok ix old new tmp c .other c.phase

theorem ok_of_okEvent {ix : Name} {old new : Toc} {tmp : Option Name} {c : Chk} {e : Event}
    {ph : Phase} (h : okEvent ix old new tmp c e = some ph) : Ok ix old new tmp c e ph := by
  revert h
  -- one goal per leaf of `okEvent` that answers `some _`, with the tests passed on the way
  fun_cases okEvent ix old new tmp c e <;> intro h <;> cases h
  · next n hf ht hp =>
    simp only [Bool.or_eq_true, decide_eq_true_eq, not_or, Bool.not_eq_true,
      Option.isSome_eq_false_iff, Option.isNone_iff_eq_none, Bool.and_eq_true] at hf hp
    exact .createTmp n hf.1.1 hf.1.2 hf.2 ht hp.1 hp.2
  · next n hf _ =>
    simp only [Bool.or_eq_true, decide_eq_true_eq, not_or, Bool.not_eq_true,
      Option.isSome_eq_false_iff, Option.isNone_iff_eq_none] at hf
    exact .create n hf.1.1 hf.1.2 hf.2
  · exact .write _ _
  · exact .setToc _ _
  · next n _ ht hp => exact .closeTmp n ht hp
  · exact .close _
  · next a b h =>
    simp only [Bool.and_eq_true, decide_eq_true_eq, Bool.not_eq_true', Option.isSome_eq_false_iff,
      Option.isNone_iff_eq_none, decide_eq_false_iff_not] at h
    obtain ⟨⟨⟨⟨⟨⟨⟨hatmp, hph⟩, hac⟩, hat⟩, hgen⟩, rfl⟩, hbd⟩, hbn⟩ := h
    exact .rename a hatmp hph hac hat hgen hbd hbn
  · next n hp hg =>
    rw [← hp]
    exact .delete n (by simpa [Protected, curToc, hp] using hg)
  · next n hp hg =>
    rw [← hp]
    exact .delete n (by simpa [Protected, curToc, hp] using hg)
  · next n hg hp _ =>
    refine .delete n ?_
    simp only [Bool.or_eq_true, decide_eq_true_eq, not_or] at hg
    rw [Protected, curToc, if_neg hp]
    exact fun h => h.elim (fun h => h.elim hg.1.1.1 hg.1.1.2) fun h => hg.1.2 h.2
  · exact .other

theorem okEvent_delete_protected {ix : Name} {old new : Toc} {tmp : Option Name} {c : Chk} {n : Name}
    (hp : Protected ix old new c.phase n) : okEvent ix old new tmp c (.delete n) = none := by
  cases h : okEvent ix old new tmp c (.delete n) with
  | none => rfl
  | some ph => cases ok_of_okEvent h with | delete _ hn => exact absurd hp hn

theorem Ok.post_iff {ix : Name} {old new : Toc} {tmp : Option Name} {c : Chk} {e : Event}
    {ph : Phase} (h : Ok ix old new tmp c e ph) :
    ph = .post ↔ c.phase = .post ∨ isRename e = true := by
  cases h <;> simp_all [isRename]

theorem Ok.fresh {ix : Name} {old new : Toc} {tmp : Option Name} {c : Chk} {e : Event} {ph : Phase}
    (h : Ok ix old new tmp c e ph) (n : Name) (hn : newName e = some n) : n ∉ c.fs.names := by
  cases h <;> cases hn <;> assumption

/-- The protocol invariant: the TOC of the phase is the committed state; while the temp file
    exists, every file of `new` is already complete and the temp name is none of them. -/
structure Inv (ix : Name) (old new : Toc) (tmp : Option Name) (c : Chk) : Prop where
  wf : WF c.fs
  holds : Holds ix c.fs (curToc old new c.phase)
  mid : (c.phase = .tmpOpen ∨ c.phase = .tmpClosed) →
    (∀ f ∈ new.files, c.fs.isComplete f = true) ∧ ∀ t, some t = tmp → t ∉ new.files
  gen : c.phase = .post → new.gen = old.gen + 1

theorem inv_init {ix : Name} {old new : Toc} {tmp : Option Name} {fs : FS}
    (h : Consistent ix old fs) : Inv ix old new tmp ⟨fs, .pre⟩ :=
  ⟨h.wf, (holds_iff h.wf old).2 ⟨h.toc, h.readable⟩, fun h => h.elim nofun nofun, nofun⟩

theorem Inv.complete {ix : Name} {old new : Toc} {tmp : Option Name} {c : Chk}
    (hinv : Inv ix old new tmp c) {m : Name} (hm : Protected ix old new c.phase m) :
    c.fs.isComplete m = true := by
  rcases hm with (rfl | hm) | ⟨hp, hm⟩
  · exact (isComplete_iff _ _).2 (hinv.holds.tocfile.imp fun i h => ⟨h.1, h.2.1⟩)
  · exact hinv.holds.files m hm
  · exact (hinv.mid hp).1 m hm

theorem inv_frame {ix : Name} {old new : Toc} {tmp : Option Name} {c : Chk}
    (hinv : Inv ix old new tmp c) (e : Event)
    (hnew : ∀ n, newName e = some n → c.fs.dir n = none ∧ tocGen ix n = none)
    (hold : ∀ m, oldName e = some m → ¬ Protected ix old new c.phase m) :
    Inv ix old new tmp ⟨step c.fs e, c.phase⟩ := by
  have hc : ∀ n, e = .create n → c.fs.dir n = none := fun n hn => (hnew n (hn ▸ rfl)).1
  -- a protected name is bound, so the event does not bind it either
  have keep : ∀ m, Protected ix old new c.phase m → ¬ Touches e m := fun m hm ht =>
    ht.elim (fun hn => by
      have := bound_of_isComplete (hinv.complete hm)
      rw [(hnew m hn).1] at this; cases this) fun ho => hold m ho hm
  refine ⟨step_wf hinv.wf e, ?_, fun hp => ?_, hinv.gen⟩
  · exact holds_step hinv.wf hinv.holds e (fun m hm => keep m (.inl hm)) hc fun n hn => (hnew n hn).2
  · obtain ⟨h1, h2⟩ := hinv.mid hp
    exact ⟨fun f hf => isComplete_step hinv.wf e f (h1 f hf) (keep f (.inr ⟨hp, hf⟩)) hc, h2⟩

theorem inv_toPhase {ix : Name} {old new : Toc} {tmp : Option Name} {c : Chk}
    (hinv : Inv ix old new tmp c) {ph : Phase} (hc : c.phase ≠ .post) (hph : ph ≠ .post)
    (hmid : (ph = .tmpOpen ∨ ph = .tmpClosed) →
      (∀ f ∈ new.files, c.fs.isComplete f = true) ∧ ∀ t, some t = tmp → t ∉ new.files) :
    Inv ix old new tmp ⟨c.fs, ph⟩ := by
  refine ⟨hinv.wf, ?_, hmid, fun h => absurd h hph⟩
  have := hinv.holds
  rw [curToc, if_neg hc] at this
  rwa [curToc, if_neg hph]

theorem inv_step {ix : Name} {old new : Toc} {tmp : Option Name} {c : Chk} {e : Event} {ph : Phase}
    (hinv : Inv ix old new tmp c) (hok : Ok ix old new tmp c e ph) :
    Inv ix old new tmp ⟨step c.fs e, ph⟩ := by
  cases hok with
  | create n _ hdir htg => exact inv_frame hinv _ (fun m hm => by cases hm; exact ⟨hdir, htg⟩) nofun
  | createTmp n _ hdir htg htmp hpre hrd =>
    refine inv_frame (inv_toPhase hinv (ph := .tmpOpen) (by rw [hpre]; nofun) nofun fun _ => ?_) _
      (fun m hm => by cases hm; exact ⟨hdir, htg⟩) nofun
    -- the files of `new` are bound, the temp name is not
    refine ⟨(readable_iff _ _).1 hrd, fun t ht hmem => ?_⟩
    obtain rfl : n = t := Option.some.inj (htmp.trans ht.symm)
    have := bound_of_isComplete ((readable_iff _ _).1 hrd n hmem)
    rw [hdir] at this; cases this
  | write n k => exact inv_frame hinv _ nofun nofun
  | setToc n t => exact inv_frame hinv _ nofun nofun
  | close n => exact inv_frame hinv _ nofun nofun
  | other => exact inv_frame hinv _ nofun nofun
  | closeTmp n htmp hph =>
    exact inv_frame (inv_toPhase hinv (ph := .tmpClosed) (by rw [hph]; nofun) nofun fun _ =>
      hinv.mid (.inl hph)) _ nofun nofun
  | delete n hg => exact inv_frame hinv _ nofun fun m hm => by cases hm; exact hg
  | rename a htmp hph hac hat hgen hbd hbn =>
    have hmid := hinv.mid (Or.inr hph)
    have hold : Holds ix c.fs old := by simpa [curToc, hph] using hinv.holds
    exact ⟨step_wf hinv.wf (.rename a _), holds_rename hold hmid.1 a hac hat hgen hbd (hmid.2 a htmp),
      fun h => h.elim nofun nofun, fun _ => hgen⟩

theorem chkRun_induction {ix : Name} {old new : Toc} {tmp : Option Name}
    {motive : Chk → List Event → Chk → Prop} (nil : ∀ c, motive c [] c)
    (cons : ∀ c e ph es c', Ok ix old new tmp c e ph → motive ⟨step c.fs e, ph⟩ es c' →
      motive c (e :: es) c')
    {c c' : Chk} {tr : List Event} (h : chkRun ix old new tmp c tr = some c') : motive c tr c' := by
  induction tr generalizing c with
  | nil => cases h; exact nil _
  | cons e es ih =>
    simp only [chkRun, chkStep] at h
    cases ho : okEvent ix old new tmp c e with
    | none => rw [ho] at h; cases h
    | some ph =>
      rw [ho] at h
      exact cons c e ph es c' (ok_of_okEvent ho) (ih h)

theorem chkRun_append {ix : Name} {old new : Toc} {tmp : Option Name} (c : Chk) (a b : List Event) :
    chkRun ix old new tmp c (a ++ b)
      = (chkRun ix old new tmp c a).bind fun c1 => chkRun ix old new tmp c1 b := by
  induction a generalizing c with
  | nil => rfl
  | cons e es ih =>
    simp only [List.cons_append, chkRun]
    cases chkStep ix old new tmp c e with
    | none => rfl
    | some c1 => exact ih c1

theorem chkRun_take {ix : Name} {old new : Toc} {tmp : Option Name} {c c' : Chk} {tr : List Event}
    (h : chkRun ix old new tmp c tr = some c') (hinv : Inv ix old new tmp c) (k : Nat) :
    ∃ ck, chkRun ix old new tmp c (tr.take k) = some ck ∧ ck.fs = run c.fs (tr.take k) ∧
      Inv ix old new tmp ck := by
  rw [← List.take_append_drop k tr, chkRun_append] at h
  obtain ⟨ck, hk, _⟩ := Option.bind_eq_some_iff.1 h
  exact ⟨ck, hk, chkRun_induction (motive := fun c tr ck =>
    Inv ix old new tmp c → ck.fs = run c.fs tr ∧ Inv ix old new tmp ck) (fun _ hc => ⟨rfl, hc⟩)
    (fun _ _ _ _ _ hok ih hc => ih (inv_step hc hok)) hk hinv⟩

theorem chkRun_phase {ix : Name} {old new : Toc} {tmp : Option Name} {c c' : Chk} {tr : List Event}
    (h : chkRun ix old new tmp c tr = some c') :
    (c'.phase = .post ↔ c.phase = .post ∨ renamed tr = true) := by
  refine chkRun_induction (motive := fun c tr c' =>
    c'.phase = .post ↔ c.phase = .post ∨ renamed tr = true) (fun c => by simp [renamed])
    (fun c e ph es c' hok ih => ?_) h
  rw [ih, hok.post_iff, renamed_cons, Bool.or_eq_true, or_assoc]

theorem safe_of_complete {ix : Name} {old new : Toc} {tmp : Name} {fs0 : FS} {tr : List Event}
    (hs : CompleteCommit ix old new tmp fs0 tr = true) :
    SafeCommitTrace ix old new tmp fs0 tr = true ∧ renamed tr = true := by
  unfold CompleteCommit at hs
  unfold SafeCommitTrace
  cases hr : chkRun ix old new (some tmp) ⟨fs0, .pre⟩ tr with
  | none => rw [hr] at hs; cases hs
  | some c =>
    rw [hr] at hs
    exact ⟨rfl, ((chkRun_phase hr).1 (by simpa using hs)).elim nofun id⟩

end WM.FS
