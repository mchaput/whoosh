import WM.Lemmas.SearchSeg
/-!
The central refinement: for every query, every context and every valid shape oracle, the list
`compile` builds for a segment is strictly ascending and agrees pointwise with the specification
(`specLookup`): same documents always, same scores in a scored context.

Each query type contributes an equation for `specLookup` in the pointwise vocabulary of the list
operators (`optMerge`, `optBoth`, `Option.map`, …); its arm of `compile_agree` is the agreement law of
its operator followed by that equation.
-/
namespace WM.Compile
open WM.Search

theorem wOf_of_pos {b : Rat} (h : 0 < b) : wOf b = b :=
  if_neg (fun hb => Rat.lt_irrefl ((beq_iff_eq.mp hb) ▸ h))

theorem csL_of_pos (ctx : Ctx) {c : Rat} (h : 0 < c) (m : PL) : csL ctx c m = constL c m := by
  unfold csL
  rw [wOf_of_pos h, ite_self]

section
variable (ls : LeafScore) (so : ShapeOracle) (s : Segment)

theorem everyField_agree (sc : Bool) (f : String) (c : Rat) :
    AgreeP sc (constL c (unionAll ((lexicon s f).map (postings ls s f))))
      (fun i => if i ∈ s.live ∧ (!((s.doc i).terms f).isEmpty) = true then some c else none) := by
  refine (constL_agree c (unionAll_agree (postingsL_agree false ls s f (lexicon s f)))).congr fun i => ?_
  rw [foldr_add_terms, Option.map_if]
  refine guard_congr fun hl => ?_
  have h := any_expansion (f := f) (fun _ => true) (live_doc_mem hl)
  rw [List.filter_eq_self.mpr (fun _ _ => rfl)] at h
  rw [h]
  cases (s.doc i).terms f <;> simp

def expand (s : Segment) (f : String) (p : TermPred) : List Term :=
  (lexicon s f).filter p.test

/-- a live document has a term of the expansion iff one of its own terms passes `p`, and the terms of the
    expansion it has are its distinct terms that pass `p` -/
theorem specLookup_multi (f : String) (p : TermPred) (b : Rat) (hall : isAllPred p = false) (i : Nat) :
    specLookup ls s (.multi f p b false) i =
      ((((expand s f p).map (termSpec ls s f)).map (fun sp => sp i)).foldr (optMerge (· + ·)) none).map (· * b) := by
  rw [foldr_add_terms, Option.map_if, expand]
  show (if _ ∧ _ then some (if (false || isAllPred p) = true then b else _) else none) = _
  rw [hall]
  by_cases hl : i ∈ s.live
  · rw [any_expansion p.test (live_doc_mem hl), perm_sum_map _ (expansion_perm p.test (live_doc_mem hl))]
    rfl
  · rw [if_neg (fun h => hl h.1), if_neg (fun h => hl h.1)]

/-- `MultiTerm.matcher`: the matcher of `Or` over the terms of the expansion, with the compound's
    none / one / many split, under the constant-score scheme if `constantscore` is set -/
theorem compile_multi (ctx : Ctx) (f : String) (p : TermPred) (b : Rat) (cs : Bool) (hall : isAllPred p = false) :
    compile ls so s ctx (.multi f p b cs) =
      if cs = true then
        csL ctx b (compoundL (fun ms => orMany ⟨ctx.nc, false⟩ s.size
          (so ((expand s f p).map (fun t => Query.term f t 1))) ms b) b ((expand s f p).map (postings ls s f)))
      else
        compoundL (fun ms => orMany ctx s.size
          (so ((expand s f p).map (fun t => Query.term f t 1))) ms b) b ((expand s f p).map (postings ls s f)) := by
  have hcs : ∀ m : PL, csL ctx b (boostL b m) = csL ctx b m := fun m => by
    simp [csL, constL, boostL, List.map_map, Function.comp_def]
  simp only [compile, hall, expand, Bool.false_eq_true, if_false]
  generalize (so _) = sh
  generalize List.map (postings ls s f) _ = ms
  rcases ms with _ | ⟨m, _ | ⟨m', ms⟩⟩ <;> cases cs <;> simp [compoundL, hcs] <;> simp [csL, constL]

theorem multi_case (hso : ValidOracle so) (hleaf : PosLeaf ls s)
    (ctx : Ctx) (f : String) (p : TermPred) (b : Rat) (cs : Bool) (hb : 0 < b) :
    AgreeP ctx.scored (compile ls so s ctx (.multi f p b cs)) (specLookup ls s (.multi f p b cs)) := by
  cases hall : isAllPred p
  · have hor : ∀ c : Ctx, AgreeP c.scored
        (compoundL (fun ms => orMany c s.size (so ((expand s f p).map (fun t => Query.term f t 1))) ms b) b
          ((expand s f p).map (postings ls s f)))
        (specLookup ls s (.multi f p b false)) := fun c =>
      (compoundL_orMany_agree (postingsL_agree c.scored ls s f _)
        (hso.valid (by rw [List.length_map, List.length_map]))
        hb (posSpecs_terms hleaf f _ _)).congr fun i => (specLookup_multi ls s f p b hall i).symm
    rw [compile_multi ls so s ctx f p b cs hall]
    cases cs
    · exact hor ctx
    · rw [if_pos rfl, csL_of_pos ctx hb]
      exact (constL_agree b (hor ⟨ctx.nc, false⟩)).congr fun _ => Option.map_if
  · rw [compile, if_pos hall, wOf_of_pos hb]
    refine (everyField_agree ls s ctx.scored f b).congr fun i => ?_
    show _ = if _ ∧ ((s.doc i).terms f).any p.test = true then some (if (cs || isAllPred p) = true then b else _)
      else none
    rw [hall, Bool.or_true, if_pos rfl]
    refine guard_congr fun _ => ?_
    cases (s.doc i).terms f <;> simp [isAllPred_test hall]

theorem phrase_case (ctx : Ctx) (f : String) (ws : List Term) (slop : Nat) (b : Rat) :
    AgreeP ctx.scored (compile ls so s ctx (.phrase f ws slop b)) (specLookup ls s (.phrase f ws slop b)) := by
  rw [compile]
  split
  · -- a word the dictionary does not have: no live document has it
    rename_i hmiss
    refine agreeP_nil _ fun i => if_neg fun hc => ?_
    obtain ⟨w, hw, hnot⟩ := List.any_eq_true.mp hmiss
    have hlex : w ∈ lexicon s f := mem_lexicon.mpr ⟨s.doc i, live_doc_mem hc.1, (phraseSat_words hc.2).2 w hw⟩
    simp [hlex] at hnot
  · cases hws : ws with
    | nil => exact agreeP_nil _ fun i => specLookup_eq_none rfl
    | cons w0 wr =>
      rw [← hws]
      have hne : ws ≠ [] := by rw [hws]; exact List.cons_ne_nil _ _
      have hv : (balancedShape ws.length).Valid (ws.map (postings ls s f)).length := by
        rw [List.length_map]
        exact balancedShape_valid _ (List.length_pos_iff.mpr hne)
      have hI := foldShape_agree interL_opSpec both_monoidal (fun _ _ _ _ => R.optBoth)
        (postingsL_agree ctx.scored ls s f ws) hv
      have hF := filter_id_agree
        (fun i => !(phraseEnds slop (ws.map ((s.doc i).positions f))).isEmpty) hI
      refine (boostL_agree b hF).congr fun i => ?_
      simp only [phraseEnds_iff]
      rw [foldr_both_terms ls s f ws i hne]
      by_cases hp : phraseSat slop (ws.map ((s.doc i).positions f)) = true
      · have hall : ws.all (fun w => (s.doc i).hasTerm f w) = true :=
          List.all_eq_true.mpr fun w hw => hasTerm_iff_mem.mpr ((phraseSat_words hp).2 w hw)
        rw [if_pos hp, hall, Option.map_if]
        exact guard_congr fun _ => ⟨fun _ => hp, fun _ => rfl⟩
      · rw [if_neg hp]
        exact (specLookup_eq_none (q := .phrase f ws slop b) (Bool.eq_false_iff.mpr hp)).symm

theorem posSpecs_of_posQs (hleaf : PosLeaf ls s) {qs : List Query} (hp : PosQs qs) (sc : Bool) :
    PosSpecs sc (qs.map (specLookup ls s)) := by
  intro _ sp hsp i v hv
  obtain ⟨q, hq, rfl⟩ := List.mem_map.mp hsp
  obtain ⟨hc, hv⟩ := Option.ite_none_right_eq_some.mp hv
  cases hv
  exact scoreOfs_pos ls (s.doc i) (fun f t ht => hleaf i hc.1 f t ht) qs hp q hq hc.2

theorem map_spec_at (qs : List Query) (i : Nat) :
    (qs.map (specLookup ls s)).map (fun sp => sp i) = qs.map (fun q => specLookup ls s q i) := by
  rw [List.map_map]; rfl

theorem specLookup_and {qs : List Query} (hne : qs ≠ []) (b : Rat) (i : Nat) :
    specLookup ls s (.and qs b) i =
      (((qs.map (specLookup ls s)).map (fun sp => sp i)).foldr optBoth (some 0)).map (· * b) := by
  rw [map_spec_at, foldr_both_spec ls s _ i hne, Option.map_if]
  cases qs with
  | nil => exact absurd rfl hne
  | cons _ _ => rfl

theorem specLookup_or (qs : List Query) (b : Rat) (i : Nat) :
    specLookup ls s (.or qs b) i =
      (((qs.map (specLookup ls s)).map (fun sp => sp i)).foldr (optMerge (· + ·)) none).map (· * b) := by
  rw [map_spec_at, foldr_add_spec, Option.map_if]
  rfl

theorem specLookup_dismax (qs : List Query) (b : Rat) (i : Nat) :
    specLookup ls s (.dismax qs b) i =
      (((qs.map (specLookup ls s)).map (fun sp => sp i)).foldr (optMerge ratMax) none).map (· * b) := by
  rw [map_spec_at, foldr_max_spec]
  by_cases hl : i ∈ s.live
  · rw [if_pos hl, specLookup_live hl]
    show (if satAny qs (s.doc i) = true then some ((maxSat ls qs (s.doc i)).getD 0 * b) else none) = _
    rw [← maxSat_isSome ls]
    cases maxSat ls qs (s.doc i) <;> rfl
  · rw [if_neg hl, specLookup_not_live hl]
    rfl

theorem specLookup_not (q : Query) (i : Nat) :
    specLookup ls s (.not q) i = if i ∈ s.live ∧ (specLookup ls s q i).isNone = true then some 1 else none := by
  refine guard_congr fun hl => ?_
  rw [specLookup_live hl]
  show (!sat q (s.doc i)) = true ↔ _
  cases sat q (s.doc i) <;> simp

theorem specLookup_andNot (a b : Query) (i : Nat) :
    specLookup ls s (.andNot a b) i =
      if (specLookup ls s b i).isNone then specLookup ls s a i else none := by
  by_cases hl : i ∈ s.live
  · simp only [specLookup_live hl]
    show (if (sat a (s.doc i) && !sat b (s.doc i)) = true then some (scoreOf ls a (s.doc i)) else none) = _
    cases sat a (s.doc i) <;> cases sat b (s.doc i) <;> rfl
  · simp only [specLookup_not_live hl]; rfl

theorem specLookup_require (a b : Query) (i : Nat) :
    specLookup ls s (.require a b) i =
      if (specLookup ls s b i).isSome then specLookup ls s a i else none := by
  by_cases hl : i ∈ s.live
  · simp only [specLookup_live hl]
    show (if (sat a (s.doc i) && sat b (s.doc i)) = true then some (scoreOf ls a (s.doc i)) else none) = _
    cases sat a (s.doc i) <;> cases sat b (s.doc i) <;> rfl
  · simp only [specLookup_not_live hl]; rfl

theorem specLookup_andMaybe (a b : Query) (i : Nat) :
    specLookup ls s (.andMaybe a b) i =
      (specLookup ls s a i).map (fun x => match specLookup ls s b i with | some y => x + y | none => x) := by
  by_cases hl : i ∈ s.live
  · simp only [specLookup_live hl]
    show (if sat a (s.doc i) = true then
      some (scoreOf ls a (s.doc i) + if sat b (s.doc i) = true then scoreOf ls b (s.doc i) else 0) else none) = _
    cases sat a (s.doc i) <;> cases sat b (s.doc i) <;> simp [Rat.add_zero]
  · simp only [specLookup_not_live hl]; rfl

mutual
theorem compile_agree (hso : ValidOracle so) (hleaf : PosLeaf ls s) :
    ∀ (q : Query) (ctx : Ctx), PosQ q → AgreeP ctx.scored (compile ls so s ctx q) (specLookup ls s q)
  | .term f t b, ctx, _ => (boostL_agree b (postings_agree ctx.scored ls s f t)).congr fun _ => Option.map_if
  | .multi f p b cs, ctx, hp => multi_case ls so s hso hleaf ctx f p b cs hp
  | .phrase f ws slop b, ctx, _ => phrase_case ls so s ctx f ws slop b
  | .numRange f lo hi le he b, ctx, hp => by
    show AgreeP _ ((s.live.filter _).map fun i => ⟨i, wOf b⟩) _
    rw [wOf_of_pos hp]
    exact agreeP_canon ctx.scored s (fun i => ((s.doc i).nums f).any (inRange lo hi le he)) (fun _ => b)
  | .every none b, ctx, hp => by
    have h := agreeP_canon ctx.scored s (fun _ => true) (fun _ => b)
    rw [canon, List.filter_eq_self.mpr (fun _ _ => rfl)] at h
    show AgreeP _ (s.live.map fun i => ⟨i, wOf b⟩) _
    rw [wOf_of_pos hp]
    exact h
  | .every (some f) b, ctx, hp => by
    show AgreeP _ (constL (wOf b) _) _
    rw [wOf_of_pos hp]
    exact everyField_agree ls s ctx.scored f b
  | .null, _, _ => agreeP_nil _ fun _ => specLookup_eq_none rfl
  | .and qs b, ctx, hp =>
    have hL := compileList_agree hso hleaf qs ctx hp.2
    compoundL_tree_agree interL_opSpec both_monoidal (fun _ _ _ _ => R.optBoth) hL
      (hso.valid (hL.length.trans (List.length_map _)))
      (fun h0 _ => by
        cases qs with
        | nil => exact specLookup_eq_none rfl
        | cons _ _ => cases h0)
      (fun hne => specLookup_and ls s (fun h => hne (by rw [h]; rfl)) b)
  | .or qs b, ctx, hp =>
    have hL := compileList_agree hso hleaf qs ctx hp.2
    (compoundL_orMany_agree hL (hso.valid (hL.length.trans (List.length_map _))) hp.1
      (posSpecs_of_posQs ls s hleaf hp.2 ctx.scored)).congr fun i => (specLookup_or ls s qs b i).symm
  | .dismax qs b, ctx, hp =>
    have hL := compileList_agree hso hleaf qs ctx hp.2
    compoundL_tree_agree (mergeWith_opSpec ratMax) max_monoidal (fun _ _ _ _ => R.optMerge) hL
      (hso.valid (hL.length.trans (List.length_map _))) (fun h0 i => by rw [specLookup_dismax, h0]; rfl)
      (fun _ => specLookup_dismax ls s qs b)
  | .not q, ctx, hp =>
    have hc := compile_agree hso hleaf q boolCtx hp
    (agreeP_canon ctx.scored s (fun i => (lookup _ i).isNone) (fun _ => (1 : Rat))).congr fun i => by
      rw [specLookup_not, (hc.2 i).isNone]
  | .andNot a b, ctx, hp =>
    (andNotL_opSpec.agree (fun _ _ _ _ h h' => by rw [h'.isNone]; exact h.ite)
      (compile_agree hso hleaf a ctx hp.1) (compile_agree hso hleaf b boolCtx hp.2)).congr
      fun i => (specLookup_andNot ls s a b i).symm
  | .andMaybe a b, ctx, hp =>
    (andMaybeL_opSpec.agree
      (fun _ _ _ _ h h' => ⟨by rw [Option.isSome_map, Option.isSome_map, h.1], fun hs => by rw [h.2 hs, h'.2 hs]⟩)
      (compile_agree hso hleaf a ctx hp.1) (compile_agree hso hleaf b ctx hp.2)).congr
      fun i => (specLookup_andMaybe ls s a b i).symm
  | .require a b, ctx, hp =>
    (requireL_opSpec.agree (fun _ _ _ _ h h' => by rw [h'.1]; exact h.ite)
      (compile_agree hso hleaf a ctx hp.1) (compile_agree hso hleaf b boolCtx hp.2)).congr
      fun i => (specLookup_require ls s a b i).symm
  | .constScore q sc, ctx, hp => by
    show AgreeP _ (csL ctx sc _) _
    rw [csL_of_pos ctx hp.1]
    exact (constL_agree sc (compile_agree hso hleaf q ctx hp.2)).congr fun _ => Option.map_if
theorem compileList_agree (hso : ValidOracle so) (hleaf : PosLeaf ls s) :
    ∀ (qs : List Query) (ctx : Ctx), PosQs qs →
      AgreeL ctx.scored (compileList ls so s ctx qs) (qs.map (specLookup ls s))
  | [], _, _ => trivial
  | q :: qs, ctx, hp => ⟨compile_agree hso hleaf q ctx hp.1, compileList_agree hso hleaf qs ctx hp.2⟩
end

end

end WM.Compile
