import WM.Lemmas.Den
import WM.Model.Collect
/-! Every outcome that the C12 contract `WM.Matcher.Keeps` allows for `replace(q)` / `skip_to_quality(q)`,
`q ≠ 0`, is produced by some list of wishes of a `Step`: the schedules `C05.topk` quantifies over cover
every contract-abiding matcher. -/
namespace WM.Collect
open WM.Matcher

/-- The remaining result list of a pending posting list. -/
def denOf (m : List Posting) : Den := m.map fun p => (p.doc, p.score)

theorem keeps_is_wishes (q : Rat) (hq : q ≠ 0) :
    ∀ (m : List Posting) (L' : Den), Asc (denOf m) → Asc L' → Keeps q L' (denOf m) →
      ∃ mask : List Wish, denOf (dropMasked q mask m) = L'
  | [], L', _, _, hk => by
    refine ⟨[], ?_⟩
    cases L' with
    | nil => rfl
    | cons x T =>
      obtain ⟨r, hr, _⟩ := hk.dom x List.mem_cons_self
      exact nomatch hr
  | p :: ps, L', hasc, hasc', hk => by
    have hhi := hk.hi_eq
    rw [show denOf (p :: ps) = (p.doc, p.score) :: denOf ps from rfl, hi_cons] at hhi
    rcases dominated_cons hasc hasc' hk.dom with ⟨hno, hdom⟩ | ⟨s', T, rfl, hs', hdom⟩
    · -- `p` is gone: it scored at most `q`
      have hle : ¬ q < p.score := fun hgt => by
        rw [if_pos hgt] at hhi
        have : (p.doc, p.score) ∈ hi q L' := by rw [hhi]; exact List.mem_cons_self
        exact hno _ (List.mem_filter.mp this).1 rfl
      rw [if_neg hle] at hhi
      obtain ⟨mask, hm⟩ := keeps_is_wishes q hq ps L' hasc.tail hasc' ⟨hhi, hdom⟩
      exact ⟨.drop :: mask, by simp [dropMasked, hq, Rat.not_lt.mp hle, hm]⟩
    · -- `p` is there with the score `s' ≤ p.score`, and `s' = p.score` if that is above `q`
      have hT : ∀ z ∈ T, p.doc < z.1 := fun z hz => List.rel_of_pairwise_cons hasc' hz
      rw [hi_cons] at hhi
      have h : (q < p.score → s' = p.score) ∧ hi q T = hi q (denOf ps) := by
        by_cases h1 : q < p.score <;> by_cases h2 : q < s'
        · rw [if_pos h1, if_pos h2] at hhi
          exact ⟨fun _ => (Prod.mk.inj (List.cons.inj hhi).1).2, (List.cons.inj hhi).2⟩
        · rw [if_pos h1, if_neg h2] at hhi
          have : (p.doc, p.score) ∈ hi q T := by rw [hhi]; exact List.mem_cons_self
          exact absurd (hT _ (List.mem_filter.mp this).1) (Nat.lt_irrefl _)
        · exact absurd (Rat.le_trans hs' (Rat.not_lt.mp h1)) (Rat.not_le.mpr h2)
        · rw [if_neg h1, if_neg h2] at hhi
          exact ⟨fun h => absurd h h1, hhi⟩
      obtain ⟨mask, hm⟩ := keeps_is_wishes q hq ps T hasc.tail hasc'.tail ⟨h.2, hdom⟩
      refine ⟨.lower s' :: mask, ?_⟩
      by_cases hle : p.score ≤ q
      · simp [dropMasked, hq, hle, hs', denOf] at hm ⊢
        exact hm
      · simp [dropMasked, hle, denOf] at hm ⊢
        exact ⟨(h.1 (Rat.not_le.mp hle)).symm, hm⟩
end WM.Collect
