import WM.Lemmas.IndexLive
import WM.Lemmas.SortOrder
/-! The term index: postings of a segment versus its per-document data; `add_reader` feeds the pool the
postings of the copied documents under their new numbers (`docmap`). -/
namespace WM.Index
open WM.Dict

/-- Tuple order is the lexicographic order of the component lists, which core knows to be linear. -/
theorem Posting.le_iff (a b : Posting) :
    Posting.le a b = true ↔ [a.fld, a.term, a.doc, a.w, a.v] ≤ [b.fld, b.term, b.doc, b.w, b.v] := by
  simp only [Posting.le, Bool.or_eq_true, Bool.and_eq_true, decide_eq_true_eq, beq_iff_eq, List.cons_le_cons_iff,
    List.nil_le, and_true, Nat.le_iff_lt_or_eq]

theorem Posting.sortOrder : SortOrder Posting.le where
  trans a b c := by
    rw [Posting.le_iff, Posting.le_iff, Posting.le_iff]
    exact List.le_trans
  total a b := by
    rw [Bool.or_eq_true, Posting.le_iff, Posting.le_iff]
    exact List.le_total _ _
  antisymm a b := by
    rw [Posting.le_iff, Posting.le_iff]
    intro h1 h2
    have := List.le_antisymm h1 h2
    cases a
    cases b
    simpa using this

theorem mergeSort_congr {l1 l2 : List Posting} (hp : l1.Perm l2) : l1.mergeSort Posting.le = l2.mergeSort Posting.le :=
  Posting.sortOrder.mergeSort_congr hp

/-- The postings a document list contributes when its first document gets number `k`. -/
def allPostings (docs : List DocRec) (k : Nat := 0) : List Posting :=
  (docs.zipIdx k).flatMap (fun p => docPostings p.1 p.2)

theorem allPostings_append (a b : List DocRec) (k : Nat) :
    allPostings (a ++ b) k = allPostings a k ++ allPostings b (k + a.length) := by
  simp [allPostings, List.zipIdx_append, List.flatMap_append]

theorem allPostings_singleton (d : DocRec) (k : Nat) : allPostings [d] k = docPostings d k := by
  simp [allPostings, List.zipIdx_cons]

theorem docPostings_doc (d : DocRec) (i : Nat) : ∀ p ∈ docPostings d i, p.doc = i := by
  intro p hp
  simp only [docPostings, List.mem_flatMap, List.mem_map] at hp
  obtain ⟨fd, _, k, _, rfl⟩ := hp
  rfl

theorem docPostings_restrict (sc : Schema) (d : DocRec) (i : Nat) :
    docPostings (restrict sc d) i = (docPostings d i).filter (fun p => sc.has p.fld) :=
  (filter_flatMap_of_const d.fields _ _ (fun fd => sc.has fd.fld) fun fd _ p hp => by
    obtain ⟨k, _, rfl⟩ := List.mem_map.mp hp; rfl).symm

theorem docPostings_renumber (d : DocRec) (i j : Nat) :
    (docPostings d i).map (fun p => { p with doc := j }) = docPostings d j := by
  simp [docPostings, List.map_flatMap, List.map_map, Function.comp_def]

theorem docPostings_map_doc (d : DocRec) (i j : Nat) (g : Posting → Posting)
    (hg : ∀ p : Posting, p.doc = i → g p = { p with doc := j }) : (docPostings d i).map g = docPostings d j := by
  rw [← docPostings_renumber d i j]
  exact List.map_congr_left (fun p hp => hg p (docPostings_doc d i p hp))

theorem allPostings_shift (docs : List DocRec) (k : Nat) :
    (allPostings docs 0).map (fun p => { p with doc := p.doc + k }) = allPostings docs k := by
  simp only [allPostings, List.map_flatMap]
  rw [List.zipIdx_eq_map_add (i := k), List.flatMap_map]
  apply flatMap_congr
  intro q _
  exact docPostings_map_doc _ _ _ _ (fun p hp => by rw [hp, Nat.add_comm])

theorem docmapOf_keys_nodup (s : Seg) (base : Nat) : ((docmapOf s base).map (·.1)).Nodup := by
  have : (docmapOf s base).map (·.1) = s.liveIdx.map (·.2) := by
    rw [docmapOf, List.map_map]
    exact (List.map_map (l := s.liveIdx.zipIdx) (f := Prod.fst) (g := Prod.snd)).symm.trans
      (congrArg _ (List.zipIdx_map_fst 0 s.liveIdx))
  rw [this]
  exact map_snd_filter_nodup _ (zipIdx_pairwise s.docs 0) _

theorem docmapOf_lookup (s : Seg) (base : Nat) (q : DocRec × Nat) (j : Nat) (h : (q, j) ∈ s.liveIdx.zipIdx) :
    (docmapOf s base).lookup q.2 = some (base + j) := by
  apply lookup_of_mem _ (docmapOf_keys_nodup s base)
  simp only [docmapOf, List.mem_map]
  exact ⟨(q, j), h, rfl⟩

/-- where `_process_posts` sends old number `i` -/
def newnum (s : Seg) (base : Nat) (i : Nat) : Nat :=
  if s.hasDeletions then ((docmapOf s base).lookup i).getD 0 else base + i

theorem hasDeletions_false (s : Seg) (h : s.hasDeletions = false) : s.deleted = [] := by
  simpa [Seg.hasDeletions, Seg.deletedCount] using h

theorem newnum_eq (s : Seg) (base : Nat) (q : DocRec × Nat) (j : Nat) (h : (q, j) ∈ s.liveIdx.zipIdx) :
    newnum s base q.2 = base + j := by
  unfold newnum
  cases hd : s.hasDeletions with
  | true => simp [docmapOf_lookup s base q j h]
  | false =>
    simp only [Bool.false_eq_true, if_false]
    rw [liveIdx_of_no_deletions s (hasDeletions_false s hd)] at h
    rw [zipIdx_zipIdx_eq s.docs q j h]

theorem renumber_eq (s : Seg) (base : Nat) (p : Posting) (q : DocRec × Nat) (hq : q ∈ s.liveIdx) (hp : p.doc = q.2) :
    renumber s base p = some { p with doc := newnum s base p.doc } := by
  obtain ⟨j, hj⟩ : ∃ j, (q, j) ∈ s.liveIdx.zipIdx := by
    obtain ⟨j, hj1, hj2⟩ := List.getElem_of_mem hq
    exact ⟨j, (List.mk_mem_zipIdx_iff_getElem?).mpr (by simp [hj2, hj1])⟩
  unfold renumber newnum
  cases hd : s.hasDeletions with
  | true => simp [hp, docmapOf_lookup s base q j hj]
  | false => simp

theorem allPostings_filter_live (sc : Schema) (s : Seg) :
    (allPostings s.docs).filter (fun p => sc.has p.fld && !s.isDeleted p.doc)
      = s.liveIdx.flatMap (fun q => docPostings (restrict sc q.1) q.2) := by
  rw [← List.filter_filter, allPostings, filter_flatMap_of_const _ _ _ (fun q => !s.isDeleted q.2)
    (fun q _ p hp => by rw [docPostings_doc q.1 q.2 p hp]), List.filter_flatMap]
  exact flatMap_congr fun q _ => (docPostings_restrict sc q.1 q.2).symm

theorem livePosts_perm (sc : Schema) (s : Seg) (hperm : s.posts.Perm (allPostings s.docs)) :
    (s.livePosts sc).Perm (s.liveIdx.flatMap (fun q => docPostings (restrict sc q.1) q.2)) :=
  allPostings_filter_live sc s ▸ hperm.filter _

theorem livePosts_renumber (sc : Schema) (s : Seg) (base : Nat) (hperm : s.posts.Perm (allPostings s.docs)) :
    (s.livePosts sc).mapM (renumber s base)
      = some ((s.livePosts sc).map (fun p => { p with doc := newnum s base p.doc })) ∧
    ((s.livePosts sc).map (fun p => { p with doc := newnum s base p.doc })).Perm
      (allPostings (s.liveDocs.map (restrict sc)) base) := by
  let g : Posting → Posting := fun p => { p with doc := newnum s base p.doc }
  have hlive := livePosts_perm sc s hperm
  have hall : ∀ p ∈ s.livePosts sc, renumber s base p = some (g p) := by
    intro p hp
    obtain ⟨q, hq, hpq⟩ := List.mem_flatMap.mp (hlive.mem_iff.mp hp)
    exact renumber_eq s base p q hq (docPostings_doc _ _ p hpq)
  refine ⟨mapM_eq_map hall, (hlive.map g).trans (List.Perm.of_eq ?_)⟩
  -- renumber document by document: entry `x` of the live list is the `x.2`-th copied document
  rw [List.map_flatMap, ← flatMap_zipIdx_fst s.liveIdx 0]
  simp only [allPostings, Seg.liveDocs, List.map_map]
  rw [List.zipIdx_map, List.zipIdx_eq_map_add (i := base), List.map_map, List.flatMap_map]
  apply flatMap_congr
  intro x hx
  show (docPostings (restrict sc x.1.1) x.1.2).map g = docPostings (restrict sc x.1.1) (base + x.2)
  exact docPostings_map_doc _ _ _ g (fun p hp => by simp only [g, hp, newnum_eq s base x.1 x.2 hx])

end WM.Index
