import WM.Model.FSLock
/-!
The N-writer lock protocol (C04): the equations of `setW` and `stepW`, the shapes of the scripts that
`LockDiscipline` accepts (buffered work and storage operations in front change nothing: `tailOK_body`,
`postOK_ios`), the invariant `Inv` that every step of every disciplined writer preserves, and `Leaked`,
which every step of any writer preserves.
-/
namespace WM.Lock

variable {s : State} {w v : Nat} {x : WState} {r : List Step} {t0 : Toc}

theorem setW_ws_self : (setW s w x).ws w = x := if_pos rfl

theorem setW_ws_other (h : v ≠ w) : (setW s w x).ws v = s.ws v := if_neg h

theorem stepW_nil (h : (s.ws w).script = []) : stepW s w = s := by
  simp only [stepW, h]

theorem stepW_tryLock_free (h : (s.ws w).script = .tryLock :: r) (hf : s.holder = none) :
    stepW s w = { setW s w { s.ws w with script := r, holds := true } with holder := some w } := by
  simp only [stepW, h, hf]

theorem stepW_tryLock_held {u : Nat} (h : (s.ws w).script = .tryLock :: r) (hf : s.holder = some u) :
    stepW s w = setW s w { s.ws w with script := [], failed := true } := by
  simp only [stepW, h, hf]

theorem stepW_readToc (h : (s.ws w).script = .readToc :: r) :
    stepW s w = setW s w { s.ws w with script := r, base := some s.toc } := by
  simp only [stepW, h]

theorem stepW_work {op : Op} (h : (s.ws w).script = .work op :: r) :
    stepW s w = setW s w { s.ws w with script := r, pending := (s.ws w).pending ++ [op] } := by
  simp only [stepW, h]

theorem stepW_io (h : (s.ws w).script = .io :: r) :
    stepW s w = setW s w { s.ws w with script := r } := by
  simp only [stepW, h]

theorem stepW_writeToc {b : Toc} (h : (s.ws w).script = .writeToc :: r) (hb : (s.ws w).base = some b) :
    stepW s w = { setW s w { s.ws w with script := r, committed := true } with
      toc := ⟨b.gen + 1, b.ops ++ (s.ws w).pending⟩, commits := s.commits ++ [w] } := by
  simp only [stepW, h, hb]

theorem stepW_writeToc_none (h : (s.ws w).script = .writeToc :: r) (hb : (s.ws w).base = none) :
    stepW s w = setW s w { s.ws w with script := r } := by
  simp only [stepW, h, hb]

theorem stepW_release_holds (h : (s.ws w).script = .release :: r) (hh : (s.ws w).holds = true) :
    stepW s w = { setW s w { s.ws w with script := r, holds := false } with holder := none } := by
  simp only [stepW, h, hh, if_true]

theorem stepW_release_free (h : (s.ws w).script = .release :: r) (hh : (s.ws w).holds = false) :
    stepW s w = setW s w { s.ws w with script := r } := by
  simp only [stepW, h, hh, Bool.false_eq_true, if_false]

/-- what the step of writer `w` that leads from `s` to `t` can have done; `lock`: holder and `holds`
    unchanged, or the lock was free (an acquire), or `w` held it with `release` in its script (a release) -/
structure Frame (s : State) (w : Nat) (t : State) : Prop where
  others : ∀ v, v ≠ w → t.ws v = s.ws v
  script : (∃ st, (s.ws w).script = st :: (t.ws w).script) ∨ (t.ws w).script = []
  lock : t.holder = s.holder ∧ (t.ws w).holds = (s.ws w).holds ∨ s.holder = none ∨
    (s.ws w).holds = true ∧ .release ∈ (s.ws w).script
  toc : t.toc = s.toc ∧ t.commits = s.commits ∨
    (∃ r, (s.ws w).script = .writeToc :: r) ∧ t.commits = s.commits ++ [w]

theorem frame_setW {h : Option Nat} {t : Toc} {c : List Nat}
    (hs : (∃ st, (s.ws w).script = st :: x.script) ∨ x.script = [])
    (hl : h = s.holder ∧ x.holds = (s.ws w).holds ∨ s.holder = none ∨
      (s.ws w).holds = true ∧ .release ∈ (s.ws w).script)
    (ht : t = s.toc ∧ c = s.commits ∨
      (∃ r, (s.ws w).script = .writeToc :: r) ∧ c = s.commits ++ [w]) :
    Frame s w ⟨h, t, (setW s w x).ws, c⟩ :=
  ⟨fun _ hv => setW_ws_other hv, setW_ws_self (s := s) ▸ hs, setW_ws_self (s := s) ▸ hl, ht⟩

theorem stepW_frame (s : State) (w : Nat) : Frame s w (stepW s w) := by
  have loc {st : Step} {r : List Step} {x : WState} (hs : (s.ws w).script = st :: r)
      (hx : x.script = r) (hh : x.holds = (s.ws w).holds) : Frame s w (setW s w x) :=
    frame_setW (.inl ⟨st, hx ▸ hs⟩) (.inl ⟨rfl, hh⟩) (.inl ⟨rfl, rfl⟩)
  rcases hs : (s.ws w).script with _ | ⟨st, r⟩
  · rw [stepW_nil hs]; exact ⟨fun _ _ => rfl, .inr hs, .inl ⟨rfl, rfl⟩, .inl ⟨rfl, rfl⟩⟩
  cases st with
  | tryLock =>
    rcases hf : s.holder with _ | u
    · rw [stepW_tryLock_free hs hf]
      exact frame_setW (.inl ⟨_, hs⟩) (.inr (.inl hf)) (.inl ⟨rfl, rfl⟩)
    · rw [stepW_tryLock_held hs hf]
      exact frame_setW (.inr rfl) (.inl ⟨rfl, rfl⟩) (.inl ⟨rfl, rfl⟩)
  | readToc =>
    rw [stepW_readToc hs]
    exact loc hs rfl rfl
  | work op =>
    rw [stepW_work hs]
    exact loc hs rfl rfl
  | io =>
    rw [stepW_io hs]
    exact loc hs rfl rfl
  | writeToc =>
    rcases hb : (s.ws w).base with _ | b
    · rw [stepW_writeToc_none hs hb]
      exact loc hs rfl rfl
    · rw [stepW_writeToc hs hb]
      exact frame_setW (.inl ⟨_, hs⟩) (.inl ⟨rfl, rfl⟩) (.inr ⟨⟨r, hs⟩, rfl⟩)
  | release =>
    rcases hh : (s.ws w).holds with _ | _
    · rw [stepW_release_free hs hh]
      exact loc hs rfl rfl
    · rw [stepW_release_holds hs hh]
      exact frame_setW (.inl ⟨_, hs⟩) (.inr (.inr ⟨hh, hs ▸ List.mem_cons_self⟩)) (.inl ⟨rfl, rfl⟩)

theorem mem_script_of_stepW {a : Step} {u : Nat} (h : a ∈ ((stepW s u).ws w).script) :
    a ∈ (s.ws w).script := by
  by_cases e : w = u
  · subst e
    rcases (stepW_frame s w).script with ⟨st, hs⟩ | hs
    · rw [hs]; exact List.mem_cons_of_mem _ h
    · rw [hs] at h; cases h
  · rwa [(stepW_frame s u).others w e] at h

theorem exec_append (s : State) (a b : List Nat) : exec s (a ++ b) = exec (exec s a) b :=
  List.foldl_append

theorem exec_replicate_of_nil (h : (s.ws w).script = []) (k : Nat) :
    exec s (List.replicate k w) = s := by
  induction k with
  | zero => rfl
  | succ k ih => rw [List.replicate_succ, exec, List.foldl_cons, stepW_nil h]; exact ih

theorem exec_replicate_script (s : State) (w : Nat) :
    ((exec s (List.replicate (s.ws w).script.length w)).ws w).script = [] := by
  generalize hm : (s.ws w).script.length = m
  induction m generalizing s with
  | zero => exact List.eq_nil_of_length_eq_zero hm
  | succ m ih =>
    show ((exec (stepW s w) (List.replicate m w)).ws w).script = []
    rcases (stepW_frame s w).script with ⟨st, h⟩ | h
    · exact ih _ (by rw [h] at hm; exact Nat.succ.inj hm)
    · rw [exec_replicate_of_nil h]; exact h

theorem postOK_cases {l : List Step} (h : postOK l = true) :
    l = [.release] ∨ ∃ r, l = .io :: r ∧ postOK r = true := by
  unfold postOK at h
  split at h
  · exact .inl rfl
  · exact .inr ⟨_, rfl, h⟩
  · cases h

theorem tailOK_cases {l : List Step} (h : tailOK l = true) :
    l = [.release] ∨ (∃ op r, l = .work op :: r ∧ tailOK r = true) ∨
    (∃ r, l = .io :: r ∧ tailOK r = true) ∨ ∃ r, l = .writeToc :: r ∧ postOK r = true := by
  unfold tailOK at h
  split at h
  · exact .inl rfl
  · exact .inr (.inl ⟨_, _, rfl, h⟩)
  · exact .inr (.inr (.inl ⟨_, rfl, h⟩))
  · exact .inr (.inr (.inr ⟨_, rfl, h⟩))
  · cases h

theorem lockDiscipline_cases {l : List Step} (h : LockDiscipline l = true) :
    ∃ r, l = .tryLock :: .readToc :: r ∧ tailOK r = true := by
  unfold LockDiscipline at h
  split at h
  · exact ⟨_, rfl, h⟩
  · cases h

theorem tailOK_ios (n : Nat) (r : List Step) : tailOK (List.replicate n .io ++ r) = tailOK r := by
  induction n with
  | zero => rfl
  | succ n ih => exact ih

theorem tailOK_body (ops : List Op) (n : Nat) (r : List Step) :
    tailOK (lifeBody ops n ++ r) = tailOK r := by
  unfold lifeBody
  rw [List.append_assoc, ← tailOK_ios n r]
  induction ops with
  | nil => rfl
  | cons o os ih => exact ih

theorem postOK_ios (m : Nat) (r : List Step) : postOK (List.replicate m .io ++ r) = postOK r := by
  induction m with
  | zero => rfl
  | succ m ih => exact ih

/-- as the code is, a with-block that fails either way ends like `cancel()` -/
theorem withBlock_eq (ops : List Op) (n m : Nat) (bodyRaises commitFails : Bool) :
    withBlock ops n m bodyRaises commitFails true =
      if bodyRaises || commitFails then cancelLife ops n m else commitLife ops n m := by
  cases bodyRaises <;> cases commitFails <;> rfl

/-- where a disciplined writer is in its life, relative to the current TOC: `idle` before `tryLock`,
    `locked` before `readToc`, `ready` between `readToc` and `writeToc` (its base is still the current
    TOC), `written` after `writeToc`, `done` with nothing left to run (released, failed to acquire, or no script) -/
inductive WPhase (toc : Toc) (x : WState) : Prop where
  | idle : x.holds = false → x.committed = false → x.base = none → x.pending = [] →
      LockDiscipline x.script = true → WPhase toc x
  | done : x.holds = false → x.script = [] → WPhase toc x
  | locked {r : List Step} : x.holds = true → x.committed = false → x.base = none → x.pending = [] →
      x.script = .readToc :: r → tailOK r = true → WPhase toc x
  | ready : x.holds = true → x.committed = false → x.base = some toc → tailOK x.script = true →
      WPhase toc x
  | written : x.holds = true → x.committed = true → postOK x.script = true → WPhase toc x

theorem WPhase.of_toc {toc toc' : Toc} (h : WPhase toc x) (hx : x.holds = true → x.committed = true) :
    WPhase toc' x := by
  cases h with
  | idle a b c d e => exact .idle a b c d e
  | done a b => exact .done a b
  | locked a b => rw [hx a] at b; cases b
  | ready a b => rw [hx a] at b; cases b
  | written a b c => exact .written a b c

/-- `gen` and `ops` say that the TOC is `t0` plus one generation and the buffered changes per entry of
    the commit list, in order -/
structure Inv (t0 : Toc) (s : State) : Prop where
  phase : ∀ w, WPhase s.toc (s.ws w)
  mutex : ∀ w, (s.ws w).holds = true ↔ s.holder = some w
  gen : s.toc.gen = t0.gen + s.commits.length
  ops : s.toc.ops = t0.ops ++ s.commits.flatMap (fun w => (s.ws w).pending)
  comm : ∀ w ∈ s.commits, (s.ws w).committed = true

theorem inv_init (t0 : Toc) (scripts : Nat → List Step)
    (hd : ∀ w, LockDiscipline (scripts w) = true ∨ scripts w = []) : Inv t0 (init t0 scripts) where
  phase w := (hd w).elim (fun h => .idle rfl rfl rfl rfl h) fun h => .done rfl h
  mutex _ := ⟨nofun, nofun⟩
  gen := rfl
  ops := (List.append_nil _).symm
  comm _ := nofun

theorem Inv.others_free (hinv : Inv t0 s) (h : s.holder = none ∨ s.holder = some w) (hv : v ≠ w) :
    (s.ws v).holds = false := by
  rcases hv' : (s.ws v).holds with _ | _
  · rfl
  · have e := (hinv.mutex v).1 hv'
    rcases h with h | h
    · rw [h] at e; cases e
    · rw [h] at e; cases e; exact absurd rfl hv

/-- `hc`: `ops` sums `pending` over the commit list, so a writer that has committed must keep its
    `pending` -/
theorem inv_update (hinv : Inv t0 s) {h : Option Nat} (hph : WPhase s.toc x)
    (hm : x.holds = true ↔ h = some w) (hm' : ∀ v, v ≠ w → ((s.ws v).holds = true ↔ h = some v))
    (hc : (s.ws w).committed = false ∨ x.committed = true ∧ x.pending = (s.ws w).pending) :
    Inv t0 { setW s w x with holder := h } := by
  have key (v : Nat) : WPhase s.toc ((setW s w x).ws v) ∧
      (((setW s w x).ws v).holds = true ↔ h = some v) ∧
      (v ∈ s.commits → ((setW s w x).ws v).committed = true ∧
        ((setW s w x).ws v).pending = (s.ws v).pending) := by
    by_cases e : v = w
    · rw [e, setW_ws_self]
      refine ⟨hph, hm, fun hv => hc.resolve_left fun hc => ?_⟩
      rw [hinv.comm w hv] at hc; cases hc
    · rw [setW_ws_other e]
      exact ⟨hinv.phase v, hm' v e, fun hv => ⟨hinv.comm v hv, rfl⟩⟩
  refine ⟨fun v => (key v).1, fun v => (key v).2.1, hinv.gen, ?_, fun v hv => ((key v).2.2 hv).1⟩
  show s.toc.ops = t0.ops ++ s.commits.flatMap fun v => ((setW s w x).ws v).pending
  rw [hinv.ops, List.flatMap_def, List.flatMap_def,
    List.map_congr_left fun v hv => ((key v).2.2 hv).2]

theorem inv_local (hinv : Inv t0 s) (hph : WPhase s.toc x) (hh : x.holds = (s.ws w).holds)
    (hc : (s.ws w).committed = false ∨ x.committed = true ∧ x.pending = (s.ws w).pending) :
    Inv t0 (setW s w x) :=
  inv_update hinv hph (hh ▸ hinv.mutex w) (fun v _ => hinv.mutex v) hc

theorem inv_lock (hinv : Inv t0 s) {h : Option Nat} (hf : s.holder = none ∨ s.holder = some w)
    (hph : WPhase s.toc x) (hh : h = bif x.holds then some w else none)
    (hc : (s.ws w).committed = false ∨ x.committed = true ∧ x.pending = (s.ws w).pending) :
    Inv t0 { setW s w x with holder := h } := by
  subst hh
  refine inv_update hinv hph ?_ (fun v hv => ?_) hc
  · cases x.holds <;> simp
  · rw [hinv.others_free hf hv]; cases x.holds <;> simp [Ne.symm hv]

theorem inv_publish (hinv : Inv t0 s) (hh : (s.ws w).holds = true) (hc : (s.ws w).committed = true) :
    Inv t0 { s with toc := ⟨s.toc.gen + 1, s.toc.ops ++ (s.ws w).pending⟩,
                    commits := s.commits ++ [w] } := by
  refine ⟨fun v => (hinv.phase v).of_toc fun hv => ?_, hinv.mutex, ?_, ?_, fun v hv => ?_⟩
  · have e := (hinv.mutex v).1 hv
    rw [(hinv.mutex w).1 hh] at e
    cases e; exact hc
  · show s.toc.gen + 1 = t0.gen + (s.commits ++ [w]).length
    rw [List.length_append, hinv.gen]; rfl
  · show s.toc.ops ++ (s.ws w).pending = t0.ops ++ (s.commits ++ [w]).flatMap fun v => (s.ws v).pending
    rw [List.flatMap_append, List.flatMap_singleton, ← List.append_assoc, hinv.ops]
  · rcases List.mem_append.1 hv with hv | hv
    · exact hinv.comm v hv
    · rw [List.mem_singleton.1 hv]; exact hc

theorem inv_step (hinv : Inv t0 s) (w : Nat) : Inv t0 (stepW s w) := by
  have hw := (hinv.mutex w).1
  cases hinv.phase w with
  | done hh hs => rw [stepW_nil hs]; exact hinv
  | idle hh hc hb hp hd =>
    obtain ⟨r, hs, hr⟩ := lockDiscipline_cases hd
    rcases hf : s.holder with _ | u
    · rw [stepW_tryLock_free hs hf]
      exact inv_lock hinv (.inl hf) (.locked rfl hc hb hp rfl hr) rfl (.inl hc)
    · rw [stepW_tryLock_held hs hf]
      exact inv_local hinv (.done hh rfl) rfl (.inl hc)
  | locked hh hc hb hp hs hr =>
    rw [stepW_readToc hs]
    exact inv_local hinv (.ready hh hc rfl hr) rfl (.inl hc)
  | ready hh hc hb hr =>
    rcases tailOK_cases hr with hs | ⟨op, r, hs, hr⟩ | ⟨r, hs, hr⟩ | ⟨r, hs, hr⟩
    · rw [stepW_release_holds hs hh]
      exact inv_lock hinv (.inr (hw hh)) (.done rfl rfl) rfl (.inl hc)
    · rw [stepW_work hs]
      exact inv_local hinv (.ready hh hc hb hr) rfl (.inl hc)
    · rw [stepW_io hs]
      exact inv_local hinv (.ready hh hc hb hr) rfl (.inl hc)
    · rw [stepW_writeToc hs hb]
      -- in two moves: mark the record as published (a local step, `w` is not yet in the commit
      -- list), then publish
      have := inv_publish (w := w)
        (inv_local (x := { s.ws w with script := r, committed := true }) hinv (.written hh rfl hr) rfl
          (.inl hc))
        (by rw [setW_ws_self]; exact hh) (by rw [setW_ws_self])
      rw [setW_ws_self] at this
      exact this
  | written hh hc hr =>
    rcases postOK_cases hr with hs | ⟨r, hs, hr⟩
    · rw [stepW_release_holds hs hh]
      exact inv_lock hinv (.inr (hw hh)) (.done rfl rfl) rfl (.inr ⟨hc, rfl⟩)
    · rw [stepW_io hs]
      exact inv_local hinv (.written hh hc hr) rfl (.inr ⟨hc, rfl⟩)

theorem inv_exec (hinv : Inv t0 s) (sched : List Nat) : Inv t0 (exec s sched) := by
  induction sched generalizing s with
  | nil => exact hinv
  | cons w ws ih => exact ih (inv_step hinv w)

theorem Inv.not_holder_of_nil (hinv : Inv t0 s) (h : (s.ws w).script = []) :
    (s.ws w).holds = false ∧ s.holder ≠ some w := by
  have hh : (s.ws w).holds = false := by
    cases hinv.phase w with
    | idle a => exact a
    | done a => exact a
    | locked _ _ _ _ e => rw [h] at e; cases e
    | ready _ _ _ d => rw [h] at d; cases d
    | written _ _ c => rw [h] at c; cases c
  refine ⟨hh, fun e => ?_⟩
  rw [(hinv.mutex w).2 e] at hh; cases hh

theorem Inv.free_of_all_nil (hinv : Inv t0 s) (h : ∀ w, (s.ws w).script = []) : s.holder = none := by
  rcases hh : s.holder with _ | u
  · rfl
  · exact absurd hh (hinv.not_holder_of_nil (h u)).2

theorem Inv.run_out (hinv : Inv t0 s) (w : Nat) :
    let s' := exec s (List.replicate (s.ws w).script.length w)
    (s'.ws w).script = [] ∧ (s'.ws w).holds = false ∧ s'.holder ≠ some w ∧
    ((∀ v, (s'.ws v).script = []) → s'.holder = none) := by
  intro s'
  have hinv' : Inv t0 s' := inv_exec hinv _
  have h := exec_replicate_script s w
  exact ⟨h, (hinv'.not_holder_of_nil h).1, (hinv'.not_holder_of_nil h).2, hinv'.free_of_all_nil⟩

theorem inv_reach (t0 : Toc) {scripts : Nat → List Step}
    (hd : ∀ w, LockDiscipline (scripts w) = true ∨ scripts w = []) (sched : List Nat) :
    Inv t0 (exec (init t0 scripts) sched) :=
  inv_exec (inv_init t0 scripts hd) sched

/-- A step leaves the TOC alone or replaces it by "the current TOC, one generation later, plus
    the stepping writer's own changes" (this is where reading the TOC under the lock matters). -/
theorem toc_step (hinv : Inv t0 s) (w : Nat) :
    ((stepW s w).toc = s.toc ∧ (stepW s w).commits = s.commits) ∨
    ((stepW s w).toc = ⟨s.toc.gen + 1, s.toc.ops ++ (s.ws w).pending⟩ ∧
      (stepW s w).commits = s.commits ++ [w]) := by
  rcases (stepW_frame s w).toc with h | ⟨⟨r, hs⟩, _⟩
  · exact .inl h
  · cases hinv.phase w with
    | ready _ _ hb => rw [stepW_writeToc hs hb]; exact .inr ⟨rfl, rfl⟩
    | idle _ _ _ _ d => rw [hs] at d; cases d
    | done _ e => rw [hs] at e; cases e
    | locked _ _ _ _ e => rw [hs] at e; cases e
    | written _ _ c => rw [hs] at c; cases c

theorem ops_prefix_exec (hinv : Inv t0 s) (sched : List Nat) :
    s.toc.ops <+: (exec s sched).toc.ops ∧ s.commits <+: (exec s sched).commits := by
  induction sched generalizing s with
  | nil => exact ⟨List.prefix_refl _, List.prefix_refl _⟩
  | cons w ws ih =>
    obtain ⟨h1, h2⟩ := ih (inv_step hinv w)
    rcases toc_step hinv w with ⟨e, e'⟩ | ⟨e, e'⟩
    · rw [e] at h1; rw [e'] at h2; exact ⟨h1, h2⟩
    · rw [e] at h1; rw [e'] at h2
      exact ⟨(List.prefix_append _ _).trans h1, (List.prefix_append _ _).trans h2⟩

/-- `w` holds the lock and has no `release` left to run -/
structure Leaked (s : State) (w : Nat) : Prop where
  holder : s.holder = some w
  norel : Step.release ∉ (s.ws w).script
  others : ∀ v, v ≠ w → (s.ws v).holds = false

theorem Leaked.step (h : Leaked s w) (u : Nat) : Leaked (stepW s u) w := by
  have hf := stepW_frame s u
  rcases hf.lock with ⟨e1, e2⟩ | hn | ⟨hh, hr⟩
  · refine ⟨e1.trans h.holder, fun hm => h.norel (mem_script_of_stepW hm), fun v hv => ?_⟩
    by_cases e : v = u
    · rw [e, e2]; exact h.others u (e ▸ hv)
    · rw [hf.others v e]; exact h.others v hv
  · rw [h.holder] at hn; cases hn
  · by_cases e : u = w
    · exact absurd (e ▸ hr) h.norel
    · rw [h.others u e] at hh; cases hh

theorem Leaked.exec (h : Leaked s w) (sched : List Nat) :
    Leaked (exec s sched) w := by
  induction sched generalizing s with
  | nil => exact h
  | cons u us ih => exact ih (h.step u)

end WM.Lock
