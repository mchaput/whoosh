import WM.Lemmas.NormalizeEstimate
/-! A concrete index (two documents, field 0 = `"a b"` resp. `"b p"`) and its reader for the examples and
    defect witnesses of `WM/Props/C15.lean`; they meet `Doc.Plain` and `ReaderOk`. -/
namespace WM.C15
open WM.Normalize WM.Sat

def doc (id : Nat) (ts : List Text) : Doc := { id := id, toks := fun f => if f = 0 then ts else [] }

def env0 : Env where
  multi := fun _ _ _ _ _ => false
  bracket := fun _ => none
  seqPos := fun _ _ _ _ _ => true
  opq := fun c d => c.length % 2 == d.id % 2
  index := [doc 0 [[97], [98]], doc 1 [[98], [112]]]

theorem env0_plain : ∀ d ∈ env0.index, d.Plain := by
  intro d hd f x hx
  simp only [env0, List.mem_cons, List.not_mem_nil, or_false] at hd
  rcases hd with rfl | rfl <;>
    · simp only [doc] at hx
      split at hx
      · simp only [List.mem_cons, List.not_mem_nil, or_false] at hx
        rcases hx with rfl | rfl <;> exact ⟨by decide, by decide⟩
      · simp at hx

def rd0 : Reader where
  fields := [0]
  lexicon := fun f => if f = 0 then [[97], [98], [112]] else []
  docs := env0.index

theorem rd0_ok : ReaderOk env0 rd0 := by
  intro d hd f x hx
  simp only [env0, List.mem_cons, List.not_mem_nil, or_false] at hd
  rcases hd with rfl | rfl <;>
    · simp only [doc] at hx
      split at hx
      · rename_i hf
        subst hf
        simp only [List.mem_cons, List.not_mem_nil, or_false] at hx
        rcases hx with rfl | rfl <;> exact ⟨by decide, by decide⟩
      · simp at hx

end WM.C15
