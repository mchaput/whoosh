import WM.Lemmas.ParserPrec
/-! `do_groups`, `remove_whitespace` and then `do_operators` on the token list of a well-formed
expression. -/
namespace WM.Parser

/-- The bracket scan, in any state, consumes the balanced stretch `xs` by appending `ys`, its nested form, to the
    group it is collecting. -/
def Nests (gk : GK) (xs ys : List Node) : Prop :=
  ∀ rest cur below, doGroupsLoop gk (xs ++ rest) cur below = doGroupsLoop gk rest (cur ++ ys) below

theorem Nests.nil {gk : GK} : Nests gk [] [] := fun rest cur below => by rw [List.nil_append, List.append_nil]

theorem Nests.append {gk : GK} {a b a' b' : List Node} (h1 : Nests gk a b) (h2 : Nests gk a' b') :
    Nests gk (a ++ a') (b ++ b') := fun rest cur below => by
  rw [List.append_assoc, h1, h2, List.append_assoc]

theorem Nests.cons {gk : GK} (n : Node) (hn : n.isBracket = false) {xs ys : List Node} (h : Nests gk xs ys) :
    Nests gk (n :: xs) (n :: ys) := fun rest cur below => by
  rw [List.cons_append, doGroupsLoop_other gk n hn, h, List.append_assoc, List.singleton_append]

theorem Nests.paren {gk : GK} {xs ys : List Node} (h : Nests gk xs ys) :
    Nests gk (.opn :: xs ++ [.cls]) [.group gk ys 1] := fun rest cur below => by
  rw [List.append_assoc, List.cons_append, doGroupsLoop_opn, h, List.singleton_append, doGroupsLoop_cls, List.nil_append]

theorem isLeaf_isBracket {n : Node} (h : n.isLeaf = true) : n.isBracket = false := by
  cases n <;> first | rfl | cases h

theorem toks_nests (gk : GK) (e : Expr) (h : e.wf = true) : Nests gk e.toks (e.lin gk [.ws] 0) := by
  induction e, h using Expr.wf_ind with
  | atom n hn => rw [toks_atom]; exact .cons n (isLeaf_isBracket hn) .nil
  | paren items _ _ ih =>
    rw [toks_paren, lin_paren]
    exact .paren (joinWith_rel .nil .append (.cons .ws rfl .nil) _ _ items ih)
  | not e0 _ _ ih => rw [toks_not, lin_not]; exact .cons opNot rfl (.cons .ws rfl ih)
  | op g es hg _ _ ih =>
    rw [toks_op, lin_op gk _ (Nat.lt_of_lt_of_le Nat.zero_lt_two hg)]
    exact joinWith_rel .nil .append (.cons .ws rfl (.cons (opNode g) rfl (.cons .ws rfl .nil))) _ _ es ih

theorem doGroupsLoop_seq (gk : GK) (items : List Expr) (h : ∀ e ∈ items, e.wf = true) :
    doGroupsLoop gk (toksSeq items) [] [] = (linSeq gk [.ws] 0 items, []) := by
  have := joinWith_rel (R := Nests gk) .nil .append (.cons .ws rfl .nil) Expr.toks (Expr.lin gk [.ws] 0) items
    (fun c hc => toks_nests gk c (h c hc)) [] [] []
  rw [List.append_nil] at this
  rw [toksSeq, this, doGroupsLoop_nil]
  rfl

theorem doGroups_eq {gk : GK} {ns cur : List Node} (h : doGroupsLoop gk ns [] [] = (cur, [])) :
    doGroups gk ns = match (generalizing := false) cur with
      | [.group k ns' _] => .group k ns' 1
      | _ => .group gk cur 1 := by
  -- the top level `[cur].reverse.flatten` computes to `cur ++ []`
  rw [← List.append_nil cur, doGroups, h]
  rfl

/-- only a parenthesised group nests to a single group node: anything else is a leaf or contains
    whitespace -/
theorem linSeq_eq_group (gk : GK) {items : List Expr} (h : ∀ e ∈ items, e.wf = true) {k : GK} {ns : List Node} {b : Rat}
    (heq : linSeq gk [.ws] 0 items = [.group k ns b]) : ∃ inner, items = [.paren inner] := by
  have hws : Node.ws ∉ [Node.group k ns b] := fun h => nomatch List.mem_singleton.1 h
  rcases items with _ | ⟨e, _ | ⟨e2, items⟩⟩
  · cases heq
  · rw [linSeq_single] at heq
    have hwf := h e (List.mem_singleton.2 rfl)
    cases e with
    | atom n => cases heq; cases (wf_atom ▸ hwf : Node.isLeaf _ = true)
    | paren inner => exact ⟨inner, rfl⟩
    | not e0 => cases heq
    | op g es =>
      obtain ⟨hg, hlen, _⟩ := wf_op.1 hwf
      rw [lin_op gk _ (Nat.lt_of_lt_of_le Nat.zero_lt_two hg)] at heq
      exact absurd (heq ▸ mem_joinWith_sep (.head _) (es.length_map _ ▸ hlen)) hws
  · exact absurd (heq ▸ mem_joinWith_sep (.head _) (Nat.le_add_left 2 _)) hws

theorem doGroups_seq (gk : GK) (items : List Expr) (h : ∀ e ∈ items, e.wf = true) :
    doGroups gk (toksSeq items) = .group gk (linSeq gk [.ws] 0 (stripParen items)) 1 := by
  rw [doGroups_eq (doGroupsLoop_seq gk items h)]
  split
  · next k ns' b heq =>
    obtain ⟨inner, rfl⟩ := linSeq_eq_group gk h heq
    rw [linSeq_single, lin_paren] at heq
    cases heq
    rfl
  · next hne =>
    unfold stripParen
    split
    · exact (hne _ _ _ (by rw [linSeq_single, lin_paren])).elim
    · rfl

def rmWsL (ns : List Node) : List Node := (ns.filter (fun n => !n.isWs)).map rmWs

theorem rmWsL_append (a b : List Node) : rmWsL (a ++ b) = rmWsL a ++ rmWsL b := by
  simp [rmWsL]

theorem rmWsL_cons {n : Node} (h1 : n.isWs = false) (h2 : n.isGroup = false) (l : List Node) :
    rmWsL (n :: l) = n :: rmWsL l := by
  simp [rmWsL, h1, rmWs_nongroup h2]

theorem rmWsL_group (k : GK) (ns : List Node) (b : Rat) :
    rmWsL [.group k ns b] = [.group k (rmWsL ns) b] := by
  simp [rmWsL, Node.isWs, rmWs_group]

theorem rmWsL_join {α} {sep sep' : List Node} (hsep : rmWsL sep = sep') (f1 f2 : α → List Node) (cs : List α)
    (h : ∀ c ∈ cs, rmWsL (f1 c) = f2 c) : rmWsL (joinWith sep (cs.map f1)) = joinWith sep' (cs.map f2) :=
  joinWith_rel (R := fun a b => rmWsL a = b) rfl (fun h1 h2 => by rw [rmWsL_append, h1, h2]) hsep f1 f2 cs h

theorem rmWsL_lin (gk : GK) (ws : List Node) (e : Expr) (h : e.wf = true) :
    rmWsL (e.lin gk ws 0) = e.lin gk (rmWsL ws) 0 := by
  induction e, h using Expr.wf_ind with
  | atom n hn => exact rmWsL_cons (isLeaf_props hn).1 (isLeaf_props hn).2 []
  | paren items _ _ ih => rw [lin_paren, lin_paren, rmWsL_group, linSeq, rmWsL_join rfl _ _ items ih, linSeq]
  | not e0 _ _ ih => rw [lin_not, lin_not, List.cons_append, rmWsL_cons rfl rfl, rmWsL_append, ih, List.cons_append]
  | op g es hg _ _ ih =>
    have hg := Nat.lt_of_lt_of_le Nat.zero_lt_two hg
    rw [lin_op gk _ hg, lin_op gk _ hg]
    exact rmWsL_join (by rw [rmWsL_append, rmWsL_cons rfl rfl]) _ _ es ih

theorem rmWs_linSeq (gk : GK) (items : List Expr) (h : ∀ e ∈ items, e.wf = true) :
    rmWs (.group gk (linSeq gk [.ws] 0 items) 1) = .group gk (linSeq gk [] 0 items) 1 := by
  rw [rmWs_group]
  exact congrArg (Node.group gk · 1) (rmWsL_join rfl _ _ items fun c hc => rmWsL_lin gk [.ws] c (h c hc))

theorem doOperators_linSeq (gk : GK) (items : List Expr) (h : ∀ e ∈ items, e.wf = true) :
    doOperators defaultOps (.group gk (linSeq gk [] 0 items) 1) = .ok (.group gk (items.map (Expr.out gk)) 1) := by
  rw [doOperators_eq_opsOut, opsOut_paren gk gk 1 items h, List.map_map]
  exact congrArg (Except.ok <| Node.group gk · 1) (List.map_congr_left fun e he => opsOut_mid gk e (h e he))

end WM.Parser
