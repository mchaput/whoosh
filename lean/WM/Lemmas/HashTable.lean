import WM.Model.HashFile
/-! The probe sequence `P` with its modular arithmetic and what setting one slot does to a filtered table
(`filter_set_perm`, `takeWhile_set_filter`), then the open-addressing invariant of `HashWriter._write_hashes`
and what the reader's probe sees. -/
namespace WM.HashFile

/-- slot reached after `d` probes from `H` in a table of `n` slots -/
def P (n H d : Nat) : Nat := (H + d) % n

theorem P_lt {n : Nat} (hn : 0 < n) (H d : Nat) : P n H d < n := Nat.mod_lt _ hn

theorem succ_mod_eq {n s : Nat} (hs : s < n) : (s + 1) % n = nextSlot n s := by
  unfold nextSlot
  by_cases h : s + 1 = n
  · rw [if_pos h, h, Nat.mod_self]
  · rw [if_neg h, Nat.mod_eq_of_lt (Nat.lt_of_le_of_ne hs h)]

theorem nextSlot_lt {n s : Nat} (hs : s < n) : nextSlot n s < n :=
  succ_mod_eq hs ▸ Nat.mod_lt _ (Nat.zero_lt_of_lt hs)

theorem P_succ (n H d : Nat) : (P n H d + 1) % n = P n H (d + 1) := by
  unfold P
  rw [Nat.add_mod, Nat.mod_mod, ← Nat.add_mod, Nat.add_assoc]

theorem P_ne_of_lt {n H d1 d2 : Nat} (h1 : d1 < d2) (h2 : d2 < n) : P n H d1 ≠ P n H d2 := by
  unfold P
  intro heq
  -- the difference of the two offsets is a multiple of `n` below `n`
  have := Nat.sub_mod_eq_zero_of_mod_eq heq.symm
  rw [Nat.add_sub_add_left, Nat.mod_eq_of_lt (Nat.lt_of_le_of_lt (Nat.sub_le _ _) h2)] at this
  exact Nat.not_le.mpr h1 (Nat.sub_eq_zero_iff_le.mp this)

theorem P_inj {n H d1 d2 : Nat} (h1 : d1 < n) (h2 : d2 < n) (h : P n H d1 = P n H d2) : d1 = d2 := by
  rcases Nat.lt_trichotomy d1 d2 with hlt | heq | hgt
  · exact absurd h (P_ne_of_lt hlt h2)
  · exact heq
  · exact absurd h.symm (P_ne_of_lt hgt h1)

theorem P_surj {n s : Nat} (H : Nat) (hs : s < n) : ∃ d, d < n ∧ P n H d = s := by
  have hn : 0 < n := Nat.lt_of_le_of_lt (Nat.zero_le _) hs
  have hr : H % n < n := Nat.mod_lt _ hn
  unfold P
  -- go forward from `H % n` to `s`, around the end of the table if `s` lies before it
  by_cases hc : H % n ≤ s
  · have hd : s - H % n < n := Nat.lt_of_le_of_lt (Nat.sub_le _ _) hs
    refine ⟨s - H % n, hd, ?_⟩
    rw [Nat.add_mod, Nat.mod_eq_of_lt hd, Nat.add_sub_cancel' hc, Nat.mod_eq_of_lt hs]
  · have hle : H % n ≤ s + n := Nat.le_trans (Nat.le_of_lt hr) (Nat.le_add_left _ _)
    have hd : s + n - H % n < n := by omega
    refine ⟨s + n - H % n, hd, ?_⟩
    rw [Nat.add_mod, Nat.mod_eq_of_lt hd, Nat.add_sub_cancel' hle, Nat.add_mod_right, Nat.mod_eq_of_lt hs]

/-- "occupied" as the reader sees it (`if not itempos: return`) -/
def nz (s : Slot) : Bool := s.2 != 0

theorem nz_null : nz null = false := rfl

theorem filter_set_perm {α} (p : α → Bool) {x : α} (hx : p x = true) (L : List α) (t : Nat) (ht : t < L.length)
    (hp : p L[t] = false) : ((L.set t x).filter p).Perm (x :: L.filter p) := by
  rw [List.set_eq_take_append_cons_drop, if_pos ht, List.filter_append, List.filter_cons_of_pos hx]
  conv => rhs; rw [← List.take_append_drop t L, List.drop_eq_getElem_cons ht, List.filter_append,
    List.filter_cons_of_neg (by rw [hp]; exact Bool.false_ne_true)]
  exact List.perm_middle

theorem countP_lt_of_exists_not {T : List Slot} {i : Nat} (hi : i < T.length) (h : nz T[i] = false) :
    T.countP nz < T.length := by
  apply Classical.byContradiction
  intro hnot
  have hle := List.countP_le_length (p := nz) (l := T)
  have heq : T.countP nz = T.length := by omega
  rw [List.countP_eq_length] at heq
  have := heq T[i] (List.getElem_mem hi)
  rw [h] at this; cases this

/-- Filling the place `t` of a list where `p` fails, as a look-up for `q` sees it: the run up to the first
    failure of `p`, filtered by `q`, gains `x` at its end when `q x` and is unchanged otherwise — provided an `x`
    with `q x` fills the *first* failing place, and nothing behind `t` that satisfies `p` satisfies `q`. -/
theorem takeWhile_set_filter {α} (p q : α → Bool) (x : α) (hx : p x = true) :
    ∀ (L : List α) (t : Nat) (ht : t < L.length), p L[t] = false →
      (q x = true → ∀ j (hj : j < t), p (L[j]'(Nat.lt_trans hj ht)) = true) →
      (∀ j (hj : j < L.length), t < j → p L[j] = true → q L[j] = false) →
      ((L.set t x).takeWhile p).filter q = (L.takeWhile p).filter q ++ [x].filter q
  | [], _, ht, _, _, _ => absurd ht (Nat.not_lt_zero _)
  | a :: l, 0, _, hp, _, hb => by
    have hnone : (l.takeWhile p).filter q = [] := by
      rw [List.filter_eq_nil_iff]
      intro y hy
      obtain ⟨j, hj, rfl⟩ := List.getElem_of_mem ((List.takeWhile_sublist p).subset hy)
      have := hb (j + 1) (Nat.succ_lt_succ hj) (Nat.succ_pos j)
        ((List.all_eq_true.mp (List.all_takeWhile (p := p) (l := l))) _ hy)
      exact fun h => absurd (this ▸ h) Bool.false_ne_true
    rw [List.getElem_cons_zero] at hp
    rw [List.set_cons_zero, List.takeWhile_cons, if_pos hx, List.takeWhile_cons, if_neg (hp ▸ Bool.false_ne_true),
      ← List.singleton_append, List.filter_append, hnone, List.append_nil]
    rfl
  | a :: l, t + 1, ht, hp, ha, hb => by
    rw [List.set_cons_succ, List.takeWhile_cons, List.takeWhile_cons]
    by_cases hpa : p a = true
    · rw [if_pos hpa, if_pos hpa, List.filter_cons, List.filter_cons,
        takeWhile_set_filter p q x hx l t (Nat.lt_of_succ_lt_succ ht) hp
          (fun hq j hj => ha hq (j + 1) (Nat.succ_lt_succ hj))
          (fun j hj htj => hb (j + 1) (Nat.succ_lt_succ hj) (Nat.succ_lt_succ htj))]
      split <;> rfl
    · -- the run stops before `t`: `x` is not seen, and by the first proviso it is not asked for
      have hqx : q x = false := (Bool.not_eq_true _).mp fun hq => hpa (ha hq 0 (Nat.succ_pos t))
      rw [if_neg hpa, if_neg hpa, List.filter_cons, hqx]
      rfl

/-- home slot of a hash value in a table of `n` slots: `(hashval >> 8) % numslots` -/
def home (n h : Nat) : Nat := (h / 256) % n

/-- the slots in the order the reader probes them from `H` -/
def probeList (T : List Slot) (H : Nat) : List Slot :=
  (List.range T.length).map fun d => T.getD (P T.length H d) null

/-- … up to the first empty one -/
def visited (T : List Slot) (H : Nat) : List Slot := (probeList T H).takeWhile nz

theorem getElem_probeList (T : List Slot) (H d : Nat) (hd : d < (probeList T H).length) :
    (probeList T H)[d] = T.getD (P T.length H d) null := by
  simp [probeList]

/-- The open-addressing invariant of `_write_hashes`: table `T` after the entries `placed` were inserted in
    that order.  The occupied slots are exactly `placed`, once each (`count`, `shape`, `mem`, `pnz`, `uniq`);
    every entry is reachable from the home slot of its hash without crossing an empty slot (`reach`); and,
    what the reader needs (`q`), for every hash value `kh` the probe run from its home slot up to the first
    empty slot shows the entries with hash `kh` in insertion order. -/
structure Inv (T placed : List Slot) : Prop where
  count : T.countP nz = placed.length
  shape : ∀ s ∈ T, s = null ∨ nz s = true
  mem : ∀ s ∈ T, nz s = true → s ∈ placed
  pnz : ∀ e ∈ placed, nz e = true
  reach : ∀ e ∈ placed, ∃ d, d < T.length ∧ T[P T.length (home T.length e.1) d]? = some e ∧
    ∀ d', d' < d → nz (T.getD (P T.length (home T.length e.1) d') null) = true
  uniq : ∀ (i j : Nat) (hi : i < T.length) (hj : j < T.length), T[i] = T[j] → nz T[i] = true → i = j
  q : ∀ kh, (visited T (home T.length kh)).filter (fun s => s.1 == kh)
    = placed.filter (fun s => s.1 == kh)

/-- What `_write_hashes` maintains while it inserts `placed`, whether or not an entry repeats: the occupied
    slots are `placed` in some order (`perm`), an occupied slot does not lie behind an empty one on the probe path
    of its hash (`reach`), and `Inv.q`.  Once the entries are known to be distinct this is `Inv` (`Filled.inv`). -/
structure Filled (T placed : List Slot) : Prop where
  perm : (T.filter nz).Perm placed
  shape : ∀ s ∈ T, s = null ∨ nz s = true
  reach : ∀ kh d, d < T.length → nz (T.getD (P T.length (home T.length kh) d) null) = true →
    (T.getD (P T.length (home T.length kh) d) null).1 = kh →
    ∀ d', d' < d → nz (T.getD (P T.length (home T.length kh) d') null) = true
  q : ∀ kh, (visited T (home T.length kh)).filter (fun s => s.1 == kh)
    = placed.filter (fun s => s.1 == kh)

theorem Filled.inv {T placed : List Slot} (h : Filled T placed) (hnd : placed.Nodup) : Inv T placed where
  count := List.countP_eq_length_filter.trans h.perm.length_eq
  shape := h.shape
  mem := fun s hs hnz => h.perm.subset (List.mem_filter.mpr ⟨hs, hnz⟩)
  pnz := fun e he => (List.mem_filter.mp (h.perm.mem_iff.mpr he)).2
  reach := by
    intro e he
    obtain ⟨hm, hnz⟩ := List.mem_filter.mp (h.perm.mem_iff.mpr he)
    obtain ⟨i, hi, hie⟩ := List.getElem_of_mem hm
    obtain ⟨d, hd, hP⟩ := P_surj (home T.length e.1) hi
    have hat : T[P T.length (home T.length e.1) d]? = some e := by rw [hP, List.getElem?_eq_getElem hi, hie]
    have hg : T.getD (P T.length (home T.length e.1) d) null = e := by rw [List.getD_eq_getElem?_getD, hat]; rfl
    exact ⟨d, hd, hat, h.reach e.1 d hd (hg.symm ▸ hnz) (congrArg Prod.fst hg)⟩
  uniq := by
    have hp := List.pairwise_iff_getElem.mp (List.pairwise_filter.mp (h.perm.nodup_iff.mpr hnd))
    intro i j hi hj heq hnz
    rcases Nat.lt_trichotomy i j with hlt | heq' | hlt
    · exact absurd heq (hp i j hi hj hlt hnz (heq ▸ hnz))
    · exact heq'
    · exact absurd heq.symm (hp j i hj hi hlt (heq ▸ hnz) hnz)
  q := h.q

theorem getD_replicate_null (n i : Nat) : (List.replicate n null).getD i null = null := by
  simp only [List.getD_eq_getElem?_getD, List.getElem?_replicate]
  split <;> rfl

theorem filled_init (n : Nat) : Filled (List.replicate n null) [] where
  perm := by rw [List.filter_replicate_of_neg (by simp [nz_null])]
  shape := fun s hs => Or.inl (List.mem_replicate.mp hs).2
  reach := by
    intro kh d _ h
    rw [getD_replicate_null, nz_null] at h; cases h
  q := by
    intro kh
    simp only [visited, probeList, getD_replicate_null, List.map_const', List.takeWhile_replicate, nz_null]
    rfl

/-- The probe of `_write_hashes` finds the first empty slot, within `numslots` steps, as long as
    fewer slots are occupied than there are. -/
theorem findFree_spec (T : List Slot) (H : Nat) (hcount : T.countP nz < T.length)
    (hshape : ∀ s ∈ T, s = null ∨ nz s = true) :
    ∀ (fuel d : Nat), d + fuel = T.length →
      (∀ d', d' < d → nz (T.getD (P T.length H d') null) = true) →
      ∃ d0, d0 < T.length ∧ findFree T (P T.length H d) fuel = some (P T.length H d0) ∧
        T[P T.length H d0]? = some null ∧
        ∀ d', d' < d0 → nz (T.getD (P T.length H d') null) = true := by
  have hn : 0 < T.length := Nat.lt_of_le_of_lt (Nat.zero_le _) hcount
  intro fuel
  induction fuel with
  | zero =>
    intro d hd hall
    exfalso
    -- every slot is occupied: contradiction with the count
    have : T.countP nz = T.length := by
      rw [List.countP_eq_length]
      intro s hs
      rcases List.getElem_of_mem hs with ⟨i, hi, rfl⟩
      rcases P_surj H hi with ⟨d', hd', hP⟩
      have := hall d' (by omega)
      rwa [hP, ← List.getElem_eq_getD] at this
    exact absurd this (Nat.ne_of_lt hcount)
  | succ f ih =>
    intro d hd hall
    have hP := P_lt hn H d
    unfold findFree
    rw [List.getElem?_eq_getElem hP]
    simp only
    by_cases hs : (T[P T.length H d] != null) = true
    · rw [if_pos hs, P_succ]
      have hnz : nz T[P T.length H d] = true := by
        rcases hshape _ (List.getElem_mem hP) with h | h
        · rw [h] at hs; simp at hs
        · exact h
      refine ih (d + 1) (by rw [Nat.add_assoc, Nat.add_comm 1 f]; exact hd) fun d' hd' => ?_
      by_cases hdd : d' = d
      · subst hdd
        rwa [← List.getElem_eq_getD]
      · exact hall d' (Nat.lt_of_le_of_ne (Nat.le_of_lt_succ hd') hdd)
    · rw [if_neg hs]
      have hnull : T[P T.length H d] = null := by simpa using hs
      refine ⟨d, hd ▸ Nat.lt_add_of_pos_right (Nat.succ_pos f), rfl, ?_, hall⟩
      rw [List.getElem?_eq_getElem hP, hnull]

theorem getD_set (T : List Slot) (i j : Nat) (e : Slot) (hi : i < T.length) :
    (T.set i e).getD j null = if j = i then e else T.getD j null := by
  simp only [List.getD_eq_getElem?_getD, List.getElem?_set]
  by_cases h : i = j
  · subst h; simp [hi]
  · have : ¬ j = i := fun h' => h h'.symm
    simp [h, this]

theorem probeList_set (T : List Slot) (H dH : Nat) (e : Slot) (hd : dH < T.length) :
    probeList (T.set (P T.length H dH) e) H = (probeList T H).set dH e := by
  have hn : 0 < T.length := Nat.lt_of_le_of_lt (Nat.zero_le _) hd
  apply List.ext_getElem
  · simp [probeList]
  · intro d h1 h2
    have hdl : d < T.length := by simpa [probeList] using h1
    rw [getElem_probeList, List.length_set, getD_set _ _ _ _ (P_lt hn H dH), List.getElem_set]
    by_cases hdd : dH = d
    · subst hdd; simp
    · have : ¬ P T.length H d = P T.length H dH := fun h => hdd (P_inj hd hdl h.symm)
      simp only [this, ↓reduceIte, hdd]
      rw [getElem_probeList]

theorem filled_insert {T placed : List Slot} (hinv : Filled T placed) (e : Slot)
    (hroom : placed.length < T.length) (he : nz e = true) :
    ∃ T', insertSlot T e = some T' ∧ T'.length = T.length ∧ Filled T' (placed ++ [e]) := by
  have hn : 0 < T.length := Nat.lt_of_le_of_lt (Nat.zero_le _) hroom
  rcases findFree_spec T (home T.length e.1)
      (by rw [List.countP_eq_length_filter, hinv.perm.length_eq]; exact hroom) hinv.shape
      T.length 0 (Nat.zero_add _) (fun d' hd' => absurd hd' (Nat.not_lt_zero d')) with
    ⟨d0, hd0, hff, hnull, hbefore⟩
  have hP0 : P T.length (home T.length e.1) 0 = home T.length e.1 := by
    unfold P home; simp
  rw [hP0] at hff
  let s0 := P T.length (home T.length e.1) d0
  have hs0 : s0 < T.length := P_lt hn _ _
  have hnull' : T[s0] = null := by
    have := hnull
    rw [List.getElem?_eq_getElem hs0] at this
    exact Option.some.inj this
  refine ⟨T.set s0 e, ?_, by simp, ?_⟩
  · unfold insertSlot home at *
    rw [hff]; rfl
  have hlen : (T.set s0 e).length = T.length := by simp
  have hmono : ∀ j, nz (T.getD j null) = true → nz ((T.set s0 e).getD j null) = true := by
    intro j hj
    rw [getD_set _ _ _ _ hs0]
    split
    · exact he
    · exact hj
  refine { perm := ?perm, shape := ?shape, reach := ?reach, q := ?q }
  case perm =>
    exact (filter_set_perm nz he T s0 hs0 (by rw [hnull']; rfl)).trans
      ((hinv.perm.cons e).trans (List.perm_append_singleton e placed).symm)
  case shape =>
    intro s hs
    rcases List.mem_or_eq_of_mem_set hs with hs | rfl
    · exact hinv.shape s hs
    · exact Or.inr he
  case reach =>
    intro kh d hd
    rw [hlen] at hd ⊢
    rw [getD_set _ _ _ _ hs0]
    intro hnzd hkh d' hd'
    by_cases hP : P T.length (home T.length kh) d = s0
    · -- the new entry: it went to the first empty slot from its home
      rw [if_pos hP] at hkh
      subst hkh
      cases P_inj hd hd0 hP
      exact hmono _ (hbefore d' hd')
    · rw [if_neg hP] at hnzd hkh
      exact hmono _ (hinv.reach kh d hd hnzd hkh d' hd')
  case q =>
    intro kh
    rw [hlen]
    rcases P_surj (home T.length kh) hs0 with ⟨dH, hdH, hPH⟩
    have hvis : visited (T.set s0 e) (home T.length kh)
        = ((probeList T (home T.length kh)).set dH e).takeWhile nz := by
      unfold visited
      rw [← probeList_set T (home T.length kh) dH e hdH, hPH]
    rw [hvis, List.filter_append, ← hinv.q kh]
    generalize hL : probeList T (home T.length kh) = L
    have hLlen : L.length = T.length := by rw [← hL, probeList, List.length_map, List.length_range]
    have hLget : ∀ (d : Nat) (hd : d < L.length), L[d] = T.getD (P T.length (home T.length kh) d) null := by
      intro d hd; subst hL; exact getElem_probeList _ _ _ _
    have hdHL : dH < L.length := hLlen ▸ hdH
    have hLdH : nz (L[dH]'hdHL) = false := by
      rw [hLget dH hdHL, hPH, ← List.getElem_eq_getD (h := hs0), hnull']
      rfl
    have hvT : visited T (home T.length kh) = L.takeWhile nz := by unfold visited; rw [hL]
    rw [hvT]
    refine takeWhile_set_filter nz (fun s => s.1 == kh) e he L dH hdHL hLdH ?_ ?_
    · -- a new entry with hash `kh` went to the first empty slot from this home
      intro hek j hj
      have hek' : e.1 = kh := by simpa using hek
      have hd0 : d0 = dH := P_inj hd0 hdH (by rw [← hek'] at hPH; exact hPH.symm)
      rw [hLget j (Nat.lt_trans hj hdHL), ← hek']
      exact hbefore j (hd0 ▸ hj)
    · -- an entry with hash `kh` behind the empty slot `dH` would have an empty slot before it
      intro j hj hdj hnzj
      apply (Bool.not_eq_true _).mp
      intro hjk
      have := hinv.reach kh j (hLlen ▸ hj) (hLget j hj ▸ hnzj) (hLget j hj ▸ by simpa using hjk) dH hdj
      rw [← hLget dH hdHL, hLdH] at this
      cases this

theorem insertAll_spec : ∀ (es : List Slot) {T placed : List Slot}, Filled T placed →
    (∀ e ∈ es, nz e = true) → placed.length + es.length ≤ T.length →
    ∃ T', insertAll T es = some T' ∧ T'.length = T.length ∧ Filled T' (placed ++ es)
  | [], T, placed, hinv, _, _ => ⟨T, rfl, rfl, by simpa using hinv⟩
  | e :: es, T, placed, hinv, hnz, hroom => by
    rw [List.length_cons] at hroom
    rcases filled_insert hinv e (Nat.lt_of_lt_of_le (Nat.lt_add_of_pos_right (Nat.succ_pos _)) hroom)
      (hnz e List.mem_cons_self) with ⟨T1, h1, hl1, hinv1⟩
    rcases insertAll_spec es hinv1 (fun x hx => hnz x (List.mem_cons_of_mem _ hx))
        (by rw [List.length_append, List.length_singleton, hl1, Nat.add_assoc, Nat.add_comm 1]; exact hroom)
      with ⟨T2, h2, hl2, hinv2⟩
    rw [List.append_assoc] at hinv2
    refine ⟨T2, ?_, hl2.trans hl1, hinv2⟩
    simp only [insertAll, h1, h2]

theorem buildTable_spec (entries : List Slot) (hnz : ∀ e ∈ entries, nz e = true)
    (hnd : entries.Nodup) :
    ∃ T, buildTable entries = some T ∧ T.length = 2 * entries.length ∧ Inv T entries := by
  unfold buildTable
  rcases insertAll_spec entries (filled_init (2 * entries.length)) hnz (by simp; omega) with ⟨T, h1, h2, h3⟩
  exact ⟨T, h1, by simpa using h2, (List.nil_append entries ▸ h3).inv hnd⟩

end WM.HashFile
