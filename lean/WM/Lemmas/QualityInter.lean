import WM.Lemmas.FaithfulInter
import WM.Lemmas.QualityUnion
/-! Quality contract of `IntersectionMatcher` (the `skip_to_quality` loop). -/
namespace WM.Matcher

namespace Inter
variable {α β : Type} {A : Ops α} {B : Ops β} {dA fA : α → Den} {dB fB : β → Den}
  {WQA W0A : α → Prop} {WQB W0B : β → Prop}

/-- One operand standing on `y` is moved by `skip_to_quality(thr)` and, if it still stands on `y`, by `next()`: the
    result is stated against `La`, its list after `y`. -/
theorem skipSide_spec (QA : QFaithful A dA fA WQA W0A) (a : α) (wa : WQA a) (thr : Rat) {y : Nat} {ra : Rat}
    {La : Den} (ha : dA a = (y, ra) :: La) :
    Yields (skipSide A a thr y) fun out => WQA out.1 ∧ Keeps thr (dA out.1) La ∧ A.rem out.1 < A.rem a ∧
      fA out.1 = fA a := by
  have ascA := QA.curQ.asc _ wa
  refine (QA.skipQ a thr wa (by rw [ha]; simp)).bind ?_
  rintro ⟨a', sk⟩ ⟨g2, g3, g4⟩
  have ascA' := QA.curQ.asc _ g2
  rw [ha] at ascA g3
  -- what is left after the step is `dA a'` without the document `y`
  have K : Keeps thr (dropBelow (y + 1) (dA a')) La := by
    have := keeps_dropBelow (y + 1) ascA ascA' g3
    rwa [tail_eq_dropBelow ascA] at this
  refine .ite (fun hact => ?_) fun hin => ?_
  · obtain ⟨⟨x', r'⟩, L', ha'⟩ := List.exists_cons_of_ne_nil ((QA.curQ.active _ g2).1 hact)
    have hge : y ≤ x' := dominated_key_ge ascA g3.dom (x', r') (by rw [ha']; exact List.mem_cons_self)
    rw [ha'] at K ascA'
    refine Yields.bind (P := (x' = ·)) ⟨x', QA.curQ.id _ _ _ _ g2 ha', rfl⟩ ?_
    rintro _ rfl
    by_cases hxy : x' = y
    · subst hxy
      obtain ⟨a'', n1, n2, n3, n4, n5⟩ := QA.curQ.next _ _ _ _ g2 ha'
      rw [tail_eq_dropBelow ascA', ← n3] at K
      exact ⟨(a'', sk), by simp [Ops.nextIf, n1]; rfl, n2, K, Nat.lt_of_lt_of_le n4 g4.rem_le, by rw [n5, g4.full_eq]⟩
    · have hne : (x' == y) = false := by simp [hxy]
      rw [dropBelow_of_le_head (by omega), ← ha'] at K
      refine ⟨(a', sk), by simp [Ops.nextIf, hne]; rfl, g2, K, g4.rem_lt ?_, g4.full_eq⟩
      rw [ha', ha]; intro e; cases e; exact hxy rfl
  · have ha'0 := (QA.curQ.inactive g2).1 (Bool.eq_false_iff.2 hin)
    rw [ha'0, dropBelow_nil, ← ha'0] at K
    exact .ok ⟨g2, K, g4.rem_lt (by rw [ha'0, ha]; simp), g4.full_eq⟩

/-- the body of the loop: both operands are on the document `y`, which scores at most `q` and may therefore go
    (`keeps_cons`); the operand with the smaller block quality is moved on and keeps what is above `q - bmax` of its
    tail, which with the bound `bmax` of the other operand is enough (`keeps_interAdd_left`) -/
theorem skipStep_spec (QA : QFaithful A dA fA WQA W0A) (QB : QFaithful B dB fB WQB W0B) (q aq bq : Rat) (m : Bin α β)
    (wa : WQA m.a) (wb : WQB m.b) {y : Nat} {ra rb : Rat} {La Lb : Den} (ha : dA m.a = (y, ra) :: La)
    (hb : dB m.b = (y, rb) :: Lb) (hq : ra + rb ≤ q) :
    Yields (skipStep A B q m aq bq) fun out => Moved A B dA fA dB fB WQA WQB m out.1 ∧
      Keeps q (interWith (· + ·) (dA out.1.a) (dB out.1.b)) (interWith (· + ·) (dA m.a) (dB m.b)) ∧
      A.rem out.1.a + B.rem out.1.b < A.rem m.a + B.rem m.b := by
  have ascA : Asc ((y, ra) :: La) := ha ▸ QA.curQ.asc _ wa
  have ascB : Asc ((y, rb) :: Lb) := hb ▸ QB.curQ.asc _ wb
  refine .ite (fun _ => (QB.max m.b (QB.toW0 _ wb)).bind fun bmax hb2 => ?_) fun _ =>
    (QA.max m.a (QA.toW0 _ wa)).bind fun amax ha2 => ?_
  · refine Yields.bind (P := (y = ·)) ⟨y, QB.curQ.id _ _ _ _ wb hb, rfl⟩ ?_
    rintro _ rfl
    refine (skipSide_spec QA m.a wa (q - bmax) ha).bind ?_
    rintro ⟨a'', sk⟩ ⟨g2, g3, g4, g5⟩
    refine .ok ⟨⟨g2, wb, .of_lt g4 g5, .refl _ _ _ _⟩, ?_, Nat.add_lt_add_right g4 _⟩
    show Keeps q (interWith (· + ·) (dA a'') (dB m.b)) (interWith (· + ·) (dA m.a) (dB m.b))
    rw [ha, hb, interWith_cons_cons _ ascA, ← interWith_cons_right _ ascA.head_lt (s := rb)]
    exact (keeps_interAdd_left ascA.tail (QA.curQ.asc _ g2) (hb ▸ hb2.1) g3).trans (keeps_cons hq)
  · refine Yields.bind (P := (y = ·)) ⟨y, QA.curQ.id _ _ _ _ wa ha, rfl⟩ ?_
    rintro _ rfl
    refine (skipSide_spec QB m.b wb (q - amax) hb).bind ?_
    rintro ⟨b'', sk⟩ ⟨g2, g3, g4, g5⟩
    refine .ok ⟨⟨wa, g2, .refl _ _ _ _, .of_lt g4 g5⟩, ?_, Nat.add_lt_add_left g4 _⟩
    show Keeps q (interWith (· + ·) (dA m.a) (dB b'')) (interWith (· + ·) (dA m.a) (dB m.b))
    rw [ha, hb, interWith_cons_cons _ ascA, ← interWith_cons_left _ ascB.head_lt (r := ra)]
    exact (keeps_interAdd_right ascA ascB.tail (QB.curQ.asc _ g2) (ha ▸ ha2.1) g3).trans (keeps_cons hq)

theorem skipQLoop_spec (QA : QFaithful A dA fA WQA W0A) (QB : QFaithful B dB fB WQB W0B) (q : Rat) :
    ∀ (n : Nat) (m : Bin α β) (aq bq : Rat) (k : Nat), WQA m.a → WQB m.b → Aligned dA dB m →
      HeadBoundedBy aq (dA m.a) → HeadBoundedBy bq (dB m.b) →
      A.rem m.a + B.rem m.b < n →
      Yields (skipQLoop A B q n m aq bq k) fun out => Moved A B dA fA dB fB WQA WQB m out.1 ∧
        Aligned dA dB out.1 ∧
        Keeps q (interWith (· + ·) (dA out.1.a) (dB out.1.b)) (interWith (· + ·) (dA m.a) (dB m.b)) := by
  intro n
  induction n with
  | zero => exact fun _ _ _ _ _ _ _ _ _ h => absurd h (Nat.not_lt_zero _)
  | succ n ih =>
    intro m aq bq k wa wb hal haq hbq hn
    unfold skipQLoop
    refine .ite (fun hc => ?_) fun _ => .ok ⟨.refl wa wb, hal, .refl _ _⟩
    simp only [Bool.and_eq_true, decide_eq_true_eq] at hc
    obtain ⟨⟨hacta, hactb⟩, hlt⟩ := hc
    obtain ⟨⟨y, ra⟩, La, ha⟩ := List.exists_cons_of_ne_nil ((QA.curQ.active _ wa).1 hacta)
    obtain ⟨⟨y', rb⟩, Lb, hb⟩ := List.exists_cons_of_ne_nil ((QB.curQ.active _ wb).1 hactb)
    -- both active and aligned: they stand on the same document, which the block qualities bound below `q`
    cases hal y ra La y' rb Lb ha hb
    have hq : ra + rb ≤ q :=
      Rat.le_of_lt (Std.lt_of_le_of_lt (rat_add_le_add (haq _ _ _ ha) (hbq _ _ _ hb)) hlt)
    refine (skipStep_spec QA QB q aq bq m wa wb ha hb hq).bind ?_
    rintro ⟨m1, sk⟩ ⟨s2, s3, s4⟩
    dsimp only at s4
    refine .ite (fun hin => .ok ⟨s2, ?_, s3⟩) fun hin => ?_
    · simp only [Bool.or_eq_true, Bool.not_eq_true'] at hin
      rcases hin with h1 | h1
      · exact headRel_of_nil_left ((QA.curQ.inactive s2.wa).1 h1)
      · exact headRel_of_nil_right ((QB.curQ.inactive s2.wb).1 h1)
    · simp only [Bool.or_eq_true, Bool.not_eq_true', not_or, Bool.not_eq_false] at hin
      -- `_find_next` realigns without changing the intersection; the loop goes on with the new block qualities
      rw [realign_eq_findFirst m1 hin.1 hin.2]
      refine Yields.bind (findFirst_spec (· + ·) QA.curQ QB.curQ m1 s2.wa s2.wb) fun m2 f2 =>
        (QA.block m2.a f2.wa).bind fun aq' ba2 => (QB.block m2.b f2.wb).bind fun bq' bb2 => ?_
      have := f2.a.rem_le
      have := f2.b.rem_le
      exact (ih m2 aq' bq' (k + sk) f2.wa f2.wb f2.inv ba2 bb2 (by omega)).mono fun _ i =>
        ⟨(s2.trans f2.toMoved).trans i.1, i.2.1, i.2.2.trans (f2.den_eq ▸ s3)⟩

theorem qfaithful (QA : QFaithful A dA fA WQA W0A) (QB : QFaithful B dB fB WQB W0B) :
    QFaithful (Inter.ops A B) (fun m => interWith (· + ·) (dA m.a) (dB m.b))
      (fun m => interWith (· + ·) (fA m.a) (fB m.b))
      (fun m => WQA m.a ∧ WQB m.b ∧ Aligned dA dB m) (fun m => W0A m.a ∧ W0B m.b ∧ Aligned dA dB m) where
  toW0 m h := ⟨QA.toW0 _ h.1, QB.toW0 _ h.2.1, h.2.2⟩
  cur0 := Inter.faithful QA.cur0 QB.cur0
  curQ := Inter.faithful QA.curQ QB.curQ
  nn m h := nonNeg_interWith _ (QA.nn _ h.1) (QB.nn _ h.2.1) (fun _ _ => Rat.add_nonneg)
  sup m h := Bool.and_eq_true_iff.2 ⟨QA.sup _ h.1, QB.sup _ h.2.1⟩
  max m h := (Union.maxQuality_spec QA QB m h.1 h.2.1).mono fun _ ⟨_, _, e, ha2, hb2, ha3, hb3⟩ =>
    e ▸ ⟨bounded_interAdd ha2 hb2, Rat.add_nonneg ha3 hb3⟩
  block m h := by
    refine (Union.blockQuality_spec QA QB m h.1 h.2.1).mono ?_
    rintro _ ⟨qa, qb, rfl, ha2, hb2, -, -⟩ x r L hd
    rcases head (· + ·) QA.curQ m h.1 h.2.2 with ⟨e1, -⟩ | ⟨x', ra, rb, La, Lb, e3, e1, e2⟩
    · rw [e1] at hd; cases hd
    · rw [e3] at hd; cases hd; exact rat_add_le_add (ha2 _ _ _ e1) (hb2 _ _ _ e2)
  skipQ m q h hne := (QA.block m.a h.1).bind fun aq ba2 => (QB.block m.b h.2.1).bind fun bq bb2 =>
    (skipQLoop_spec QA QB q _ m aq bq 0 h.1 h.2.1 h.2.2 ba2 bb2 (Nat.lt_succ_self _)).mono fun _ i =>
      ⟨⟨i.1.wa, i.1.wb, i.2.1⟩, i.2.2, .bin _ (fun _ => rfl) i.1.a i.1.b⟩

end Inter
end WM.Matcher
