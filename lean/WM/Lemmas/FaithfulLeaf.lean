import WM.Lemmas.Faithful
/-!
`W3LeafMatcher` is a cursor over *postings*: `rest m` is the list of postings still to deliver, and `next`, `skip_to`,
`_next_block`, `_skip_to_block` are characterised on it without a word about scores.  What the matcher reads on a posting
(the score, the weight, the number of matching terms) is a function `g m` applied to the head posting, so one theorem
(`faithful_of`) gives the cursor contract for every such read, under any invariant that speaks of the stored data only;
`faithful` (the leaf case of C11) is its instance for the score.
-/
namespace WM.Matcher
namespace LeafM

def restPosts (blocks : List Block) (b i : Nat) : List Posting :=
  ((blocks.drop b).flatMap (·.posts)).drop i

/-- Invariant of the stored data (independent of the cursor): no empty block, ids ascend across
    blocks, every block header carries its last id. -/
structure DataWF (blocks : List Block) : Prop where
  nonempty : ∀ B ∈ blocks, B.posts ≠ []
  ascending : ((blocks.flatMap (·.posts)).map (·.id)).Pairwise (· < ·)
  maxId : ∀ B ∈ blocks, ∀ p ∈ B.posts, p.id ≤ B.maxId

/-- cursor invariant: inside a block, or at the end -/
def WF (m : LeafM) : Prop :=
  DataWF m.blocks ∧ m.b < m.blocks.length ∧ (m.atend = true ∨ m.i < m.blen)

/-- same stored data, possibly another cursor -/
def Same (m m' : LeafM) : Prop :=
  m'.blocks = m.blocks ∧ m'.sc = m.sc ∧ m'.termMaxWeight = m.termMaxWeight ∧ m'.termMinLength = m.termMinLength

theorem Same.refl (m : LeafM) : Same m m := ⟨rfl, rfl, rfl, rfl⟩
theorem Same.trans {m₁ m₂ m₃ : LeafM} (h₁ : Same m₁ m₂) (h₂ : Same m₂ m₃) : Same m₁ m₃ :=
  ⟨h₂.1.trans h₁.1, h₂.2.1.trans h₁.2.1, h₂.2.2.1.trans h₁.2.2.1, h₂.2.2.2.trans h₁.2.2.2⟩

theorem DataWF.of_same {m m' : LeafM} (h : Same m m') (d : DataWF m.blocks) : DataWF m'.blocks := by
  rw [h.1]; exact d

theorem full_of_same {m m' : LeafM} (h : Same m m') : m'.full = m.full := by
  simp [full, h.1, h.2.1]

theorem restPosts_block {blocks : List Block} {b : Nat} (hb : b < blocks.length) (i : Nat)
    (hi : i ≤ (blocks[b]).posts.length) :
    restPosts blocks b i = (blocks[b]).posts.drop i ++ restPosts blocks (b + 1) 0 := by
  unfold restPosts
  rw [List.drop_eq_getElem_cons hb, List.flatMap_cons, List.drop_append_of_le_length hi]
  rfl

theorem restPosts_next_block {blocks : List Block} {b : Nat} (hb : b < blocks.length) :
    restPosts blocks b (blocks[b]).posts.length = restPosts blocks (b + 1) 0 := by
  rw [restPosts_block hb _ (Nat.le_refl _), List.drop_length, List.nil_append]

theorem restPosts_last {blocks : List Block} {b : Nat} (hb : b + 1 ≥ blocks.length) :
    restPosts blocks (b + 1) 0 = [] := by
  simp [restPosts, List.drop_eq_nil_of_le hb]

theorem curBlock_eq {m : LeafM} (hb : m.b < m.blocks.length) : m.curBlock = some (m.blocks[m.b]) := by
  simp [curBlock, List.getElem?_eq_getElem hb]

theorem blen_eq {m : LeafM} (hb : m.b < m.blocks.length) : m.blen = (m.blocks[m.b]).posts.length := by
  simp [blen, curBlock_eq hb]

theorem WF.i_lt {m : LeafM} (h : WF m) (hact : m.atend = false) : m.i < (m.blocks[m.b]'h.2.1).posts.length := by
  rcases h.2.2 with hi | hi
  · rw [hact] at hi; cases hi
  · rwa [blen_eq h.2.1] at hi

/-- the postings the cursor has still to deliver -/
def rest (m : LeafM) : List Posting := if m.atend then [] else restPosts m.blocks m.b m.i

theorem den_eq_rest (m : LeafM) : m.den = (rest m).map (entry m.sc) := by
  unfold den rest restPosts; split <;> rfl

theorem rest_of_active {m : LeafM} (h : m.atend = false) : rest m = restPosts m.blocks m.b m.i := by
  simp [rest, h]

theorem rem_eq_length (m : LeafM) : m.rem = (rest m).length := by
  unfold rem rest
  by_cases h : m.atend = true
  · simp [h]
  · simp only [h, Bool.false_eq_true, ↓reduceIte, restPosts, List.length_drop, List.length_flatMap]

theorem rest_sublist (m : LeafM) : (rest m).Sublist (m.blocks.flatMap (·.posts)) := by
  unfold rest
  split
  · exact List.nil_sublist _
  · refine (List.drop_sublist _ _).trans ?_
    conv => rhs; rw [← List.take_append_drop m.b m.blocks, List.flatMap_append]
    exact List.sublist_append_right _ _

theorem atend_of_rest_cons {m : LeafM} {p : Posting} {L : List Posting} (hd : rest m = p :: L) : m.atend = false := by
  cases ha : m.atend with
  | false => rfl
  | true => rw [rest, ha] at hd; cases hd

theorem rest_active {m : LeafM} (h : WF m) (hact : m.atend = false) :
    ∃ p, (m.blocks[m.b]'h.2.1).posts[m.i]? = some p ∧
      rest m = p :: ((m.blocks[m.b]'h.2.1).posts.drop (m.i + 1) ++ (m.blocks.drop (m.b + 1)).flatMap (·.posts)) := by
  have hi' := h.i_lt hact
  refine ⟨(m.blocks[m.b]'h.2.1).posts[m.i], by simp [List.getElem?_eq_getElem hi'], ?_⟩
  rw [rest_of_active hact, restPosts_block h.2.1 _ (Nat.le_of_lt hi'), List.drop_eq_getElem_cons hi']
  rfl

theorem head {m : LeafM} (h : WF m) :
    (rest m = [] ∧ m.isActive = false) ∨ ∃ p L, rest m = p :: L ∧ m.isActive = true ∧ m.cur = some p := by
  cases ha : m.atend with
  | true => exact .inl ⟨by simp [rest, ha], by simp [isActive, ha]⟩
  | false =>
    obtain ⟨p, hp, hr⟩ := rest_active h ha
    exact .inr ⟨p, _, hr, by simp [isActive, ha, blen_eq h.2.1, h.i_lt ha], by simp [cur, curBlock_eq h.2.1, hp]⟩

/-- `m'` is `m` moved forward over postings that all satisfy `Q` -/
structure Adv (Q : Posting → Prop) (m m' : LeafM) : Prop where
  wf : WF m'
  same : Same m m'
  split : ∃ P, rest m = P ++ rest m' ∧ ∀ p ∈ P, Q p

theorem Adv.refl (Q : Posting → Prop) {m : LeafM} (h : WF m) : Adv Q m m := ⟨h, Same.refl m, [], rfl, by simp⟩

theorem Adv.trans {Q : Posting → Prop} {m₁ m₂ m₃ : LeafM} (h₁ : Adv Q m₁ m₂) (h₂ : Adv Q m₂ m₃) : Adv Q m₁ m₃ :=
  let ⟨P, hP, hP'⟩ := h₁.split
  let ⟨P₂, hQ, hQ'⟩ := h₂.split
  ⟨h₂.wf, h₁.same.trans h₂.same, P ++ P₂, by rw [hP, hQ, List.append_assoc], List.forall_mem_append.2 ⟨hP', hQ'⟩⟩

/-- the budget is the number of postings left, so moving forward pays -/
theorem rem_suffix {m m' : LeafM} (h : rest m' <:+ rest m) :
    m'.rem ≤ m.rem ∧ (rest m' ≠ rest m → m'.rem < m.rem) := by
  rw [rem_eq_length, rem_eq_length]
  exact ⟨h.length_le, fun hne => Nat.lt_of_le_of_ne h.length_le fun e => hne (h.eq_of_length e)⟩

theorem Adv.suffix {Q : Posting → Prop} {m m' : LeafM} (h : Adv Q m m') : rest m' <:+ rest m :=
  let ⟨P, hP, _⟩ := h.split; ⟨P, hP.symm⟩

theorem Adv.rem_le {Q : Posting → Prop} {m m' : LeafM} (h : Adv Q m m') : m'.rem ≤ m.rem := (rem_suffix h.suffix).1

theorem Adv.rem_lt {Q : Posting → Prop} {m m' : LeafM} (h : Adv Q m m') (hne : rest m' ≠ rest m) : m'.rem < m.rem :=
  (rem_suffix h.suffix).2 hne

/-- budget of the block-skipping loop -/
def blocksLeft (m : LeafM) : Nat := if m.atend then 0 else m.blocks.length - m.b

theorem blen_pos {m : LeafM} (d : DataWF m.blocks) (hb : m.b < m.blocks.length) : 0 < m.blen := by
  rw [blen_eq hb]; exact List.length_pos_iff.2 (d.nonempty _ (List.getElem_mem hb))

/-- `_next_block()` from a block that is not at the end, whatever the position in it -/
theorem nextBlock_spec {m : LeafM} (d : DataWF m.blocks) (hb : m.b < m.blocks.length) (hact : m.atend = false) :
    Yields m.nextBlock fun m' => WF m' ∧ Same m m' ∧ rest m' = restPosts m.blocks (m.b + 1) 0 ∧
      blocksLeft m' < m.blocks.length - m.b := by
  unfold nextBlock
  simp only [hact, Bool.false_eq_true, ↓reduceIte]
  refine .ite (fun hlast => .ok ⟨⟨d, hb, .inl rfl⟩, Same.refl m, (restPosts_last hlast).symm, Nat.sub_pos_of_lt hb⟩)
    fun hlast => ?_
  have hb' : m.b + 1 < m.blocks.length := Nat.lt_of_not_le hlast
  exact .ok ⟨⟨d, hb', .inr (blen_pos (m := { m with b := m.b + 1, i := 0 }) d hb')⟩, Same.refl m,
    rest_of_active rfl, Nat.sub_lt_sub_left hb (Nat.lt_succ_self _)⟩

theorem next_spec {m : LeafM} (h : WF m) {p : Posting} {L : List Posting} (hd : rest m = p :: L) :
    Yields m.next fun m' => WF m' ∧ Same m m' ∧ rest m' = L := by
  have hact : m.atend = false := atend_of_rest_cons hd
  have hi := h.i_lt hact
  -- either way the cursor comes to stand on position `i + 1` of the block, which at the end of the block is the start
  -- of the next one
  have hL : restPosts m.blocks m.b (m.i + 1) = L := by
    rw [restPosts, ← List.tail_drop, ← restPosts, ← rest_of_active hact, hd]; rfl
  unfold next
  simp only [blen_eq h.2.1]
  refine .ite (fun hend => ?_) fun hend =>
    .ok ⟨⟨h.1, h.2.1, .inr (show m.i + 1 < m.blen by rw [blen_eq h.2.1]; omega)⟩, Same.refl m,
      (rest_of_active (m := { m with i := m.i + 1 }) hact).trans hL⟩
  refine (nextBlock_spec (m := { m with i := m.i + 1 }) h.1 h.2.1 hact).mono ?_
  rintro m' ⟨h2, h3, h4, -⟩
  refine ⟨h2, h3, h4.trans ?_⟩
  rw [← hL, ← restPosts_next_block h.2.1]
  exact congrArg _ hend.symm

theorem atend_of_isActive {m : LeafM} (h : m.isActive = true) : m.atend = false := by
  simp only [isActive, Bool.and_eq_true, Bool.not_eq_true'] at h
  exact h.1

/-- `_skip_to_block(skipwhile)`: passes over whole blocks whose postings all satisfy `Q`.  `S` is whatever else the caller
    knows of the matcher that `hpQ` needs and that survives a move over the same stored data (`hS`): nothing for `skip_to`,
    the block-quality data and the scorer for `skip_to_quality`. -/
theorem skipBlocksWhile_spec (p : LeafM → Bool) (Q : Posting → Prop) (S : LeafM → Prop)
    (hS : ∀ a b : LeafM, Same a b → S a → S b)
    (hpQ : ∀ m : LeafM, (hw : WF m) → m.atend = false → p m = true → S m →
      ∀ post ∈ (m.blocks[m.b]'hw.2.1).posts, Q post) :
    ∀ (fuel : Nat) (m : LeafM), WF m → S m → blocksLeft m < fuel →
      Yields (skipBlocksWhile p fuel m) fun (m', _) => Adv Q m m' ∧ (m'.isActive = false ∨ p m' = false) := by
  intro fuel
  induction fuel with
  | zero => intro m _ _ h; omega
  | succ n ih =>
    intro m hw hs hfuel
    unfold skipBlocksWhile
    refine .ite (fun hc => ?_) fun hc => .ok ⟨Adv.refl Q hw, ?_⟩
    · rw [Bool.and_eq_true] at hc
      have hact := atend_of_isActive hc.1
      obtain ⟨m1, h1, h2, h3, h4, h5⟩ := nextBlock_spec hw.1 hw.2.1 hact
      rw [blocksLeft, hact] at hfuel
      obtain ⟨⟨m', k⟩, g1, g2, g3⟩ := ih m1 h2 (hS m m1 h3 hs) (Nat.lt_of_lt_of_le h5 (Nat.le_of_lt_succ hfuel))
      -- the rest of the current block is passed over
      have hstep : Adv Q m m1 := ⟨h2, h3, _,
        by rw [h4, rest_of_active hact, restPosts_block hw.2.1 _ (Nat.le_of_lt (hw.i_lt hact))],
        fun post hpost => hpQ m hw hact hc.2 hs post (List.mem_of_mem_drop hpost)⟩
      exact ⟨(m', k + 1), by simp [h1, g1], hstep.trans g2, g3⟩
    · cases h1 : m.isActive with
      | false => left; rfl
      | true => right; simpa [h1] using hc

theorem id_of_cur {m : LeafM} {p : Posting} (h : m.cur = some p) : m.id = .ok p.id := by simp [LeafM.id, h]

/-- the posting-by-posting loop of `skip_to` -/
theorem stepWhileBelow_spec (t : Nat) :
    ∀ (fuel : Nat) (m : LeafM), WF m → (rest m).length < fuel →
      Yields (stepWhileBelow t fuel m) fun m' => WF m' ∧ Same m m' ∧
        rest m' = (rest m).dropWhile fun p => decide (p.id < t) := by
  intro fuel
  induction fuel with
  | zero => intro m _ h; omega
  | succ n ih =>
    intro m hw hfuel
    unfold stepWhileBelow
    rcases head hw with ⟨hd0, hina⟩ | ⟨p, L, hd, hisact, hcur⟩
    · rw [hina]; exact .ok ⟨hw, Same.refl m, by rw [hd0]; rfl⟩
    · simp only [hisact, ↓reduceIte, id_of_cur hcur]
      refine .ite (fun hlt => ?_) fun hlt =>
        .ok ⟨hw, Same.refl m, by rw [hd, List.dropWhile_cons_of_neg (by simpa using hlt)]⟩
      obtain ⟨m1, h1, h2, h3, h4⟩ := next_spec hw hd
      rw [h1]
      refine (ih m1 h2 (by rw [hd] at hfuel; rw [h4]; simpa using hfuel)).mono ?_
      rintro m' ⟨g2, g3, g4⟩
      exact ⟨g2, h3.trans g3, by rw [g4, h4, hd, List.dropWhile_cons_of_pos (by simpa using hlt)]⟩

/-- first phase of `skip_to(t)`: whole blocks below `t` are passed over -/
theorem skipBlocksTo_spec {m : LeafM} (hw : WF m) (t : Nat) :
    Yields (m.skipBlocksTo t) (Adv (fun p => p.id < t) m) := by
  unfold skipBlocksTo
  refine .ite (fun _ => ?_) fun _ => .ok (Adv.refl _ hw)
  obtain ⟨⟨m1, k⟩, g1, g2, -⟩ := skipBlocksWhile_spec (fun m => decide (t > m.blockMaxId))
    (fun p => p.id < t) (fun _ => True) (fun _ _ _ _ => trivial)
    (fun m hw _ hp _ post hpost => by
      have h1 := hw.1.maxId (m.blocks[m.b]'hw.2.1) (List.getElem_mem _) post hpost
      have h2 : m.blockMaxId = (m.blocks[m.b]'hw.2.1).maxId := by simp [blockMaxId, curBlock_eq hw.2.1]
      simp only [decide_eq_true_eq] at hp
      omega)
    (m.blocks.length + 1) m hw trivial (by unfold blocksLeft; split <;> omega)
  rw [g1]
  exact .ok g2

theorem skipTo_spec {m : LeafM} (hw : WF m) (hne : rest m ≠ []) (t : Nat) :
    Yields (m.skipTo t) fun m' => WF m' ∧ Same m m' ∧ rest m' = (rest m).dropWhile fun p => decide (p.id < t) := by
  rcases head hw with ⟨hd0, -⟩ | ⟨p, L, hd, hisact, hcur⟩
  · exact absurd hd0 hne
  unfold skipTo
  simp only [hisact, Bool.not_true, Bool.false_eq_true, ↓reduceIte, id_of_cur hcur]
  refine .ite (fun htx => .ok ⟨hw, Same.refl m, by rw [hd, List.dropWhile_cons_of_neg (by simpa using htx)]⟩) fun _ => ?_
  obtain ⟨m1, e1, a1⟩ := skipBlocksTo_spec hw t
  rw [e1]
  obtain ⟨P, hP, hP'⟩ := a1.split
  refine (stepWhileBelow_spec t (m1.rem + 1) m1 a1.wf (by rw [rem_eq_length]; omega)).mono ?_
  rintro m' ⟨w2, s2, r2⟩
  exact ⟨w2, a1.same.trans s2, by rw [r2, hP, List.dropWhile_append_of_pos fun p hp => by simpa using hP' p hp]⟩

theorem dropBelow_map_entry (g : Rat → Nat → Rat) (t : Nat) (L : List Posting) :
    dropBelow t (L.map (entry g)) = (L.dropWhile fun p => decide (p.id < t)).map (entry g) :=
  List.dropWhile_map

theorem asc_map_entry (g : Rat → Nat → Rat) {m : LeafM} (d : DataWF m.blocks) : Asc ((rest m).map (entry g)) := by
  have h := d.ascending
  rw [List.pairwise_map] at h
  exact List.Pairwise.map _ (fun a b hab => hab) (h.sublist (rest_sublist m))

/-- any table that moves like the leaf's and reads `g m` of the current posting (`g` untouched by the moves) is a faithful
    cursor over the postings read through `g m`, under any invariant `W` that implies `WF` and speaks of the stored data
    only (`hS`) -/
theorem faithful_of (O : Ops LeafM) (g : LeafM → Rat → Nat → Rat) (hg : ∀ m m', Same m m' → g m' = g m)
    (hm : MoveEq O LeafM.ops)
    (hs : ∀ m p, m.isActive = true → m.cur = some p → O.score m = .ok (g m p.weight p.length))
    (W : LeafM → Prop) (hW : ∀ m, W m → WF m) (hS : ∀ m m', W m → Same m m' → WF m' → W m') :
    Faithful O (fun m => (rest m).map (entry (g m))) (fun m => (m.blocks.flatMap (·.posts)).map (entry (g m))) W := by
  obtain ⟨e1, e2, e3, e4, e5, e6⟩ := hm
  -- a move forward along the postings left, as a step of the table
  have step : ∀ {m m' : LeafM}, W m → Same m m' → WF m' → rest m' <:+ rest m →
      Step O (fun m => (rest m).map (entry (g m))) (fun m => (m.blocks.flatMap (·.posts)).map (entry (g m))) W m m'
        ((rest m').map (entry (g m))) := fun {m m'} h hs hw hP =>
    ⟨hS m m' h hs hw, by rw [hg m m' hs], by rw [e6]; exact (rem_suffix hP).1,
      fun hne => by rw [e6]; exact (rem_suffix hP).2 fun e => hne (by simp only [e, hg m m' hs]),
      by rw [hs.1, hg m m' hs]⟩
  refine .of_state (fun m h => asc_map_entry _ (hW m h).1) (fun m h => ?_) (fun m h => ?_)
  · rw [e1, e2, e3, e4]
    rcases head (hW m h) with ⟨h0, ha⟩ | ⟨p, L', hr, ha, hc⟩
    · exact .inl ⟨by rw [h0]; rfl, ha⟩
    · refine .inr ⟨p.id, _, _, by rw [hr]; rfl, ha, id_of_cur hc, hs m p ha hc, ?_, fun t => ?_⟩
      · refine (next_spec (hW m h) hr).mono ?_
        rintro m' ⟨h2, h3, rfl⟩
        exact step h h3 h2 (hr ▸ List.suffix_cons p _)
      · refine (skipTo_spec (hW m h) (by rw [hr]; exact List.cons_ne_nil _ _) t).mono ?_
        rintro m' ⟨h2, h3, h4⟩
        rw [dropBelow_map_entry, ← h4]
        exact step h h3 h2 (h4 ▸ List.dropWhile_suffix _)
  · obtain ⟨d, hb, -⟩ := hW m h
    have h0 : 0 < m.blocks.length := Nat.zero_lt_of_lt hb
    have e := hg m { m with b := 0, i := 0, atend := false } ⟨rfl, rfl, rfl, rfl⟩
    rw [e5]
    exact .ok ⟨hS m _ h ⟨rfl, rfl, rfl, rfl⟩ ⟨d, h0, .inr (blen_pos d h0)⟩, by simp only [e]; rfl, by simp only [e]⟩

theorem faithful_inv (W : LeafM → Prop) (hW : ∀ m, W m → WF m) (hS : ∀ m m', W m → Same m m' → WF m' → W m') :
    Faithful LeafM.ops LeafM.den LeafM.full W :=
  (faithful_of LeafM.ops (·.sc) (fun _ _ h => h.2.1) (MoveEq.refl _)
    (fun m p _ hc => by show m.score = _; simp [LeafM.score, hc]) W hW hS).of_eq den_eq_rest (fun _ => rfl)

theorem faithful : Faithful LeafM.ops LeafM.den LeafM.full LeafM.WF :=
  faithful_inv _ (fun _ h => h) (fun _ _ _ _ h => h)

end LeafM
end WM.Matcher
