import WM.Lemmas.IdSetsSorted
import WM.Lemmas.IdSetsLoops
/-! `foldE_refines` for the inherited `DocIdSet` loops, applied here to those of `SortedIntSet`; the invariants
`Inner.WF` / `Inner.Ok` of a wrapped set of either representation with `Inner.*_spec`; the methods of `ReverseIdSet`
itself, and `Rev.foldE_refines` for the loops it inherits. -/
namespace WM.IdSets
open WM.Spec.IdSet (Sorted)

/-- A loop over `l` whose body never raises from a state with `Inv`, keeps `Inv`, and acts as `g` on the
    abstraction `abs` of the state: the loop does not raise either, and is `foldl g` on the abstraction. -/
theorem foldE_refines {σ : Type} (Inv : σ → Prop) (abs : σ → List Nat) (f : σ → Nat → Except Err σ)
    (g : List Nat → Nat → List Nat) : ∀ (l : List Nat) (s : σ), Inv s →
      (∀ s, Inv s → ∀ n ∈ l, Yields (f s n) fun s' => Inv s' ∧ abs s' = g (abs s) n) →
      Yields (foldE f s l) fun s' => Inv s' ∧ abs s' = l.foldl g (abs s)
  | [], s, hs, _ => .ok ⟨hs, rfl⟩
  | n :: t, s, hs, h => by
    obtain ⟨s1, h1, hi1, ha1⟩ := h s hs n (List.mem_cons_self ..)
    rw [foldE, h1, List.foldl_cons, ← ha1]
    exact foldE_refines Inv abs f g t s1 hi1 fun s hs n hn => h s hs n (List.mem_cons_of_mem _ hn)

theorem sisUpdate_spec {data : List Nat} (hs : Sorted data) (o : Other) :
    sisUpdate data o = .ok (WM.Spec.IdSet.union data o.items) := by
  obtain ⟨r, hr, _, rfl⟩ := foldE_refines Sorted id sisAdd (fun a n => WM.Spec.IdSet.insert n a) o.items data hs
    fun s hs n _ => ⟨_, sisAdd_spec hs n, WM.Spec.IdSet.sorted_insert hs, rfl⟩
  rw [sisUpdate, hr, id, WM.Spec.IdSet.foldl_insert_eq_union _ hs]

theorem sisInvertUpdate_exact {data : List Nat} (hs : Sorted data) (size : Nat) :
    Yields (sisInvertUpdate data size) fun r => Sorted r ∧
      ∀ x, x ∈ r ↔ (x < size ∧ x ∉ data) ∨ (size ≤ x ∧ x ∈ data) := by
  refine (foldE_refines Sorted id _ (fun a k => if k ∈ a then WM.Spec.IdSet.erase k a else WM.Spec.IdSet.insert k a)
    _ data hs fun d hd k _ => ?_).mono ?_
  · rw [sisContains_spec hd k]
    by_cases hk : k ∈ d
    · rw [decide_eq_true hk]
      exact ⟨_, sisDiscard_spec hd k, WM.Spec.IdSet.sorted_erase hd, (if_pos hk).symm⟩
    · rw [decide_eq_false hk]
      exact ⟨_, sisAdd_spec hd k, WM.Spec.IdSet.sorted_insert hd, (if_neg hk).symm⟩
  rintro r ⟨hsr, rfl⟩
  refine ⟨hsr, fun x => WM.Spec.IdSet.mem_foldl_toggle.trans ?_⟩
  split
  · next h => exact ⟨fun hx => .inl ⟨h, hx⟩, fun hx => hx.elim (·.2) fun h' => absurd h (Nat.not_lt.mpr h'.1)⟩
  · next h => exact ⟨fun hx => .inr ⟨Nat.le_of_not_lt h, hx⟩, fun hx => hx.elim (fun h' => absurd h'.1 h) (·.2)⟩

theorem sisInvertUpdate_of_lt {data : List Nat} (h : Sorted data) (size : Nat)
    (hlt : ∀ x ∈ data, x < size) : sisInvertUpdate data size = .ok (WM.Spec.IdSet.invert size data) := by
  rcases sisInvertUpdate_exact h size with ⟨r, hr, hs, hm⟩
  rw [hr]; congr 1
  apply WM.Spec.IdSet.sorted_ext hs WM.Spec.IdSet.sorted_invert
  intro x; rw [hm, WM.Spec.IdSet.mem_invert]
  constructor
  · rintro (h1 | ⟨h1, h2⟩)
    · exact h1
    · have := hlt x h2; omega
  · intro h1; exact Or.inl h1

/-- Bytes below 256, which `__len__` (the `_1SPERBYTE` table) needs; `Inner.Ok` is the part of it
    that every other operation needs. -/
def Inner.WF : Inner → Prop
  | .bits b => ∀ x ∈ b, x < 256
  | .sorted d => Sorted d

def Inner.Ok : Inner → Prop
  | .bits _ => True
  | .sorted d => Sorted d

theorem Inner.WF.ok {s : Inner} (h : s.WF) : s.Ok := by
  cases s with
  | bits b => trivial
  | sorted d => exact h

theorem Inner.Ok.sorted_iter {s : Inner} (h : s.Ok) : Sorted s.iter := by
  cases s with
  | bits b => exact IdSets.sorted_iter b
  | sorted d => exact h

theorem Inner.contains_spec (s : Inner) (h : s.Ok) (i : Nat) :
    s.contains i = .ok (decide (i ∈ s.iter)) := by
  cases s with
  | bits b => exact congrArg _ ((iter_contains b i).symm.trans (List.contains_eq_mem ..))
  | sorted d => exact sisContains_spec h i

theorem Inner.len_spec (s : Inner) (h : s.WF) : s.len = .ok s.iter.length := by
  cases s with
  | bits b => exact IdSets.len_spec b h
  | sorted d => rfl

theorem Inner.add_spec (s : Inner) (h : s.Ok) (i : Nat) :
    Yields (s.add i) fun s' => s'.Ok ∧ (s.WF → s'.WF) ∧ s'.iter = WM.Spec.IdSet.insert i s.iter := by
  cases s with
  | bits b => exact .ok ⟨trivial, wf_add b i, iter_add b i⟩
  | sorted d =>
    rw [Inner.add, sisAdd_spec h i]
    exact .ok ⟨WM.Spec.IdSet.sorted_insert h, fun _ => WM.Spec.IdSet.sorted_insert h, rfl⟩

theorem Inner.discard_spec (s : Inner) (h : s.Ok) (i : Nat) :
    Yields (s.discard i) fun s' => s'.Ok ∧ (s.WF → s'.WF) ∧ s'.iter = WM.Spec.IdSet.erase i s.iter := by
  cases s with
  | bits b => exact .ok ⟨trivial, wf_discard b i, iter_discard b i⟩
  | sorted d =>
    rw [Inner.discard, sisDiscard_spec h i]
    exact .ok ⟨WM.Spec.IdSet.sorted_erase h, fun _ => WM.Spec.IdSet.sorted_erase h, rfl⟩

/-- `nx`/`ids` are head and tail of the not yet consumed part `rem` of the wrapped set. -/
theorem revIterLoop_spec : ∀ (n i : Nat) (rem : List Nat), Sorted rem → (∀ x ∈ rem, i ≤ x) →
    revIterLoop n i rem.head? rem.tail = (List.range' i n).filter (fun x => !rem.contains x)
  | 0, _, _, _, _ => rfl
  | n + 1, i, [], _, _ => by
    rw [List.range'_succ, List.filter_cons, List.contains_nil, Bool.not_false, if_pos rfl,
      ← revIterLoop_spec n (i + 1) [] List.Pairwise.nil (fun _ h => nomatch h)]
    rfl
  | n + 1, i, a :: t, hs, hge => by
    have hs' := List.pairwise_cons.mp hs
    rw [List.range'_succ, List.filter_cons, List.contains_cons, List.head?_cons, List.tail_cons]
    unfold revIterLoop
    by_cases hai : a = i
    · subst hai
      have hcongr : (List.range' (a + 1) n).filter (fun x => !(a :: t).contains x)
          = (List.range' (a + 1) n).filter (fun x => !t.contains x) := by
        apply List.filter_congr
        intro x hx
        have := (List.mem_range'_1.mp hx).1
        rw [List.contains_cons, beq_false_of_ne (by omega), Bool.false_or]
      rw [if_pos rfl, beq_self_eq_true, Bool.true_or, if_neg (by decide), hcongr,
        ← revIterLoop_spec n (a + 1) t hs'.2 fun x hx => hs'.1 x hx]
      cases t <;> rfl
    · have hlt : i < a := Nat.lt_of_le_of_ne (hge a (List.mem_cons_self ..)) (Ne.symm hai)
      have hni : t.contains i = false := by
        rw [← Bool.not_eq_true, List.contains_iff_mem]
        intro hm; have := hs'.1 i hm; omega
      rw [if_neg (by simpa using hai), beq_false_of_ne (Ne.symm hai), Bool.false_or, hni, Bool.not_false, if_pos rfl]
      exact congrArg (i :: ·) (revIterLoop_spec n (i + 1) (a :: t) hs fun x hx => by
        rcases List.mem_cons.mp hx with rfl | hx
        · exact hlt
        · have := hs'.1 x hx; omega)

theorem Rev.iter_spec (r : Rev) (h : r.inner.Ok) :
    r.iter = WM.Spec.IdSet.invert r.limit r.inner.iter := by
  have hs := h.sorted_iter
  have := revIterLoop_spec r.limit 0 r.inner.iter hs (by intro x _; omega)
  unfold Rev.iter WM.Spec.IdSet.invert
  rw [List.range_eq_range']
  cases hi : r.inner.iter with
  | nil => rw [hi] at this; simpa using this
  | cons a t => rw [hi] at this; simpa using this

theorem Rev.contains_exact (r : Rev) (h : r.inner.Ok) (i : Nat) :
    r.contains i = .ok (!decide (i ∈ r.inner.iter)) := by
  unfold Rev.contains
  rw [Inner.contains_spec _ h]
  rfl

theorem Rev.len_exact (r : Rev) (h : r.inner.WF) :
    r.len = .ok ((r.limit : Int) - (r.inner.iter.length : Int)) := by
  unfold Rev.len
  rw [Inner.len_spec _ h]
  rfl

theorem revLastLoop_spec (inner : Inner) (h : inner.Ok) : ∀ (n : Nat),
    revLastLoop inner n = .ok ((List.range n).filter (fun x => !inner.iter.contains x)).getLast?
  | 0 => rfl
  | n + 1 => by
    unfold revLastLoop
    rw [Inner.contains_spec _ h, List.range_succ, List.filter_append]
    by_cases hm : n ∈ inner.iter
    · simp only [hm, decide_true]
      rw [revLastLoop_spec inner h n]
      simp [hm]
    · simp [hm]

theorem Rev.first_spec (r : Rev) : r.first = WM.Spec.IdSet.first r.iter := rfl

theorem Rev.add_spec (r : Rev) (h : r.inner.WF) (n : Nat) (hn : n < r.limit) :
    Yields (r.add n) fun r' => r'.inner.WF ∧ r'.limit = r.limit ∧
      r'.iter = WM.Spec.IdSet.insert n r.iter := by
  refine (Inner.discard_spec r.inner h.ok n).map ?_
  rintro s' ⟨hok', hwf, hiter⟩
  refine ⟨hwf h, rfl, ?_⟩
  rw [Rev.iter_spec _ hok', Rev.iter_spec r h.ok]
  exact hiter ▸ WM.Spec.IdSet.invert_erase hn

theorem Rev.discard_spec (r : Rev) (h : r.inner.WF) (n : Nat) :
    Yields (r.discard n) fun r' => r'.inner.WF ∧ r'.limit = r.limit ∧
      r'.iter = WM.Spec.IdSet.erase n r.iter := by
  refine (Inner.add_spec r.inner h.ok n).map ?_
  rintro s' ⟨hok', hwf, hiter⟩
  refine ⟨hwf h, rfl, ?_⟩
  rw [Rev.iter_spec _ hok', Rev.iter_spec r h.ok]
  exact hiter ▸ WM.Spec.IdSet.invert_insert

/-- `foldE_refines` for a loop over a `ReverseIdSet`: a body that keeps the wrapped set well-formed and `limit`
    as it is, and acts as `g` on the iteration. -/
theorem Rev.foldE_refines (f : Rev → Nat → Except Err Rev) (g : List Nat → Nat → List Nat) (l : List Nat) (r : Rev)
    (h : r.inner.WF) (hstep : ∀ q : Rev, q.inner.WF → q.limit = r.limit → ∀ n ∈ l,
      Yields (f q n) fun q' => q'.inner.WF ∧ q'.limit = q.limit ∧ q'.iter = g q.iter n) :
    Yields (foldE f r l) fun r' => r'.inner.WF ∧ r'.limit = r.limit ∧ r'.iter = l.foldl g r.iter := by
  refine (IdSets.foldE_refines (fun q : Rev => q.inner.WF ∧ q.limit = r.limit) Rev.iter f g l r ⟨h, rfl⟩
    fun q hq n hn => (hstep q hq.1 hq.2 n hn).mono ?_).mono fun _ => and_assoc.mp
  rintro q' ⟨e2, e3, e4⟩
  exact ⟨⟨e2, e3.trans hq.2⟩, e4⟩

end WM.IdSets
