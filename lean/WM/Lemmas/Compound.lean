import WM.Model.Compound
import WM.Lemmas.Basics
/-! The copy loop and directory of `CompoundStorage.assemble` on the bytes, and what an open sub-stream of
`CompoundWriter` holds. -/
namespace WM.Compound

theorem copyFiles_names : ∀ (files : List (String × Bytes)) (pos : Nat),
    (copyFiles pos files).2.map (·.name) = files.map (·.1)
  | [], _ => rfl
  | (n, d) :: rest, pos => by
    simp only [copyFiles, List.map_cons]
    rw [copyFiles_names rest]

theorem copyFiles_length : ∀ (files : List (String × Bytes)) (pos : Nat),
    (copyFiles pos files).1.length = ((files.map (·.2.length)).sum)
  | [], _ => rfl
  | (n, d) :: rest, pos => by
    simp only [copyFiles, List.length_append, List.map_cons, List.sum_cons]
    rw [copyFiles_length rest]

theorem assemble_dirpos (before : Bytes) (files : List (String × Bytes)) :
    (assemble before files).2.2 = (assemble before files).1.length := by
  unfold assemble
  simp only [List.length_append, List.length_replicate]

theorem copyFiles_slice : ∀ (files : List (String × Bytes)) (pos : Nat) (pre suf : Bytes),
    pre.length = pos → ∀ e ∈ (copyFiles pos files).2,
      ∃ data, (e.name, data) ∈ files ∧
        ((pre ++ (copyFiles pos files).1 ++ suf).drop e.offset).take e.length = data
  | [], _, _, _, _ => by intro e he; simp [copyFiles] at he
  | (n, d) :: rest, pos, pre, suf, hpre => by
    intro e he
    simp only [copyFiles, List.mem_cons] at he
    rcases he with rfl | he
    · refine ⟨d, by simp, ?_⟩
      simp only [copyFiles]
      rw [← hpre, List.append_assoc, List.drop_left, List.append_assoc, List.take_left]
    · rcases copyFiles_slice rest (pos + d.length) (pre ++ d) suf (by simp [hpre]) e he with ⟨data, hm, hs⟩
      refine ⟨data, List.mem_cons_of_mem _ hm, ?_⟩
      simp only [copyFiles]
      rw [← List.append_assoc pre]
      exact hs

theorem lookup_mem {dir : List Entry} {name : String} {e : Entry} (h : lookup dir name = some e) :
    e ∈ dir ∧ e.name = name := by
  unfold lookup at h
  have h1 := List.mem_of_find?_eq_some h
  have h2 := List.find?_some h
  exact ⟨List.mem_reverse.mp h1, by simpa using h2⟩

theorem lookup_isSome {dir : List Entry} {name : String} (h : name ∈ dir.map (·.name)) :
    ∃ e, lookup dir name = some e := by
  unfold lookup
  rcases List.mem_map.mp h with ⟨e, he, hn⟩
  have : (dir.reverse.find? (·.name == name)).isSome := by
    rw [List.find?_isSome]
    exact ⟨e, List.mem_reverse.mpr he, by simp [hn]⟩
  exact Option.isSome_iff_exists.mp this

/-- members are found in any file that has the member bytes where `assemble` put them, whatever the
    12 header bytes hold and whatever follows -/
theorem openFile_layout (before : Bytes) (files : List (String × Bytes)) (pre suf : Bytes)
    (hpre : pre.length = before.length + headerSize)
    (hnd : (files.map (·.1)).Nodup) (name : String) (data : Bytes) (hmem : (name, data) ∈ files) :
    openFile (pre ++ (copyFiles (before.length + headerSize) files).1 ++ suf)
      (copyFiles (before.length + headerSize) files).2 name = some data := by
  unfold openFile
  have hin : name ∈ ((copyFiles (before.length + headerSize) files).2).map (·.name) := by
    rw [copyFiles_names]; exact List.mem_map.mpr ⟨(name, data), hmem, rfl⟩
  rcases lookup_isSome hin with ⟨e, he⟩
  rcases lookup_mem he with ⟨hedir, hename⟩
  rcases copyFiles_slice files (before.length + headerSize) pre suf hpre e hedir with ⟨d, hd, hslice⟩
  rw [he, Option.map_some, hslice]
  exact congrArg (fun p => some p.2) (eq_of_pairwise_ne Prod.fst (List.pairwise_map.1 hnd) hd hmem hename)

/-- bytes a stream has received so far: its flushed blocks (in the temp file) then its buffer -/
def content (temp : Bytes) (ss : SubStream) : Bytes :=
  ss.blocks.flatMap (blockBytes temp ss.buffer) ++ ss.buffer

/-- an open stream: only temp blocks, all inside the temp file -/
def Good (temp : Bytes) (ss : SubStream) : Prop :=
  ∀ b ∈ ss.blocks, ∃ off len, b = Block.temp off len ∧ off + len ≤ temp.length

theorem slice_append (temp extra : Bytes) (off len : Nat) (h : off + len ≤ temp.length) :
    ((temp ++ extra).drop off).take len = (temp.drop off).take len := by
  rw [List.drop_append_of_le_length (Nat.le_of_add_right_le h),
    List.take_append_of_le_length (List.length_drop ▸ Nat.le_sub_of_add_le' h)]

/-- the temp file only grows, and an open stream does not read its buffer: its blocks read the same later -/
theorem Good.blocks_eq {temp temp' : Bytes} {ss : SubStream} (hg : Good temp ss) (hp : temp <+: temp')
    (buf buf' : Bytes) : ss.blocks.flatMap (blockBytes temp' buf) = ss.blocks.flatMap (blockBytes temp buf') := by
  obtain ⟨extra, rfl⟩ := hp
  apply flatMap_congr
  intro b hb
  obtain ⟨off, len, rfl, hle⟩ := hg b hb
  exact slice_append temp extra off len hle

theorem Good.mono {temp temp' : Bytes} {ss : SubStream} (hg : Good temp ss) (hp : temp <+: temp') : Good temp' ss :=
  fun b hb => (hg b hb).imp fun _ h => h.imp fun _ h => ⟨h.1, Nat.le_trans h.2 hp.length_le⟩

theorem Good.content_eq {temp temp' : Bytes} {ss : SubStream} (hg : Good temp ss) (hp : temp <+: temp') :
    content temp' ss = content temp ss :=
  congrArg (· ++ ss.buffer) (hg.blocks_eq hp _ _)

theorem good_empty (temp : Bytes) : Good temp ⟨[], []⟩ := fun _ hb => nomatch hb

/-- `SubStream.write` below the buffer size -/
theorem Good.write_buffer {temp : Bytes} {ss : SubStream} (hg : Good temp ss) (data : Bytes) :
    Good temp ⟨ss.buffer ++ data, ss.blocks⟩ ∧ content temp ⟨ss.buffer ++ data, ss.blocks⟩ = content temp ss ++ data := by
  refine ⟨hg, ?_⟩
  unfold content
  rw [hg.blocks_eq (List.prefix_refl _) _ ss.buffer, List.append_assoc]

/-- `SubStream.write` that flushes: buffer and data go to the end of the temp file as one new block -/
theorem Good.write_flush {temp : Bytes} {ss : SubStream} (hg : Good temp ss) (data : Bytes) :
    Good (temp ++ ss.buffer ++ data) ⟨[], ss.blocks ++ [Block.temp temp.length (ss.buffer.length + data.length)]⟩ ∧
      content (temp ++ ss.buffer ++ data) ⟨[], ss.blocks ++ [Block.temp temp.length (ss.buffer.length + data.length)]⟩
        = content temp ss ++ data := by
  have hp : temp <+: temp ++ ss.buffer ++ data := List.append_assoc .. ▸ List.prefix_append ..
  refine ⟨forall_mem_snoc (hg.mono hp) ⟨_, _, rfl, by simp only [List.length_append]; omega⟩, ?_⟩
  unfold content
  simp only [List.flatMap_append, List.flatMap_cons, List.flatMap_nil, List.append_nil, blockBytes]
  rw [hg.blocks_eq hp [] ss.buffer, List.append_assoc temp, List.drop_left, ← List.length_append, List.take_length,
    List.append_assoc]

theorem readBlocks_close (temp : Bytes) (ss : SubStream) :
    readBlocks temp ss.close = content temp ss := by
  unfold readBlocks SubStream.close content
  by_cases h : ss.buffer.length > 0
  · simp only [h, ↓reduceIte, List.flatMap_append, List.flatMap_cons, List.flatMap_nil, List.append_nil,
      blockBytes, List.take_length]
  · rw [if_neg h, List.eq_nil_of_length_eq_zero (Nat.eq_zero_of_not_pos h), List.append_nil]

end WM.Compound
