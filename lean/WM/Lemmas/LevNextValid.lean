import WM.Lemmas.DFA
import WM.Lemmas.LevNFA
import WM.Lemmas.LevUtf8
import WM.Lemmas.NextValid
/-! The DFA of a Levenshtein automaton satisfies what `next_valid_string` needs: transitions lead
to non-empty states, labels are characters of the term, and every state can still reach a final
state (by reading the rest of the term).  With the subset construction, the acceptance of the NFA
and the walk this makes the automaton path exact: `termsWithinSeg_eq`. -/
namespace WM.Lev
open WM.Edit WM.Lev.NFA WM.Lev.DFA

/-- NFA states that can actually occur. -/
def Proper (term : List Nat) (k p : Nat) : St → Prop
  | (i, e) => i ≤ term.length ∧ e ≤ k ∧ (i < p → e = 0)

theorem Arc.proper {term : List Nat} {k p : Nat} {s t : St} {l : Label} (h : Arc term k p s l t) :
    Proper term k p t := by
  cases h with
  | pre hi hlt => exact ⟨hi, Nat.zero_le _, fun _ => rfl⟩
  | hit hi hp he => exact ⟨hi, he, fun h => by omega⟩
  | extra hi hp he => exact ⟨hi, he, fun h => by omega⟩
  | skip hi hp he => exact ⟨hi, he, fun h => by omega⟩
  | subst hi hp he => exact ⟨hi, he, fun h => by omega⟩

/-- Every arc of the automaton strictly increases this quantity, which is at most
    `2 * term.length + k` on the states that can occur. -/
def psi : St → Nat
  | (i, e) => 2 * i + e

theorem Arc.psi_lt {term : List Nat} {k p : Nat} {s t : St} {l : Label} (h : Arc term k p s l t) :
    psi s < psi t := by
  cases h <;> simp only [psi] <;> omega

theorem Arc.chr_mem {term : List Nat} {k p c : Nat} {s t : St} (h : Arc term k p s (.chr c) t) :
    c ∈ term := by
  cases h with
  | pre hi _ => exact List.getElem_mem hi
  | hit hi _ _ => exact List.getElem_mem hi

theorem chr_arc {term : List Nat} {k p i e : Nat} (hi : i < term.length) (hp : Proper term k p (i, e)) :
    Arc term k p (i, e) (.chr term[i]) (i + 1, e) := by
  rcases Nat.lt_or_ge i p with h | h
  · cases hp.2.2 h
    exact .pre hi h
  · exact .hit hi h hp.2.1

theorem reach_final {n : NFA} {term : List Nat} {k p : Nat} (h : IsLev n term k p) :
    ∀ (m i e : Nat) (X : SSet), term.length - i = m → (i, e) ∈ X → Proper term k p (i, e) →
      (term.length, e) ∈ (term.drop i).foldl (fun S c => n.nextState S (.chr c)) X := by
  intro m
  induction m with
  | zero =>
    intro i e X hm hX hp
    cases (by have := hp.1; omega : i = term.length)
    simpa using hX
  | succ m ih =>
    intro i e X hm hX hp
    have hi : i < term.length := by omega
    rw [List.drop_eq_getElem_cons hi, List.foldl_cons]
    have harc := chr_arc hi hp
    exact ih (i + 1) e _ (by omega) (mem_nextState hX (Or.inl (h.arc.mpr harc))) harc.proper

/-- Rank of a DFA state: a strict upper bound of `2 * term.length + k - psi s` on its members. -/
def levRank (term : List Nat) (k : Nat) (q : Option SSet) (h : Nat) : Prop :=
  match q with
  | none => True
  | some X => ∀ s, s ∈ X → 2 * term.length + k < h + psi s

/-- `G` is "a non-empty state set the construction has met" (`Reach`); all its members are `Proper`.
    The bullets are, in order, the fields `labels`, `truthy`, `step`, `live` of `Env` (`live`:
    reading the rest of the term from a member `(i, e)` ends in the final state `(|term|, e)`),
    `G` of the initial state, and `step`, `top` of `Ranked` (`psi` grows along every arc). -/
theorem lev_env {n : NFA} {term : List Nat} {k p : Nat} (hn : IsLev n term k p) (hv : Valid term)
    (d : DFA) (h : n.toDfa = some d) :
    ∃ G, Env d G ∧ G (some d.initial) ∧ Ranked d G (levRank term k) (levChain term k) := by
  obtain ⟨seen, _, hc⟩ := toDfa_inv _ d h
  have hproper : ∀ X, Reach n.start seen X → ∀ s, s ∈ X → Proper term k p s := by
    rintro X ⟨Y, hY, hYX⟩ s hs
    have hsY : s ∈ Y := (hYX s).mpr hs
    rcases List.mem_cons.mp hY with rfl | hY
    · refine expand_induction n _ _ ?_ (fun _ _ _ ht => (hn.arc.mp ht).proper) s hsY
      intro t ht
      cases (List.mem_singleton.mp ht).trans hn.initial
      exact ⟨Nat.zero_le _, Nat.zero_le _, fun _ => rfl⟩
    · obtain ⟨S, l, rfl⟩ := hc.src Y hY
      obtain ⟨_, _, ht⟩ := arc_of_mem_nextState _ hsY
      exact (hn.arc.mp ht).proper
  refine ⟨fun q => ∃ X, q = some X ∧ Reach n.start seen X ∧ ∃ s, s ∈ X,
    ⟨?_, ?_, ?_, ?_⟩, ?_, ⟨?_, ?_⟩⟩
  · intro X c T hT
    obtain ⟨S, hm, _⟩ := lookupTrans_some hT
    obtain ⟨a, t, harc, _⟩ := (mem_getLabels n S _).mp (hc.arc S (.chr c) T hm).2.1
    exact hv c (hn.arc.mp harc).chr_mem
  · rintro q ⟨X, rfl, _, s, hs⟩
    cases X with
    | nil => cases hs
    | cons a l => rfl
  · rintro q c T ⟨X, rfl, hr, _⟩ hT
    obtain ⟨hrT, _, t, ht⟩ := hc.next_some hr hT
    exact ⟨T, rfl, hrT, t, ht⟩
  · rintro q ⟨X, rfl, hr, ⟨i, e⟩, hs⟩
    have hp := hproper X hr (i, e) hs
    refine ⟨term.drop i, fun c hc => hv c (List.mem_of_mem_drop hc), ?_⟩
    rw [hc.accept _ X X hr (SEq.refl _), isFinal_iff]
    exact ⟨(term.length, e), reach_final hn _ i e X rfl hs hp, hn.finals.mpr ⟨rfl, hp.2.1⟩⟩
  · exact ⟨d.initial, rfl, by rw [hc.init]; exact ⟨_, List.mem_cons_self .., SEq.refl _⟩,
      (0, 0), by rw [hc.init]; exact hn.start_mem⟩
  · rintro q c T hh ⟨X, rfl, hr, ⟨i0, e0⟩, hs0⟩ hrank hT
    obtain ⟨_, hTe, _⟩ := hc.next_some hr hT
    have h0 := hrank _ hs0
    obtain ⟨hp1, hp2, _⟩ := hproper X hr _ hs0
    simp only [psi] at h0
    refine ⟨hh - 1, by omega, ?_⟩
    intro t ht
    obtain ⟨s, hs, hlt⟩ : ∃ s, s ∈ X ∧ psi s < psi t :=
      nextState_induction n X _ (fun t => ∃ s, s ∈ X ∧ psi s < psi t)
        (fun s t hs ht => ⟨s, hs, ht.elim (fun ht => (hn.arc.mp ht).psi_lt) fun ht => (hn.arc.mp ht).psi_lt⟩)
        (fun s t ⟨s0, hs0, hlt⟩ ht => ⟨s0, hs0, Nat.lt_trans hlt (hn.arc.mp ht).psi_lt⟩) t ((hTe t).mp ht)
    have := hrank s hs
    omega
  · rintro q ⟨X, rfl, hr, _⟩ s hs
    simp only [levChain]
    omega

theorem lev_nextValidString_terminates (term : List Nat) (k p0 : Nat) (hv : Valid term) (d : DFA)
    (h : (levenshteinAutomaton term k p0).toDfa = some d) (s : List Nat) (hvs : Valid s) :
    ∃ r, d.nextValidString (levChain term k) s = .ok r := by
  obtain ⟨G, env, hG0, rk⟩ := lev_env (isLev term k p0) hv d h
  exact nextValidString_terminates env rk hG0 (Nat.le_refl _) s hvs

theorem lev_nextValidSpec (term : List Nat) (k p0 : Nat) (hv : Valid term) (d : DFA)
    (h : (levenshteinAutomaton term k p0).toDfa = some d) :
    NextValidSpec (fun t => d.accept (some d.initial) t) (d.nextValidString (levChain term k)) :=
  let ⟨_, env, hG0, rk⟩ := lev_env (isLev term k p0) hv d h
  nextValidString_spec env rk hG0 (Nat.le_refl _)

theorem lev_toDfa (word : List Nat) (k p : Nat) :
    ∃ d, (levenshteinAutomaton word k p).toDfa = some d ∧
      ∀ t, d.accept (some d.initial) t = (sharePrefix p t word && decide (lev t word ≤ k)) := by
  obtain ⟨d, hd⟩ := toDfa_terminates (levenshteinAutomaton word k p)
  exact ⟨d, hd, fun t => by rw [toDfa_accept _ d hd, nfa_accept_eq]⟩

theorem termsWithinSeg_eq (lex : List (List Nat)) (w : List Nat) (d p : Nat) (hw : Valid w)
    (hv : ∀ t, t ∈ lex → Valid t) (hs : SortedLex lex) :
    termsWithinSeg lex w d p = .ok (within lev lex w d p) := by
  obtain ⟨dfa, hdfa, hacc⟩ := lev_toDfa w d p
  rw [termsWithinSeg, hdfa]
  exact (findMatches_spec _ _ (lev_nextValidSpec w d p hw dfa hdfa) lex hv hs).trans
    (congrArg Except.ok (List.filter_congr fun t _ => hacc t))

theorem termsWithinSegBytes_eq (lex : List (List Nat)) (w : List Nat) (d p : Nat) (hw : Valid w)
    (hv : ∀ t, t ∈ lex → Valid t) (hs : SortedBytes lex) :
    termsWithinSegBytes lex w d p = .ok (within lev lex w d p) := by
  obtain ⟨dfa, hdfa, _⟩ := lev_toDfa w d p
  rw [← termsWithinSeg_eq lex w d p hw hv ((sortedBytes_iff lex).mp hs), termsWithinSegBytes,
    termsWithinSeg, hdfa]
  exact findMatchesBytes_eq _ (fun _ _ => (lev_nextValidSpec w d p hw dfa hdfa).valid) lex hv

end WM.Lev
