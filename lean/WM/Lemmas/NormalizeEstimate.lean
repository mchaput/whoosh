import WM.Lemmas.NormalizeSimplify
/-! `estimate_size(ixreader)` is never below the number of matching documents, and does not raise on a
    query without span queries (whose estimate is not modelled). -/
namespace WM.Normalize
open WM.Sat

def cnt (docs : List Doc) (p : Doc → Bool) : Nat := (docs.filter p).length

theorem cnt_le_length (docs : List Doc) (p : Doc → Bool) : cnt docs p ≤ docs.length :=
  List.length_filter_le _ _

theorem cnt_eq_countP (docs : List Doc) (p : Doc → Bool) : cnt docs p = docs.countP p :=
  List.countP_eq_length_filter.symm

theorem cnt_mono (docs : List Doc) (p q : Doc → Bool) (h : ∀ d ∈ docs, p d = true → q d = true) :
    cnt docs p ≤ cnt docs q := by
  rw [cnt_eq_countP, cnt_eq_countP]
  exact List.countP_mono_left h

theorem cnt_or (docs : List Doc) (p q : Doc → Bool) :
    cnt docs (fun d => p d || q d) ≤ cnt docs p + cnt docs q := by
  induction docs with
  | nil => simp [cnt]
  | cons d ds ih =>
    simp only [cnt, List.filter_cons] at ih ⊢
    cases p d <;> cases q d <;> simp <;> omega

theorem cnt_false (docs : List Doc) : cnt docs (fun _ => false) = 0 := by
  simp [cnt]

theorem cnt_le_df (rd : Reader) (f : Field) (t : Text) :
    cnt rd.docs (fun d => (d.toks f).contains t) ≤ rd.df f t := by
  simp only [cnt, Reader.df, List.filter_append, List.length_append]
  omega

theorem cnt_any_le_sum (rd : Reader) (f : Field) (ts : List Text) :
    cnt rd.docs (fun d => ts.any fun t => (d.toks f).contains t) ≤ (ts.map (rd.df f)).sum := by
  induction ts with
  | nil => simp [cnt]
  | cons t ts ih =>
    simp only [List.any_cons, List.map_cons, List.sum_cons]
    have := cnt_or rd.docs (fun d => (d.toks f).contains t) (fun d => ts.any fun t => (d.toks f).contains t)
    have hdf := cnt_le_df rd f t
    omega

theorem le_minList {c : Nat} : ∀ {l : List Nat} {m : Nat}, (∀ x ∈ l, c ≤ x) → minList l = some m → c ≤ m
  | [], _, _, h => by simp [minList] at h
  | x :: xs, m, hall, h => by
    simp only [minList, Option.some.injEq] at h
    subst h
    have hx : c ≤ x := hall x (List.mem_cons_self ..)
    have hxs : ∀ y ∈ xs, c ≤ y := fun y hy => hall y (List.mem_cons_of_mem _ hy)
    clear hall
    induction xs generalizing x with
    | nil => simpa using hx
    | cons y ys ih =>
      simp only [List.foldl_cons]
      apply ih
      · exact Nat.le_min.mpr ⟨hx, hxs y (List.mem_cons_self ..)⟩
      · exact fun z hz => hxs z (List.mem_cons_of_mem _ hz)

theorem chainFrom_mem (toks : List Text) (slop : Nat) : ∀ (ws : List Text) (p : Nat),
    chainFrom toks slop p ws = true → ∀ w ∈ ws, w ∈ toks
  | [], _, _ => nofun
  | v :: vs, p, h => by
    simp only [chainFrom, List.any_eq_true, List.mem_range, Bool.and_eq_true, beq_iff_eq] at h
    obtain ⟨k, _, hk, hrest⟩ := h
    exact List.forall_mem_cons.mpr ⟨List.mem_of_getElem? hk, chainFrom_mem toks slop vs _ hrest⟩

theorem phraseMatch_mem (toks : List Text) (slop : Nat) (ws : List Text)
    (h : phraseMatch toks slop ws = true) : ∀ w ∈ ws, w ∈ toks := by
  cases ws with
  | nil => cases h
  | cons v vs =>
    simp only [phraseMatch, List.any_eq_true, List.mem_range, Bool.and_eq_true, beq_iff_eq] at h
    obtain ⟨p, _, hp, hrest⟩ := h
    exact List.forall_mem_cons.mpr ⟨List.mem_of_getElem? hp, chainFrom_mem toks slop vs p hrest⟩

theorem cnt_le_of_never {docs : List Doc} {p : Doc → Bool} (h : ∀ d ∈ docs, p d = false) (n : Nat) :
    cnt docs p ≤ n :=
  Nat.le_trans (cnt_mono docs p _ fun d hd hp => (h d hd).symm.trans hp) (cnt_false docs ▸ Nat.zero_le n)

/-- `Term.estimate_size` bounds whatever holds only of documents with `t` in field `f`: a field outside
    the schema has no terms. -/
theorem cnt_le_termEstimate (env : Env) (rd : Reader) (hdocs : rd.docs = env.index) (hrd : ReaderOk env rd)
    {f : Field} {t : Text} {p : Doc → Bool} (hp : ∀ d, p d = true → t ∈ d.toks f) :
    cnt env.index p ≤ if rd.fields.contains f = true then rd.df f t else 0 := by
  split
  · exact Nat.le_trans (cnt_mono _ _ _ fun d _ hs => List.contains_iff_mem.mpr (hp d hs)) (hdocs ▸ cnt_le_df rd f t)
  · rename_i hf
    exact cnt_le_of_never (fun d hd => Bool.eq_false_iff.mpr fun hs => hf (hrd d hd f t (hp d hs)).2) _

/-- `MultiTerm.estimate_size`: the document frequencies of the expansion, summed. -/
theorem leaf_estimate (env : Env) (rd : Reader) (hdocs : rd.docs = env.index) (hrd : ReaderOk env rd)
    (q : Q) (f : Field) (P : Text → Bool)
    (hbt : btexts env.multi env.bracket rd q = (rd.lexicon f).filter P)
    (hsat : ∀ d, sat env q d = (d.toks f).any fun x => P x) :
    cnt env.index (sat env q) ≤ ((btexts env.multi env.bracket rd q).map (rd.df f)).sum := by
  refine Nat.le_trans (cnt_mono _ _ _ fun d hd hs => ?_) (hdocs ▸ cnt_any_le_sum rd f _)
  rwa [hbt, expansion_any env rd hrd d hd f P, ← hsat]

/-- `And.estimate_size`, through which `Sequence` estimates as well: nothing matches without clauses, and
    the least of the clauses' estimates bounds what implies every clause. -/
theorem cnt_le_andEstimate (env : Env) {m : Nat → Field → Text → Nat → Text → Bool}
    {br : Text → Option ((Nat → Bool) × Nat)} {rd : Reader} {qs : List Q} {n : Nat} {p : Doc → Bool}
    (hge : ∀ es, estimateList m br rd qs = some es → ∀ e ∈ es, ∃ q ∈ qs, cnt env.index (sat env q) ≤ e)
    (h : (if qs.isEmpty = true then some 0 else (estimateList m br rd qs).bind minList) = some n)
    (hp : ∀ d, p d = true → (!qs.isEmpty && satAll env qs d) = true) : cnt env.index p ≤ n := by
  split at h
  · rename_i hq
    exact cnt_le_of_never (fun d _ => Bool.eq_false_iff.mpr fun hs => by simpa [hq] using hp d hs) n
  · obtain ⟨es, hes, hn⟩ := Option.bind_eq_some_iff.mp h
    refine le_minList (fun e he => ?_) hn
    obtain ⟨q, hq, hle⟩ := hge es hes e he
    exact Nat.le_trans (cnt_mono _ _ _ fun d _ hs =>
      sat_of_satAll env d hq ((Bool.and_eq_true _ _).mp (hp d hs)).2) hle

theorem cnt_bin_le (env : Env) (k : BK) (a b : Q) :
    cnt env.index (sat env (.bin k a b)) ≤ cnt env.index (sat env a) + cnt env.index (sat env b) :=
  Nat.le_trans (cnt_mono _ _ _ fun d _ => sat_bin_or env k a b d) (cnt_or ..)

theorem cnt_le_docCount (env : Env) (rd : Reader) (hdocs : rd.docs = env.index) (p : Doc → Bool) :
    cnt env.index p ≤ rd.docCount := by
  rw [Reader.docCount, hdocs]; exact cnt_le_length _ _

/-! `estimate` and `estimateList` are unfolded by definitional equality at the constructor in hand (`show`,
a hypothesis or goal handed to a lemma that spells the body out): generating their equation lemmas costs
more than every proof below. -/

section
variable {m : Nat → Field → Text → Nat → Text → Bool} {br : Text → Option ((Nat → Bool) × Nat)} {rd : Reader}

theorem estimateList_cons_some {q : Q} {qs : List Q} {es : List Nat} :
    estimateList m br rd (q :: qs) = some es ↔
      ∃ e es', estimate m br rd q = some e ∧ estimateList m br rd qs = some es' ∧ es = e :: es' := by
  show (match estimate m br rd q, estimateList m br rd qs with
      | some e, some es => some (e :: es)
      | _, _ => none) = some es ↔ _
  constructor
  · intro h
    cases hq : estimate m br rd q <;> cases hqs : estimateList m br rd qs <;> rw [hq, hqs] at h <;> cases h
    exact ⟨_, _, rfl, rfl, rfl⟩
  · rintro ⟨e, es', hq, hqs, rfl⟩
    rw [hq, hqs]

/-- `BinaryQuery.estimate_size` (not `Require`). -/
theorem estimate_binSum_some {a b : Q} {n : Nat} :
    (match estimate m br rd a, estimate m br rd b with
      | some x, some y => some (Nat.min (x + y) rd.docCount)
      | _, _ => none) = some n ↔
    ∃ x y, estimate m br rd a = some x ∧ estimate m br rd b = some y ∧ n = Nat.min (x + y) rd.docCount := by
  constructor
  · intro h
    cases ha : estimate m br rd a <;> cases hb : estimate m br rd b <;> rw [ha, hb] at h <;> cases h
    exact ⟨_, _, rfl, rfl, rfl⟩
  · rintro ⟨x, y, ha, hb, rfl⟩
    rw [ha, hb]

end

mutual
theorem estimate_ge_aux (env : Env) (rd : Reader) (hdocs : rd.docs = env.index) (hrd : ReaderOk env rd) :
    ∀ (q : Q) (n : Nat), estimate env.multi env.bracket rd q = some n → cnt env.index (sat env q) ≤ n
  | .null => fun n _ => cnt_le_of_never (fun _ _ => rfl) n
  | .every _ _ | .not _ _ => fun _ h => Option.some.inj h ▸ cnt_le_docCount env rd hdocs _
  | .term f t _ => fun _ h =>
    Option.some.inj h ▸ cnt_le_termEstimate env rd hdocs hrd fun _ hs => List.contains_iff_mem.mp hs
  | .pre f t b c => fun _ h =>
    Option.some.inj h ▸ leaf_estimate env rd hdocs hrd _ f _ rfl (sat_pre env f t b c)
  | .wild f t b c => fun _ h =>
    Option.some.inj h ▸ leaf_estimate env rd hdocs hrd _ f _ rfl (sat_wild env f t b c)
  | .multi k f t key b => fun _ h =>
    Option.some.inj h ▸ leaf_estimate env rd hdocs hrd _ f (fun x => env.multi k f t key x) rfl fun _ => rfl
  | .range f lo hi lx hx b c => fun _ h =>
    Option.some.inj h ▸ leaf_estimate env rd hdocs hrd _ f (fun x => inRangeQ lo hi lx hx x) rfl fun _ => rfl
  | .phrase f ws slop _ => fun n h => by
    cases ws with
    | nil => exact cnt_le_of_never (fun _ _ => rfl) n
    | cons w ws =>
      -- `And.estimate_size` of the words: the phrase matches at most the documents that hold any one of them
      refine le_minList (l := (w :: ws).map fun w => if rd.fields.contains f = true then rd.df f w else 0)
        (fun v hv => ?_) h
      obtain ⟨w', hw, rfl⟩ := List.mem_map.mp hv
      exact cnt_le_termEstimate env rd hdocs hrd fun d hs => phraseMatch_mem _ _ _ hs w' hw
  | .comp .and qs _ => fun _ h =>
    cnt_le_andEstimate env (estimateList_ge_aux env rd hdocs hrd qs) h fun _ hs => hs
  | .seq _ qs _ _ _ => fun _ h =>
    cnt_le_andEstimate env (estimateList_ge_aux env rd hdocs hrd qs) h fun _ hs => ((Bool.and_eq_true _ _).mp hs).1
  | .comp .or qs _ | .comp .dismax qs _ => fun _ h => by
    obtain ⟨es, hes, rfl⟩ := Option.map_eq_some_iff.mp h
    exact Nat.le_min.mpr ⟨estimateList_sum_aux env rd hdocs hrd qs es hes, cnt_le_docCount env rd hdocs _⟩
  | .bin .require a b => fun n h =>
    Nat.le_trans (cnt_mono _ _ _ fun _ _ hs => ((Bool.and_eq_true _ _).mp hs).2) (estimate_ge_aux env rd hdocs hrd b n h)
  | .bin .andnot a b | .bin .andmaybe a b | .bin .otherwise a b => fun _ h => by
    obtain ⟨x, y, ha, hb, rfl⟩ := estimate_binSum_some.mp h
    exact Nat.le_min.mpr ⟨Nat.le_trans (cnt_bin_le env _ a b) (Nat.add_le_add
      (estimate_ge_aux env rd hdocs hrd a x ha) (estimate_ge_aux env rd hdocs hrd b y hb)), cnt_le_docCount env rd hdocs _⟩
  | .const q _ => estimate_ge_aux env rd hdocs hrd q
  | .opq _ _ => fun _ h => nomatch h
theorem estimateList_ge_aux (env : Env) (rd : Reader) (hdocs : rd.docs = env.index) (hrd : ReaderOk env rd) :
    ∀ (qs : List Q) (es : List Nat), estimateList env.multi env.bracket rd qs = some es →
      ∀ e ∈ es, ∃ q ∈ qs, cnt env.index (sat env q) ≤ e
  | [] => fun _ h _ he => by
    cases Option.some.inj h
    cases he
  | q :: qs => fun _ h e he => by
    obtain ⟨e0, es', hq, hqs, rfl⟩ := estimateList_cons_some.mp h
    rcases List.mem_cons.mp he with rfl | he
    · exact ⟨q, List.mem_cons_self .., estimate_ge_aux env rd hdocs hrd q _ hq⟩
    · obtain ⟨x, hx, hle⟩ := estimateList_ge_aux env rd hdocs hrd qs _ hqs e he
      exact ⟨x, List.mem_cons_of_mem _ hx, hle⟩
theorem estimateList_sum_aux (env : Env) (rd : Reader) (hdocs : rd.docs = env.index) (hrd : ReaderOk env rd) :
    ∀ (qs : List Q) (es : List Nat), estimateList env.multi env.bracket rd qs = some es →
      cnt env.index (satAny env qs) ≤ es.sum
  | [] => fun _ _ => cnt_le_of_never (fun _ _ => rfl) _
  | q :: qs => fun _ h => by
    obtain ⟨e0, es', hq, hqs, rfl⟩ := estimateList_cons_some.mp h
    exact Nat.le_trans (cnt_or env.index (sat env q) (satAny env qs)) (Nat.add_le_add
      (estimate_ge_aux env rd hdocs hrd q _ hq) (estimateList_sum_aux env rd hdocs hrd qs _ hqs))
end

/-! The only partial operation of `estimate_size` is Python's `min()` of an empty sequence
(`And.estimate_size`, and through it `Phrase`/`Sequence.estimate_size`); the model returns `none`
there (and for span queries, whose estimate is not modelled). -/

mutual
/-- No span query (opaque leaf) anywhere in the tree. -/
def Q.spanFree : Q → Bool
  | .opq _ _ => false
  | .comp _ qs _ => Q.spanFreeList qs
  | .seq _ qs _ _ _ => Q.spanFreeList qs
  | .not q _ => Q.spanFree q
  | .bin _ a b => Q.spanFree a && Q.spanFree b
  | .const q _ => Q.spanFree q
  | _ => true
def Q.spanFreeList : List Q → Bool
  | [] => true
  | q :: qs => Q.spanFree q && Q.spanFreeList qs
end

theorem andEstimate_isSome {m : Nat → Field → Text → Nat → Text → Bool}
    {br : Text → Option ((Nat → Bool) × Nat)} {rd : Reader} {qs : List Q} {es : List Nat}
    (hes : estimateList m br rd qs = some es) :
    ∃ n, (if qs.isEmpty = true then some 0 else (estimateList m br rd qs).bind minList) = some n := by
  cases qs with
  | nil => exact ⟨0, rfl⟩
  | cons q qs =>
    -- an estimate for every clause: the list `min()` is taken of is not empty
    obtain ⟨e, es', _, _, rfl⟩ := estimateList_cons_some.mp hes
    exact ⟨_, by rw [hes]; rfl⟩

mutual
theorem estimate_total_aux (m : Nat → Field → Text → Nat → Text → Bool)
    (br : Text → Option ((Nat → Bool) × Nat)) (rd : Reader) :
    ∀ (q : Q), q.spanFree = true → ∃ n, estimate m br rd q = some n
  | .phrase _ ws _ _ => fun _ => by cases ws <;> exact ⟨_, rfl⟩
  | .comp .and qs _ | .seq _ qs _ _ _ => fun h => by
    obtain ⟨es, hes⟩ := estimateList_total_aux m br rd qs h
    exact andEstimate_isSome hes
  | .comp .or qs _ | .comp .dismax qs _ => fun h => by
    obtain ⟨es, hes⟩ := estimateList_total_aux m br rd qs h
    exact ⟨_, Option.map_eq_some_iff.mpr ⟨es, hes, rfl⟩⟩
  | .bin .require a b => fun h => estimate_total_aux m br rd b ((Bool.and_eq_true _ _).mp h).2
  | .bin .andnot a b | .bin .andmaybe a b | .bin .otherwise a b => fun h => by
    obtain ⟨x, hx⟩ := estimate_total_aux m br rd a ((Bool.and_eq_true _ _).mp h).1
    obtain ⟨y, hy⟩ := estimate_total_aux m br rd b ((Bool.and_eq_true _ _).mp h).2
    exact ⟨_, estimate_binSum_some.mpr ⟨x, y, hx, hy, rfl⟩⟩
  | .const q _ => estimate_total_aux m br rd q
  | .opq _ _ => fun h => nomatch h
  | .null | .every _ _ | .term _ _ _ | .pre _ _ _ _ | .wild _ _ _ _ | .multi _ _ _ _ _
  | .range _ _ _ _ _ _ _ | .not _ _ => fun _ => ⟨_, rfl⟩
theorem estimateList_total_aux (m : Nat → Field → Text → Nat → Text → Bool)
    (br : Text → Option ((Nat → Bool) × Nat)) (rd : Reader) :
    ∀ (qs : List Q), Q.spanFreeList qs = true → ∃ es, estimateList m br rd qs = some es
  | [] => fun _ => ⟨[], rfl⟩
  | q :: qs => fun h => by
    obtain ⟨e, he⟩ := estimate_total_aux m br rd q ((Bool.and_eq_true _ _).mp h).1
    obtain ⟨es, hes⟩ := estimateList_total_aux m br rd qs ((Bool.and_eq_true _ _).mp h).2
    exact ⟨_, estimateList_cons_some.mpr ⟨e, es, he, hes, rfl⟩⟩
end

end WM.Normalize
