import WM.Model.Collect
/-! For C14.rank_iso: the order array of `sorting.py: PostingCategorizer`. -/
namespace WM.Collect

/-- The largest index of a posting list that contains `d`. -/
def lastIdx (d : Nat) : List (List Nat) → Option Nat
  | [] => none
  | ps :: rest =>
    match lastIdx d rest with
    | some j => some (j + 1)
    | none => if d ∈ ps then some 0 else none

theorem setAll_length (i : Nat) (ps : List Nat) (arr : List Nat) :
    (ps.foldl (fun arr d => arr.set d i) arr).length = arr.length := by
  induction ps generalizing arr with
  | nil => rfl
  | cons p ps ih => simp only [List.foldl_cons]; rw [ih]; simp

theorem setAll_get (i : Nat) (ps : List Nat) (arr : List Nat) (d : Nat) (hd : d < arr.length) :
    (ps.foldl (fun arr d => arr.set d i) arr)[d]? = if d ∈ ps then some i else arr[d]? := by
  induction ps generalizing arr with
  | nil => simp
  | cons p ps ih =>
    rw [List.foldl_cons, ih _ (by rw [List.length_set]; exact hd), List.getElem?_set]
    by_cases hp : p = d
    · subst hp; simp [hd]
    · simp [hp, Ne.symm hp]

theorem postingFold_get (d : Nat) :
    ∀ (ts : List (List Nat)) (k : Nat) (arr : List Nat), d < arr.length →
      ((ts.zipIdx k).foldl (fun arr (x : List Nat × Nat) => x.1.foldl (fun arr d => arr.set d x.2) arr) arr)[d]? =
        match lastIdx d ts with
        | some j => some (k + j)
        | none => arr[d]?
  | [], k, arr, _ => by simp [lastIdx]
  | ps :: rest, k, arr, hd => by
    rw [List.zipIdx_cons, List.foldl_cons, postingFold_get d rest (k + 1) _ (by rw [setAll_length]; exact hd)]
    simp only [lastIdx]
    cases lastIdx d rest with
    | some j => simp only [Option.some.injEq]; omega
    | none =>
      rw [setAll_get k ps arr d hd]
      by_cases h : d ∈ ps <;> simp [h]

theorem lastIdx_spec (d : Nat) (ts : List (List Nat)) :
    match lastIdx d ts with
    | some j => (∃ ps, ts[j]? = some ps ∧ d ∈ ps) ∧ ∀ j' ps, ts[j']? = some ps → d ∈ ps → j' ≤ j
    | none => ∀ ps ∈ ts, d ∉ ps := by
  fun_induction lastIdx d ts with
  | case1 => exact fun _ h => nomatch h
  | case2 ps rest j hj ih =>
    rw [hj] at ih
    refine ⟨ih.1, fun j' ps' hj' hd => ?_⟩
    cases j' with
    | zero => exact Nat.zero_le _
    | succ j'' => exact Nat.succ_le_succ (ih.2 j'' ps' hj' hd)
  | case3 ps rest hj hd ih =>
    rw [hj] at ih
    refine ⟨⟨ps, rfl, hd⟩, fun j' ps' hj' hd' => ?_⟩
    cases j' with
    | zero => exact Nat.le_refl _
    | succ j'' => exact absurd hd' (ih ps' (List.mem_of_getElem? hj'))
  | case4 ps rest hj hd ih =>
    rw [hj] at ih
    exact List.forall_mem_cons.mpr ⟨hd, ih⟩

theorem lastIdx_none (d : Nat) (ts : List (List Nat)) : lastIdx d ts = none ↔ ∀ ps ∈ ts, d ∉ ps := by
  have h := lastIdx_spec d ts
  cases hl : lastIdx d ts with
  | none => rw [hl] at h; exact iff_of_true rfl h
  | some j =>
    rw [hl] at h
    obtain ⟨⟨ps, hps, hd⟩, -⟩ := h
    exact iff_of_false nofun fun hn => hn ps (List.mem_of_getElem? hps) hd

theorem lastIdx_some (d : Nat) (ts : List (List Nat)) (j : Nat) (h : lastIdx d ts = some j) :
    (∃ ps, ts[j]? = some ps ∧ d ∈ ps) ∧ ∀ j' ps, ts[j']? = some ps → d ∈ ps → j' ≤ j := by
  have := lastIdx_spec d ts
  rw [h] at this
  exact this

theorem postingArray_get (dc : Nat) (terms : List (List Nat)) (d : Nat) (hd : d < dc) :
    (postingArray dc terms)[d]? = some (match lastIdx d terms with | some j => j | none => dc + 1) := by
  unfold postingArray
  rw [postingFold_get d terms 0 _ (by rw [List.length_replicate]; exact hd)]
  cases lastIdx d terms with
  | some j => simp
  | none => simp [hd]

theorem postingKeyToName_key (n : Nat) (reverse : Bool) (i : Nat) :
    postingKeyToName n reverse (postingKey n reverse i) = .ok (if n ≤ i then none else some i) := by
  have e : (if reverse = true then (n : Int) - postingKey n reverse i else postingKey n reverse i) = (i : Int) := by
    cases reverse
    · rfl
    · simp only [postingKey, if_true]; omega
  unfold postingKeyToName
  simp only [e]
  by_cases h : n ≤ i
  · rw [if_pos h, if_pos (by omega)]
  · rw [if_neg h, if_neg (by omega), if_pos (by omega)]; rfl

end WM.Collect
