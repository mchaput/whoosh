import WM.Lemmas.HashBuilt
/-! What success of the format-checked writers (`buildE`, `buildOrderedE`) implies: `Written`, the parts of the file
with every number inside its struct format. -/
namespace WM.HashFile

variable {α : Type} {hash : Key → Nat} {vlen : α → Nat} {so : Nat} {kvs : List (Key × α)} {f : File α}

theorem buildE_ok (h : buildE hash vlen so kvs = .ok f) :
    build hash vlen so kvs = some f ∧ formatsOk hash vlen f = true := by
  unfold buildE at h
  split at h
  · cases h
  · next f' hb =>
    split at h
    · next hfo => cases h; exact ⟨hb, hfo⟩
    · cases h

theorem buildOrderedE_ok (h : buildOrderedE hash vlen so kvs = .ok f) :
    orderedKeysOk [] (kvs.map (·.1)) = true ∧ build hash vlen so kvs = some f ∧
      (indexArray (f.recs.map (·.pos))).2 = false ∧ formatsOk hash vlen f = true := by
  unfold buildOrderedE at h
  split at h
  · next ho =>
    split at h
    · cases h
    · next f' hb =>
      split at h
      · cases h
      · next hov =>
        split at h
        · next hfo => cases h; exact ⟨ho, hb, (Bool.not_eq_true _).mp hov, hfo⟩
        · cases h
  · cases h

/-- what the format check grants; the positions of the records lie below that of the directory -/
theorem formatsOk_facts (hb : Built hash vlen so kvs f) (h : formatsOk hash vlen f = true) :
    (∀ r ∈ f.recs, r.key.length < 2 ^ 31 ∧ vlen r.val < 2 ^ 31 ∧ hash r.key < 2 ^ 32 ∧ r.pos < 2 ^ 63) ∧
      (∀ t ∈ f.tables, t.length < 2 ^ 31) ∧ tablePos f 256 < 2 ^ 63 := by
  unfold formatsOk at h
  simp only [Bool.and_eq_true, List.all_eq_true, decide_eq_true_eq] at h
  rcases h with ⟨⟨h1, h2⟩, h3⟩
  refine ⟨?_, h2, h3⟩
  intro r hr
  have := h1 r hr
  refine ⟨this.1.1, this.1.2, this.2, ?_⟩
  have hlt := hb.pos_lt hr
  unfold tablePos at h3
  omega

/-- what an accepted run of the format-checked writer leaves: the parts the readers rely on, every number inside
    its struct format -/
structure Written (hash : Key → Nat) (vlen : α → Nat) (so : Nat) (kvs : List (Key × α)) (f : File α) : Prop where
  built : Built hash vlen so kvs f
  recs : ∀ r ∈ f.recs, r.key.length < 2 ^ 31 ∧ vlen r.val < 2 ^ 31 ∧ hash r.key < 2 ^ 32 ∧ r.pos < 2 ^ 63
  tabs : ∀ t ∈ f.tables, t.length < 2 ^ 31
  ntab : f.tables.length = 256
  dirpos : tablePos f 256 < 2 ^ 63

theorem written_of_buildE (h : buildE hash vlen so kvs = .ok f) : Written hash vlen so kvs f := by
  obtain ⟨hb, hfo⟩ := buildE_ok h
  obtain ⟨hbuilt, hl⟩ := build_some hb
  obtain ⟨h1, h2, h3⟩ := formatsOk_facts hbuilt hfo
  exact ⟨hbuilt, h1, h2, hl, h3⟩

theorem built_of_buildE (h : buildE hash vlen so kvs = .ok f) : Built hash vlen so kvs f :=
  (written_of_buildE h).built

theorem buildE_of_buildOrderedE (h : buildOrderedE hash vlen so kvs = .ok f) : buildE hash vlen so kvs = .ok f := by
  obtain ⟨_, hb, _, hfo⟩ := buildOrderedE_ok h
  unfold buildE
  rw [hb]
  exact if_pos hfo

theorem orderedKeysOk_iff : ∀ (keys : List Key) (last : Key),
    orderedKeysOk last keys = true ↔ (last :: keys).Pairwise (· < ·)
  | [], last => by simp [orderedKeysOk]
  | k :: ks, last => by
    rw [orderedKeysOk, List.pairwise_cons, List.forall_mem_cons]
    by_cases hle : k ≤ last
    · rw [if_pos (decide_eq_true hle)]
      exact ⟨nofun, fun h => absurd h.1.1 (List.not_lt.mpr hle)⟩
    · have hlt : last < k := List.not_le.mp hle
      rw [if_neg (by rw [decide_eq_false hle]; exact Bool.false_ne_true), orderedKeysOk_iff ks k]
      exact (and_iff_right_of_imp fun hp => ⟨hlt, fun x hx => List.lt_trans hlt ((List.pairwise_cons.mp hp).1 x hx)⟩).symm

theorem buildOrderedE_built (h : buildOrderedE hash vlen so kvs = .ok f) :
    Built hash vlen so kvs f ∧ (∀ r ∈ f.recs, r.pos < 2 ^ 63) ∧ (kvs.map (·.1)).Pairwise (· < ·) := by
  have w := written_of_buildE (buildE_of_buildOrderedE h)
  exact ⟨w.built, fun r hr => (w.recs r hr).2.2.2,
    (List.pairwise_cons.mp ((orderedKeysOk_iff _ _).mp (buildOrderedE_ok h).1)).2⟩

end WM.HashFile

theorem WM.C20.sum_take_le (l : List Nat) (b : Nat) : 0 ≤ (l.take b).sum := Nat.zero_le _
