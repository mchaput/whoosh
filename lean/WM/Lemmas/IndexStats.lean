import WM.Lemmas.IndexWF
/-! `doc_count`, and collection statistics as sums over the live documents (when nothing is deleted). -/
namespace WM.Index
open WM.Dict

theorem liveIdx_map_snd (s : Seg) : s.liveIdx.map (·.2) = s.allDocIds := by
  rw [Seg.allDocIds, Seg.docCountAll, List.range_eq_range', ← List.zipIdx_map_snd 0 s.docs, List.filter_map]
  rfl

theorem Seg.docCount_eq (s : Seg) (hwf : s.WF) : s.docCount = s.liveDocs.length := by
  have := length_filter_not_mem s.docCountAll s.deleted hwf.delNodup hwf.delRange
  rw [Seg.liveDocs, List.length_map, ← List.length_map (f := (·.2)), liveIdx_map_snd]
  simp only [Seg.docCount, Seg.deletedCount, Seg.allDocIds, Seg.isDeleted]
  omega

theorem Toc.docCount_eq (t : Toc) (hwf : t.WF) : t.docCount = t.content.length := by
  simp only [Toc.docCount, Toc.content, contentOf, List.length_flatMap, List.length_map]
  exact congrArg List.sum (List.map_congr_left fun s hs => Seg.docCount_eq s (hwf s hs))

theorem sum_segs_eq_content (sc : Schema) (segs : List Seg) (g : Seg → Nat) (h : DocRec → Nat)
    (hseg : ∀ s ∈ segs, g s = ((s.liveDocs.map (restrict sc)).map h).sum) :
    (segs.map g).sum = ((contentOf sc segs).map h).sum :=
  (congrArg List.sum (List.map_congr_left hseg)).trans (sum_flatMap_map segs _ h).symm

def ftMatch (f tm : Nat) (p : Posting) : Bool := p.fld == f && p.term == tm

/-- total weight document `d` (as visible under `sc`) contributes to term `tm` of field `f` -/
def termWeightDoc (sc : Schema) (f tm : Nat) (d : DocRec) : Nat :=
  (((docPostings (restrict sc d) 0).filter (ftMatch f tm)).map (·.w)).sum

theorem filter_ft_restrict (sc : Schema) (f tm : Nat) (hf : sc.has f = true) (d : DocRec) (i : Nat) :
    (docPostings (restrict sc d) i).filter (ftMatch f tm) = (docPostings d i).filter (ftMatch f tm) := by
  rw [docPostings_restrict, List.filter_filter]
  exact List.filter_congr (fun p _ => Schema.beq_and_and_has hf _ _)

theorem filter_ft_renumber (f tm : Nat) (d : DocRec) (i j : Nat) (h : Posting → Nat)
    (hh : ∀ p : Posting, h { p with doc := j } = h p) :
    (((docPostings d i).filter (ftMatch f tm)).map h).sum = (((docPostings d j).filter (ftMatch f tm)).map h).sum := by
  rw [← docPostings_renumber d i j, List.filter_map, List.map_map]
  congr 1
  apply List.map_congr_left
  intro p _
  simp [hh]

/-- what a visible document contributes to an additive per-term statistic `h` -/
def docStat (f tm : Nat) (h : Posting → Nat) (d : DocRec) : Nat :=
  (((docPostings d 0).filter (ftMatch f tm)).map h).sum

theorem seg_stat_sum (sc : Schema) (s : Seg) (f tm : Nat) (hf : sc.has f = true) (hwf : s.WF) (h : Posting → Nat)
    (hh : ∀ (p : Posting) (j : Nat), h { p with doc := j } = h p) :
    ((s.termPosts f tm).map h).sum = (s.docs.map (fun d => docStat f tm h (restrict sc d))).sum := by
  have hp : (s.termPosts f tm).Perm ((allPostings s.docs).filter (ftMatch f tm)) := hwf.posts.filter _
  rw [(hp.map h).sum_nat, allPostings, List.filter_flatMap, sum_flatMap_map]
  conv => rhs; rw [← List.zipIdx_map_fst 0 s.docs, List.map_map]
  congr 1
  apply List.map_congr_left
  intro q _
  simp only [docStat, Function.comp_def]
  rw [filter_ft_restrict sc f tm hf]
  exact filter_ft_renumber f tm q.1 q.2 0 h (fun p => hh p 0)

def NoDeletions (t : Toc) : Prop := ∀ s ∈ t.segs, s.deleted = []

theorem segs_stat_sum (sc : Schema) (segs : List Seg) (f tm : Nat) (hf : sc.has f = true)
    (hwf : ∀ s ∈ segs, s.WF) (hnd : ∀ s ∈ segs, s.deleted = []) (h : Posting → Nat)
    (hh : ∀ (p : Posting) (j : Nat), h { p with doc := j } = h p) :
    (segs.map (fun s => ((s.termPosts f tm).map h).sum)).sum = ((contentOf sc segs).map (docStat f tm h)).sum :=
  sum_segs_eq_content sc segs _ _ (fun s hs => by
    rw [seg_stat_sum sc s f tm hf (hwf s hs) h hh, liveDocs_of_no_deletions s (hnd s hs), List.map_map]
    rfl)

theorem docFrequency_eq_sum (t : Toc) (hwf : t.WF) (hnd : NoDeletions t) (f tm : Nat) (hf : t.schema.has f = true) :
    t.docFrequency f tm = (t.content.map (docStat f tm (fun _ => 1))).sum := by
  simp only [Toc.docFrequency, hf, if_true, Toc.content]
  rw [← segs_stat_sum t.schema t.segs f tm hf hwf hnd (fun _ => 1) (fun _ _ => rfl)]
  congr 1
  apply List.map_congr_left
  intro s _
  rw [List.map_const', List.sum_replicate_nat, Nat.mul_one]

theorem termWeight_eq_sum (t : Toc) (hwf : t.WF) (hnd : NoDeletions t) (f tm : Nat) (hf : t.schema.has f = true) :
    t.termWeight f tm = (t.content.map (docStat f tm (·.w))).sum := by
  simp only [Toc.termWeight, hf, if_true, Toc.content]
  exact segs_stat_sum t.schema t.segs f tm hf hwf hnd (·.w) (fun _ _ => rfl)

theorem restrict_fieldLen (sc : Schema) (f : Nat) (hf : sc.has f = true) (d : DocRec) :
    (restrict sc d).fieldLen f = d.fieldLen f := by
  simp only [DocRec.fieldLen, restrict, List.filter_filter]
  congr 2
  exact List.filter_congr (fun fd _ => Schema.beq_and_has hf fd.fld)

theorem fieldLength_eq_sum (t : Toc) (hnd : NoDeletions t) (f : Nat) (hf : t.schema.has f = true) :
    t.fieldLength f = (t.content.map (fun d => d.fieldLen f)).sum :=
  sum_segs_eq_content t.schema t.segs _ _ (fun s hs => by
    rw [liveDocs_of_no_deletions s (hnd s hs), List.map_map]
    exact congrArg List.sum (List.map_congr_left (fun d _ => (restrict_fieldLen t.schema f hf d).symm)))

end WM.Index
