import WM.Model.Collect
import WM.Lemmas.SortOrder
/-! For C14: the key order, the ascending view, dictionaries and facet maps, page arithmetic. -/
namespace WM.Collect

theorem keyLe_iff_le : ∀ a b : Key, keyLe a b = true ↔ a ≤ b
  | [], _ => by simp [keyLe]
  | _ :: _, [] => by simp [keyLe]
  | x :: xs, y :: ys => by
    simp only [keyLe, Bool.or_eq_true, Bool.and_eq_true, decide_eq_true_eq, beq_iff_eq, List.cons_le_cons_iff,
      keyLe_iff_le xs ys]

theorem keyLe_refl (a : Key) : keyLe a a = true := (keyLe_iff_le a a).mpr (List.le_refl a)

theorem keyLe_total (a b : Key) : keyLe a b = true ∨ keyLe b a = true := by
  rw [keyLe_iff_le, keyLe_iff_le]; exact List.le_total a b

theorem keyLe_trans (a b c : Key) : keyLe a b = true → keyLe b c = true → keyLe a c = true := by
  rw [keyLe_iff_le, keyLe_iff_le, keyLe_iff_le]; exact List.le_trans

theorem keyLe_antisymm (a b : Key) : keyLe a b = true → keyLe b a = true → a = b := by
  rw [keyLe_iff_le, keyLe_iff_le]; exact List.le_antisymm

theorem kdLe_iff_keyLe (a b : Key × Nat) :
    kdLe a b = true ↔ keyLe a.1 b.1 = true ∧ (keyLe b.1 a.1 = true → a.2 ≤ b.2) := by
  simp only [kdLe, Bool.or_eq_true, Bool.and_eq_true, Bool.not_eq_true', decide_eq_true_eq]
  cases keyLe a.1 b.1 <;> cases keyLe b.1 a.1 <;> simp

theorem kdLe_sortOrder : SortOrder kdLe where
  trans a b c := by
    simp only [kdLe_iff_keyLe]
    intro ⟨hab, hab'⟩ ⟨hbc, hbc'⟩
    refine ⟨keyLe_trans _ _ _ hab hbc, fun hca => ?_⟩
    exact Nat.le_trans (hab' (keyLe_trans _ _ _ hbc hca)) (hbc' (keyLe_trans _ _ _ hca hab))
  total a b := by
    rw [Bool.or_eq_true, kdLe_iff_keyLe, kdLe_iff_keyLe]
    by_cases hab : keyLe a.1 b.1 = true
    · by_cases hba : keyLe b.1 a.1 = true
      · rcases Nat.le_total a.2 b.2 with h | h
        · exact Or.inl ⟨hab, fun _ => h⟩
        · exact Or.inr ⟨hba, fun _ => h⟩
      · exact Or.inl ⟨hab, fun h => absurd h hba⟩
    · exact Or.inr ⟨(keyLe_total a.1 b.1).resolve_left hab, fun h => absurd h hab⟩
  antisymm a b := by
    simp only [kdLe_iff_keyLe]
    intro ⟨hab, hab'⟩ ⟨hba, hba'⟩
    exact Prod.ext (keyLe_antisymm _ _ hab hba) (Nat.le_antisymm (hab' hba) (hba' hab))

/-- The ascending view: hits in `(key, docnum)` order. -/
def ascending (key : Nat → Key) (docs : List Nat) : List (Key × Nat) :=
  (docs.map fun d => (key d, d)).mergeSort kdLe

theorem ascending_perm (key : Nat → Key) (docs : List Nat) :
    (ascending key docs).Perm (docs.map fun d => (key d, d)) := List.mergeSort_perm _ _

theorem mem_ascending {key : Nat → Key} {docs : List Nat} {x : Key × Nat} :
    x ∈ ascending key docs ↔ x.1 = key x.2 ∧ x.2 ∈ docs := by
  rw [(ascending_perm key docs).mem_iff, List.mem_map]
  constructor
  · rintro ⟨d, hd, rfl⟩; exact ⟨rfl, hd⟩
  · rintro ⟨h1, h2⟩; exact ⟨x.2, h2, by rw [← h1]⟩

theorem ascending_sorted (key : Nat → Key) (docs : List Nat) :
    (ascending key docs).Pairwise (fun a b => kdLe a b = true) :=
  kdLe_sortOrder.sorted _

theorem ascending_eq_of (key : Nat → Key) (docs : List Nat) (L : List (Key × Nat))
    (hp : L.isPerm (docs.map fun d => (key d, d)) = true) (hs : L.Pairwise (fun a b => kdLe a b = true)) :
    ascending key docs = L :=
  kdLe_sortOrder.mergeSort_eq (List.isPerm_iff.mp hp) hs

theorem refuses_eq_false_iff (allow restrict : Option (List Nat)) (d : Nat) :
    refuses allow restrict d = false ↔
      (∀ a, allow = some a → d ∈ a) ∧ (∀ r, restrict = some r → d ∉ r) := by
  cases allow <;> cases restrict <;> simp [refuses]

/-- Lookup without a default (`name in dict`). -/
def dictFind {α : Type} (name : Int) (m : List (Int × α)) : Option α :=
  (m.find? (fun p => p.1 == name)).map (·.2)

theorem dictGet_eq_find {α : Type} (n : Int) (dflt : α) (m : List (Int × α)) :
    dictGet n dflt m = (dictFind n m).getD dflt := by
  unfold dictGet dictFind
  cases m.find? (fun p => p.1 == n) <;> rfl

theorem dictGet_nil {α : Type} (n : Int) (dflt : α) : dictGet n dflt [] = dflt := rfl

theorem dictFind_cons {α : Type} (n k : Int) (v : α) (m : List (Int × α)) :
    dictFind n ((k, v) :: m) = if k == n then some v else dictFind n m := by
  simp only [dictFind, List.find?_cons]
  cases h : (k == n) <;> simp

theorem dictFind_update_same {α : Type} (n : Int) (dflt : α) (f : α → α) (m : List (Int × α)) :
    dictFind n (dictUpdate n dflt f m) = some (f ((dictFind n m).getD dflt)) := by
  induction m with
  | nil => simp [dictUpdate, dictFind]
  | cons kv rest ih =>
    obtain ⟨k, v⟩ := kv
    simp only [dictUpdate]
    by_cases h : (k == n) = true
    · simp [h, dictFind_cons]
    · rw [if_neg h, dictFind_cons, dictFind_cons, if_neg h, if_neg h]; exact ih

theorem dictFind_update_other {α : Type} (n n' : Int) (dflt : α) (f : α → α) (m : List (Int × α))
    (hne : n' ≠ n) : dictFind n' (dictUpdate n dflt f m) = dictFind n' m := by
  induction m with
  | nil =>
    have : (n == n') = false := by simpa using (Ne.symm hne)
    simp [dictUpdate, this, dictFind]
  | cons kv rest ih =>
    obtain ⟨k, v⟩ := kv
    simp only [dictUpdate]
    by_cases h : (k == n) = true
    · have hk : k = n := by simpa using h
      have : (k == n') = false := by subst hk; simpa using (Ne.symm hne)
      simp [h, dictFind_cons, this]
    · rw [if_neg h, dictFind_cons, dictFind_cons, ih]

theorem dictGet_update {α : Type} (n n' : Int) (dflt dflt' : α) (f : α → α) (m : List (Int × α)) :
    dictGet n' dflt' (dictUpdate n dflt f m) = if n' = n then f (dictGet n dflt m) else dictGet n' dflt' m := by
  rw [dictGet_eq_find]
  split
  · next h => rw [h, dictFind_update_same, dictGet_eq_find]; rfl
  · next h => rw [dictFind_update_other n n' dflt f m h, dictGet_eq_find]

theorem dictGet_map {α β : Type} (g : α → β) (v : Int) (dflt : α) (m : List (Int × α)) :
    dictGet v (g dflt) (m.map fun p => (p.1, g p.2)) = g (dictGet v dflt m) := by
  induction m with
  | nil => rfl
  | cons kv rest ih =>
    obtain ⟨k, x⟩ := kv
    simp only [List.map_cons, dictGet_eq_find, dictFind_cons] at ih ⊢
    split
    · rfl
    · exact ih

/-! ### facet maps

Every facet map of `sorting.py` is filled by the same double loop: each document updates the entry
of each of its names. So the entry of a name only sees the documents that carry the name. -/

/-- The documents of `docs` named `v`, in collection order (twice, if a document names `v` twice). -/
def groupDocs (names : Nat → List Int) (v : Int) (docs : List Nat) : List Nat :=
  docs.flatMap fun d => ((names d).filter (· == v)).map fun _ => d

theorem mem_groupDocs {names : Nat → List Int} {v : Int} {docs : List Nat} {d : Nat} :
    d ∈ groupDocs names v docs ↔ d ∈ docs ∧ v ∈ names d := by
  simp only [groupDocs, List.mem_flatMap, List.mem_map, List.mem_filter, beq_iff_eq]
  constructor
  · rintro ⟨d', hd', n, ⟨hn, rfl⟩, rfl⟩; exact ⟨hd', hn⟩
  · rintro ⟨hd, hv⟩; exact ⟨d, hd, v, ⟨hv, rfl⟩, rfl⟩

theorem dictFind_facetFold {α : Type} (dflt : Nat → α) (upd : Nat → α → α) (names : Nat → List Int) (v : Int)
    (docs : List Nat) (m : List (Int × α)) :
    dictFind v (docs.foldl (fun m d => (names d).foldl (fun m n => dictUpdate n (dflt d) (upd d) m) m) m) =
      (groupDocs names v docs).foldl (fun o d => some (upd d (o.getD (dflt d)))) (dictFind v m) := by
  induction docs generalizing m with
  | nil => rfl
  | cons d ds ih =>
    rw [List.foldl_cons, ih]
    simp only [groupDocs, List.flatMap_cons, List.foldl_append]
    congr 1
    generalize names d = ns
    induction ns generalizing m with
    | nil => rfl
    | cons n ns ih2 =>
      rw [List.foldl_cons, ih2]
      by_cases h : n = v
      · subst h; simp [dictFind_update_same]
      · have : (n == v) = false := by simpa using h
        rw [dictFind_update_other _ _ _ _ _ (Ne.symm h), List.filter_cons, this]; rfl

/-- From the empty map: once a group has its first document, the defaults are not looked at. -/
theorem dictFind_facetFold_nil {α : Type} (dflt : Nat → α) (upd : Nat → α → α) (names : Nat → List Int) (v : Int)
    (docs : List Nat) :
    dictFind v (docs.foldl (fun m d => (names d).foldl (fun m n => dictUpdate n (dflt d) (upd d) m) m) []) =
      match groupDocs names v docs with
      | [] => none
      | d :: l => some (l.foldl (fun a d => upd d a) (upd d (dflt d))) := by
  rw [dictFind_facetFold]
  cases groupDocs names v docs with
  | nil => rfl
  | cons d l =>
    show l.foldl _ (some (upd d (dflt d))) = some (l.foldl _ (upd d (dflt d)))
    generalize upd d (dflt d) = a
    induction l generalizing a with
    | nil => rfl
    | cons d l ih => exact ih _

theorem dictGet_facetFold {α : Type} (z : α) (upd : Nat → α → α) (names : Nat → List Int) (v : Int)
    (docs : List Nat) :
    dictGet v z (docs.foldl (fun m d => (names d).foldl (fun m n => dictUpdate n z (upd d) m) m) []) =
      (groupDocs names v docs).foldl (fun a d => upd d a) z := by
  rw [dictGet_eq_find, dictFind_facetFold_nil (fun _ => z) upd]
  cases groupDocs names v docs <;> rfl

theorem foldl_snoc_map {α β : Type} (g : α → β) (l : List α) (init : List β) :
    l.foldl (fun a d => a ++ [g d]) init = init ++ l.map g := by
  induction l generalizing init with
  | nil => simp
  | cons d l ih => rw [List.foldl_cons, ih]; simp

theorem facetUnordered_get (names : Nat → List Int) (docs : List Nat) (v : Int) :
    dictGet v [] (facetUnordered names docs) = groupDocs names v docs := by
  rw [facetUnordered, dictGet_facetFold [] (fun d l => l ++ [d])]
  simpa using foldl_snoc_map id (groupDocs names v docs) []

theorem facetCount_get (names : Nat → List Int) (docs : List Nat) (v : Int) :
    dictGet v 0 (facetCount names docs) = (groupDocs names v docs).length := by
  rw [facetCount, dictGet_facetFold 0 (fun _ c => c + 1)]
  simp

theorem facetOrdered_get (names : Nat → List Int) (skey : Nat → Key) (docs : List Nat) (v : Int) :
    dictGet v [] (docs.foldl (fun m d => facetAddOrdered (names d) (skey d) d m) []) =
      (groupDocs names v docs).map fun d => (skey d, d) := by
  unfold facetAddOrdered
  rw [dictGet_facetFold [] (fun d l => l ++ [(skey d, d)]), foldl_snoc_map]; rfl

/-- `b = (skey d, d)` for the first member `d` of `members` whose key is minimal: every earlier
    member has a strictly greater key, every later one a key at least as great. -/
def FirstMin (skey : Nat → Key) (members : List Nat) (b : Key × Nat) : Prop :=
  b.1 = skey b.2 ∧ ∃ pre post, members = pre ++ b.2 :: post ∧
    (∀ d ∈ pre, keyLe (skey d) b.1 = false) ∧ (∀ d ∈ post, keyLe b.1 (skey d) = true)

/-- `Best.add` keeps `FirstMin`. -/
theorem FirstMin.step {skey : Nat → Key} {members : List Nat} {b : Key × Nat} (h : FirstMin skey members b)
    (d : Nat) :
    FirstMin skey (members ++ [d])
      (if keyLe (skey d) b.1 && !keyLe b.1 (skey d) then (skey d, d) else b) := by
  obtain ⟨hb, pre, post, hm, hpre, hpost⟩ := h
  by_cases hc : (keyLe (skey d) b.1 && !keyLe b.1 (skey d)) = true
  · -- a strictly smaller key: `d` is the new minimum, and every member so far is strictly greater,
    -- being at least `b` (or `b` itself, or before it)
    rw [if_pos hc]
    simp only [Bool.and_eq_true, Bool.not_eq_true'] at hc
    refine ⟨rfl, members, [], by simp, ?_, by simp⟩
    intro x hx
    simp only
    cases hxd : keyLe (skey x) (skey d) with
    | false => rfl
    | true =>
      exfalso
      rw [hm] at hx
      rcases List.mem_append.mp hx with hx | hx
      · have := keyLe_trans _ _ _ hxd hc.1
        rw [hpre x hx] at this; cases this
      · rcases List.mem_cons.mp hx with hx | hx
        · subst hx; rw [← hb, hc.2] at hxd; cases hxd
        · have := keyLe_trans _ _ _ (hpost x hx) hxd
          rw [hc.2] at this; cases this
  · -- otherwise `b` stays and `d` joins the later members, whose keys are at least `b`'s
    rw [if_neg hc]
    refine ⟨hb, pre, post ++ [d], by rw [hm]; simp, hpre, ?_⟩
    intro x hx
    rcases List.mem_append.mp hx with hx | hx
    · exact hpost x hx
    · have : x = d := by simpa using hx
      subst this
      rcases keyLe_total b.1 (skey x) with h | h
      · exact h
      · simp only [Bool.and_eq_true, Bool.not_eq_true', not_and, Bool.not_eq_false] at hc
        exact hc h

theorem FirstMin.foldl {skey : Nat → Key} {members : List Nat} {b : Key × Nat} (h : FirstMin skey members b)
    (l : List Nat) :
    FirstMin skey (members ++ l)
      (l.foldl (fun cur d => if keyLe (skey d) cur.1 && !keyLe cur.1 (skey d) then (skey d, d) else cur) b) := by
  induction l generalizing members b with
  | nil => rw [List.append_nil]; exact h
  | cons d l ih => rw [List.append_cons]; exact ih (h.step d)

theorem facetBest_find (names : Nat → List Int) (skey : Nat → Key) (docs : List Nat) (v : Int) :
    (groupDocs names v docs = [] → dictFind v (facetBest names skey docs) = none) ∧
    (groupDocs names v docs ≠ [] →
      ∃ b, dictFind v (facetBest names skey docs) = some b ∧ FirstMin skey (groupDocs names v docs) b) := by
  rw [facetBest, dictFind_facetFold_nil (fun d => (skey d, d))
    (fun d cur => if keyLe (skey d) cur.1 && !keyLe cur.1 (skey d) then (skey d, d) else cur)]
  cases groupDocs names v docs with
  | nil => exact ⟨fun _ => rfl, fun h => absurd rfl h⟩
  | cons d l =>
    -- the first document of the group is compared with itself, the default
    dsimp only
    rw [ite_self]
    exact ⟨fun h => (by cases h), fun _ => ⟨_, rfl, FirstMin.foldl ⟨rfl, [], [], rfl, by simp, by simp⟩ l⟩⟩

/-- `pc = ⌈total / pagelen⌉`: `pc` pages are enough and `pc - 1` are not. -/
theorem pagecount_facts (total pagelen : Nat) (hl : 1 ≤ pagelen) :
    total ≤ (total + pagelen - 1) / pagelen * pagelen ∧
    (total + pagelen - 1) / pagelen * pagelen < total + pagelen := by
  have hlt := Nat.lt_div_mul_add (a := total + pagelen - 1) (b := pagelen) (by omega)
  have hdiv := Nat.div_mul_le_self (total + pagelen - 1) pagelen
  omega

/-- The one non-linear step: page `pn ≥ 1` ends where page `pn + 1` starts. -/
theorem offset_add (pn pagelen : Nat) (h : 1 ≤ pn) : (pn - 1) * pagelen + pagelen = pn * pagelen := by
  rw [← Nat.succ_mul, Nat.succ_eq_add_one, Nat.sub_add_cancel h]

/-- If `pc` pages just cover `total`, a page `pn ≤ pc` starts inside the results. -/
theorem offset_le {total pagelen pc pn : Nat} (hpc : pc * pagelen < total + pagelen) (hpn : pn ≤ pc) :
    (pn - 1) * pagelen ≤ total := by
  rcases Nat.eq_zero_or_pos pn with rfl | h
  · simp
  · have := offset_add pn pagelen h
    have := Nat.mul_le_mul_right pagelen hpn
    omega

/-- A page `pn = min pc pagenum` ends before `pagenum * pagelen`, where the limited search stops. -/
theorem page_end_le {total pagelen pc pagenum : Nat} (hpc : total ≤ pc * pagelen) (hn : 1 ≤ pagenum) :
    (min pc pagenum - 1) * pagelen + min pagelen (total - (min pc pagenum - 1) * pagelen)
      ≤ pagenum * pagelen := by
  rcases Nat.eq_zero_or_pos (min pc pagenum) with h0 | h0
  · have : pc = 0 := by omega
    rw [this, Nat.zero_mul] at hpc
    rw [h0, Nat.le_zero.mp hpc]
    simp
  · rw [← offset_add _ pagelen (Nat.le_trans h0 (Nat.min_le_right pc pagenum))]
    exact Nat.add_le_add (Nat.mul_le_mul_right _ (Nat.sub_le_sub_right (Nat.min_le_right _ _) 1))
      (Nat.min_le_left _ _)

theorem pagelen_eq_min (offset pagelen total : Nat) :
    (if offset + pagelen > total then total - offset else pagelen) = min pagelen (total - offset) := by
  by_cases h : offset + pagelen > total
  · rw [if_pos h, Nat.min_eq_right (by omega)]
  · rw [if_neg h, Nat.min_eq_left (by omega)]

theorem mkPage_ok (total : Nat) {pagenum pagelen : Nat} (hl : 1 ≤ pagelen) (hn : 1 ≤ pagenum) :
    mkPage total pagenum pagelen = .ok
      { total := total, pagecount := (total + pagelen - 1) / pagelen,
        pagenum := min ((total + pagelen - 1) / pagelen) pagenum,
        offset := (min ((total + pagelen - 1) / pagelen) pagenum - 1) * pagelen,
        pagelen := min pagelen (total - (min ((total + pagelen - 1) / pagelen) pagenum - 1) * pagelen) } := by
  have h1 : ¬ pagenum < 1 := by omega
  have h2 : ¬ pagelen = 0 := by omega
  simp only [mkPage, h1, h2, if_false, pagelen_eq_min]

end WM.Collect
