import WM.Lemmas.Faithful
/-! `AndNotMatcher` is a faithful cursor over `diff`. -/
namespace WM.Matcher

namespace AndNot
variable {α β : Type} {A : Ops α} {B : Ops β} {dA fA : α → Den} {dB fB : β → Den}
  {WA : α → Prop} {WB : β → Prop}

/-- both active ⇒ the negative matcher is strictly ahead of the positive one -/
def Ahead (dA : α → Den) (dB : β → Den) (m : Bin α β) : Prop :=
  ∀ x r La y s Lb, dA m.a = (x, r) :: La → dB m.b = (y, s) :: Lb → x < y

/-- the loop of `_find_next`: `a` is on `x`, nothing of `b` lies below `x`.  Every round steps `a`, so `A.rem a` bounds the
    rounds (the fuel `findNext` gives), whatever the `skip_to` calls on `b` cost. -/
theorem findLoop_spec (FA : Faithful A dA fA WA) (FB : Faithful B dB fB WB) :
    ∀ (fuel : Nat) (a : α) (b : β) (x : Nat) (ra : Rat) (La : Den),
      WA a → WB b → dA a = (x, ra) :: La → (∀ p ∈ dB b, x ≤ p.1) → A.rem a < fuel →
      Yields (findLoop A B fuel a b x) (Synced A B dA fA dB fB WA WB (Ahead dA dB) diff ⟨a, b⟩) := by
  intro fuel
  induction fuel with
  | zero => intro a b x ra La _ _ _ _ h; omega
  | succ n ih =>
    intro a b x ra La wa wb ha hge hfuel
    have hAa : A.isActive a = true := (FA.active _ wa).2 (by simp [ha])
    have ascB := FB.asc _ wb
    unfold findLoop
    rw [hAa]
    rcases FB.head wb with ⟨hb, hBi⟩ | ⟨y, rb, Lb, hb, hBa, hBid, -⟩
    · rw [hBi]; exact .ok (Synced.refl _ wa wb (headRel_of_nil_right hb))
    · have hxy : x ≤ y := hge (y, rb) (by rw [hb]; exact List.mem_cons_self)
      rw [hBa, hBid]
      show Yields (if (x == y) = true then _ else _) _
      by_cases heq : x = y
      · subst heq
        rw [if_pos (by simp)]
        refine (FA.next_step wa ha).bind fun a' sa => ?_
        have ha4 := sa.rem_lt ha
        -- x is excluded: the remaining list is that of (La, b)
        have hdrop : diff (dA a') (dB b) = diff (dA a) (dB b) := by
          rw [sa.den_eq, ha, hb]; exact (diff_cons_of_present (lookup_head _ _ _)).symm
        have hmv : Moved A B dA fA dB fB WA WB ⟨a, b⟩ ⟨a', b⟩ := .left wb sa
        rcases FA.head sa.wf with ⟨hda', hina⟩ | ⟨x', r', La', hda', hact', hid', -⟩
        · rw [hina]; exact .ok ⟨hmv, headRel_of_nil_left hda', hdrop⟩
        · rw [hact', hid']
          refine (FB.skipTo_step x' wb (by simp [hb])).bind fun b' sb => ?_
          have hskip : diff (dA a') (dB b') = diff (dA a') (dB b) := by
            rw [sb.den_eq]; exact diff_dropBelow_right ascB ((FA.asc _ sa.wf).head_le hda')
          exact (ih a' b' x' r' La' sa.wf sb.wf hda' (fun p hp => mem_dropBelow_ge ascB (sb.den_eq ▸ hp)) (by omega)).mono
            fun m' hm => (hm.after (.right sa.wf sb) hskip).after hmv hdrop
      · rw [if_neg (by simp [heq])]
        exact .ok (Synced.refl _ wa wb (headRel_of_cons ha hb (by omega)))

theorem findNext_spec (FA : Faithful A dA fA WA) (FB : Faithful B dB fB WB)
    (m : Bin α β) (wa : WA m.a) (wb : WB m.b) :
    Yields (findNext A B m) (Synced A B dA fA dB fB WA WB (Ahead dA dB) diff m) := by
  unfold findNext
  rcases FA.head wa with ⟨ha, hAa⟩ | ⟨x, ra, La, ha, hAa, hAid, -⟩
  · rw [hAa]; exact .ok (Synced.refl _ wa wb (headRel_of_nil_left ha))
  · rcases FB.head wb with ⟨hb, hBa⟩ | ⟨y, rb, Lb, hb, hBa, hBid, -⟩
    · rw [hAa, hBa]; exact .ok (Synced.refl _ wa wb (headRel_of_nil_right hb))
    · have ascB := FB.asc _ wb
      rw [hAa, hBa, hAid, hBid]
      -- `if neg.id() < pos_id: neg.skip_to(pos_id)`: on the list the test changes nothing
      have hskip : Yields (B.skipToIf (decide (y < x)) m.b x) (Step B dB fB WB m.b · (dropBelow x (dB m.b))) :=
        .ite (fun _ => FB.skipTo_step x wb (by simp [hb])) fun hlt =>
          .ok ⟨wb, by rw [hb, dropBelow_of_le_head (by simpa using hlt)], .refl _ _ _ _⟩
      refine hskip.bind fun b' sb => ?_
      refine (findLoop_spec FA FB (A.rem m.a + 1) m.a b' x ra La wa sb.wf ha
        (fun p hp => mem_dropBelow_ge ascB (sb.den_eq ▸ hp)) (by omega)).mono fun m' hm => hm.after (.right wa sb) ?_
      rw [sb.den_eq]; exact diff_dropBelow_right ascB ((FA.asc _ wa).head_le ha)

/-- `_find_first` repeats the test `_find_next` starts with -/
theorem findFirst_eq (m : Bin α β) : findFirst A B m = findNext A B m := by
  unfold findFirst findNext
  cases A.isActive m.a && B.isActive m.b <;> rfl

theorem head (FB : Faithful B dB fB WB) (m : Bin α β) (wb : WB m.b) (hal : Ahead dA dB m) {x : Nat} {r : Rat} {La : Den}
    (ha : dA m.a = (x, r) :: La) : diff (dA m.a) (dB m.b) = (x, r) :: diff La (dB m.b) := by
  rw [ha]
  apply diff_cons_of_absent
  cases hb : dB m.b with
  | nil => rfl
  | cons q Lb =>
    obtain ⟨y, s⟩ := q
    have := hal x r La y s Lb ha hb
    exact lookup_eq_none_of_lt_head (hb ▸ FB.asc _ wb) this

theorem faithful (FA : Faithful A dA fA WA) (FB : Faithful B dB fB WB) :
    Faithful (AndNot.ops A B) (fun m => diff (dA m.a) (dB m.b)) (fun m => diff (fA m.a) (fB m.b))
      (fun m => WA m.a ∧ WB m.b ∧ Ahead dA dB m) :=
  .of_state (fun m h => asc_diff _ (FA.asc _ h.1))
    (fun m h => by
      rcases FA.head h.1 with ⟨ha, hAa⟩ | ⟨x, r, La, ha, hAa, hAid, hAsc⟩
      · exact .inl ⟨by rw [ha]; rfl, hAa⟩
      have hd := head FB m h.2.1 h.2.2 ha
      have ascA := FA.asc _ h.1
      have ascB := FB.asc _ h.2.1
      refine .inr ⟨x, r, _, hd, hAa, hAid, hAsc, ?_, fun t => ?_⟩
      · show Yields (AndNot.next A B m) _
        unfold AndNot.next
        rw [hAa]
        refine (FA.next_step h.1 ha).bind fun a' sa => ?_
        show Yields (findFirst A B ⟨a', m.b⟩) _
        rw [findFirst_eq]
        exact (findNext_spec FA FB ⟨a', m.b⟩ sa.wf h.2.1).mono fun m' hm =>
          hm.step (.left h.2.1 sa) (fun _ => rfl) (by rw [sa.den_eq])
      · show Yields (AndNot.skipTo A B m t) _
        unfold AndNot.skipTo
        rw [hAa, hAid]
        show Yields (if t < x then _ else _) _
        refine .ite (fun hlt => .ok ⟨h, ?_, .refl _ _ _ _⟩) fun hlt =>
          (FA.skipTo_step t h.1 (by simp [ha])).bind fun a' sa => ?_
        · rw [hd]; exact (dropBelow_of_le_head (by omega)).symm
        rcases FB.head h.2.1 with ⟨hb, hBi⟩ | ⟨y, rb, Lb, hb, hBa, -, -⟩
        · rw [hBi]
          refine .ok ((Moved.left h.2.1 sa).step diff (fun _ => rfl) ⟨sa.wf, h.2.1, headRel_of_nil_right hb⟩ ?_)
          simp only [sa.den_eq, hb]
          simpa using diff_dropBelow ascA (B := []) asc_nil t
        · rw [hBa, if_pos rfl]
          refine (FB.skipTo_step t h.2.1 (by simp [hb])).bind fun b' sb => ?_
          refine (findNext_spec FA FB ⟨a', b'⟩ sa.wf sb.wf).mono fun m' hm =>
            hm.step ((Moved.left h.2.1 sa).trans (.right sa.wf sb)) (fun _ => rfl) ?_
          simp only [sa.den_eq, sb.den_eq]; exact diff_dropBelow ascA ascB t)
    (fun m h => Synced.reset FA FB (fun m wa wb => (findFirst_eq m).symm ▸ findNext_spec FA FB m wa wb) m h.1 h.2.1)

/-- the constructor establishes the invariant (C11 `constructors_wf`) -/
theorem init_spec (FA : Faithful A dA fA WA) (FB : Faithful B dB fB WB) (a : α) (b : β) (wa : WA a)
    (wb : WB b) :
    Yields (AndNot.init A B a b) fun m' => (WA m'.a ∧ WB m'.b ∧ Ahead dA dB m') ∧
      diff (dA m'.a) (dB m'.b) = diff (dA a) (dB b) := by
  rw [init, findFirst_eq]
  exact (findNext_spec FA FB ⟨a, b⟩ wa wb).mono fun m' h => ⟨⟨h.wa, h.wb, h.inv⟩, h.den_eq⟩

end AndNot
end WM.Matcher
