import WM.Lemmas.ParserTotal
import WM.Lemmas.ParserOps
/-! `do_operators` on one group, for left-associative taggers: the passes over the member list are the
composition of the scans (`passesZ`), then the filter descends into the members of the result.  `opsOut` is
the filter as a total function. -/
namespace WM.Parser

def passesZ (ops : List OpCfg) (l : List Node) : List Node := ops.foldl (fun acc o => passZ o [] acc) l

theorem passesZ_nil (l : List Node) : passesZ [] l = l := rfl

theorem opPasses_eq_passesZ (ops : List OpCfg) (hops : ∀ o ∈ ops, o.la = true) (l : List Node)
    (hl : ∀ x ∈ l, x.laOK = true) : opPasses ops l = .ok (passesZ ops l) := by
  induction ops generalizing l with
  | nil => rfl
  | cons o ops ih =>
    have h1 : opPass l o = .ok (passZ o [] l) := by
      rw [opPass, if_pos (hops o (List.mem_cons_self ..))]
      exact opLoopL_eq_passZ o [] l hl
    rw [opPasses, h1]
    exact ih (fun o' ho' => hops o' (List.mem_cons_of_mem _ ho')) _
      (passZ_forall_of_group o (fun _ => isGroup_laOK) hl)

/-- the result of `do_operators` as a total function (it never fails: `doOperators_spec`) -/
def opsOut (ops : List OpCfg) (n : Node) : Node := okOr (doOperators ops n) n

theorem doOperators_eq_opsOut (ops : List OpCfg) (n : Node) : doOperators ops n = .ok (opsOut ops n) :=
  (doOperators_spec ops n).eq_okOr n

theorem opsOut_group {ops : List OpCfg} {ns ns1 : List Node} (hp : opPasses ops ns = .ok ns1) (k : GK) (b : Rat) :
    opsOut ops (.group k ns b) = .group k (ns1.map (opsOut ops)) b := by
  refine okOr_of_eq ?_
  rw [doOperators]
  split
  · next e he => rw [hp] at he; cases he
  · next ns1' he =>
    obtain rfl : ns1 = ns1' := Except.ok.inj (hp.symm.trans he)
    rw [mapM_eq_map (l := ns1.attach) (g := fun x => opsOut ops x.1) (fun y _ => doOperators_eq_opsOut ops y.1)]
    simp [bind, Except.bind, pure, Except.pure]

theorem opsOut_groupOf? {ops : List OpCfg} {n : Node} {g : GK} (h : n.groupOf? g = none) :
    (opsOut ops n).groupOf? g = none :=
  (doOperators_spec ops n).of_eq (doOperators_eq_opsOut ops n) g h

end WM.Parser
