import WM.Spec.Sat
import WM.Lemmas.Basics
/-! Equality of query trees, list forms of the mutual definitions (`satAll`, `satAny` as `all`, `any`),
    `with_boost`, `hasField` and `field`; what `sat` is at a binary node, a compound (`den`) and an `Every`
    (`everySat`) - the leaves are in `NormalizeLeaf`. -/
namespace WM.Normalize
open WM.Sat

theorem ite_cases {α : Sort _} {P : α → Prop} {c : Prop} [Decidable c] {x y : α} (hx : P x) (hy : P y) :
    P (if c then x else y) := by
  split <;> assumption

theorem any_or_split {α} (l : List α) (p q : α → Bool) :
    l.any (fun x => p x || q x) = (l.any p || l.any q) := by
  induction l with
  | nil => rfl
  | cons x xs ih =>
    simp only [List.any_cons, ih]
    cases p x <;> cases q x <;> simp

theorem contains_false_mono {α} [BEq α] [LawfulBEq α] {x : α} {l l' : List α} (h : ∀ o ∈ l', o ∈ l)
    (hc : l.contains x = false) : l'.contains x = false := by
  rw [Bool.eq_false_iff] at hc ⊢
  intro hc'
  exact hc (by simpa using h x (by simpa using hc'))

theorem Q.beq_iff : (∀ a b, Q.beq a b = true ↔ a = b) ∧ (∀ as bs, Q.beqList as bs = true ↔ as = bs) := by
  apply Q.beq.mutual_induct_unfolding (motive_1 := fun a b r => r = true ↔ a = b)
    (motive_2 := fun as bs r => r = true ↔ as = bs)
  -- cases 1-14: both sides of the same class, in the order of `Q`'s constructors (9-13 the recursive ones);
  -- 15: different classes; 16-18: the same for lists
  case case9 => intro k qs b k' qs' b' ih; simp only [Bool.and_eq_true, beq_iff_eq, ih, Q.comp.injEq, and_assoc]
  case case10 => intro c qs s o b c' qs' s' o' b' ih; simp only [Bool.and_eq_true, beq_iff_eq, ih, Q.seq.injEq, and_assoc]
  case case11 => intro q b q' b' ih; simp only [Bool.and_eq_true, beq_iff_eq, ih, Q.not.injEq]
  case case12 => intro k a b k' a' b' iha ihb; simp only [Bool.and_eq_true, beq_iff_eq, iha, ihb, Q.bin.injEq, and_assoc]
  case case13 => intro q s q' s' ih; simp only [Bool.and_eq_true, beq_iff_eq, ih, Q.const.injEq]
  case case15 =>
    -- the pairs `Q.beq` does not look into: the two sides are of different classes
    intro t x h1 h2 h3 h4 h5 h6 h7 h8 h9 h10 h11 h12 h13 h14
    refine ⟨nofun, fun e => ?_⟩
    subst e
    cases t
    · exact (h1 rfl rfl).elim
    · exact (h2 _ _ _ _ rfl rfl).elim
    · exact (h3 _ _ _ _ _ _ rfl rfl).elim
    · exact (h4 _ _ _ _ _ _ _ _ rfl rfl).elim
    · exact (h5 _ _ _ _ _ _ _ _ rfl rfl).elim
    · exact (h6 _ _ _ _ _ _ _ _ _ _ rfl rfl).elim
    · exact (h7 _ _ _ _ _ _ _ _ _ _ _ _ _ _ rfl rfl).elim
    · exact (h8 _ _ _ _ _ _ _ _ rfl rfl).elim
    · exact (h9 _ _ _ _ _ _ rfl rfl).elim
    · exact (h10 _ _ _ _ _ _ _ _ _ _ rfl rfl).elim
    · exact (h11 _ _ _ _ rfl rfl).elim
    · exact (h12 _ _ _ _ _ _ rfl rfl).elim
    · exact (h13 _ _ _ _ rfl rfl).elim
    · exact (h14 _ _ _ _ rfl rfl).elim
  case case17 => intro a as b bs iha ihas; simp only [Bool.and_eq_true, iha, ihas, List.cons.injEq]
  case case18 =>
    intro t x h1 h2
    refine ⟨nofun, fun e => ?_⟩
    subst e
    cases t
    · exact (h1 rfl rfl).elim
    · exact (h2 _ _ _ _ rfl rfl).elim
  case case1 => exact iff_of_true rfl rfl
  case case16 => exact iff_of_true rfl rfl
  all_goals (intros; simp only [Bool.and_eq_true, beq_iff_eq, Q.every.injEq, Q.term.injEq, Q.pre.injEq, Q.wild.injEq, Q.multi.injEq, Q.range.injEq, Q.phrase.injEq, Q.opq.injEq, and_assoc])

theorem Q.eqList_of_beqList : ∀ (as bs : List Q), Q.beqList as bs = true → as = bs :=
  fun as bs => (Q.beq_iff.2 as bs).mp

theorem Q.beqList_refl : ∀ (as : List Q), Q.beqList as as = true :=
  fun as => (Q.beq_iff.2 as as).mpr rfl

instance : LawfulBEq Q where
  eq_of_beq := (Q.beq_iff.1 _ _).mp
  rfl := (Q.beq_iff.1 _ _).mpr rfl

instance : DecidableEq Q := instDecidableEqOfLawfulBEq

theorem normalizeList_eq_map (qs : List Q) : normalizeList qs = qs.map normalize := by
  induction qs with
  | nil => rfl
  | cons q qs ih => exact congrArg (normalize q :: ·) ih

theorem satAll_eq_all (env : Env) (qs : List Q) (d : Doc) :
    satAll env qs d = qs.all fun q => sat env q d := by
  induction qs with
  | nil => rfl
  | cons q qs ih => exact congrArg (sat env q d && ·) ih

theorem satAny_eq_any (env : Env) (qs : List Q) (d : Doc) :
    satAny env qs d = qs.any fun q => sat env q d := by
  induction qs with
  | nil => rfl
  | cons q qs ih => exact congrArg (sat env q d || ·) ih

theorem satAll_append (env : Env) (l1 l2 : List Q) (d : Doc) :
    satAll env (l1 ++ l2) d = (satAll env l1 d && satAll env l2 d) := by
  simp [satAll_eq_all]

theorem satAny_append (env : Env) (l1 l2 : List Q) (d : Doc) :
    satAny env (l1 ++ l2) d = (satAny env l1 d || satAny env l2 d) := by
  simp [satAny_eq_any]

theorem satAny_of_mem (env : Env) (d : Doc) {x : Q} {l : List Q} (hx : x ∈ l) (hs : sat env x d = true) :
    satAny env l d = true := by
  rw [satAny_eq_any, List.any_eq_true]
  exact ⟨x, hx, hs⟩

theorem sat_of_satAll (env : Env) (d : Doc) {x : Q} {l : List Q} (hx : x ∈ l) (hs : satAll env l d = true) :
    sat env x d = true := by
  rw [satAll_eq_all, List.all_eq_true] at hs
  exact hs x hx

theorem answer_congr {env : Env} {a b : Q} (h : ∀ d ∈ env.index, sat env a d = sat env b d) :
    answer env a = answer env b :=
  congrArg (List.map Doc.id) (List.filter_congr h)

theorem fieldAll_eq_all (f : Option Field) (qs : List Q) :
    Q.fieldAll f qs = qs.all fun q => q.field == f := by
  induction qs with
  | nil => rfl
  | cons q qs ih => exact congrArg ((q.field == f) && ·) ih

theorem replaceList_eq_map (fld : Field) (old new : Text) (qs : List Q) :
    replaceList fld old new qs = qs.map (replace fld old new) := by
  induction qs with
  | nil => rfl
  | cons q qs ih => exact congrArg (replace fld old new q :: ·) ih

theorem acceptIdList_eq_map (qs : List Q) : acceptIdList qs = qs.map acceptId := by
  induction qs with
  | nil => rfl
  | cons q qs ih => exact congrArg (acceptId q :: ·) ih

theorem Q.isNull_iff {q : Q} : q.isNull = true ↔ q = .null := by
  fun_cases Q.isNull q
  · exact iff_of_true rfl rfl
  · exact iff_of_false nofun ‹_›

theorem Q.isEveryAll_iff {q : Q} : q.isEveryAll = true ↔ ∃ b, q = .every none b := by
  fun_cases Q.isEveryAll q
  · exact iff_of_true rfl ⟨_, rfl⟩
  · exact iff_of_false nofun fun ⟨b, e⟩ => ‹∀ b, q = .every none b → False› b e

theorem withBoost_isNull (q : Q) (b : Rat) : (q.withBoost b).isNull = q.isNull := by
  fun_cases Q.withBoost q b <;> rfl

theorem withBoost_isEvery (q : Q) (b : Rat) : (q.withBoost b).isEvery = q.isEvery := by
  fun_cases Q.withBoost q b <;> rfl

theorem withBoost_isEveryAll (q : Q) (b : Rat) : (q.withBoost b).isEveryAll = q.isEveryAll := by
  fun_cases Q.withBoost q b with
  | case2 f => cases f <;> rfl
  | _ => rfl

theorem withBoost_field : ∀ (q : Q) (b : Rat), (q.withBoost b).field = q.field := by
  intro q b
  fun_induction Q.withBoost q b <;> simp only [Q.field, *]

theorem withBoost_sat (env : Env) (q : Q) (b : Rat) : sat env (q.withBoost b) = sat env q := by
  fun_induction Q.withBoost q b with
  | case2 f => cases f <;> rfl
  | case9 k => cases k <;> rfl
  -- the four kinds of `bin`, and `const`: `with_boost` descends
  | case12 _ _ _ ih | case13 _ _ _ ih | case16 _ _ _ ih => funext d; simp only [sat, ih]
  | case14 _ _ _ ih1 ih2 | case15 _ _ _ ih1 ih2 => funext d; simp only [sat, ih1, ih2]
  | _ => rfl

theorem hasField_iff {d : Doc} {f : Field} : hasField d f = true ↔ d.toks f ≠ [] := by
  simp [hasField]

theorem hasField_any (d : Doc) (f : Field) : hasField d f = (d.toks f).any fun _ => true := by
  unfold hasField
  cases d.toks f <;> rfl

theorem hasField_of_mem {d : Doc} {f : Field} {x : Text} (h : x ∈ d.toks f) : hasField d f = true :=
  hasField_iff.mpr (List.ne_nil_of_mem h)

theorem hasField_of_any {d : Doc} {f : Field} {p : Text → Bool} (h : (d.toks f).any p = true) :
    hasField d f = true :=
  have ⟨_, hx, _⟩ := List.any_eq_true.mp h
  hasField_of_mem hx

theorem phraseMatch_nonempty {toks : List Text} {slop : Nat} {ws : List Text}
    (h : phraseMatch toks slop ws = true) : toks ≠ [] := by
  intro e
  subst e
  cases ws <;> simp [phraseMatch] at h

theorem fieldList_some {qs : List Q} {f : Field} : Q.fieldList qs = some f → ∀ q ∈ qs, q.field = some f := by
  fun_cases Q.fieldList qs
  · nofun
  · rename_i q qs hall
    rw [fieldAll_eq_all, List.all_eq_true] at hall
    exact fun h => List.forall_mem_cons.mpr ⟨h, fun x hx => h ▸ beq_iff_eq.mp (hall x hx)⟩
  · nofun

mutual
theorem field_sound (env : Env) : ∀ (q : Q) (f : Field) (d : Doc),
    q.field = some f → sat env q d = true → hasField d f = true
  | .every (some g) _ => fun _ _ hf hs => Option.some.inj hf ▸ hs
  | .term g t _ => fun _ _ hf hs => Option.some.inj hf ▸ hasField_of_mem (List.contains_iff_mem.mp hs)
  | .pre g t _ _ | .wild g t _ _ => fun _ _ hf hs => by
    cases hf
    simp only [sat] at hs
    split at hs
    · exact hs
    · exact hasField_of_any hs
  | .multi _ g _ _ _ | .range g _ _ _ _ _ _ => fun _ _ hf hs => Option.some.inj hf ▸ hasField_of_any hs
  | .phrase g ws slop _ => fun _ _ hf hs => Option.some.inj hf ▸ hasField_iff.mpr (phraseMatch_nonempty hs)
  | .comp .and qs _ => fun f d hf hs => by
    simp only [sat, Bool.and_eq_true, Bool.not_eq_true', List.isEmpty_eq_false_iff] at hs
    exact field_sound_all env qs f d (fieldList_some hf) hs.1 hs.2
  | .comp .or qs _ | .comp .dismax qs _ => fun f d hf hs =>
    field_sound_any env qs f d (fieldList_some hf) hs
  | .seq _ qs _ _ _ => fun f d hf hs => by
    simp only [sat, Bool.and_eq_true, Bool.not_eq_true', List.isEmpty_eq_false_iff] at hs
    exact field_sound_all env qs f d (fieldList_some hf) hs.1.1 hs.1.2
  | .bin k a b => fun f d hf hs => by
    simp only [Q.field] at hf
    split at hf
    · rename_i hab
      have iha := field_sound env a f d hf
      have ihb := field_sound env b f d (beq_iff_eq.mp hab ▸ hf)
      cases k <;> simp only [sat, Bool.and_eq_true] at hs
      · exact iha hs.1
      · exact iha hs
      · exact iha hs.1
      · split at hs
        · exact iha hs
        · exact ihb hs
    · cases hf
  | .const q _ => field_sound env q
  | .opq (some g) _ => fun _ _ hf hs => by
    cases hf
    simp only [sat, Bool.and_eq_true] at hs
    exact hs.1
  | .null | .every none _ | .not _ _ | .opq none _ => fun _ _ hf => nomatch hf
theorem field_sound_all (env : Env) : ∀ (qs : List Q) (f : Field) (d : Doc),
    (∀ q ∈ qs, q.field = some f) → qs ≠ [] → satAll env qs d = true → hasField d f = true
  | [] => fun _ _ _ hne _ => absurd rfl hne
  | q :: qs => fun f d hf _ hs => by
    simp only [satAll, Bool.and_eq_true] at hs
    exact field_sound env q f d (hf q (List.mem_cons_self ..)) hs.1
theorem field_sound_any (env : Env) : ∀ (qs : List Q) (f : Field) (d : Doc),
    (∀ q ∈ qs, q.field = some f) → satAny env qs d = true → hasField d f = true
  | [] => fun _ _ _ hs => by simp [satAny] at hs
  | q :: qs => fun f d hf hs => by
    simp only [satAny, Bool.or_eq_true] at hs
    rcases hs with hs | hs
    · exact field_sound env q f d (hf q (List.mem_cons_self ..)) hs
    · exact field_sound_any env qs f d (fun x hx => hf x (List.mem_cons_of_mem _ hx)) hs
end

theorem sat_bin_congr (env : Env) (k : BK) (a a' b b' : Q)
    (ha : ∀ d ∈ env.index, sat env a' d = sat env a d) (hb : ∀ d ∈ env.index, sat env b' d = sat env b d)
    (d : Doc) (hd : d ∈ env.index) : sat env (.bin k a' b') d = sat env (.bin k a b) d := by
  have hany : env.index.any (sat env a') = env.index.any (sat env a) := any_congr ha
  cases k <;> simp only [sat, ha d hd, hb d hd, hany]

theorem sat_bin_or (env : Env) (k : BK) (a b : Q) (d : Doc) (hs : sat env (.bin k a b) d = true) :
    (sat env a d || sat env b d) = true := by
  cases k <;> simp only [sat] at hs
  · simp only [Bool.and_eq_true] at hs; simp [hs.1]
  · simp [hs]
  · simp only [Bool.and_eq_true] at hs; simp [hs.1]
  · split at hs <;> simp [hs]

/-- What a compound of kind `k` over the clauses `l` matches (`sat_comp`); an empty `And` matches nothing. -/
def den (env : Env) (k : CK) (l : List Q) (d : Doc) : Bool :=
  match k with
  | .and => !l.isEmpty && satAll env l d
  | _ => satAny env l d

theorem sat_comp (env : Env) (k : CK) (l : List Q) (b : Rat) (d : Doc) :
    sat env (.comp k l b) d = den env k l d := by
  cases k <;> simp [sat, den]

def everySat (d : Doc) : Option Field → Bool
  | some f => hasField d f
  | none => true

theorem sat_every (env : Env) (o : Option Field) (b : Rat) (d : Doc) :
    sat env (.every o b) d = everySat d o := by
  cases o <;> rfl

theorem sat_of_isEvery (env : Env) (d : Doc) (q : Q) (h : q.isEvery = true) : sat env q d = everySat d q.field := by
  cases q <;> first | exact sat_every .. | cases h

theorem everySat_field (env : Env) (d : Doc) (q : Q) (hs : sat env q d = true) : everySat d q.field = true := by
  cases hf : q.field with
  | none => rfl
  | some f => exact field_sound env q f d hf hs

end WM.Normalize
