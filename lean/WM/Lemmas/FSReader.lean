import WM.Model.FSReader
import WM.Lemmas.FSRun
/-! Readers over the abstract file system (C03): what a reader keeps seeing while writers work,
the reader a fresh open builds, and when recycling an older reader gives the same one. -/
namespace WM.FS

/-- the handles of a reader point to allocated inodes that nobody is writing -/
def ReaderOK (fs : FS) (r : Reader) : Prop :=
  ∀ sr ∈ r.leaves, ∀ p ∈ sr.handles, p.2 < fs.next ∧ (fs.data p.2).st ≠ .writing

theorem lookupHandle_mem (hs : List (Name × Nat)) (n : Name) (i : Nat)
    (h : lookupHandle hs n = some i) : (n, i) ∈ hs := by
  induction hs with
  | nil => cases h
  | cons p hs ih =>
    obtain ⟨k, j⟩ := p
    simp only [lookupHandle] at h
    split at h
    · next hk => cases h; simp [hk]
    · exact List.mem_cons_of_mem _ (ih h)

theorem probe_congr (fs fs' : FS) (r : Reader) (he : EagerHandles r = true)
    (hd : ∀ sr ∈ r.leaves, ∀ p ∈ sr.handles, fs'.data p.2 = fs.data p.2) :
    probe fs' r = probe fs r := by
  unfold probe
  congr 1
  apply List.map_congr_left
  intro sr hsr
  unfold probeSeg
  congr 2
  apply List.map_congr_left
  intro f hf
  simp only [EagerHandles, List.all_eq_true] at he
  have hsome := he sr hsr f hf
  unfold probeFile
  cases hl : lookupHandle sr.handles f with
  | none => rw [hl] at hsome; cases hsome
  | some i =>
    simp only
    rw [hd sr hsr (f, i) (lookupHandle_mem _ _ _ hl)]

theorem freshReader_leaves (eager : Name → Bool) (fs : FS) (t : Toc) :
    (freshReader eager fs t).leaves = t.segs.map (freshSeg eager fs t.schema t.gen) := by
  unfold freshReader
  cases t.segs with
  | nil => rfl
  | cons a l => cases l <;> rfl

theorem mem_freshReader_leaves {eager : Name → Bool} {fs : FS} {t : Toc} {sr : SegReader}
    (h : sr ∈ (freshReader eager fs t).leaves) :
    ∃ s ∈ t.segs, sr = freshSeg eager fs t.schema t.gen s := by
  rw [freshReader_leaves] at h
  obtain ⟨s, hs, rfl⟩ := List.mem_map.1 h
  exact ⟨s, hs, rfl⟩

theorem freshReader_generation (eager : Name → Bool) (fs : FS) (t : Toc) :
    (freshReader eager fs t).generation = if t.segs = [] then none else some t.gen := by
  unfold freshReader
  cases t.segs with
  | nil => rfl
  | cons a l => cases l <;> rfl

theorem gen_eq_of_upToDate {eager : Name → Bool} {ix : Name} {fs0 fs : FS} {t0 t : Toc}
    (ht : readToc ix fs = .ok t) (hup : upToDate ix fs (freshReader eager fs0 t0) = true) :
    t.gen = t0.gen := by
  rw [upToDate, ((readToc_eq_ok_iff ix _ t).1 ht).1, freshReader_generation] at hup
  split at hup
  · cases hup
  · simpa [genEq] using hup

theorem openFiles_bound (fs : FS) (files : List Name) (h : ∀ f ∈ files, (fs.dir f).isSome) :
    openFiles fs files = .ok (files.filterMap fun f => (fs.dir f).map fun i => (f, i)) := by
  induction files with
  | nil => rfl
  | cons f rest ih =>
    obtain ⟨i, hd⟩ := Option.isSome_iff_exists.1 (h f List.mem_cons_self)
    simp only [openFiles, hd, ih (fun g hg => h g (List.mem_cons_of_mem _ hg)), List.filterMap_cons,
      Option.map_some]

theorem openSeg_bound (eager : Name → Bool) (fs : FS) (schema gen : Nat) (seg : SegRef)
    (h : ∀ f ∈ seg.files, (fs.dir f).isSome) :
    openSeg eager fs schema seg gen = .ok (freshSeg eager fs schema gen seg) := by
  unfold openSeg
  rw [openFiles_bound fs _ (fun f hf => h f (List.mem_filter.1 hf).1)]
  rfl

/-- `eager` of a reader whose constructor opens every file of its segments (the W3 codec: the
    compound file, or `.trm`, `.pst`, the column files and the vector file of a loose segment); such
    a reader satisfies `EagerHandles` and `ReaderOK` whenever the TOC it was built from is readable
    (`eagerHandles_fresh`, `readerOK_fresh`). -/
def allFiles : Name → Bool := fun _ => true

theorem lookupHandle_filterMap (fs : FS) (l : List Name) (f : Name) (hf : f ∈ l)
    (hb : ∀ g ∈ l, (fs.dir g).isSome) :
    lookupHandle (l.filterMap fun g => (fs.dir g).map fun i => (g, i)) f = fs.dir f := by
  induction l with
  | nil => cases hf
  | cons g rest ih =>
    obtain ⟨i, hi⟩ := Option.isSome_iff_exists.1 (hb g List.mem_cons_self)
    simp only [List.filterMap_cons, hi, Option.map_some, lookupHandle]
    by_cases hgf : g = f
    · rw [if_pos hgf, ← hgf, hi]
    · rw [if_neg hgf]
      rcases List.mem_cons.1 hf with h | h
      · exact absurd h.symm hgf
      · exact ih h (fun x hx => hb x (List.mem_cons_of_mem _ hx))

theorem filter_allFiles (l : List Name) : l.filter allFiles = l := by
  simp [allFiles]

theorem eagerHandles_fresh (fs : FS) (t : Toc) (hr : readable fs t = true) :
    EagerHandles (freshReader allFiles fs t) = true := by
  unfold EagerHandles
  rw [freshReader_leaves]
  simp only [List.all_eq_true, List.mem_map]
  rintro sr ⟨s, hs, rfl⟩ f hf
  simp only [freshSeg] at hf ⊢
  rw [filter_allFiles, lookupHandle_filterMap fs s.files f hf (bound_of_readable hr s hs)]
  exact bound_of_readable hr s hs f hf

theorem readerOK_fresh {fs : FS} (hwf : WF fs) (t : Toc) (hr : readable fs t = true) :
    ReaderOK fs (freshReader allFiles fs t) := by
  intro sr hsr p hp
  obtain ⟨s, hs, rfl⟩ := mem_freshReader_leaves hsr
  simp only [freshSeg, filter_allFiles, List.mem_filterMap] at hp
  obtain ⟨f, hf, hfp⟩ := hp
  obtain ⟨j, hj, hst⟩ := (isComplete_iff fs f).1 ((readable_iff fs t).1 hr f (mem_toc_files hs hf))
  rw [hj] at hfp
  cases hfp
  exact ⟨hwf.range f j hj, by rw [hst]; decide⟩

/-- `fs` comes after `fsj`, by events none of which binds a name that was ever bound before it -/
def Reach (fsj fs : FS) : Prop := ∃ tr, fs = run fsj tr ∧ freshNames fsj tr = true

theorem Reach.run (fs : FS) {tr : List Event} (h : freshNames fs tr = true) : Reach fs (run fs tr) :=
  ⟨tr, rfl, h⟩

theorem Reach.dir_stable {fsj fs : FS} (h : Reach fsj fs) {f : Name} (hf : f ∈ fsj.names) {j : Nat}
    (hd : fs.dir f = some j) : fsj.dir f = some j := by
  obtain ⟨tr, rfl, hfr⟩ := h
  induction tr generalizing fsj with
  | nil => exact hd
  | cons e es ih =>
    obtain ⟨h1, h2⟩ := freshNames_cons.1 hfr
    exact (step_dir_some fsj e f j (ih (mem_names_step fsj e f hf) h2 hd)).resolve_right
      fun hn => h1 f hn hf

theorem Reach.handles_stable {fs0 fs : FS} (h : Reach fs0 fs) (hwf : WF fs0) (files : List Name)
    (h0 : ∀ f ∈ files, (fs0.dir f).isSome) (h1 : ∀ f ∈ files, (fs.dir f).isSome) :
    (files.filterMap fun f => (fs0.dir f).map fun i => (f, i)) =
    (files.filterMap fun f => (fs.dir f).map fun i => (f, i)) := by
  induction files with
  | nil => rfl
  | cons f rest ih =>
    obtain ⟨j, hj⟩ := Option.isSome_iff_exists.1 (h1 f List.mem_cons_self)
    rw [List.filterMap_cons, List.filterMap_cons, hj,
      h.dir_stable (hwf.support f (h0 f List.mem_cons_self)) hj,
      ih (fun g hg => h0 g (List.mem_cons_of_mem _ hg)) (fun g hg => h1 g (List.mem_cons_of_mem _ hg))]

theorem Reach.freshReader_eq {fs0 fs : FS} (h : Reach fs0 fs) (hwf : WF fs0) (eager : Name → Bool)
    (t : Toc) (h0 : readable fs0 t = true) (h1 : readable fs t = true) :
    freshReader eager fs0 t = freshReader eager fs t := by
  unfold freshReader
  congr 1
  refine List.map_congr_left fun s hs => ?_
  unfold freshSeg
  rw [h.handles_stable hwf _ (fun f hf => bound_of_readable h0 s hs f (List.mem_filter.1 hf).1)
    (fun f hf => bound_of_readable h1 s hs f (List.mem_filter.1 hf).1)]

/-- The recycled reader is versioned and agrees with the directory on every segment the current
    TOC still lists (same files, handles on the inodes the names are bound to now, deletion
    lists in canonical form).  The `0 0` in `handles` are dummies: handles depend on neither schema
    nor generation. -/
structure Coherent (eager : Name → Bool) (fs : FS) (t : Toc) (r : Reader) : Prop where
  versioned : ∀ sr ∈ r.leaves, sr.gen.isSome = true
  files : ∀ sr ∈ r.leaves, ∀ seg ∈ t.segs, seg.sid = sr.seg.sid → sr.seg.files = seg.files
  handles : ∀ sr ∈ r.leaves, ∀ seg ∈ t.segs, seg.sid = sr.seg.sid →
    sr.handles = (freshSeg eager fs 0 0 seg).handles
  canon : ∀ sr ∈ r.leaves, ∀ seg ∈ t.segs, seg.sid = sr.seg.sid →
    sameSet sr.seg.deleted seg.deleted = true → sr.seg.deleted = seg.deleted

/-- a segment id names one set of files, and deletion sets are written canonically -/
def Stable (t0 t : Toc) : Prop :=
  ∀ s0 ∈ t0.segs, ∀ s ∈ t.segs, s.sid = s0.sid →
    s0.files = s.files ∧ (sameSet s0.deleted s.deleted = true → s0.deleted = s.deleted)

theorem Coherent.recycle {eager : Name → Bool} {fs : FS} {t : Toc} {r : Reader}
    (hco : Coherent eager fs t r) {x : SegReader} (hx : x ∈ r.leaves) {s : SegRef} (hs : s ∈ t.segs)
    (hsid : s.sid = x.seg.sid) (hsame : sameSet x.seg.deleted s.deleted = true) (schema gen : Nat) :
    ({ x with schema := schema, gen := some gen } : SegReader) = freshSeg eager fs schema gen s := by
  have e1 := hco.files x hx s hs hsid
  have e2 := hco.handles x hx s hs hsid
  have e3 := hco.canon x hx s hs hsid hsame
  obtain ⟨⟨sid, files, deleted⟩, g, sc, hs'⟩ := x
  obtain ⟨sid', files', deleted'⟩ := s
  simp only at e1 e2 e3 hsid
  subst e1 e3 hsid e2
  rfl

theorem coherent_of_stable (eager : Name → Bool) {fs0 fs : FS} {t0 t : Toc} (hwf : WF fs0)
    (h0 : readable fs0 t0 = true) (hreach : Reach fs0 fs) (hr : readable fs t = true)
    (hst : Stable t0 t) : Coherent eager fs t (freshReader eager fs0 t0) where
  versioned sr hsr := by
    obtain ⟨s0, _, rfl⟩ := mem_freshReader_leaves hsr
    rfl
  files sr hsr seg hseg hsid := by
    obtain ⟨s0, hs0, rfl⟩ := mem_freshReader_leaves hsr
    exact (hst s0 hs0 seg hseg hsid).1
  handles sr hsr seg hseg hsid := by
    obtain ⟨s0, hs0, rfl⟩ := mem_freshReader_leaves hsr
    have hf : s0.files = seg.files := (hst s0 hs0 seg hseg hsid).1
    show (freshSeg eager fs0 t0.schema t0.gen s0).handles = _
    simp only [freshSeg, hf]
    exact hreach.handles_stable hwf _
      (fun f hf' => bound_of_readable h0 s0 hs0 f (hf ▸ (List.mem_filter.1 hf').1))
      (fun f hf' => bound_of_readable hr seg hseg f (List.mem_filter.1 hf').1)
  canon sr hsr seg hseg hsid := by
    obtain ⟨s0, hs0, rfl⟩ := mem_freshReader_leaves hsr
    exact (hst s0 hs0 seg hseg hsid).2

theorem carryOver_versioned (segs : List SegRef) (ls : List SegReader)
    (h : ∀ sr ∈ ls, sr.gen.isSome = true) : carryOver segs ls = segs := by
  induction ls generalizing segs with
  | nil => rfl
  | cons r rs ih =>
    simp only [carryOver, Option.isNone_eq_false_iff.2 (h r List.mem_cons_self), Bool.false_and,
      Bool.false_eq_true, if_false]
    exact ih segs (fun x hx => h x (List.mem_cons_of_mem _ hx))

/-- the `reusable` dictionary of `_reader` holds sub-readers of the recycled reader under their
    own segment ids -/
def DictOK (r : Reader) (d : List (Name × SegReader)) : Prop :=
  ∀ p ∈ d, p.2 ∈ r.leaves ∧ p.1 = p.2.seg.sid

theorem DictOK.lookup {r : Reader} {d : List (Name × SegReader)} (hd : DictOK r d) {sid : Name}
    {x : SegReader} (h : lookupSid d sid = some x) : x ∈ r.leaves ∧ sid = x.seg.sid := by
  induction d with
  | nil => cases h
  | cons p d ih =>
    obtain ⟨k, y⟩ := p
    simp only [lookupSid] at h
    split at h
    · next hk => cases h; exact hk ▸ hd (k, x) List.mem_cons_self
    · exact ih (fun q hq => hd q (List.mem_cons_of_mem _ hq)) h

theorem DictOK.erase {r : Reader} {d : List (Name × SegReader)} (hd : DictOK r d) (sid : Name) :
    DictOK r (eraseSid d sid) := fun p hp => hd p (List.mem_filter.1 hp).1

theorem mkReusable_ok (r : Reader) : DictOK r (mkReusable r.leaves) := by
  unfold DictOK
  induction r.leaves with
  | nil => nofun
  | cons x xs ih =>
    intro p hp
    simp only [mkReusable] at hp
    split at hp
    · exact (ih p hp).imp_left (List.mem_cons_of_mem _)
    · rcases List.mem_cons.1 hp with rfl | hp
      · exact ⟨List.mem_cons_self, rfl⟩
      · exact (ih p hp).imp_left (List.mem_cons_of_mem _)

theorem segreader_reuse (eager : Name → Bool) (fs : FS) (t : Toc) (r : Reader)
    (hco : Coherent eager fs t r) (s : SegRef) (hs : s ∈ t.segs)
    (hb : ∀ f ∈ s.files, (fs.dir f).isSome) (d : List (Name × SegReader)) (hd : DictOK r d) :
    ∃ d1, segreader eager fs t.schema t.gen d s = .ok (freshSeg eager fs t.schema t.gen s, d1) ∧
      DictOK r d1 := by
  have hopen := openSeg_bound eager fs t.schema t.gen s hb
  unfold segreader
  cases hl : lookupSid d s.sid with
  | none => exact ⟨d, by simp only [hopen], hd⟩
  | some x =>
    obtain ⟨hmem, hsid⟩ := hd.lookup hl
    simp only [Option.isNone_eq_false_iff.2 (hco.versioned x hmem), Bool.false_eq_true, if_false]
    by_cases hsame : sameSet x.seg.deleted s.deleted = true
    · rw [if_pos hsame, hco.recycle hmem hs hsid hsame]
      exact ⟨_, rfl, hd.erase _⟩
    · rw [if_neg hsame]
      exact ⟨d, by simp only [hopen], hd⟩

theorem segreaders_reuse (eager : Name → Bool) (fs : FS) (t : Toc) (r : Reader)
    (hco : Coherent eager fs t r) (segs : List SegRef) (hsub : ∀ s ∈ segs, s ∈ t.segs)
    (hb : ∀ s ∈ segs, ∀ f ∈ s.files, (fs.dir f).isSome)
    (d : List (Name × SegReader)) (hd : DictOK r d) :
    ∃ d', segreaders eager fs t.schema t.gen d segs
      = .ok (segs.map (freshSeg eager fs t.schema t.gen), d') := by
  induction segs generalizing d with
  | nil => exact ⟨d, rfl⟩
  | cons s rest ih =>
    obtain ⟨d1, h1, hd1⟩ := segreader_reuse eager fs t r hco s (hsub s List.mem_cons_self)
      (hb s List.mem_cons_self) d hd
    obtain ⟨d2, h2⟩ := ih (fun x hx => hsub x (List.mem_cons_of_mem _ hx))
      (fun x hx => hb x (List.mem_cons_of_mem _ hx)) d1 hd1
    exact ⟨d2, by simp only [segreaders, h1, h2, List.map_cons]⟩

theorem indexReader_reuse (eager : Name → Bool) (ix : Name) (fs : FS) (t : Toc) (r : Reader)
    (ht : readToc ix fs = .ok t) (hr : readable fs t = true) (hco : Coherent eager fs t r) :
    ∃ closed, indexReader eager ix fs (some r) = .ok (freshReader eager fs t, closed) := by
  obtain ⟨d', hd'⟩ := segreaders_reuse eager fs t r hco t.segs (fun _ h => h)
    (bound_of_readable hr) (mkReusable r.leaves) (mkReusable_ok r)
  unfold indexReader mkReader
  rw [ht]
  simp only
  rw [carryOver_versioned t.segs r.leaves hco.versioned]
  cases hsegs : t.segs with
  | nil => exact ⟨[], by simp [freshReader, assemble, hsegs]⟩
  | cons s rest =>
    simp only
    rw [← hsegs, hd']
    unfold freshReader
    rw [hsegs]
    cases rest <;> exact ⟨_, rfl⟩

theorem coherent_empty (eager : Name → Bool) (fs : FS) (t : Toc) (s : Nat) :
    Coherent eager fs t (.empty s) :=
  ⟨fun _ h => absurd h List.not_mem_nil, fun _ h => absurd h List.not_mem_nil,
    fun _ h => absurd h List.not_mem_nil, fun _ h => absurd h List.not_mem_nil⟩

/-- `ix.reader()` is `ix.reader(reuse=r)` for an `r` without sub-readers: nothing is carried over
    and the `reusable` dictionary is empty -/
theorem indexReader_none (eager : Name → Bool) (ix : Name) (fs : FS) :
    indexReader eager ix fs none = indexReader eager ix fs (some (.empty 0)) := rfl

theorem openReader_fresh (eager : Name → Bool) (ix : Name) (fs : FS) (t : Toc)
    (ht : readToc ix fs = .ok t) (hr : readable fs t = true) :
    openReader eager ix fs = .ok (freshReader eager fs t) := by
  obtain ⟨closed, h⟩ := indexReader_reuse eager ix fs t (.empty 0) ht hr (coherent_empty ..)
  rw [openReader, indexReader_none, h]

end WM.FS
