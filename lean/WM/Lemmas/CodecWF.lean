import WM.Lemmas.CodecReader
import WM.Lemmas.CodecDecode
import WM.Lemmas.CodecWriter
/-! What the writer produces is well-formed for the reader, and no id of a block exceeds the last id
the block records. -/
namespace WM.Codec

variable {ι μ : Type}

theorem BlockOf.wf {c : Cfg ι μ} (hk : c.ids.Lawful) {last : Bool} {ch : List (Posting ι)}
    {b : DiskBlock ι μ} (h : BlockOf c last ch b) (hv : ValuesOk c.fixedsize ch) :
    BlockWF c.ids c.fixedsize b := by
  obtain ⟨lp, hl, rfl⟩ := h
  refine ⟨⟨_, readValues_encode c last ch lp.id hv, by simp [encodeBlock]⟩, ?_, ?_, ?_⟩
  · rw [readIds_encode c hk, List.length_map]; rfl
  · rw [readWeights_encode, List.length_map]; rfl
  · simp only [encodeBlock]
    cases ch with
    | nil => cases hl
    | cons a l => simp

theorem BlockOf.last_eq {c : Cfg ι μ} {last : Bool} {ch : List (Posting ι)} {b : DiskBlock ι μ}
    (h : BlockOf c last ch b) : b.last = last := by
  obtain ⟨_, _, rfl⟩ := h; rfl

theorem BlockOf.count_eq {c : Cfg ι μ} {last : Bool} {ch : List (Posting ι)} {b : DiskBlock ι μ}
    (h : BlockOf c last ch b) : b.info.count = ch.length := by
  obtain ⟨_, _, rfl⟩ := h; rfl

theorem BlocksOf.forall {c : Cfg ι μ} {chs bs} (h : BlocksOf c chs bs)
    {Q : List (Posting ι) → Prop} {P : DiskBlock ι μ → Prop}
    (hQP : ∀ ch b, BlockOf c false ch b → Q ch → P b) (hQ : ∀ ch ∈ chs, Q ch) : ∀ b ∈ bs, P b := by
  induction h with
  | nil => exact fun _ hb => (List.not_mem_nil hb).elim
  | cons hb _ ih =>
    intro x hx
    rcases List.mem_cons.mp hx with rfl | hx
    · exact hQP _ _ hb (hQ _ (List.mem_cons_self ..))
    · exact ih (fun ch hch => hQ ch (List.mem_cons_of_mem _ hch)) x hx

theorem wfBlocks_of {c : Cfg ι μ} (hk : c.ids.Lawful) {chs bs} (h : BlocksOf c chs bs)
    {rem : List (Posting ι)} {b : DiskBlock ι μ} (hb : BlockOf c true rem b)
    (hv : ∀ ch ∈ chs, ValuesOk c.fixedsize ch) (hvr : ValuesOk c.fixedsize rem) :
    WFBlocks c.ids c.fixedsize (bs ++ [b]) := by
  constructor
  · intro x hx
    simp only [List.mem_append, List.mem_singleton] at hx
    rcases hx with hx | rfl
    · exact h.forall (fun _ _ hb hv => hb.wf hk hv) hv x hx
    · exact hb.wf hk hvr
  · intro j x hj
    rw [List.length_append, List.length_singleton]
    by_cases hlt : j < bs.length
    · rw [List.getElem?_append_left hlt] at hj
      rw [h.forall (Q := fun _ => True) (fun _ _ hb _ => hb.last_eq) (fun _ _ => trivial) x
        (List.mem_of_getElem? hj)]
      exact ⟨fun hh => Bool.noConfusion hh, fun hh => by omega⟩
    · rw [List.getElem?_append_right (by omega)] at hj
      obtain ⟨hk, hx⟩ := List.getElem?_eq_some_iff.mp hj
      rw [List.length_singleton] at hk
      exact ⟨fun _ => by omega, fun _ => by rw [← hx, List.getElem_singleton]; exact hb.last_eq⟩

theorem BlockOf.ents_eq {c : Cfg ι μ} (hk : c.ids.Lawful) {last : Bool} {ch : List (Posting ι)}
    {b : DiskBlock ι μ} (h : BlockOf c last ch b) (hv : ValuesOk c.fixedsize ch) :
    ents c.ids c.fixedsize b = ch.map (expected c) := by
  obtain ⟨lp, _, rfl⟩ := h
  simp only [ents, blockEntries_encode c hk _ _ _ hv]

theorem BlocksOf.flatMap_ents {c : Cfg ι μ} (hk : c.ids.Lawful) {chs bs} (h : BlocksOf c chs bs)
    (hv : ∀ ch ∈ chs, ValuesOk c.fixedsize ch) :
    bs.flatMap (ents c.ids c.fixedsize) = chs.flatten.map (expected c) := by
  induction h with
  | nil => rfl
  | cons hb _ ih =>
    rw [List.flatMap_cons, hb.ents_eq hk (hv _ (by simp)), ih (fun ch hch => hv ch (by simp [hch])),
      List.flatten_cons, List.map_append]

/-- Ids do not descend along the list (`¬ later < earlier`). -/
def NonDescending (k : IdKind ι μ) (ps : List (Posting ι)) : Prop :=
  ps.Pairwise (fun p q => k.lt q.id p.id = false)

theorem BlockOf.bounded {c : Cfg ι μ} (hk : c.ids.Lawful) (hirr : ∀ x, c.ids.lt x x = false)
    {last : Bool} {ch : List (Posting ι)} {b : DiskBlock ι μ} (h : BlockOf c last ch b)
    (hv : ValuesOk c.fixedsize ch) (hs : NonDescending c.ids ch) :
    ∀ es, blockEntries c.ids c.fixedsize b = .ok es → ∀ e ∈ es, c.ids.lt b.info.lastId e.id = false := by
  obtain ⟨lp, hl, rfl⟩ := h
  intro es hes e he
  rw [blockEntries_encode c hk last ch lp.id hv] at hes
  cases hes
  simp only [List.mem_map] at he
  obtain ⟨p, hp, rfl⟩ := he
  obtain ⟨ys, rfl⟩ := List.getLast?_eq_some_iff.mp hl
  simp only [encodeBlock, expected]
  simp only [List.mem_append, List.mem_singleton] at hp
  rcases hp with hp | rfl
  · exact (List.pairwise_append.mp hs).2.2 p hp lp (by simp)
  · exact hirr _

theorem BlocksOf.bounded {c : Cfg ι μ} (hk : c.ids.Lawful) (hirr : ∀ x, c.ids.lt x x = false)
    {chs bs} (h : BlocksOf c chs bs) (hv : ∀ ch ∈ chs, ValuesOk c.fixedsize ch)
    (hs : ∀ ch ∈ chs, NonDescending c.ids ch) : BoundedByLastId c.ids c.fixedsize bs :=
  h.forall (Q := fun ch => ValuesOk c.fixedsize ch ∧ NonDescending c.ids ch)
    (fun _ _ hb hq => hb.bounded hk hirr hq.1 hq.2) (fun ch hch => ⟨hv ch hch, hs ch hch⟩)

theorem split_nonDescending (k : IdKind ι μ) (bl : Nat) (ps : List (Posting ι))
    (hs : NonDescending k ps) :
    (∀ ch ∈ (split bl ps).1, NonDescending k ch) ∧ NonDescending k (split bl ps).2 := by
  have := split_flatten bl ps
  unfold NonDescending at hs
  rw [← this] at hs
  have h2 := List.pairwise_append.mp hs
  exact ⟨fun ch hch => (List.pairwise_flatten.mp h2.1).1 ch hch, h2.2.1⟩

/-- From writer to reader: the blocks `writeTerm_spec` describes (the chunks of `split`, the open one
    flagged) decode to the list, a cursor opened on them is well-formed and denotes the list, and for
    non-descending ids no block holds an id above the last id it records. -/
theorem split_read {c : Cfg ι μ} (hk : c.ids.Lawful) {ps : List (Posting ι)}
    (hval : ValuesOk c.fixedsize ps) {bs : List (DiskBlock ι μ)} {b : DiskBlock ι μ}
    (hbs : BlocksOf c (split c.blocklimit ps).1 bs) (hb : BlockOf c true (split c.blocklimit ps).2 b) :
    decodeBlocks c.ids c.fixedsize (bs ++ [b]) = .ok (ps.map (expected c)) ∧
      Yields (Leaf.open (bs ++ [b])) fun m => m.WF c.ids c.fixedsize ∧
        den c.ids c.fixedsize m = .ok (ps.map (expected c)) ∧
        ((∀ x, c.ids.lt x x = false) → NonDescending c.ids ps →
          BoundedByLastId c.ids c.fixedsize m.blocks) := by
  obtain ⟨hmem1, hmem2⟩ := split_mem c.blocklimit ps
  have hv1 : ∀ ch ∈ (split c.blocklimit ps).1, ValuesOk c.fixedsize ch :=
    fun ch hch => hval.sub (hmem1 ch hch)
  have hv2 : ValuesOk c.fixedsize (split c.blocklimit ps).2 := hval.sub hmem2
  have hwfb := wfBlocks_of hk hbs hb hv1 hv2
  have hdec : decodeBlocks c.ids c.fixedsize (bs ++ [b]) = .ok (ps.map (expected c)) := by
    rw [decodeBlocks_eq _ hwfb.1, List.flatMap_append, hbs.flatMap_ents hk hv1, List.flatMap_singleton, hb.ents_eq hk hv2,
      ← List.map_append, split_flatten]
  refine ⟨hdec, (Leaf.open_wf (bs ++ [b]) hwfb (by simp)).mono ?_⟩
  rintro m ⟨hblocks, hmwf, hden⟩
  refine ⟨hmwf, hden.trans hdec, fun hirr hs x hx => ?_⟩
  obtain ⟨hs1, hs2⟩ := split_nonDescending c.ids c.blocklimit ps hs
  rw [hblocks] at hx
  rcases List.mem_append.mp hx with hx | hx
  · exact hbs.bounded hk hirr hv1 hs1 x hx
  · cases List.mem_singleton.mp hx
    exact hb.bounded hk hirr hv2 hs2

end WM.Codec
