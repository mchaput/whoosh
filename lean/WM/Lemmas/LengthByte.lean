import WM.Model.LengthByte
/-! `bisect_left` followed by `__getitem__` on a strictly ascending table: the least entry not below
the key. -/
namespace WM.LengthByte

/-- strictly ascending, as a Boolean check (so that the 256-entry table is decided by evaluation) -/
def ascending : List Nat → Bool
  | [] => true
  | [_] => true
  | a :: b :: rest => decide (a < b) && ascending (b :: rest)

theorem pairwise_of_ascending : ∀ (l : List Nat), ascending l = true → l.Pairwise (· < ·)
  | [], _ => List.Pairwise.nil
  | [a], _ => List.pairwise_singleton _ a
  | a :: b :: rest, h => by
    simp only [ascending, Bool.and_eq_true, decide_eq_true_eq] at h
    have ih := pairwise_of_ascending (b :: rest) h.2
    refine List.pairwise_cons.mpr ⟨?_, ih⟩
    intro x hx
    rcases List.mem_cons.mp hx with rfl | hx
    · exact h.1
    · exact Nat.lt_trans h.1 ((List.pairwise_cons.mp ih).1 x hx)

theorem find_le {l : List Nat} (hs : l.Pairwise (· < ·)) {n a x : Nat}
    (ha : l.find? (fun e => decide (n ≤ e)) = some a) (hx : x ∈ l) (hnx : n ≤ x) : a ≤ x := by
  obtain ⟨-, as, bs, rfl, has⟩ := List.find?_eq_some_iff_append.mp ha
  rcases List.mem_append.mp hx with hx | hx
  · have := has x hx
    simp [hnx] at this
  · rcases List.mem_cons.mp hx with rfl | hx
    · exact Nat.le_refl _
    · exact Nat.le_of_lt ((List.pairwise_cons.mp (List.pairwise_append.mp hs).2.1).1 x hx)

theorem getElem?_bisectLeft (l : List Nat) (x : Nat) :
    l[bisectLeft l x]? = l.find? (fun e => decide (x ≤ e)) := by
  rw [bisectLeft, List.takeWhile_eq_take_findIdx_not, List.length_take,
    Nat.min_eq_left List.findIdx_le_length, ← List.find?_eq_getElem?_findIdx]
  congr 1
  funext e
  simp only [← Nat.not_lt, decide_not]

theorem table_ascending : table.Pairwise (· < ·) := pairwise_of_ascending table (by decide +kernel)

theorem table_length : table.length = 256 := by decide +kernel

theorem last_mem : 106374 ∈ table := by decide +kernel

theorem byteToLength_lengthToByte_eq_find? (n : Nat) :
    byteToLength (lengthToByte n) = table.find? (fun e => decide (min n 106374 ≤ e)) := by
  rw [← getElem?_bisectLeft, byteToLength, lengthToByte]
  split
  · next h => rw [Nat.min_eq_right h, show bisectLeft table 106374 = 255 by decide +kernel]
  · next h => rw [Nat.min_eq_left (Nat.le_of_not_le h)]

theorem approx_least (n : Nat) :
    byteToLength (lengthToByte n) = some (approx n) ∧ approx n ∈ table ∧ min n 106374 ≤ approx n ∧
      ∀ x ∈ table, min n 106374 ≤ x → approx n ≤ x := by
  cases h : table.find? (fun e => decide (min n 106374 ≤ e)) with
  | none => exact absurd (decide_eq_true (Nat.min_le_right n _)) (List.find?_eq_none.mp h _ last_mem)
  | some a =>
    have ha : approx n = a := by rw [approx, byteToLength_lengthToByte_eq_find?, h]; rfl
    rw [ha, byteToLength_lengthToByte_eq_find?]
    exact ⟨h, List.mem_of_find?_eq_some h, by simpa using List.find?_some h,
      fun x hx => find_le table_ascending h hx⟩

end WM.LengthByte
