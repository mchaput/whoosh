import WM.Model.Lev
import WM.Lemmas.Yields
/-! `Corrector.suggest` whatever the scores are: the heap loop keeps a sublist of a rearrangement
of what it is given, as long as the limit allows; the final sort rearranges it.  `MultiCorrector`:
the merged `(score, suggestion)` items carry every suggested word once. -/
namespace WM.Lev

theorem insertBy_perm (le : Rat × List Nat → Rat × List Nat → Bool) (x : Rat × List Nat)
    (l : List (Rat × List Nat)) : (insertBy le x l).Perm (x :: l) := by
  induction l with
  | nil => exact .refl _
  | cons y ys ih =>
    unfold insertBy
    split
    · exact .refl _
    · exact (ih.cons y).trans (.swap x y ys)

theorem heapInsert_eq_insertBy (x : Rat × List Nat) (h : List (Rat × List Nat)) :
    heapInsert x h = insertBy itemLt x h := by
  induction h with
  | nil => rfl
  | cons b t ih => rw [heapInsert, insertBy, ih]

theorem heapInsert_perm (x : Rat × List Nat) (h : List (Rat × List Nat)) :
    (heapInsert x h).Perm (x :: h) :=
  heapInsert_eq_insertBy x h ▸ insertBy_perm itemLt x h

theorem sortBy_perm (le : Rat × List Nat → Rat × List Nat → Bool) (l : List (Rat × List Nat)) :
    (sortBy le l).Perm l := by
  induction l with
  | nil => exact .refl _
  | cons y ys ih => exact (insertBy_perm le y (sortBy le ys)).trans (ih.cons y)

theorem suggestLoop_spec (limit : Nat) (hl : 0 < limit) :
    ∀ (items heap : List (Rat × List Nat)), heap.length ≤ limit →
      Yields (suggestLoop limit items heap) fun r => ∃ l, r.Sublist l ∧ l.Perm (heap ++ items) ∧
        r.length = min limit (heap.length + items.length) := by
  intro items
  induction items with
  | nil => intro heap hh; exact .ok ⟨heap, .refl _, by simp, (Nat.min_eq_right hh).symm⟩
  | cons item items ih =>
    intro heap hh
    have hpush : ∀ l : List (Rat × List Nat), (heapInsert item l ++ items).Perm (l ++ item :: items) :=
      fun l => ((heapInsert_perm item l).append_right items).trans List.perm_middle.symm
    have hlenI : ∀ l : List (Rat × List Nat), (heapInsert item l).length = l.length + 1 :=
      fun l => (heapInsert_perm item l).length_eq
    rcases Nat.lt_or_eq_of_le hh with hlt | heq
    · unfold suggestLoop
      rw [if_pos hlt]
      refine (ih (heapInsert item heap) (by rw [hlenI]; exact hlt)).mono ?_
      rintro r ⟨l, hs, hp, hlen⟩
      refine ⟨l, hs, hp.trans (hpush heap), ?_⟩
      rw [hlen, hlenI, List.length_cons, Nat.add_right_comm, Nat.add_assoc]
    · -- the heap is full: it stays full
      have hfull : ∀ n m : Nat, n = limit → m = min limit (n + items.length) →
          m = min limit (heap.length + (item :: items).length) := fun n m e hm => by
        rw [hm, e, heq, Nat.min_eq_left (Nat.le_add_right _ _), Nat.min_eq_left (Nat.le_add_right _ _)]
      cases heap with
      | nil => exact absurd heq (Nat.ne_of_lt hl)
      | cons hd tl =>
        unfold suggestLoop
        rw [if_neg (by rw [heq]; exact Nat.lt_irrefl _)]
        simp only
        split
        · -- `heapreplace`: the smallest kept item makes room
          refine (ih (heapInsert item tl) (by rw [hlenI]; exact hh)).mono ?_
          rintro r ⟨l, hs, hp, hlen⟩
          exact ⟨hd :: l, hs.cons _, (hp.trans (hpush tl)).cons hd, hfull _ _ (by rw [hlenI]; exact heq) hlen⟩
        · refine (ih (hd :: tl) hh).mono ?_
          rintro r ⟨l, hs, hp, hlen⟩
          exact ⟨item :: l, hs.cons _, (hp.cons item).trans List.perm_middle.symm, hfull _ _ heq hlen⟩

theorem suggestItems_spec (items : List (Rat × List Nat)) (limit : Nat) (hl : 0 < limit) :
    Yields (suggestItems items limit) fun r => r.length = min limit items.length ∧
      (∀ t, t ∈ r → ∃ a, a ∈ items ∧ a.2 = t) ∧ ((items.map (·.2)).Nodup → r.Nodup) := by
  refine (suggestLoop_spec limit hl items [] (Nat.zero_le _)).map ?_
  rintro heap ⟨l, hs, hp, hlen⟩
  have hperm := sortBy_perm keyLe heap
  refine ⟨?_, ?_, ?_⟩
  · rw [List.length_map, hperm.length_eq, hlen]; simp
  · intro t ht
    obtain ⟨a, ha, rfl⟩ := List.mem_map.mp ht
    exact ⟨a, hp.subset (hs.subset (hperm.subset ha)), rfl⟩
  · intro hk
    exact ((hperm.map _).nodup_iff).mpr (((hp.map _).nodup_iff.mpr hk).sublist (hs.map _))

theorem mem_suggestions (terms : List (List Nat)) (freq : List Nat → Nat) (maxdist : Nat)
    (a : Rat × List Nat) (h : a ∈ suggestions terms freq maxdist) : a.2 ∈ terms := by
  simp only [suggestions, List.mem_map] at h
  obtain ⟨t, ht, rfl⟩ := h
  exact ht

theorem suggest_spec (terms : List (List Nat)) (freq : List Nat → Nat) (limit maxdist : Nat)
    (hl : 0 < limit) :
    Yields (suggest terms freq limit maxdist) fun r => r.length = min limit terms.length ∧
      ∀ t, t ∈ r → t ∈ terms := by
  refine (suggestItems_spec (suggestions terms freq maxdist) limit hl).mono ?_
  rintro r ⟨h2, h3, _⟩
  refine ⟨by rw [h2]; simp [suggestions], fun t ht => ?_⟩
  obtain ⟨a, ha, rfl⟩ := h3 t ht
  exact mem_suggestions terms freq maxdist a ha

theorem correctToken_ok {P : List Nat → Prop} {sugs : List (List Nat)} (w : List Nat)
    (h : ∀ t, t ∈ sugs → P t) : Yields (correctToken (.ok sugs) w) fun r => r = w ∨ P r := by
  cases sugs with
  | nil => exact .ok (Or.inl rfl)
  | cons s rest => exact .ok (Or.inr (h s (List.mem_cons_self ..)))

theorem seenUpdate_keys (op : Rat → Rat → Rat) (score : Rat) (sug : List Nat) (seen : List (List Nat × Rat)) :
    (seenUpdate op score sug seen).map (·.1) =
      if sug ∈ seen.map (·.1) then seen.map (·.1) else seen.map (·.1) ++ [sug] := by
  induction seen with
  | nil => simp [seenUpdate]
  | cons x rest ih =>
    obtain ⟨s, sc⟩ := x
    simp only [seenUpdate]
    by_cases h : s = sug
    · subst h; simp
    · rw [if_neg h]
      simp only [List.map_cons, ih, List.mem_cons]
      have h' : ¬ sug = s := fun hc => h hc.symm
      by_cases hm : sug ∈ rest.map (·.1)
      · simp [hm]
      · simp [hm, h']

theorem seenUpdate_nodup (op : Rat → Rat → Rat) (score : Rat) (sug : List Nat) (seen : List (List Nat × Rat))
    (h : (seen.map (·.1)).Nodup) : ((seenUpdate op score sug seen).map (·.1)).Nodup := by
  rw [seenUpdate_keys]
  by_cases hm : sug ∈ seen.map (·.1)
  · rw [if_pos hm]; exact h
  · rw [if_neg hm]
    rw [List.nodup_append]
    refine ⟨h, by simp, ?_⟩
    intro a ha b hb
    simp only [List.mem_singleton] at hb
    subst hb
    intro hab; subst hab; exact hm ha

theorem mem_seenUpdate (op : Rat → Rat → Rat) (score : Rat) (sug : List Nat) (seen : List (List Nat × Rat))
    (t : List Nat) : t ∈ (seenUpdate op score sug seen).map (·.1) ↔ t ∈ seen.map (·.1) ∨ t = sug := by
  rw [seenUpdate_keys]
  split
  · exact ⟨Or.inl, fun h => h.elim id fun e => e ▸ ‹_›⟩
  · rw [List.mem_append, List.mem_singleton]

theorem seenFold_spec (op : Rat → Rat → Rat) (items : List (Rat × List Nat)) :
    ∀ (seen : List (List Nat × Rat)), (seen.map (·.1)).Nodup →
      ((items.foldl (fun seen it => seenUpdate op it.1 it.2 seen) seen).map (·.1)).Nodup ∧
      ∀ t, t ∈ (items.foldl (fun seen it => seenUpdate op it.1 it.2 seen) seen).map (·.1) ↔
        t ∈ seen.map (·.1) ∨ t ∈ items.map (·.2) := by
  induction items with
  | nil => intro seen h; exact ⟨h, fun t => (or_iff_left (List.not_mem_nil (a := t))).symm⟩
  | cons it items ih =>
    intro seen h
    obtain ⟨h1, h2⟩ := ih (seenUpdate op it.1 it.2 seen) (seenUpdate_nodup op it.1 it.2 seen h)
    refine ⟨h1, fun t => ?_⟩
    rw [List.foldl_cons, h2, mem_seenUpdate, List.map_cons, List.mem_cons, or_assoc]

theorem multiSuggestions_spec (op : Rat → Rat → Rat) (itemss : List (List (Rat × List Nat))) :
    ((multiSuggestions op itemss).map (·.2)).Nodup ∧
      ∀ t, t ∈ (multiSuggestions op itemss).map (·.2) ↔ ∃ items, items ∈ itemss ∧ ∃ a, a ∈ items ∧ a.2 = t := by
  obtain ⟨h1, h2⟩ := seenFold_spec op itemss.flatten [] List.nodup_nil
  have hmap : (multiSuggestions op itemss).map (·.2) =
      (itemss.flatten.foldl (fun seen it => seenUpdate op it.1 it.2 seen) []).map (·.1) := by
    unfold multiSuggestions
    rw [List.map_map]
    rfl
  rw [hmap]
  refine ⟨h1, fun t => ?_⟩
  rw [h2]
  simp only [List.map_nil, List.not_mem_nil, false_or, List.mem_map, List.mem_flatten]
  constructor
  · rintro ⟨a, ⟨items, hi, ha⟩, rfl⟩; exact ⟨items, hi, a, ha, rfl⟩
  · rintro ⟨items, hi, a, ha, rfl⟩; exact ⟨a, ⟨items, hi, ha⟩, rfl⟩

end WM.Lev
