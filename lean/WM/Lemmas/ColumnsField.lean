import WM.Model.ColumnsField
import WM.Lemmas.Yields
/-! Field-level conversions of C08: the strict UTF-8 decoder on a well-formed sequence of each length
(the bytes given by their payload digits), hence decoding inverts encoding; the conversion of a list of
adds succeeds when every value converts; the struct code `NUMERIC` picks for a width. -/
namespace WM.Columns

theorem isCont_add (y : Nat) (h : y < 64) : isCont (0x80 + y) = true := by
  simp only [isCont, Bool.and_eq_true, decide_eq_true_eq]; omega

theorem not_add_lt (k x c : Nat) (hc : c ≤ k) : ¬ k + x < c :=
  Nat.not_lt.mpr (Nat.le_trans hc (Nat.le_add_right k x))

theorem utf8Decode_one (b : Nat) (rest : Bytes) (h : b < 0x80) :
    utf8Decode (b :: rest) = consOk b (utf8Decode rest) := by
  rw [utf8Decode.eq_def]
  simp only [if_pos h]

theorem utf8Decode_two (x y : Nat) (rest : Bytes) (hx : 2 ≤ x) (hx' : x < 32) (hy : y < 64) :
    utf8Decode ((0xC0 + x) :: (0x80 + y) :: rest) = consOk (x * 64 + y) (utf8Decode rest) := by
  rw [utf8Decode.eq_def]
  have a2 : ¬ 0xC0 + x < 0xC2 := Nat.not_lt.mpr (Nat.add_le_add_left hx 0xC0)
  have a3 : 0xC0 + x < 0xE0 := Nat.add_lt_add_left hx' _
  simp only [not_add_lt 0xC0 x 0x80 (by decide), a2, a3, isCont_add y hy, Nat.add_sub_cancel_left, if_true, if_false]

theorem utf8Decode_three (x y z : Nat) (rest : Bytes) (hx : x < 16) (hy : y < 64) (hz : z < 64)
    (hlo : 0x800 ≤ x * 4096 + y * 64 + z)
    (hsur : ¬ (0xD800 ≤ x * 4096 + y * 64 + z ∧ x * 4096 + y * 64 + z ≤ 0xDFFF)) :
    utf8Decode ((0xE0 + x) :: (0x80 + y) :: (0x80 + z) :: rest)
      = consOk (x * 4096 + y * 64 + z) (utf8Decode rest) := by
  rw [utf8Decode.eq_def]
  have a (c : Nat) (hc : c ≤ 0xE0) : ¬ 0xE0 + x < c := not_add_lt 0xE0 x c hc
  have a4 : 0xE0 + x < 0xF0 := Nat.add_lt_add_left hx _
  have a5 : (decide (0xD800 ≤ x * 4096 + y * 64 + z) && decide (x * 4096 + y * 64 + z ≤ 0xDFFF)) = false :=
    (Bool.decide_and _ _).symm.trans (decide_eq_false hsur)
  simp only [a 0x80 (by decide), a 0xC2 (by decide), a 0xE0 (by decide), a4, a5, isCont_add y hy,
    isCont_add z hz, hlo, Nat.add_sub_cancel_left,
    decide_true, Bool.and_self, Bool.not_false, if_true, if_false]

theorem utf8Decode_four (x y z t : Nat) (rest : Bytes) (hx : x < 5) (hy : y < 64) (hz : z < 64) (ht : t < 64)
    (hlo : 0x10000 ≤ x * 262144 + y * 4096 + z * 64 + t)
    (hhi : x * 262144 + y * 4096 + z * 64 + t < 0x110000) :
    utf8Decode ((0xF0 + x) :: (0x80 + y) :: (0x80 + z) :: (0x80 + t) :: rest)
      = consOk (x * 262144 + y * 4096 + z * 64 + t) (utf8Decode rest) := by
  rw [utf8Decode.eq_def]
  have a (c : Nat) (hc : c ≤ 0xF0) : ¬ 0xF0 + x < c := not_add_lt 0xF0 x c hc
  have a5 : 0xF0 + x < 0xF5 := Nat.add_lt_add_left hx _
  simp only [a 0x80 (by decide), a 0xC2 (by decide), a 0xE0 (by decide), a 0xF0 (by decide), a5,
    isCont_add y hy, isCont_add z hz, isCont_add t ht, hlo, hhi,
    Nat.add_sub_cancel_left, decide_true, Bool.and_self, if_true, if_false]

/-- One step of reassembling a number from its digits: the digit block above `a` joins `c / a`. -/
theorem div_mul_add_digit (c a b : Nat) : c / (a * b) * (a * b) + c / a % b * a = c / a * a := by
  rw [← Nat.div_div_eq_div_mul, Nat.mul_comm a b, ← Nat.mul_assoc, ← Nat.add_mul, Nat.div_add_mod']

theorem utf8EncodeChar_scalar (c : Nat) (h : isScalar c = true) :
    Yields (utf8EncodeChar c) fun a => a.length ≤ 4 ∧
      ∀ rest, utf8Decode (a ++ rest) = consOk c (utf8Decode rest) := by
  simp only [isScalar, Bool.and_eq_true, decide_eq_true_eq, Bool.not_eq_true', ← Bool.decide_and,
    decide_eq_false_iff_not] at h
  obtain ⟨hmax, hsur⟩ := h
  have m (x : Nat) : x % 64 < 64 := Nat.mod_lt x (by decide)
  unfold utf8EncodeChar
  refine .ite (fun h1 => .ok ⟨by simp, fun rest => utf8Decode_one c rest h1⟩) fun h1 => ?_
  refine .ite (fun h2 => .ok ⟨by simp, fun rest => ?_⟩) fun h2 => ?_
  · have := utf8Decode_two (c / 64) (c % 64) rest
      ((Nat.le_div_iff_mul_le (by decide)).2 (Nat.le_of_not_lt h1)) (Nat.div_lt_of_lt_mul h2) (m c)
    rwa [Nat.div_add_mod'] at this
  rw [if_neg hsur]
  refine .ite (fun h3 => .ok ⟨by simp, fun rest => ?_⟩) fun h3 => ?_
  · have := utf8Decode_three (c / 4096) (c / 64 % 64) (c % 64) rest (Nat.div_lt_of_lt_mul h3) (m _) (m c)
    rw [div_mul_add_digit c 64 64, Nat.div_add_mod'] at this
    exact this (Nat.le_of_not_lt h2) hsur
  rw [if_pos hmax]
  refine .ok ⟨by simp, fun rest => ?_⟩
  have := utf8Decode_four (c / 262144) (c / 4096 % 64) (c / 64 % 64) (c % 64) rest
    (Nat.div_lt_of_lt_mul (Nat.lt_trans hmax (by decide))) (m _) (m _) (m c)
  rw [div_mul_add_digit c 4096 64, div_mul_add_digit c 64 64, Nat.div_add_mod'] at this
  exact this (Nat.le_of_not_lt h3) hmax

theorem utf8_roundtrip (s : List Nat) (hs : ∀ c ∈ s, isScalar c = true) :
    Yields (utf8Encode s) fun bs => utf8Decode bs = .ok s ∧ bs.length ≤ 4 * s.length := by
  induction s with
  | nil => exact ⟨[], rfl, rfl, Nat.le_refl _⟩
  | cons c rest ih =>
    obtain ⟨bs, h1, h2, h3⟩ := ih (fun x hx => hs x (List.mem_cons_of_mem _ hx))
    obtain ⟨a, ha, hlen, hdec⟩ := utf8EncodeChar_scalar c (hs c List.mem_cons_self)
    simp only [utf8Encode, ha, h1]
    refine .ok ⟨by rw [hdec, h2]; rfl, ?_⟩
    rw [List.length_append, List.length_cons, Nat.mul_succ, Nat.add_comm]
    exact Nat.add_le_add h3 hlen

theorem convAdds_ok {α β : Type} (f : α → Except FErr β) (g : α → β) (adds : List (Nat × α))
    (h : ∀ p ∈ adds, f p.2 = .ok (g p.2)) :
    convAdds f adds = .ok (adds.map fun p => (p.1, g p.2)) := by
  induction adds with
  | nil => rfl
  | cons p rest ih =>
    simp only [convAdds, h p List.mem_cons_self, ih (fun q hq => h q (List.mem_cons_of_mem _ hq)),
      List.map_cons]

theorem sortableCode_spec (bits : Nat) (code : NumCode) (h : sortableCode bits = some code) :
    0 < bits ∧ code.lo = 0 ∧ code.hi = (2 : Int) ^ bits - 1 := by
  unfold sortableCode at h
  split at h <;> first | (injection h with h; subst h; decide) | cases h

end WM.Columns
