import WM.Lemmas.IndexHistory
/-! Cutting the additions of a session into several commits: on the specification (`WM.Dict`), then on the model. -/
namespace WM.Dict

theorem Sess.run_append (s : Sess) (a b : List SOp) : s.run (a ++ b) = (s.run a).run b := by
  simp [Sess.run, List.foldl_append]

theorem Sess.run_addOnly (s : Sess) (tail : List SOp) (h : ∀ o ∈ tail, o.addOnly = true) :
    s.run tail = { s with fresh := s.fresh ++ tail.flatMap SOp.added } := by
  induction tail generalizing s with
  | nil => simp [Sess.run]
  | cons o r ih =>
    have ho := h o (by simp)
    have hr := ih (s.step o) (fun x hx => h x (by simp [hx]))
    simp only [Sess.run, List.foldl_cons] at hr ⊢
    rw [hr]
    cases o with
    | add d => simp [Sess.step, Sess.add, SOp.added, List.flatMap_cons]
    | skip => simp [Sess.step, SOp.added, List.flatMap_cons]
    | _ => cases ho

theorem State.session_split (sp : State) (ops tail : List SOp) (h : ∀ o ∈ tail, o.addOnly = true) :
    (sp.session ops .commit).session tail .commit = sp.session (ops ++ tail) .commit := by
  simp only [State.session, State.open_, Sess.run_append, Sess.run_addOnly _ tail h, Sess.commit, List.append_assoc,
    List.nil_append]

theorem State.session_adds (sp : State) (ds : List DocRec) :
    sp.session (ds.map .add) .commit = { sp with docs := sp.docs ++ ds } := by
  have hr : ∀ o ∈ ds.map SOp.add, o.addOnly = true := by
    intro o ho; obtain ⟨d, _, rfl⟩ := List.mem_map.mp ho; rfl
  have hadd : (ds.map SOp.add).flatMap SOp.added = ds := (List.flatMap_map ..).trans (List.flatMap_singleton' ds)
  simp only [State.session, State.open_, Sess.run_addOnly _ _ hr, hadd, Sess.commit, List.nil_append]

theorem State.addSessions_eq (sp : State) (parts : List (List DocRec)) :
    sp.addSessions parts = { sp with docs := sp.docs ++ parts.flatten } := by
  induction parts generalizing sp with
  | nil => simp [State.addSessions]
  | cons ds r ih => simp only [State.addSessions, State.session_adds, ih, List.flatten_cons, List.append_assoc]

theorem State.addSessions_partition (sp : State) (p1 p2 : List (List DocRec)) (h : p1.flatten = p2.flatten) :
    sp.addSessions p1 = sp.addSessions p2 := by
  rw [State.addSessions_eq, State.addSessions_eq, h]

end WM.Dict
namespace WM.Index
open WM.Dict

theorem Writer.specOps_append (w : Writer) (a b : List Op) :
    w.specOps (a ++ b) = w.specOps a ++ (w.run a).specOps b := by
  induction a generalizing w with
  | nil => rfl
  | cons o r ih => simp only [List.cons_append, Writer.specOps, Writer.run, ih]

theorem Writer.run_append (w : Writer) (a b : List Op) : w.run (a ++ b) = (w.run a).run b := by
  induction a generalizing w with
  | nil => rfl
  | cons o r ih => simp only [List.cons_append, Writer.run, ih]

theorem RunOK_append (a b : List Op) (w : Writer) (ss : Sess) (ha : RunOK w ss a)
    (hb : RunOK (w.run a) (ss.run (w.specOps a)) b) : RunOK w ss (a ++ b) := by
  induction a generalizing w ss with
  | nil => exact hb
  | cons o r ih =>
    refine ⟨ha.1, ih _ _ ha.2 ?_⟩
    simpa [Writer.run, Writer.specOps, Sess.run] using hb

theorem session_split_adds (t : Toc) (sp : State) (hwf : t.WF) (h : Rel t sp) (ops : List Op) (adds : List DocRec)
    (p p1 p2 : Plan) (hp : PlanOK p) (hp1 : PlanOK p1) (hp2 : PlanOK p2) (hok : RunOK t.writer sp.open_ ops) :
    ∃ ta tb, t.history [(ops ++ adds.map .add, .commit p)] = .ok ta ∧
      t.history [(ops, .commit p1), (adds.map .add, .commit p2)] = .ok tb ∧
      ta.WF ∧ tb.WF ∧ ta.schema = tb.schema ∧ ta.content.Perm tb.content := by
  obtain ⟨ta, ha, wfa, rela⟩ := session_sim t sp hwf h (ops ++ adds.map .add) (.commit p) .commit (EndRel.commit p hp)
    (RunOK_append ops _ _ _ hok (RunOK_adds _ _ _))
  obtain ⟨t1, h1, wf1, rel1⟩ := session_sim t sp hwf h ops (.commit p1) .commit (EndRel.commit p1 hp1) hok
  obtain ⟨tb, hb, wfb, relb⟩ := session_sim t1 _ wf1 rel1 (adds.map .add) (.commit p2) .commit (EndRel.commit p2 hp2)
    (RunOK_adds _ _ _)
  have hsch : (t.writer.run ops).schema = t1.writer.schema := (Writer.commitPlan_schema h1).symm
  have hspec : sp.session (t.writer.specOps (ops ++ adds.map .add)) .commit
      = (sp.session (t.writer.specOps ops) .commit).session (t1.writer.specOps (adds.map .add)) .commit := by
    rw [Writer.specOps_append, Writer.specOps_adds, Writer.specOps_adds, hsch]
    exact (State.session_split sp _ _ (fun o ho => by obtain ⟨d, _, rfl⟩ := List.mem_map.mp ho; split <;> rfl)).symm
  refine ⟨ta, tb, by simp [Toc.history, ha, Except.bind], by simp [Toc.history, h1, hb, Except.bind], wfa, wfb, ?_, ?_⟩
  · rw [← rela.schema, ← relb.schema, hspec]
  · rw [hspec] at rela
    exact rela.docs.trans relb.docs.symm

theorem history_adds (t : Toc) (sp : State) (hwf : t.WF) (h : Rel t sp) (parts : List (List DocRec × Plan))
    (hplans : ∀ x ∈ parts, PlanOK x.2) (hfit : ∀ x ∈ parts, ∀ d ∈ x.1, d.fits sp.schema = true) :
    Yields (t.history (parts.map (fun x => (x.1.map Op.add, Ending.commit x.2)))) fun t' => t'.WF ∧
      Rel t' (sp.addSessions (parts.map (·.1))) := by
  induction parts generalizing t sp with
  | nil => exact .ok ⟨hwf, h⟩
  | cons x r ih =>
    have hspec := Writer.specOps_adds_of_fits t.writer x.1 (fun d hd => (h.schema ▸ hfit x (by simp) d hd : d.fits t.schema = true))
    simp only [List.map_cons, Toc.history]
    refine (session_sim t sp hwf h (x.1.map .add) (.commit x.2) .commit
      (EndRel.commit x.2 (hplans x (by simp))) (RunOK_adds _ _ _)).bind ?_
    rintro t1 ⟨wf1, rel1⟩
    rw [hspec] at rel1
    refine (ih t1 _ wf1 rel1 (fun y hy => hplans y (by simp [hy]))
      (fun y hy d hd => by rw [State.session_adds]; exact hfit y (by simp [hy]) d hd)).mono ?_
    rintro t' ⟨wf', rel'⟩
    exact ⟨wf', by simpa [State.addSessions] using rel'⟩

end WM.Index
