import WM.Lemmas.LevNextValid
import WM.Lemmas.Suggest
/-! `ListCorrector`: every suggestion is a non-empty word of the list that shares the required
prefix and is within plain Levenshtein distance `maxdist` of the text. -/
namespace WM.Lev
open WM.Edit

theorem findAllMatches_spec (acc : List Nat → Bool) (nv : List Nat → Except Err (Option (List Nat)))
    (hnv : NextValidSpec acc nv) (wl : List (List Nat)) (hv : ∀ t, t ∈ wl → Valid t)
    (hs : SortedLex wl) :
    findAllMatches nv wl = .ok (wl.filter fun t => decide (t ≠ []) && acc t) := by
  obtain ⟨r, hr, h⟩ := findLoop_spec acc nv hnv wl hv hs _ [0] (valid_snoc_zero (t := []) nofun)
    (potential_lt _ _)
  unfold findAllMatches
  rw [hr]
  simp only
  rw [h, List.filter_filter]
  congr 1
  apply List.filter_congr
  intro t _
  cases t with
  | nil => rw [Bool.and_comm]; rfl
  | cons a l =>
    rw [Bool.and_comm, (lexLe_iff [0] (a :: l)).mpr ((snoc_zero_le_iff [] (a :: l)).mpr (List.nil_lt_cons a l))]
    rfl

theorem listSuggestionsLoop_spec (wl : List (List Nat)) (w : List Nat) (p maxdist : Nat) (hw : Valid w)
    (hv : ∀ t, t ∈ wl → Valid t) (hs : SortedLex wl) :
    ∀ (mxds : List Nat) (seen : List (List Nat)), (∀ m, m ∈ mxds → m ≤ maxdist) →
      Yields (listSuggestionsLoop wl w p mxds seen) fun items =>
        ∀ a, a ∈ items → a.2 ≠ [] ∧ a.2 ∈ within lev wl w maxdist p := by
  intro mxds
  induction mxds with
  | nil => intro seen _; exact .ok fun _ h => nomatch h
  | cons mxd rest ih =>
    intro seen hm
    obtain ⟨dfa, hdfa, hdacc⟩ := lev_toDfa w mxd p
    have hnv := lev_nextValidSpec w mxd p hw dfa hdfa
    rw [listSuggestionsLoop, hdfa]
    simp only
    rw [findAllMatches_spec _ _ hnv wl hv hs]
    simp only
    refine (ih _ fun m h => hm m (List.mem_cons_of_mem _ h)).map ?_
    intro items hok a ha
    rcases List.mem_append.mp ha with h1 | h1
    · simp only [List.mem_map, List.mem_filter] at h1
      obtain ⟨s, ⟨⟨hswl, hacc⟩, _⟩, rfl⟩ := h1
      rw [hdacc] at hacc
      simp only [Bool.and_eq_true, decide_eq_true_eq] at hacc
      refine ⟨hacc.1, List.mem_filter.mpr ⟨hswl, ?_⟩⟩
      rw [Bool.and_eq_true, decide_eq_true_eq]
      exact ⟨hacc.2.1, Nat.le_trans hacc.2.2 (hm mxd (List.mem_cons_self ..))⟩
    · exact hok a h1

theorem listItems_spec (wl : List (List Nat)) (w : List Nat) (maxdist p : Nat) (hw : Valid w)
    (hv : ∀ t, t ∈ wl → Valid t) (hs : SortedLex wl) :
    Yields (listItems wl w maxdist p) fun items =>
      ∀ a, a ∈ items → a.2 ≠ [] ∧ a.2 ∈ within lev wl w maxdist p :=
  listSuggestionsLoop_spec wl w p maxdist hw hv hs _ [] fun m hm => by
    obtain ⟨a, ha, rfl⟩ := List.mem_map.mp hm
    exact List.mem_range.mp ha

theorem listSuggest_spec (wl : List (List Nat)) (w : List Nat) (limit maxdist p : Nat) (hl : 0 < limit)
    (hw : Valid w) (hv : ∀ t, t ∈ wl → Valid t) (hs : SortedLex wl) :
    Yields (listSuggest wl w limit maxdist p) fun r => r.length ≤ limit ∧
      ∀ t, t ∈ r → t ≠ [] ∧ t ∈ within lev wl w maxdist p := by
  obtain ⟨items, hitems, hok⟩ := listItems_spec wl w maxdist p hw hv hs
  unfold listSuggest
  rw [show listSuggestionsLoop wl w p _ [] = _ from hitems]
  refine (suggestItems_spec items limit hl).mono ?_
  rintro r ⟨hlen, hin, _⟩
  refine ⟨by rw [hlen]; exact Nat.min_le_left _ _, fun t ht => ?_⟩
  obtain ⟨a, ha, rfl⟩ := hin t ht
  exact hok a ha

end WM.Lev
