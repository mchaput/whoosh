import WM.Lemmas.SearchMain
/-!
Segment results → index results (offsets), ranking.  What C01 and C09 say of a compiled list is one relation,
`Same sc`: the documents of the specified list, and the list itself when the context is scored.
`WM.C09.specDen` is the specified list of a segment as a result list of the matcher family, for statements about cursors.
-/
namespace WM.Compile
open WM.Search

theorem ids_eq_of_isSome {a b : PL} (ha : Sorted a) (hb : Sorted b)
    (h : ∀ i, (lookup a i).isSome = (lookup b i).isSome) : a.map (·.id) = b.map (·.id) :=
  pairwise_ext (r := (· < ·)) (fun h => Nat.lt_asymm h) (List.pairwise_map.mpr ha) (List.pairwise_map.mpr hb) fun i => by
    rw [List.mem_map, List.mem_map, ← lookup_isSome_iff, ← lookup_isSome_iff, h i]

theorem segHits_ids (ls : LeafScore) (q : Query) (s : Segment) :
    (segHits ls q s).map (·.id) = s.live.filter (fun i => sat q (s.doc i)) := by
  simp [segHits, List.map_map, Function.comp_def]

theorem shift_ids (off : Nat) (l : PL) : (shift off l).map (·.id) = (l.map (·.id)).map (· + off) := by
  simp [shift, List.map_map, Function.comp_def]

theorem sorted_shift_append {l r : PL} {off n : Nat} (hl : Sorted l) (hlt : ∀ e ∈ l, e.id < n)
    (hr : Sorted r) (hge : ∀ e ∈ r, off + n ≤ e.id) :
    Sorted (shift off l ++ r) ∧ ∀ e ∈ shift off l ++ r, off ≤ e.id := by
  refine ⟨List.pairwise_append.mpr
    ⟨List.pairwise_map.mpr (hl.imp fun h => Nat.add_lt_add_right h off), hr, fun a ha b hb => ?_⟩, fun e he => ?_⟩
  · obtain ⟨e, he, rfl⟩ := List.mem_map.mp ha
    exact Nat.lt_of_lt_of_le (Nat.add_lt_add_right (hlt e he) off) (Nat.add_comm off n ▸ hge b hb)
  · rcases List.mem_append.mp he with h | h
    · obtain ⟨e', _, rfl⟩ := List.mem_map.mp h
      exact Nat.le_add_left off e'.id
    · exact Nat.le_trans (Nat.le_add_right off n) (hge e h)

theorem hitsFrom_sorted (ls : LeafScore) (q : Query) : ∀ (idx : Index) (off : Nat),
    Sorted (hitsFrom ls q off idx) ∧ ∀ e ∈ hitsFrom ls q off idx, off ≤ e.id
  | [], _ => ⟨sorted_nil, nofun⟩
  | s :: rest, off =>
    have ih := hitsFrom_sorted ls q rest (off + s.size)
    sorted_shift_append (segHits_sorted ls q s) canon_id_lt ih.1 ih.2

theorem hitsFrom_ids_congr {q q' : Query} (h : ∀ d, sat q d = sat q' d) (ls ls' : LeafScore) :
    ∀ (idx : Index) (off : Nat), (hitsFrom ls q off idx).map (·.id) = (hitsFrom ls' q' off idx).map (·.id)
  | [], _ => rfl
  | s :: rest, off => by
    simp only [hitsFrom, List.map_append, shift_ids, segHits_ids, hitsFrom_ids_congr h ls ls' rest,
      List.filter_congr (fun i _ => h (s.doc i))]

/-- which documents are hits does not depend on the scorer -/
theorem hits_ids (ls : LeafScore) (q : Query) (idx : Index) : (hits ls q idx).map (·.id) = answer q idx :=
  hitsFrom_ids_congr (fun _ => rfl) ls freqLeaf idx 0

theorem insertRanked_perm (h : Hit) (l : List Hit) : (insertRanked h l).Perm (h :: l) := by
  induction l with
  | nil => exact List.Perm.refl _
  | cons x xs ih =>
    unfold insertRanked
    split
    · exact List.Perm.refl _
    · exact (List.Perm.cons x ih).trans (List.Perm.swap h x xs)

theorem rankAll_perm (ls : LeafScore) (q : Query) (idx : Index) : (rankAll ls q idx).Perm (hits ls q idx) := by
  unfold rankAll
  induction hits ls q idx with
  | nil => exact List.Perm.refl _
  | cons h t ih =>
    simp only [List.foldr_cons]
    exact (insertRanked_perm h _).trans (List.Perm.cons h ih)

def Same (sc : Bool) (a b : PL) : Prop := a.map (·.id) = b.map (·.id) ∧ (sc = true → a = b)

theorem compile_same (ls : LeafScore) (so : ShapeOracle) (s : Segment) (hso : ValidOracle so)
    (hleaf : PosLeaf ls s) (q : Query) (hq : PosQ q) (ctx : Ctx) :
    Same ctx.scored (compile ls so s ctx q) (segHits ls q s) :=
  have h := compile_agree ls so s hso hleaf q ctx hq
  ⟨ids_eq_of_isSome h.1 (segHits_sorted ls q s) fun i => by rw [lookup_segHits]; exact (h.2 i).1,
   fun hsc => sorted_ext h.1 (segHits_sorted ls q s) fun i => by rw [lookup_segHits]; exact (h.2 i).2 hsc⟩

def IndexOK (ls : LeafScore) (idx : Index) : Prop := ∀ s ∈ idx, PosLeaf ls s

theorem runFrom_same (ls : LeafScore) (so : ShapeOracle) (hso : ValidOracle so) (q : Query) (hq : PosQ q)
    (ctx : Ctx) : ∀ (idx : Index) (off : Nat), IndexOK ls idx →
      Same ctx.scored (runFrom ls so ctx q off idx) (hitsFrom ls q off idx)
  | [], _, _ => ⟨rfl, fun _ => rfl⟩
  | s :: rest, off, hok => by
    have hs := compile_same ls so s hso (hok s List.mem_cons_self) q hq ctx
    have ih := runFrom_same ls so hso q hq ctx rest (off + s.size) fun x hx => hok x (List.mem_cons_of_mem _ hx)
    exact ⟨by simp only [runFrom, hitsFrom, List.map_append, shift_ids, hs.1, ih.1],
      fun hsc => by simp only [runFrom, hitsFrom, hs.2 hsc, ih.2 hsc]⟩

end WM.Compile

namespace WM.C09
open WM.Search WM.Compile

/-- the specified `(doc, score)` list of a segment in the matcher family's vocabulary -/
def specDen (ls : LeafScore) (q : Query) (s : Segment) : WM.Matcher.Den :=
  (s.live.filter (fun i => sat q (s.doc i))).map (fun i => (i, scoreOf ls q (s.doc i)))

theorem toPL_specDen (ls : LeafScore) (q : Query) (s : Segment) : toPL (specDen ls q s) = segHits ls q s :=
  List.map_map

end WM.C09
