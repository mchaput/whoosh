import WM.Lemmas.FSInterleave
/-! Linearizability of `ix.reader(reuse=old)` and of `Searcher.refresh()` under interleaved writer
events: the step machines `xstep` (with recycling) and `sstep` (C03). -/
namespace WM.FS

/-- The invariant of the refresh machine recycling `old`: the sub-readers built so far are the
    fresh sub-readers of the moment `D j` the TOC was read at — whether recycled or opened file by
    file. -/
def XInv (D : Nat → FS) (n : Nat) (eager : Name → Bool) (ix : Name) (old : Reader) : RRefresh → Prop
  | .start _ => True
  | .failed _ => True
  | .segs _ t acc d rest =>
    ∃ j pre, j ≤ n ∧ readToc ix (D j) = .ok t ∧
      t.segs = pre ++ rest ∧ acc = pre.map (freshSeg eager (D j) t.schema t.gen) ∧ DictOK old d
  | .files _ t acc d s todo got rest =>
    ∃ j pre, j ≤ n ∧ readToc ix (D j) = .ok t ∧
      t.segs = pre ++ s :: rest ∧ acc = pre.map (freshSeg eager (D j) t.schema t.gen) ∧ DictOK old d ∧
      Opening (D j) (s.files.filter eager) todo got
  | .done t r => ∃ j, j ≤ n ∧ readToc ix (D j) = .ok t ∧ r = freshReader eager (D j) t

theorem xinv_retryOr {D : Nat → FS} {n : Nat} {eager : Name → Bool} {ix : Name} {old : Reader}
    (m : Nat) (e : RErr) : XInv D n eager ix old (retryOr m e) := by
  unfold retryOr
  split <;> trivial

theorem xinv_built {D : Nat → FS} {n : Nat} {eager : Name → Bool} {ix : Name} {old : Reader} {j : Nat}
    {t : Toc} {acc : List SegReader} {d : List (Name × SegReader)} {pre rest : List SegRef}
    {s : SegRef} (m : Nat) (hj : j ≤ n) (htoc : readToc ix (D j) = .ok t)
    (hsegs : t.segs = pre ++ s :: rest) (hacc : acc = pre.map (freshSeg eager (D j) t.schema t.gen))
    (hd : DictOK old d) :
    XInv D n eager ix old (.segs m t (acc ++ [freshSeg eager (D j) t.schema t.gen s]) d rest) :=
  ⟨j, pre ++ [s], hj, htoc, by rw [hsegs, List.append_assoc]; rfl,
    by rw [hacc, List.map_append]; rfl, hd⟩

theorem xinv_xstep {D : Nat → FS} {n : Nat} {eager : Name → Bool} {ix : Name} {old : Reader}
    (hM : Moments ix D n)
    (hco : ∀ k, k ≤ n → ∀ t, readToc ix (D k) = .ok t → Coherent eager (D k) t old)
    {k : Nat} (hk : k ≤ n) {ro : RRefresh} (h : XInv D n eager ix old ro) :
    XInv D n eager ix old (xstep eager ix old (D k) ro) := by
  cases ro with
  | start m =>
    simp only [xstep]
    cases hr : readToc ix (D k) with
    | ok t =>
      simp only
      rw [carryOver_versioned t.segs old.leaves (hco k hk t hr).versioned]
      exact ⟨k, [], hk, hr, rfl, rfl, mkReusable_ok old⟩
    | error e =>
      cases e with
      | ioError => exact xinv_retryOr m _
      | emptyIndex => trivial
      | badToc => trivial
  | failed e => exact h
  | done t r => exact h
  | segs m t acc d rest =>
    obtain ⟨j, pre, hj, htoc, hsegs, hacc, hd⟩ := h
    cases rest with
    | nil =>
      refine ⟨j, hj, htoc, ?_⟩
      show assemble t.schema t.gen acc = freshReader eager (D j) t
      rw [hacc, freshReader, hsegs, List.append_nil]
    | cons s rest =>
      have hs : s ∈ t.segs := by rw [hsegs]; exact List.mem_append_right _ List.mem_cons_self
      have hfiles : XInv D n eager ix old (.files m t acc d s (s.files.filter eager) [] rest) :=
        ⟨j, pre, hj, htoc, hsegs, hacc, hd, .init fun f hf =>
          bound_of_readable (hM.readable hj t htoc) s hs f (List.mem_filter.1 hf).1⟩
      have hco := hco j hj t htoc
      simp only [xstep]
      cases hl : lookupSid d s.sid with
      | none => exact hfiles
      | some x =>
        obtain ⟨hmem, hsid⟩ := hd.lookup hl
        simp only [Option.isNone_eq_false_iff.2 (hco.versioned x hmem), Bool.false_eq_true, if_false]
        by_cases hsame : sameSet x.seg.deleted s.deleted = true
        · -- the recycled sub-reader, re-stamped, is the one a fresh open at `D j` would build
          rw [if_pos hsame, hco.recycle hmem hs hsid hsame]
          exact xinv_built m hj htoc hsegs hacc (hd.erase _)
        · rw [if_neg hsame]
          exact hfiles
  | files m t acc d s todo got rest =>
    obtain ⟨j, pre, hj, htoc, hsegs, hacc, hd, hop⟩ := h
    cases todo with
    | nil =>
      obtain rfl : got = (freshSeg eager (D j) t.schema t.gen s).handles :=
        (List.append_nil got).symm.trans hop.2
      exact xinv_built m hj htoc hsegs hacc hd
    | cons f todo =>
      simp only [xstep]
      cases hdir : (D k).dir f with
      | none => exact xinv_retryOr m _
      | some i => exact ⟨j, pre, hj, htoc, hsegs, hacc, hd, hop.next hM hdir⟩

/-- `XInv` once `refresh()` has decided to re-open; for "return self", a moment at which the
    searcher was up to date -/
def SInv (D : Nat → FS) (n : Nat) (eager : Name → Bool) (ix : Name) (old : Reader) : SRefresh → Prop
  | .check _ => True
  | .same => ∃ j, j ≤ n ∧ upToDate ix (D j) old = true
  | .run x => XInv D n eager ix old x

theorem sinv_sstep {D : Nat → FS} {n : Nat} {eager : Name → Bool} {ix : Name} {old : Reader}
    (hM : Moments ix D n)
    (hco : ∀ k, k ≤ n → ∀ t, readToc ix (D k) = .ok t → Coherent eager (D k) t old)
    {k : Nat} (hk : k ≤ n) {st : SRefresh} (h : SInv D n eager ix old st) :
    SInv D n eager ix old (sstep eager ix old (D k) st) := by
  cases st with
  | check m =>
    simp only [sstep]
    split
    · next hup => exact ⟨k, hk, hup⟩
    · trivial
  | same => exact h
  | run x => exact xinv_xstep hM hco hk h

/-- **Linearizability of `Searcher.refresh()`.**  Both outcomes have a moment of the schedule
    at which they are right: "return self" — the searcher was up to date at the moment of the
    check; a new reader — it is the fresh reader of the TOC it read, at the moment it read it. -/
theorem searcher_refresh_linearizable (eager : Name → Bool) (ix : Name) (fs0 : FS) (t0 : Toc) (n : Nat)
    (ms : List MStep) (hwf : WF fs0) (h0 : readable fs0 t0 = true)
    (hfr : freshNames fs0 (wevents ms) = true)
    (hlr : ∀ k, k ≤ ms.length → LatestReadable ix (fsAt fs0 ms k))
    (hst : ∀ k, k ≤ ms.length → ∀ t, readToc ix (fsAt fs0 ms k) = .ok t → Stable t0 t) :
    match (smrun eager ix (freshReader eager fs0 t0) (fs0, .check n) ms).2 with
    | .same => ∃ k, k ≤ ms.length ∧ upToDate ix (fsAt fs0 ms k) (freshReader eager fs0 t0) = true
    | .run (.done t r) => ∃ k, k ≤ ms.length ∧ readToc ix (fsAt fs0 ms k) = .ok t ∧
        readable (fsAt fs0 ms k) t = true ∧ r = freshReader eager (fsAt fs0 ms k) t
    | _ => True := by
  have h := sched_inv (smstep eager ix (freshReader eager fs0 t0))
    (sstep eager ix (freshReader eager fs0 t0)) (fun _ _ => rfl) (fun _ => rfl)
    (SInv (fsAt fs0 ms) ms.length eager ix (freshReader eager fs0 t0)) fs0 (.check n) ms
    (fun _ hk _ h => sinv_sstep (moments_fsAt hwf hfr hlr)
      (fun k hk t ht => coherent_of_stable eager hwf h0 (reach_fsAt hfr (Nat.zero_le k))
        (hlr k hk t ht) (hst k hk t ht)) hk h) trivial
  rw [smrun]
  generalize (ms.foldl (smstep eager ix (freshReader eager fs0 t0)) (fs0, .check n)).2 = st at h
  cases st with
  | check m => trivial
  | same => exact h
  | run x =>
    cases x with
    | done t r =>
      obtain ⟨k, hk, htoc, hr⟩ := h
      exact ⟨k, hk, htoc, hlr k hk t htoc, hr⟩
    | _ => trivial

/-- **Linearizability of `ix.reader(reuse=old)`.**  `old` was opened on `fs0`; writers issue
    fresh-name events; the steps of the recycling open are interleaved with them arbitrarily.
    If the call completes, its result is exactly the fresh reader of the TOC it (last) read, at
    the moment it read it — recycled sub-readers included. -/
theorem refresh_linearizable (eager : Name → Bool) (ix : Name) (fs0 : FS) (t0 : Toc) (n : Nat)
    (ms : List MStep) (hwf : WF fs0) (h0 : readable fs0 t0 = true)
    (hfr : freshNames fs0 (wevents ms) = true)
    (hlr : ∀ k, k ≤ ms.length → LatestReadable ix (fsAt fs0 ms k))
    (hst : ∀ k, k ≤ ms.length → ∀ t, readToc ix (fsAt fs0 ms k) = .ok t → Stable t0 t)
    (t : Toc) (r : Reader)
    (hdone : (xmrun eager ix (freshReader eager fs0 t0) (fs0, .start n) ms).2 = .done t r) :
    ∃ k, k ≤ ms.length ∧ readToc ix (fsAt fs0 ms k) = .ok t ∧
      readable (fsAt fs0 ms k) t = true ∧ r = freshReader eager (fsAt fs0 ms k) t := by
  have h := sched_inv (xmstep eager ix (freshReader eager fs0 t0))
    (xstep eager ix (freshReader eager fs0 t0)) (fun _ _ => rfl) (fun _ => rfl)
    (XInv (fsAt fs0 ms) ms.length eager ix (freshReader eager fs0 t0)) fs0 (.start n) ms
    (fun _ hk _ h => xinv_xstep (moments_fsAt hwf hfr hlr)
      (fun k hk t ht => coherent_of_stable eager hwf h0 (reach_fsAt hfr (Nat.zero_le k))
        (hlr k hk t ht) (hst k hk t ht)) hk h) trivial
  rw [xmrun] at hdone
  rw [hdone] at h
  obtain ⟨k, hk, htoc, hr⟩ := h
  exact ⟨k, hk, htoc, hlr k hk t htoc, hr⟩

end WM.FS
