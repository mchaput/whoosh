import WM.Lemmas.HashTable
import WM.Lemmas.Basics
/-! The records `HashWriter.add` lays out, and `Built`: the parts of a written hash file that the readers rely on. -/
namespace WM.HashFile

/-- the records `add` writes for `kvs` starting at position `p` -/
def layout {α} (vlen : α → Nat) : Nat → List (Key × α) → List (Rec α)
  | _, [] => []
  | p, kv :: t => ⟨p, kv.1, kv.2⟩ :: layout vlen (p + lengthsSize + kv.1.length + vlen kv.2) t

def endPos {α} (vlen : α → Nat) : Nat → List (Key × α) → Nat
  | p, [] => p
  | p, kv :: t => endPos vlen (p + lengthsSize + kv.1.length + vlen kv.2) t

theorem foldl_addRec {α} (vlen : α → Nat) : ∀ (kvs : List (Key × α)) (p : Nat) (acc : List (Rec α)),
    kvs.foldl (addRec vlen) (p, acc) = (endPos vlen p kvs, acc ++ layout vlen p kvs)
  | [], p, acc => by simp [layout, endPos]
  | kv :: t, p, acc => by
    simp only [List.foldl_cons, addRec, layout, endPos]
    rw [foldl_addRec vlen t]
    simp

theorem layout_kvs {α} (vlen : α → Nat) : ∀ (kvs : List (Key × α)) (p : Nat),
    (layout vlen p kvs).map (fun r => (r.key, r.val)) = kvs
  | [], _ => rfl
  | kv :: t, p => by simp [layout, layout_kvs vlen t]

theorem length_layout {α} (vlen : α → Nat) (kvs : List (Key × α)) (p : Nat) :
    (layout vlen p kvs).length = kvs.length :=
  List.length_map (fun r : Rec α => (r.key, r.val)) ▸ congrArg List.length (layout_kvs vlen kvs p)

theorem layout_bounds {α} (vlen : α → Nat) : ∀ (kvs : List (Key × α)) (p : Nat),
    p + lengthsSize * kvs.length ≤ endPos vlen p kvs ∧ (layout vlen p kvs).Pairwise (fun a b => a.pos < b.pos) ∧
      ∀ r ∈ layout vlen p kvs, p ≤ r.pos ∧ r.pos < endPos vlen p kvs
  | [], p => ⟨Nat.le_refl _, .nil, nofun⟩
  | kv :: t, p => by
    obtain ⟨h1, h2, h3⟩ := layout_bounds vlen t (p + lengthsSize + kv.1.length + vlen kv.2)
    have hp : p < p + lengthsSize + kv.1.length + vlen kv.2 := by simp only [lengthsSize]; omega
    have h3' : ∀ r ∈ layout vlen (p + lengthsSize + kv.1.length + vlen kv.2) t, p < r.pos :=
      fun r hr => Nat.lt_of_lt_of_le hp (h3 r hr).1
    rw [layout, endPos, List.length_cons, Nat.mul_succ, List.pairwise_cons, List.forall_mem_cons]
    exact ⟨by omega, ⟨h3', h2⟩, ⟨Nat.le_refl _, show p < _ by omega⟩,
      fun r hr => ⟨Nat.le_of_lt (h3' r hr), (h3 r hr).2⟩⟩

theorem layout_suffix {α} (vlen : α → Nat) : ∀ (kvs : List (Key × α)) (p : Nat) {r : Rec α} {rest : List (Rec α)},
    r :: rest <:+ layout vlen p kvs →
    ∃ kvs', r :: rest = layout vlen r.pos kvs' ∧ endPos vlen r.pos kvs' = endPos vlen p kvs
  | [], _, _, _, h => nomatch List.suffix_nil.mp h
  | kv :: t, p, _, _, h => by
    rcases List.suffix_cons_iff.mp h with h | h
    · cases h; exact ⟨kv :: t, rfl, rfl⟩
    · exact layout_suffix vlen t _ h

theorem find_at_pos {α} {recs : List (Rec α)} (hs : recs.Pairwise (fun a b => a.pos < b.pos))
    {r : Rec α} (hr : r ∈ recs) : recs.find? (·.pos == r.pos) = some r := by
  cases h : recs.find? (·.pos == r.pos) with
  | none => exact absurd (List.find?_eq_none.mp h r hr) (by simp)
  | some x =>
    exact congrArg some (eq_of_pairwise_ne Rec.pos (hs.imp Nat.ne_of_lt) (List.mem_of_find?_eq_some h) hr
      (beq_iff_eq.mp (List.find?_some (p := fun y : Rec α => y.pos == r.pos) h)))

theorem bucket_nz {α} (hash : Key → Nat) (recs : List (Rec α)) (b : Nat) (hpos : ∀ r ∈ recs, 0 < r.pos) :
    ∀ e ∈ bucketEntries hash recs b, nz e = true := by
  intro e he
  unfold bucketEntries at he
  rcases List.mem_map.mp he with ⟨r, hr, rfl⟩
  have := hpos r (List.mem_filter.mp hr).1
  simp [nz]; omega

theorem bucket_nodup {α} (hash : Key → Nat) (recs : List (Rec α)) (b : Nat)
    (hs : recs.Pairwise (fun a b => a.pos < b.pos)) : (bucketEntries hash recs b).Nodup := by
  unfold bucketEntries List.Nodup
  rw [List.pairwise_map]
  apply List.Pairwise.imp _ (List.Pairwise.filter _ hs)
  intro a c hac heq
  have : a.pos = c.pos := congrArg Prod.snd heq
  omega

theorem walk_layout {α} (vlen : α → Nat) (f : File α) (hs : f.recs.Pairwise (fun a b => a.pos < b.pos)) :
    ∀ (kvs' : List (Key × α)) (p : Nat), layout vlen p kvs' <:+ f.recs → f.endofdata = endPos vlen p kvs' →
      walk vlen f p = layout vlen p kvs'
  | [], p, _, hend => by rw [walk, if_neg (hend ▸ Nat.lt_irrefl p), layout]
  | kv :: t, p, hsuf, hend => by
    have hlt : p < f.endofdata := hend ▸ ((layout_bounds vlen (kv :: t) p).2.2 _ List.mem_cons_self).2
    have hat : recAt f p = some ⟨p, kv.1, kv.2⟩ := find_at_pos hs (hsuf.subset List.mem_cons_self)
    rw [walk, if_pos hlt, hat]
    simp only
    rw [← Nat.add_assoc, ← Nat.add_assoc]
    exact congrArg _ (walk_layout vlen f hs t _ ((List.suffix_cons _ _).trans hsuf) hend)

/-- What `HashWriter(…).add_all(kvs); close()` at `so` leaves in `f`, as far as the readers rely on it: the
    records laid out from `so + headerSize`, the end of the data, the stored position index, and for each
    of the 256 buckets a table of twice as many slots as entries that satisfies `Inv`. -/
structure Built {α} (hash : Key → Nat) (vlen : α → Nat) (so : Nat) (kvs : List (Key × α)) (f : File α) : Prop where
  recs : f.recs = layout vlen (so + headerSize) kvs
  eod : f.endofdata = endPos vlen (so + headerSize) kvs
  start : f.startoffset = so
  index : f.indexTC = (indexArray (f.recs.map (·.pos))).1.tc ∧
    f.indexLen = (indexArray (f.recs.map (·.pos))).1.items.length ∧
    f.indexBytes = (indexArray (f.recs.map (·.pos))).1.toBytes
  tables : ∀ b, b < 256 → ∃ T, f.tables[b]? = some T ∧ T.length = 2 * (bucketEntries hash f.recs b).length ∧
    Inv T (bucketEntries hash f.recs b)

theorem build_spec {α} (hash : Key → Nat) (vlen : α → Nat) (so : Nat) (kvs : List (Key × α)) :
    ∃ f, build hash vlen so kvs = some f ∧ Built hash vlen so kvs f ∧ f.tables.length = 256 := by
  unfold build
  simp only
  rw [foldl_addRec]
  simp only [List.nil_append]
  obtain ⟨_, hsorted, hin⟩ := layout_bounds vlen kvs (so + headerSize)
  have hpos : ∀ r ∈ layout vlen (so + headerSize) kvs, 0 < r.pos := fun r hr =>
    Nat.lt_of_lt_of_le (Nat.add_pos_right so (by decide)) (hin r hr).1
  have hT := fun b => buildTable_spec _ (bucket_nz hash (layout vlen (so + headerSize) kvs) b hpos)
    (bucket_nodup hash _ b hsorted)
  rw [mapM_eq_map (g := fun b => (buildTable (bucketEntries hash (layout vlen (so + headerSize) kvs) b)).getD [])
    fun b _ => by obtain ⟨T, h, _⟩ := hT b; rw [h]; rfl]
  refine ⟨_, rfl, ⟨rfl, rfl, rfl, ⟨rfl, rfl, rfl⟩, fun b hb => ?_⟩, ?_⟩
  · obtain ⟨T, h, hl, hinv⟩ := hT b
    refine ⟨T, ?_, hl, hinv⟩
    dsimp only
    rw [List.getElem?_map, List.getElem?_range hb]
    exact congrArg (fun o => some (o.getD [])) h
  · dsimp only
    rw [List.length_map, List.length_range]

section Built
variable {α : Type} {hash : Key → Nat} {vlen : α → Nat} {so : Nat} {kvs : List (Key × α)} {f : File α}

theorem build_some (h : build hash vlen so kvs = some f) : Built hash vlen so kvs f ∧ f.tables.length = 256 := by
  obtain ⟨f', hf', hb⟩ := build_spec hash vlen so kvs
  cases Option.some.inj (h.symm.trans hf')
  exact hb

theorem Built.sorted (hb : Built hash vlen so kvs f) : f.recs.Pairwise (fun a b => a.pos < b.pos) := by
  rw [hb.recs]; exact (layout_bounds vlen kvs _).2.1

theorem Built.pos_lt (hb : Built hash vlen so kvs f) {r : Rec α} (hr : r ∈ f.recs) : r.pos < f.endofdata := by
  rw [hb.eod]; exact ((layout_bounds vlen kvs _).2.2 r (hb.recs ▸ hr)).2

theorem Built.recAt_pos (hb : Built hash vlen so kvs f) {r : Rec α} (hr : r ∈ f.recs) : recAt f r.pos = some r :=
  find_at_pos hb.sorted hr

theorem Built.kvs_eq (hb : Built hash vlen so kvs f) : kvs = f.recs.map (fun r => (r.key, r.val)) := by
  rw [hb.recs, layout_kvs]

theorem Built.recs_of_kvs (hb : Built hash vlen so kvs f) {kv : Key × α} (hkv : kv ∈ kvs) :
    ∃ r ∈ f.recs, r.key = kv.1 ∧ r.val = kv.2 := by
  rw [hb.kvs_eq] at hkv
  obtain ⟨r, hr, rfl⟩ := List.mem_map.mp hkv
  exact ⟨r, hr, rfl, rfl⟩

theorem Built.length_recs (hb : Built hash vlen so kvs f) : f.recs.length = kvs.length := by
  rw [hb.recs, length_layout]

theorem Built.key_getElem (hb : Built hash vlen so kvs f) (k : Nat) (hk : k < f.recs.length) :
    (f.recs[k]).key = (kvs[k]'(hb.length_recs ▸ hk)).1 :=
  (congrArg Prod.fst ((List.getElem_of_eq hb.kvs_eq _).trans (List.getElem_map _))).symm

theorem Built.walk_getElem (hb : Built hash vlen so kvs f) {k : Nat} (hk : k < f.recs.length) :
    walk vlen f (f.recs[k]).pos = f.recs.drop k := by
  have hs := List.drop_suffix k f.recs
  rw [List.drop_eq_getElem_cons hk] at hs ⊢
  obtain ⟨kvs', h, he⟩ := layout_suffix vlen kvs _ (by rw [← hb.recs]; exact hs)
  rw [h] at hs ⊢
  exact walk_layout vlen f hb.sorted kvs' _ hs (hb.eod.trans he.symm)

end Built

end WM.HashFile
