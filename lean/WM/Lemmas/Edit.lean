import WM.Spec.EditDistance
/-! Theory of the specification distances: the recursion computes the minimum script cost, the
distances are symmetric and invariant under reversal, and they satisfy the *prefix* (last
character) recurrences on which the row-wise DP and the Levenshtein automaton are built. -/
namespace WM.Edit

@[simp] theorem ed_nil_left (tr : Bool) (b : List Nat) : ed tr [] b = b.length := by
  rw [ed]

@[simp] theorem ed_nil_right (tr : Bool) (a : List Nat) : ed tr a [] = a.length := by
  cases a <;> simp [ed]

/-- The three classical alternatives for the first characters. -/
def base3 (tr : Bool) (x y : Nat) (a b : List Nat) : Nat :=
  min (ed tr a (y :: b) + 1) (min (ed tr (x :: a) b + 1) (ed tr a b + neq x y))

theorem ed_cons_cons (tr : Bool) (x y : Nat) (a b : List Nat) :
    ed tr (x :: a) (y :: b) =
      if tr = true ∧ b.head? = some x ∧ a.head? = some y then
        min (base3 tr x y a b) (ed tr a.tail b.tail + 1)
      else base3 tr x y a b := by
  cases a with
  | nil => rw [ed.eq_4 _ _ _ _ _ (by simp), if_neg (by simp)]; rfl
  | cons x' a' =>
    cases b with
    | nil => rw [ed.eq_4 _ _ _ _ _ (by simp), if_neg (by simp)]; rfl
    | cons y' b' =>
      rw [ed.eq_3]
      simp only [List.head?_cons, Option.some.injEq, List.tail_cons, eq_comm (a := y')]
      rfl

theorem lev_cons_cons (x y : Nat) (a b : List Nat) :
    lev (x :: a) (y :: b) = min (lev a (y :: b) + 1) (min (lev (x :: a) b + 1) (lev a b + neq x y)) := by
  unfold lev
  rw [ed_cons_cons, if_neg (by simp)]; rfl

theorem osa_cons_cons_swap (x y : Nat) (a b : List Nat) :
    osa (x :: y :: a) (y :: x :: b) =
      min (min (osa (y :: a) (y :: x :: b) + 1)
            (min (osa (x :: y :: a) (x :: b) + 1) (osa (y :: a) (x :: b) + neq x y)))
          (osa a b + 1) := by
  unfold osa
  rw [ed_cons_cons, if_pos ⟨rfl, rfl, rfl⟩]; rfl

theorem osa_cons_cons_noswap (x y : Nat) (a b : List Nat)
    (h : ¬ ∃ a' b', a = y :: a' ∧ b = x :: b') :
    osa (x :: a) (y :: b) = min (osa a (y :: b) + 1) (min (osa (x :: a) b + 1) (osa a b + neq x y)) := by
  unfold osa
  rw [ed_cons_cons, if_neg]; rfl
  rintro ⟨_, hb, ha⟩
  obtain ⟨a', ha⟩ := List.head?_eq_some_iff.mp ha
  obtain ⟨b', hb⟩ := List.head?_eq_some_iff.mp hb
  exact h ⟨a', b', ha, hb⟩

theorem neq_le_one (x y : Nat) : neq x y ≤ 1 := by unfold neq; split <;> omega
@[simp] theorem neq_self (x : Nat) : neq x x = 0 := by simp [neq]
theorem neq_comm (x y : Nat) : neq x y = neq y x := by
  unfold neq; split <;> split <;> simp_all

theorem Script.delAll (tr : Bool) : ∀ a : List Nat, Script tr a [] a.length
  | [] => Script.nil
  | x :: a => Script.del x (Script.delAll tr a)

theorem Script.insAll (tr : Bool) : ∀ b : List Nat, Script tr [] b b.length
  | [] => Script.nil
  | y :: b => Script.ins y (Script.insAll tr b)

theorem Script.min {tr : Bool} {a b : List Nat} {m n : Nat} (h1 : Script tr a b m)
    (h2 : Script tr a b n) : Script tr a b (min m n) := by
  rw [Nat.min_def]; split <;> assumption

theorem script_ed (tr : Bool) (a b : List Nat) : Script tr a b (ed tr a b) := by
  fun_induction ed tr a b with
  | case1 b => exact .insAll tr b
  | case2 x a => exact .delAll tr (x :: a)
  | case3 x y x' a' y' b' h base ih1 ih2 ih3 ih4 =>
    obtain ⟨ht, rfl, rfl⟩ := h
    exact ((ih1.del _).min ((ih2.ins _).min (ih3.sub _ _))).min (ih4.swap _ _ ht)
  | case4 x y x' a' y' b' h base ih1 ih2 ih3 => exact (ih1.del _).min ((ih2.ins _).min (ih3.sub _ _))
  | case5 x a y b base h ih1 ih2 ih3 => exact (ih1.del _).min ((ih2.ins _).min (ih3.sub _ _))

theorem ed_cons_cons_le_base3 (tr : Bool) (x y : Nat) (a b : List Nat) :
    ed tr (x :: a) (y :: b) ≤ base3 tr x y a b := by
  rw [ed_cons_cons]
  split
  · exact Nat.min_le_left _ _
  · exact Nat.le_refl _

theorem ed_cons_left_le (tr : Bool) (x : Nat) (a b : List Nat) : ed tr (x :: a) b ≤ ed tr a b + 1 := by
  cases b with
  | nil => simp
  | cons y b =>
    exact Nat.le_trans (ed_cons_cons_le_base3 tr x y a b) (Nat.min_le_left _ _)

theorem ed_cons_right_le (tr : Bool) (y : Nat) (a b : List Nat) : ed tr a (y :: b) ≤ ed tr a b + 1 := by
  cases a with
  | nil => simp
  | cons x a =>
    exact Nat.le_trans (ed_cons_cons_le_base3 tr x y a b)
      (Nat.le_trans (Nat.min_le_right _ _) (Nat.min_le_left _ _))

theorem ed_cons_cons_le (tr : Bool) (x y : Nat) (a b : List Nat) :
    ed tr (x :: a) (y :: b) ≤ ed tr a b + neq x y :=
  Nat.le_trans (ed_cons_cons_le_base3 tr x y a b)
    (Nat.le_trans (Nat.min_le_right _ _) (Nat.min_le_right _ _))

theorem ed_le_of_script {tr : Bool} {a b : List Nat} {n : Nat} (h : Script tr a b n) : ed tr a b ≤ n := by
  induction h with
  | nil => simp
  | del x _ ih => exact Nat.le_trans (ed_cons_left_le tr x _ _) (by omega)
  | ins y _ ih => exact Nat.le_trans (ed_cons_right_le tr y _ _) (by omega)
  | sub x y _ ih => exact Nat.le_trans (ed_cons_cons_le tr x y _ _) (by omega)
  | swap x y ht _ ih =>
    rw [ed_cons_cons, if_pos ⟨ht, rfl, rfl⟩]
    exact Nat.le_trans (Nat.min_le_right _ _) (Nat.succ_le_succ ih)

theorem ed_le_iff (tr : Bool) (a b : List Nat) (n : Nat) :
    ed tr a b ≤ n ↔ ∃ m, m ≤ n ∧ Script tr a b m :=
  ⟨fun h => ⟨_, h, script_ed tr a b⟩, fun ⟨_, hm, hs⟩ => Nat.le_trans (ed_le_of_script hs) hm⟩

theorem Script.symm {tr : Bool} {a b : List Nat} {n : Nat} (h : Script tr a b n) : Script tr b a n := by
  induction h with
  | nil => exact Script.nil
  | del x _ ih => exact Script.ins x ih
  | ins y _ ih => exact Script.del y ih
  | sub x y _ ih => rw [neq_comm]; exact Script.sub y x ih
  | swap x y ht _ ih => exact Script.swap y x ht ih

theorem ed_symm (tr : Bool) (a b : List Nat) : ed tr a b = ed tr b a :=
  Nat.le_antisymm (ed_le_of_script (script_ed tr b a).symm) (ed_le_of_script (script_ed tr a b).symm)

theorem Script.append {tr : Bool} {a b c d : List Nat} {n m : Nat} (h1 : Script tr a b n)
    (h2 : Script tr c d m) : Script tr (a ++ c) (b ++ d) (n + m) := by
  induction h1 with
  | nil => rw [Nat.zero_add]; exact h2
  | del x _ ih => rw [Nat.add_right_comm]; exact Script.del x ih
  | ins y _ ih => rw [Nat.add_right_comm]; exact Script.ins y ih
  | sub x y _ ih => rw [Nat.add_right_comm]; exact Script.sub x y ih
  | swap x y ht _ ih => rw [Nat.add_right_comm]; exact Script.swap x y ht ih

theorem Script.reverse {tr : Bool} {a b : List Nat} {n : Nat} (h : Script tr a b n) :
    Script tr a.reverse b.reverse n := by
  induction h with
  | nil => exact Script.nil
  | del x _ ih => simpa using ih.append (Script.del x .nil)
  | ins y _ ih => simpa using ih.append (Script.ins y .nil)
  | sub x y _ ih => simpa using ih.append (Script.sub x y .nil)
  | swap x y ht _ ih => simpa using ih.append (Script.swap y x ht .nil)

theorem ed_reverse (tr : Bool) (a b : List Nat) : ed tr a.reverse b.reverse = ed tr a b := by
  apply Nat.le_antisymm
  · exact ed_le_of_script (script_ed tr a b).reverse
  · have := ed_le_of_script (script_ed tr a.reverse b.reverse).reverse
    simpa using this

/-- The three classical alternatives for the last characters. -/
def snocBase (tr : Bool) (x y : Nat) (a b : List Nat) : Nat :=
  min (ed tr a (b ++ [y]) + 1) (min (ed tr (a ++ [x]) b + 1) (ed tr a b + neq x y))

theorem base3_reverse (tr : Bool) (x y : Nat) (a b : List Nat) :
    base3 tr x y a.reverse b.reverse = snocBase tr x y a b := by
  unfold base3 snocBase
  rw [← ed_reverse tr a (b ++ [y]), ← ed_reverse tr (a ++ [x]) b, ← ed_reverse tr a b]
  simp only [List.reverse_append, List.reverse_cons, List.reverse_nil, List.nil_append,
    List.cons_append]

theorem ed_snoc_left_le (tr : Bool) (x : Nat) (a b : List Nat) : ed tr (a ++ [x]) b ≤ ed tr a b + 1 := by
  simpa using ed_le_of_script ((script_ed tr a b).append (Script.del x .nil))

theorem ed_snoc_right_le (tr : Bool) (y : Nat) (a b : List Nat) : ed tr a (b ++ [y]) ≤ ed tr a b + 1 := by
  simpa using ed_le_of_script ((script_ed tr a b).append (Script.ins y .nil))

theorem ed_snoc_snoc_le (tr : Bool) (x y : Nat) (a b : List Nat) :
    ed tr (a ++ [x]) (b ++ [y]) ≤ ed tr a b + neq x y := by
  simpa using ed_le_of_script ((script_ed tr a b).append (Script.sub x y .nil))

/-- The recurrence on the last characters: `ed_cons_cons` read backwards.  The test `x ≠ y` is
    redundant (when all four characters are equal the diagonal step costs nothing, so the
    transposition gains nothing): this is the form in which `damerau_levenshtein` evaluates it. -/
theorem ed_snoc_snoc (tr : Bool) (x y : Nat) (a b : List Nat) :
    ed tr (a ++ [x]) (b ++ [y]) =
      if tr = true ∧ b.getLast? = some x ∧ a.getLast? = some y ∧ x ≠ y then
        min (snocBase tr x y a b) (ed tr a.dropLast b.dropLast + 1)
      else snocBase tr x y a b := by
  rw [← ed_reverse, List.reverse_append, List.reverse_append]
  show ed tr (x :: a.reverse) (y :: b.reverse) = _
  rw [ed_cons_cons, base3_reverse, List.head?_reverse, List.head?_reverse, List.tail_reverse,
    List.tail_reverse, ed_reverse]
  by_cases hne : x = y
  · subst hne
    simp only [ne_eq, not_true_eq_false, and_false, if_false]
    split
    · next h =>
      obtain ⟨a', rfl⟩ := List.getLast?_eq_some_iff.mp h.2.2
      obtain ⟨b', rfl⟩ := List.getLast?_eq_some_iff.mp h.2.1
      apply Nat.min_eq_left
      have h1 : snocBase tr x x (a' ++ [x]) (b' ++ [x]) ≤ ed tr (a' ++ [x]) (b' ++ [x]) + neq x x :=
        Nat.le_trans (Nat.min_le_right _ _) (Nat.min_le_right _ _)
      have h2 := ed_snoc_snoc_le tr x x a' b'
      rw [neq_self] at h1 h2
      rw [List.dropLast_concat, List.dropLast_concat]
      omega
    · rfl
  · simp only [ne_eq, hne, not_false_eq_true, and_true]

theorem Script.mono {a b : List Nat} {n : Nat} (h : Script false a b n) : Script true a b n := by
  induction h with
  | nil => exact Script.nil
  | del x _ ih => exact Script.del x ih
  | ins y _ ih => exact Script.ins y ih
  | sub x y _ ih => exact Script.sub x y ih
  | swap x y ht _ _ => cases ht

theorem osa_le_lev (a b : List Nat) : osa a b ≤ lev a b :=
  ed_le_of_script (script_ed false a b).mono

theorem script_uncons_right {tr : Bool} {a b' : List Nat} {n : Nat} (h : Script tr a b' n) :
    ∀ y b, b' = y :: b → ∃ m, m ≤ n + 1 ∧ Script tr a b m := by
  induction h with
  | nil => intro y b hb; cases hb
  | del x _ ih =>
    intro y b hb
    obtain ⟨m, hm, hs⟩ := ih y b hb
    exact ⟨m + 1, by omega, Script.del x hs⟩
  | ins y' h _ =>
    intro y b hb
    cases hb
    exact ⟨_, by omega, h⟩
  | sub x y' h _ =>
    intro y b hb
    cases hb
    exact ⟨_, by omega, Script.del x h⟩
  | swap x y' ht h _ =>
    intro y b hb
    cases hb
    refine ⟨_, ?_, Script.sub x x (Script.del y' h)⟩
    simp

theorem ed_uncons_right_le (tr : Bool) (y : Nat) (a b : List Nat) : ed tr a b ≤ ed tr a (y :: b) + 1 := by
  obtain ⟨m, hm, hs⟩ := script_uncons_right (script_ed tr a (y :: b)) y b rfl
  exact Nat.le_trans (ed_le_of_script hs) hm

theorem ed_uncons_left_le (tr : Bool) (x : Nat) (a b : List Nat) : ed tr a b ≤ ed tr (x :: a) b + 1 := by
  rw [ed_symm tr a b, ed_symm tr (x :: a) b]; exact ed_uncons_right_le tr x b a

theorem ed_cons_cons_same (tr : Bool) (c : Nat) (a b : List Nat) : ed tr (c :: a) (c :: b) = ed tr a b := by
  apply Nat.le_antisymm
  · have := ed_cons_cons_le tr c c a b; simpa using this
  · have hb : ed tr a b ≤ base3 tr c c a b := by
      unfold base3
      have h1 := ed_uncons_right_le tr c a b
      have h2 := ed_uncons_left_le tr c a b
      simp only [neq_self, Nat.add_zero]
      omega
    rw [ed_cons_cons]
    split
    · next h =>
      obtain ⟨a', rfl⟩ := List.head?_eq_some_iff.mp h.2.2
      obtain ⟨b', rfl⟩ := List.head?_eq_some_iff.mp h.2.1
      have h3 := ed_cons_cons_le tr c c a' b'
      simp only [neq_self, Nat.add_zero] at h3
      exact Nat.le_min.mpr ⟨hb, Nat.le_succ_of_le h3⟩
    · exact hb

theorem ed_append_left_same (tr : Bool) (p a b : List Nat) : ed tr (p ++ a) (p ++ b) = ed tr a b := by
  induction p with
  | nil => rfl
  | cons c p ih => simp only [List.cons_append]; rw [ed_cons_cons_same, ih]

theorem ed_self (tr : Bool) (a : List Nat) : ed tr a a = 0 := by
  simpa using ed_append_left_same tr a [] []

end WM.Edit
