import WM.Lemmas.IndexTerm
/-! Calls that do not mention document numbers mean the same on every layout of the same content: the
specification run they amount to depends on the schema and on `_added` only (for `WM.C06.layout_invisible`). -/
namespace WM.Index
open WM.Dict

/-- calls that do not mention document numbers -/
def Op.layoutFree : Op → Bool
  | .delDoc _ | .undelDoc _ => false
  | _ => true

/-- what a layout-free call does to the schema and to `_added`, as a function of these two alone -/
def nextSA (sc : Schema) (added : Bool) : Op → Schema × Bool
  | .add d => (sc, added || d.fits sc)
  | .update d => (sc, added || d.fits sc)
  | .addField f u => if !added && !sc.has f then (sc.add f u, added) else (sc, added)
  | .removeField f => if !added && sc.has f then (sc.remove f, added) else (sc, added)
  | _ => (sc, added)

theorem step_nextSA (w : Writer) (hwf : w.WF) (op : Op) (hop : op.layoutFree = true) :
    ((w.step op).1.schema, (w.step op).1.added) = nextSA w.schema w.added op := by
  have hadd : ∀ (w : Writer) d, ((w.step (.add d)).1.schema, (w.step (.add d)).1.added)
      = (w.schema, w.added || d.fits w.schema) := by
    intro w d
    rw [Writer.step_add_eq]
    cases hf : d.fits w.schema <;> simp
  cases op with
  | add d => exact hadd w d
  | update d =>
    -- the deletions of an update succeed on a well-formed writer and touch neither schema nor `_added`
    obtain ⟨w1, h1, f1, _⟩ := Writer.deleteMany_ok w (findUnique w.schema w.segs (uniqTerms w.schema d)) (fun n hn => by
      obtain ⟨x, hx, rfl, _⟩ := findUnique_live w.schema w.segs _ hwf.segs n hn
      simpa using liveGlobal_lt w.segs 0 x hx)
    rw [Writer.step_update_eq, h1, hadd w1 d, f1.schema, f1.added]
    rfl
  | delDoc _ | undelDoc _ => cases hop
  | delBy q =>
    obtain ⟨w', h1, f1, _⟩ := Writer.deleteMany_ok w _
      (docsForQuery_selects w.schema q w.segs hwf.segs).lt
    rw [Writer.step_delBy_eq, h1, f1.schema, f1.added]
    rfl
  | addField f u => rw [Writer.step_addField_eq, nextSA]; split <;> rfl
  | removeField f => rw [Writer.step_removeField_eq, nextSA]; split <;> rfl

theorem specOp_layoutFree (w1 w2 : Writer) (hs : w1.schema = w2.schema) (ha : w1.added = w2.added) (op : Op)
    (hop : op.layoutFree = true) : w1.specOp op = w2.specOp op := by
  cases op with
  | delDoc _ | undelDoc _ => cases hop
  | delBy q => cases q <;> rfl
  | add _ | update _ => simp [Writer.specOp, hs]
  | addField _ _ | removeField _ => simp [Writer.specOp, hs, ha]

theorem specOps_layoutFree (ops : List Op) (w1 w2 : Writer) (h1 : w1.WF) (h2 : w2.WF) (hs : w1.schema = w2.schema)
    (ha : w1.added = w2.added) (hops : ∀ op ∈ ops, op.layoutFree = true) : w1.specOps ops = w2.specOps ops := by
  induction ops generalizing w1 w2 with
  | nil => rfl
  | cons o r ih =>
    have ho := hops o (by simp)
    simp only [Writer.specOps]
    rw [specOp_layoutFree w1 w2 hs ha o ho]
    have e1 := step_nextSA w1 h1 o ho
    have e2 := step_nextSA w2 h2 o ho
    rw [hs, ha] at e1
    have e := e1.trans e2.symm
    simp only [Prod.mk.injEq] at e
    rw [ih (w1.step o).1 (w2.step o).1 (step_wf w1 h1 o) (step_wf w2 h2 o) e.1 e.2 (fun op hop => hops op (by simp [hop]))]

end WM.Index
