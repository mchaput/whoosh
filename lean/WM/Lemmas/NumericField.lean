import WM.Lemmas.NumericRange
/-! Integer domain and `prepare_number`; intervals, `tiered_ranges` and the range query through any monotone
    encoding into the sortable domain, of which `to_sortable` is one. -/
namespace WM.Numeric
open WM.NumericSpec

theorem minMaxInt_eq (n : Nat) (hn : 0 < n) (signed : Bool) :
    minMaxInt n signed =
      if signed then (-(2 : Int) ^ (n - 1), 2 ^ (n - 1) - 1) else (0, 2 ^ n - 1) := by
  have := two_pow_pred n hn
  cases signed <;> simp only [minMaxInt, fromSortableInt, one_shiftLeft_cast] <;> simp <;> omega

/-- The domain is the preimage of `[0, 2^n)`, whatever the offset of `to_sortable` is. -/
theorem inDomain_iff (n : Nat) (signed : Bool) (x : Int) :
    inDomain n signed x ↔ 0 ≤ toSortableInt n signed x ∧ toSortableInt n signed x < 2 ^ n := by
  unfold inDomain minMaxInt fromSortableInt toSortableInt
  generalize ((1 <<< (n - 1) : Nat) : Int) = c
  cases signed <;> simp only [if_true, Bool.false_eq_true, if_false] <;> omega

theorem fromSortable_toSortable (n : Nat) (signed : Bool) (x : Int) :
    fromSortableInt n signed (toSortableInt n signed x) = x := by
  cases signed <;> simp [toSortableInt, fromSortableInt]

theorem toSortable_fromSortable (n : Nat) (signed : Bool) (s : Int) :
    toSortableInt n signed (fromSortableInt n signed s) = s := by
  cases signed <;> simp [toSortableInt, fromSortableInt]

theorem toSortableInt_lt (n : Nat) (signed : Bool) (x y : Int) :
    toSortableInt n signed x < toSortableInt n signed y ↔ x < y := by
  cases signed <;> simp [toSortableInt]

theorem intLt_toSortable (n : Nat) (signed : Bool) (a b : Int) :
    intLt a b = true ↔ toSortableInt n signed a < toSortableInt n signed b :=
  decide_eq_true_iff.trans (toSortableInt_lt n signed a b).symm

theorem prepareInt_eq (n : Nat) (signed : Bool) (x : Int) :
    prepareInt n signed x = if inDomain n signed x then .ok x else .error .valueError := by
  unfold prepareInt inDomain
  by_cases h : (minMaxInt n signed).1 ≤ x ∧ x ≤ (minMaxInt n signed).2
  · have : ¬ (x < (minMaxInt n signed).1 ∨ x > (minMaxInt n signed).2) := by omega
    simp [h, this]
  · have : (x < (minMaxInt n signed).1 ∨ x > (minMaxInt n signed).2) := by omega
    simp [h, this]

theorem prepareInt_bind {β} (n : Nat) (signed : Bool) (x : Int) (g : Int → Except Err β) :
    (prepareInt n signed x >>= g) = if inDomain n signed x then g x else .error .valueError := by
  rw [prepareInt_eq]; split <;> rfl

theorem compileInt_eq (w : Nat) (signed : Bool) (step : Nat) (start end_ : Option Int) (sx ex : Bool)
    (hs : ∀ a, start = some a → inDomain (8 * w) signed a)
    (he : ∀ a, end_ = some a → inDomain (8 * w) signed a) :
    compileInt w signed step start end_ sx ex
      = compileRanges w (tieredInt (8 * w) signed start end_ step sx ex) := by
  unfold compileInt
  cases start <;> cases end_ <;>
    simp [prepareInt_eq, hs, he, bind, Except.bind, pure, Except.pure, Except.map]

theorem compileDecimal_eq (w : Nat) (signed : Bool) (step dc : Nat) (start end_ : Option Rat)
    (sx ex : Bool) :
    compileDecimal w signed step dc start end_ sx ex
      = compileInt w signed step (start.map (decimalToInt dc)) (end_.map (decimalToInt dc)) sx ex := by
  unfold compileDecimal compileInt prepareDecimal
  cases start <;> cases end_ <;> rfl

theorem forall_eq_some {α} {P : α → Prop} {x : α} (h : P x) : ∀ a, some x = some a → P a :=
  fun _ e => Option.some.inj e ▸ h

theorem forall_map_some {α β} {P : α → Prop} {Q : β → Prop} {f : α → β} {o : Option α}
    (ho : ∀ a, o = some a → P a) (h : ∀ a, P a → Q (f a)) : ∀ b, o.map f = some b → Q b := by
  intro b hb
  cases o with
  | none => cases hb
  | some a => cases hb; exact h a (ho a rfl)

theorem inInterval_enc {α} (lt : α → α → Bool) (f : α → Int) (P : α → Prop)
    (hf : ∀ a b, P a → P b → (lt a b = true ↔ f a < f b))
    (start end_ : Option α) (sx ex : Bool) (x : α) (hx : P x)
    (hs : ∀ a, start = some a → P a) (he : ∀ b, end_ = some b → P b) :
    inInterval intLt (start.map f) (end_.map f) sx ex (f x) = inInterval lt start end_ sx ex x := by
  have hf' : ∀ a b, P a → P b → intLt (f a) (f b) = lt a b := fun a b pa pb =>
    Bool.eq_iff_iff.mpr (decide_eq_true_iff.trans (hf a b pa pb).symm)
  unfold inInterval
  congr 1
  · cases start with
    | none => rfl
    | some s => simp only [Option.map_some, hf' s x (hs s rfl) hx, hf' x s hx (hs s rfl)]
  · cases end_ with
    | none => rfl
    | some e => simp only [Option.map_some, hf' x e hx (he e rfl), hf' e x (he e rfl) hx]

/-- `tiered_ranges` through an encoding: values of any type `α` with any order `lt`, admissible by `P`, which `f`
    maps monotonically into the sortable domain `[0, 2 ^ n)`. -/
theorem tiered_enc {α} (lt : α → α → Bool) (f : α → Int) (P : α → Prop) (n step : Nat) (hn : 0 < n)
    (hr : ∀ a, P a → 0 ≤ f a ∧ f a < 2 ^ n)
    (hlt : ∀ a b, P a → P b → (lt a b = true ↔ f a < f b))
    (start end_ : Option α) (sx ex : Bool)
    (hs : ∀ a, start = some a → P a) (he : ∀ a, end_ = some a → P a) :
    (∀ x, P x →
      ((∃ r ∈ tieredSortable n (start.map f) (end_.map f) step sx ex, r.test (f x).toNat = true) ↔
        inInterval lt start end_ sx ex x = true)) ∧
    (∀ r ∈ tieredSortable n (start.map f) (end_.map f) step sx ex,
      r.shift ∈ indexShifts n step ∧ r.lo ≤ r.hi ∧ r.hi < 2 ^ n) := by
  obtain ⟨hex, shape⟩ := tieredSortable_spec n step hn _ _ sx ex
    (forall_map_some hs hr) (forall_map_some he hr)
  refine ⟨fun x hx => ?_, shape⟩
  obtain ⟨h1, h2⟩ := toNat_lt_two_pow (hr x hx)
  rw [hex _ h1, h2, inInterval_enc lt f P hlt start end_ sx ex x hx hs he]

/-- The sub-queries `subs` answer the membership test `mem` on documents whose values, admissible by
    `P`, are indexed through the encoding `f`: a document holding one value, or a list of values,
    is matched iff a value passes `mem`. -/
def Answers {α} (w step : Nat) (subs : List Sub) (f : α → Int) (P : α → Prop) (mem : α → Bool) : Prop :=
  (∀ x, P x → ∃ ts, indexTerms w step (f x).toNat = .ok ts ∧
    (matchesDoc subs ts = true ↔ mem x = true)) ∧
  (∀ xs : List α, (∀ x ∈ xs, P x) →
    ∃ ts, indexTermsList w step (xs.map fun x => (f x).toNat) = .ok ts ∧
      (matchesDoc subs ts = true ↔ ∃ x ∈ xs, mem x = true))

/-- The range query through an encoding: for any value type `α`, order `lt`, admissible set `P` and monotone
    `f : α → [0, 2 ^ (8 * w))`, the ranges of the encoded bounds compile, and the sub-queries answer membership in
    the interval of `lt` on documents indexed through `f`. -/
theorem range_query_enc {α} (lt : α → α → Bool) (f : α → Int) (P : α → Prop) (w step : Nat)
    (hw : 0 < w) (hw' : 8 * w ≤ 256) (hr : ∀ a, P a → 0 ≤ f a ∧ f a < 2 ^ (8 * w))
    (hlt : ∀ a b, P a → P b → (lt a b = true ↔ f a < f b))
    (start end_ : Option α) (sx ex : Bool)
    (hs : ∀ a, start = some a → P a) (he : ∀ a, end_ = some a → P a) :
    ∃ subs,
      compileRanges w (tieredSortable (8 * w) (start.map f) (end_.map f) step sx ex) = .ok subs ∧
      Answers w step subs f P (inInterval lt start end_ sx ex) := by
  obtain ⟨hex, shape⟩ := tiered_enc lt f P (8 * w) step (by omega) hr hlt start end_ sx ex hs he
  obtain ⟨subs, hsubs, hm⟩ := compileRanges_matchesDoc w step hw' _ shape
  have key : ∀ x, P x → (f x).toNat < 256 ^ w ∧
      (matchesDoc subs ((indexShifts (8 * w) step).map (termOf w (f x).toNat)) = true ↔
        inInterval lt start end_ sx ex x = true) := fun x hx =>
    have h1 := (toNat_lt_two_pow (hr x hx)).1
    ⟨by rw [pow_256]; exact h1, (hm _ h1).trans (hex x hx)⟩
  refine ⟨subs, hsubs, fun x hx => ⟨_, indexTerms_ok w step _ hw' (key x hx).1, (key x hx).2⟩,
    fun xs hxs => ?_⟩
  obtain ⟨ts, hts, hiff⟩ := matchesDoc_list w step subs (fun x => (f x).toNat) xs hw'
    fun x hx => (key x (hxs x hx)).1
  exact ⟨ts, hts, hiff.trans (exists_congr fun x => and_congr_right fun hx => (key x (hxs x hx)).2)⟩

theorem range_query_int_answers (w step : Nat) (hw : 0 < w) (hw' : 8 * w ≤ 256) (signed : Bool)
    (start end_ : Option Int) (sx ex : Bool)
    (hs : ∀ a, start = some a → inDomain (8 * w) signed a)
    (he : ∀ b, end_ = some b → inDomain (8 * w) signed b) :
    ∃ subs, compileInt w signed step start end_ sx ex = .ok subs ∧
      Answers w step subs (toSortableInt (8 * w) signed) (inDomain (8 * w) signed)
        (inInterval intLt start end_ sx ex) := by
  rw [compileInt_eq w signed step start end_ sx ex hs he]
  exact range_query_enc intLt (toSortableInt (8 * w) signed) (inDomain (8 * w) signed) w step hw hw'
    (fun x => (inDomain_iff _ signed x).mp) (fun a b _ _ => intLt_toSortable _ _ a b)
    start end_ sx ex hs he

end WM.Numeric
