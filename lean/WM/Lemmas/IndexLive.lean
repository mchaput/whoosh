import WM.Model.Index
import WM.Lemmas.Basics
/-! The list facts the index modules share; then doc-number arithmetic (`_setup_doc_offsets`,
`bisect_right`, `_segment_and_docnum`), the live documents by global number, and what
`delete_document` does to them. -/
namespace WM.Index
open WM.Dict

theorem map_snd_filter_nodup {α} (L : List (α × Nat)) (h : L.Pairwise (fun a b => a.2 < b.2)) (p : α × Nat → Bool) :
    ((L.filter p).map (·.2)).Nodup := by
  rw [List.nodup_iff_pairwise_ne, List.pairwise_map]
  exact (h.filter p).imp Nat.ne_of_lt

theorem zipIdx_filter_map_add {α} (l : List α) (k : Nat) (p : α × Nat → Bool) :
    (l.zipIdx.filter p).map (fun q => (q.1, q.2 + k)) = (l.zipIdx k).filter (fun q => p (q.1, q.2 - k)) := by
  rw [List.zipIdx_eq_map_add (i := k), List.filter_map]
  simp [Function.comp_def, Nat.add_comm]

/-- In a list with ascending numbers a member is the only entry with its number. -/
theorem perm_cons_filter_ne {α} [BEq α] [LawfulBEq α] {L : List (α × Nat)} (hL : L.Pairwise (fun a b => a.2 < b.2))
    {x : α × Nat} (hx : x ∈ L) : L.Perm (x :: L.filter (fun p => p.2 != x.2)) := by
  have h := List.perm_cons_erase hx
  rw [List.Nodup.erase_eq_filter (hL.imp fun hab he => Nat.ne_of_lt hab (congrArg Prod.snd he))] at h
  refine List.filter_congr (fun q hq => ?_) ▸ h
  rw [Bool.eq_iff_iff, bne_iff_ne, bne_iff_ne]
  exact ⟨fun h he => h (eq_of_pairwise_ne (·.2) (hL.imp Nat.ne_of_lt) hq hx he), fun h he => h (congrArg Prod.snd he)⟩

theorem modify_map_of_eq {α β} (g : α → β) (l : List α) (i : Nat) (f : α → α) (hf : ∀ s, g (f s) = g s) :
    (l.modify i f).map g = l.map g := by
  induction l generalizing i with
  | nil => simp
  | cons s r ih =>
    cases i with
    | zero => simp [List.modify_cons, hf]
    | succ i => simp [List.modify_succ_cons, ih]

theorem flatMap_ite_filter {α β} (l : List α) (c : α → Bool) (f : α → List β) :
    l.flatMap (fun a => if c a then f a else []) = (l.filter c).flatMap f := by
  induction l with
  | nil => rfl
  | cons a r ih =>
    by_cases h : c a = true
    · simp [h, ih]
    · simp [h, ih]

theorem filter_flatMap_of_const {α β} (l : List α) (f : α → List β) (p : β → Bool) (c : α → Bool)
    (h : ∀ a ∈ l, ∀ b ∈ f a, p b = c a) : (l.flatMap f).filter p = (l.filter c).flatMap f := by
  rw [List.filter_flatMap, ← flatMap_ite_filter]
  refine flatMap_congr fun a ha => ?_
  split
  · next hc => exact List.filter_eq_self.mpr fun b hb => (h a ha b hb).trans hc
  · next hc => exact List.filter_eq_nil_iff.mpr fun b hb => h a ha b hb ▸ hc

theorem flatMap_zipIdx_fst {α β} (l : List α) (k : Nat) (f : α → List β) :
    (l.zipIdx k).flatMap (fun p => f p.1) = l.flatMap f := by
  induction l generalizing k with
  | nil => rfl
  | cons a r ih => simp [List.zipIdx_cons, ih]

theorem lookup_of_mem {β} (m : List (Nat × β)) (hk : (m.map (·.1)).Nodup) (k : Nat) (v : β) (h : (k, v) ∈ m) :
    m.lookup k = some v := by
  obtain ⟨l₁, l₂, rfl⟩ := List.append_of_mem h
  rw [List.map_append, List.nodup_append] at hk
  exact List.lookup_eq_some_iff.mpr ⟨l₁, l₂, rfl, fun p hp =>
    bne_iff_ne.mpr (hk.2.2 p.1 (List.mem_map_of_mem hp) k List.mem_cons_self).symm⟩

theorem zipIdx_zipIdx_eq {α} (l : List α) (p : α × Nat) (j : Nat) (h : (p, j) ∈ (l.zipIdx).zipIdx) : p.2 = j := by
  have h1 := List.mem_zipIdx h
  simp only [Nat.zero_le, Nat.zero_add, Nat.sub_zero, true_and] at h1
  obtain ⟨hj, hp⟩ := h1
  rw [hp]
  simp

theorem eq_of_length_le_one {α} (l : List α) (h : l.length ≤ 1) (a b : α) (ha : a ∈ l) (hb : b ∈ l) : a = b := by
  match l, h with
  | [], _ => simp at ha
  | [x], _ => simp at ha hb; rw [ha, hb]
  | _ :: _ :: _, h => simp at h

theorem eraseDups_nodup : ∀ (l : List Nat), l.eraseDups.Nodup
  | [] => by simp
  | a :: as => by
    rw [List.eraseDups_cons, List.nodup_cons]
    refine ⟨?_, eraseDups_nodup _⟩
    rw [List.mem_eraseDups, List.mem_filter]
    intro h
    simp at h
termination_by l => l.length
decreasing_by
  simp only [List.length_cons]
  exact Nat.lt_succ_of_le (List.length_filter_le _ _)

theorem filter_length_zero {α} (p : α → Bool) (l : List α) (h : ∀ x ∈ l, p x = false) : (l.filter p).length = 0 :=
  List.length_eq_zero_iff.2 (List.filter_eq_nil_iff.2 fun x hx => Bool.eq_false_iff.1 (h x hx))

theorem length_filter_not_mem (n : Nat) (d : List Nat) (hn : d.Nodup) (hr : ∀ x ∈ d, x < n) :
    ((List.range n).filter (fun i => !d.contains i)).length + d.length = n := by
  have hp : ((List.range n).filter (fun i => d.contains i)).Perm d :=
    (List.perm_ext_iff_of_nodup (List.nodup_range.filter _) hn).mpr fun a => by
      simp only [List.mem_filter, List.mem_range, List.contains_iff_mem]
      exact ⟨fun h => h.2, fun h => ⟨hr a h, h⟩⟩
  have := List.length_eq_countP_add_countP (fun i => d.contains i) (l := List.range n)
  simp only [List.countP_eq_length_filter, hp.length_eq, List.length_range, Bool.not_eq_true, Bool.decide_eq_false] at this
  omega

theorem sum_flatMap_map {α β} (l : List α) (g : α → List β) (h : β → Nat) :
    ((l.flatMap g).map h).sum = (l.map (fun a => ((g a).map h).sum)).sum := by
  induction l with
  | nil => rfl
  | cons a r ih => simp [List.flatMap_cons, List.sum_append, ih]

/-- Reference definition of "which segment holds global number `n`, and where". -/
def locate : List Seg → Nat → Nat × Nat
  | [], n => (0, n)
  | s :: r, n => if n < s.docCountAll then (0, n) else ((locate r (n - s.docCountAll)).1 + 1, (locate r (n - s.docCountAll)).2)

theorem docCountAllSegs_cons (s : Seg) (r : List Seg) :
    docCountAllSegs (s :: r) = s.docCountAll + docCountAllSegs r := by
  simp [docCountAllSegs]

theorem sub_lt_docCountAllSegs {s : Seg} {r : List Seg} {m : Nat} (h : m < docCountAllSegs (s :: r))
    (hge : ¬ m < s.docCountAll) : m - s.docCountAll < docCountAllSegs r :=
  Nat.sub_lt_left_of_lt_add (Nat.le_of_not_lt hge) (docCountAllSegs_cons s r ▸ h)

theorem bisectRight_cons (x : Nat) (xs : List Nat) (n : Nat) :
    bisectRight (x :: xs) n = if x ≤ n then bisectRight xs n + 1 else 0 := by
  unfold bisectRight
  rw [List.takeWhile_cons]
  split <;> simp_all

/-- The single-segment shortcut of `_document_segment` returns what the general rule would. -/
theorem documentSegment_eq (offs : List Nat) (n : Nat) : documentSegment offs n = bisectRight offs n - 1 := by
  unfold documentSegment
  split
  · next h =>
    exact (Nat.sub_eq_zero_of_le (beq_iff_eq.mp h ▸ (List.takeWhile_prefix (l := offs) _).length_le)).symm
  · rfl

theorem bisect_locate (segs : List Seg) (base m : Nat) (h : m < docCountAllSegs segs) :
    bisectRight (docOffsets segs base) (base + m) = (locate segs m).1 + 1 ∧
    ∃ off, (docOffsets segs base)[(locate segs m).1]? = some off ∧ off + (locate segs m).2 = base + m := by
  fun_induction locate segs m generalizing base with
  | case1 n => exact absurd h (Nat.not_lt_zero _)
  | case2 s r n hlt =>
    rw [docOffsets, bisectRight_cons, if_pos (Nat.le_add_right _ _)]
    refine ⟨?_, base, rfl, rfl⟩
    -- the count stops at the next offset, which is beyond `base + n`
    cases r with
    | nil => rfl
    | cons s' r' => rw [docOffsets, bisectRight_cons, if_neg (Nat.not_le.mpr (Nat.add_lt_add_left hlt _))]
  | case3 s r n hlt ih =>
    obtain ⟨a, off, b, c⟩ := ih (base + s.docCountAll) (sub_lt_docCountAllSegs h hlt)
    have e : base + n = base + s.docCountAll + (n - s.docCountAll) := by
      rw [Nat.add_assoc, Nat.add_sub_cancel' (Nat.le_of_not_lt hlt)]
    rw [docOffsets, bisectRight_cons, if_pos (Nat.le_add_right _ _), e, a]
    exact ⟨rfl, off, b, c⟩

theorem locate_fst_lt (segs : List Seg) (m : Nat) (h : m < docCountAllSegs segs) :
    ∃ s, segs[(locate segs m).1]? = some s ∧ (locate segs m).2 < s.docCountAll := by
  fun_induction locate segs m with
  | case1 n => exact absurd h (Nat.not_lt_zero _)
  | case2 s r n hlt => exact ⟨s, rfl, hlt⟩
  | case3 s r n hlt ih => exact ih (sub_lt_docCountAllSegs h hlt)

theorem segment_and_docnum (segs : List Seg) (n : Nat) (h : n < docCountAllSegs segs) :
    ∃ s off, segs[documentSegment (docOffsets segs 0) n]? = some s ∧
      (docOffsets segs 0)[documentSegment (docOffsets segs 0) n]? = some off ∧
      documentSegment (docOffsets segs 0) n = (locate segs n).1 ∧ n - off = (locate segs n).2 := by
  obtain ⟨a, off, b, c⟩ := bisect_locate segs 0 n h
  rw [Nat.zero_add] at a c
  obtain ⟨s, hs, _⟩ := locate_fst_lt segs n h
  have hi : documentSegment (docOffsets segs 0) n = (locate segs n).1 := by
    rw [documentSegment_eq, a, Nat.add_sub_cancel]
  exact ⟨s, off, hi ▸ hs, hi ▸ b, hi, Nat.sub_eq_of_eq_add ((Nat.add_comm _ _).trans c).symm⟩

/-- `(per-doc data, global doc number)` of every undeleted document, ascending. -/
def liveGlobal : List Seg → Nat → List (DocRec × Nat)
  | [], _ => []
  | s :: r, base => s.liveIdx.map (fun p => (p.1, p.2 + base)) ++ liveGlobal r (base + s.docCountAll)

/-- `is_deleted` by global number (reference definition). -/
def isDeletedG : List Seg → Nat → Bool
  | [], _ => false
  | s :: r, n => if n < s.docCountAll then s.isDeleted n else isDeletedG r (n - s.docCountAll)

theorem isDeletedG_cons_lt {s : Seg} {r : List Seg} {n : Nat} (h : n < s.docCountAll) :
    isDeletedG (s :: r) n = s.isDeleted n :=
  if_pos h

theorem isDeletedG_cons_ge {s : Seg} {r : List Seg} {n : Nat} (h : ¬ n < s.docCountAll) :
    isDeletedG (s :: r) n = isDeletedG r (n - s.docCountAll) :=
  if_neg h

theorem mem_liveIdx (s : Seg) (p : DocRec × Nat) :
    p ∈ s.liveIdx ↔ s.docs[p.2]? = some p.1 ∧ s.isDeleted p.2 = false := by
  simp only [Seg.liveIdx, List.mem_filter, List.mem_zipIdx_iff_getElem?, Bool.not_eq_eq_eq_not, Bool.not_true]

theorem liveIdx_lt (s : Seg) : ∀ p ∈ s.liveIdx, p.2 < s.docCountAll := by
  intro p hp
  exact (List.getElem?_eq_some_iff.mp ((mem_liveIdx s p).mp hp).1).1

theorem liveIdx_live (s : Seg) : ∀ p ∈ s.liveIdx, s.isDeleted p.2 = false :=
  fun p hp => ((mem_liveIdx s p).mp hp).2

theorem liveIdx_of_no_deletions (s : Seg) (h : s.deleted = []) : s.liveIdx = s.docs.zipIdx := by
  simp only [Seg.liveIdx, Seg.isDeleted, h]
  exact List.filter_eq_self.mpr (fun _ _ => rfl)

theorem liveDocs_of_no_deletions (s : Seg) (h : s.deleted = []) : s.liveDocs = s.docs := by
  rw [Seg.liveDocs, liveIdx_of_no_deletions s h]
  exact List.zipIdx_map_fst 0 s.docs

theorem liveDocs_mem_docs (s : Seg) : ∀ d ∈ s.liveDocs, d ∈ s.docs := by
  intro d hd
  obtain ⟨q, hq, rfl⟩ := List.mem_map.mp hd
  exact List.mem_of_getElem? ((mem_liveIdx s q).mp hq).1

theorem docCountAllSegs_eq_length (segs : List Seg) : docCountAllSegs segs = (segs.flatMap Seg.docs).length :=
  List.length_flatMap.symm

theorem docAt_eq_getElem? (segs : List Seg) (n : Nat) : docAt segs n = (segs.flatMap Seg.docs)[n]? := by
  induction segs generalizing n with
  | nil => rfl
  | cons s r ih => rw [docAt, ih, List.flatMap_cons, List.getElem?_append]; rfl

/-- In this form a deletion changes the filter and nothing else. -/
theorem liveGlobal_eq (segs : List Seg) (base : Nat) :
    liveGlobal segs base
      = ((segs.flatMap Seg.docs).zipIdx base).filter (fun p => !isDeletedG segs (p.2 - base)) := by
  induction segs generalizing base with
  | nil => rfl
  | cons s r ih =>
    rw [liveGlobal, ih, List.flatMap_cons, List.zipIdx_append, List.filter_append]
    congr 1
    · rw [Seg.liveIdx, zipIdx_filter_map_add]
      refine List.filter_congr (fun p hp => ?_)
      have := List.mem_zipIdx (x := p.1) (i := p.2) hp
      rw [isDeletedG_cons_lt (Nat.sub_lt_left_of_lt_add this.1 this.2.1)]
    · refine List.filter_congr (fun p hp => ?_)
      have := (List.mem_zipIdx (x := p.1) (i := p.2) hp).1
      rw [isDeletedG_cons_ge (Nat.not_lt.mpr (Nat.le_sub_of_add_le' this)), Nat.sub_sub]

theorem liveGlobal_pairwise (segs : List Seg) (base : Nat) :
    (liveGlobal segs base).Pairwise (fun a b => a.2 < b.2) :=
  liveGlobal_eq segs base ▸ (zipIdx_pairwise _ base).filter _

theorem mem_liveGlobal (segs : List Seg) (base : Nat) (q : DocRec × Nat) :
    q ∈ liveGlobal segs base ↔
      base ≤ q.2 ∧ docAt segs (q.2 - base) = some q.1 ∧ isDeletedG segs (q.2 - base) = false := by
  rw [liveGlobal_eq, List.mem_filter, List.mem_zipIdx_iff_le_and_getElem?_sub, docAt_eq_getElem?, Bool.not_eq_true',
    and_assoc]

theorem mem_liveGlobal_zero (segs : List Seg) (q : DocRec × Nat) :
    q ∈ liveGlobal segs 0 ↔ docAt segs q.2 = some q.1 ∧ isDeletedG segs q.2 = false :=
  (mem_liveGlobal segs 0 q).trans (and_iff_right (Nat.zero_le _))

theorem liveGlobal_lt (segs : List Seg) (base : Nat) :
    ∀ p ∈ liveGlobal segs base, p.2 < base + docCountAllSegs segs := by
  intro p hp
  rw [liveGlobal_eq] at hp
  exact docCountAllSegs_eq_length segs ▸ (List.mem_zipIdx (x := p.1) (i := p.2) (List.mem_filter.mp hp).1).2.1

theorem liveGlobal_mem_docs (segs : List Seg) (base : Nat) :
    ∀ q ∈ liveGlobal segs base, ∃ s ∈ segs, q.1 ∈ s.docs := by
  intro q hq
  have := ((mem_liveGlobal segs base q).mp hq).2.1
  rw [docAt_eq_getElem?] at this
  exact List.mem_flatMap.mp (List.mem_of_getElem? this)

theorem docAt_eq_some (segs : List Seg) (n : Nat) (h : n < docCountAllSegs segs) : ∃ d, docAt segs n = some d :=
  ⟨_, (docAt_eq_getElem? segs n).trans (List.getElem?_eq_getElem (docCountAllSegs_eq_length segs ▸ h))⟩

theorem liveGlobal_append (a b : List Seg) (base : Nat) :
    liveGlobal (a ++ b) base = liveGlobal a base ++ liveGlobal b (base + docCountAllSegs a) := by
  induction a generalizing base with
  | nil => simp [liveGlobal, docCountAllSegs]
  | cons s r ih => simp only [List.cons_append, liveGlobal, ih, docCountAllSegs_cons, List.append_assoc, Nat.add_assoc]

theorem contentOf_eq_liveGlobal (sc : Schema) (segs : List Seg) (base : Nat) :
    contentOf sc segs = (liveGlobal segs base).map (fun p => restrict sc p.1) := by
  induction segs generalizing base with
  | nil => rfl
  | cons s r ih =>
    simp only [liveGlobal, List.map_append, List.map_map, ← ih (base + s.docCountAll)]
    simp [contentOf, Seg.liveDocs]

theorem contentOf_append (sc : Schema) (a b : List Seg) : contentOf sc (a ++ b) = contentOf sc a ++ contentOf sc b := by
  simp [contentOf, List.flatMap_append]

theorem contentOf_singleton (sc : Schema) (s : Seg) : contentOf sc [s] = s.liveDocs.map (restrict sc) := by
  simp [contentOf]

theorem contentOf_perm (sc : Schema) {a b : List Seg} (h : a.Perm b) : (contentOf sc a).Perm (contentOf sc b) :=
  List.Perm.flatMap_right _ h

theorem isDeletedG_locate (segs : List Seg) (m : Nat) (s : Seg)
    (hs : segs[(locate segs m).1]? = some s) : isDeletedG segs m = s.isDeleted (locate segs m).2 := by
  fun_induction locate segs m with
  | case1 n => cases hs
  | case2 s0 r n hlt => cases hs; exact isDeletedG_cons_lt hlt
  | case3 s0 r n hlt ih => exact (isDeletedG_cons_ge hlt).trans (ih hs)

theorem liveGlobal_filter_deleted (segs : List Seg) (n : Nat) (h : isDeletedG segs n = true) :
    (liveGlobal segs 0).filter (fun p => p.2 != n) = liveGlobal segs 0 := by
  rw [List.filter_eq_self]
  intro q hq
  rw [bne_iff_ne]
  rintro rfl
  exact Bool.false_ne_true (((mem_liveGlobal_zero segs q).mp hq).2.symm.trans h)

theorem liveGlobal_filter_ne_self (segs : List Seg) (base n : Nat) (h : n < base ∨ base + docCountAllSegs segs ≤ n) :
    (liveGlobal segs base).filter (fun p => p.2 != n) = liveGlobal segs base := by
  rw [List.filter_eq_self]
  intro p hp
  have h1 := ((mem_liveGlobal segs base p).mp hp).1
  have h2 := liveGlobal_lt segs base p hp
  rw [bne_iff_ne]
  omega

theorem Seg.deleteDocument_docs (s : Seg) (l : Nat) (b : Bool) : (s.deleteDocument l b).docs = s.docs := by
  unfold Seg.deleteDocument
  split
  · split <;> rfl
  · rfl

theorem Seg.deleteDocument_posts (s : Seg) (l : Nat) (b : Bool) : (s.deleteDocument l b).posts = s.posts := by
  unfold Seg.deleteDocument
  split
  · split <;> rfl
  · rfl

theorem Seg.deleteDocument_count (s : Seg) (l : Nat) (b : Bool) :
    (s.deleteDocument l b).docCountAll = s.docCountAll := by
  simp [Seg.docCountAll, Seg.deleteDocument_docs]

/-- `hn`: the model's `erase` (for `set.remove`) removes one occurrence only. -/
theorem Seg.isDeleted_deleteDocument (s : Seg) (l i : Nat) (b : Bool) (hn : b = false → s.deleted.Nodup) :
    (s.deleteDocument l b).isDeleted i = if i = l then b else s.isDeleted i := by
  cases b with
  | true =>
    unfold Seg.deleteDocument Seg.isDeleted
    rw [if_pos rfl]
    split
    · next hc => split
                 · next he => exact he ▸ hc
                 · rfl
    · split
      · next he => simp [he]
      · next hne => simp [hne]
  | false =>
    simp only [Seg.deleteDocument, Seg.isDeleted, Bool.false_eq_true, if_false]
    rw [Bool.eq_iff_iff, List.contains_iff_mem, (hn rfl).mem_erase_iff]
    split
    · next he => simp [he]
    · next hne => simp [hne]

theorem Seg.deleteDocument_self (s : Seg) (l : Nat) : s.deleteDocument l (s.isDeleted l) = s := by
  unfold Seg.deleteDocument Seg.isDeleted
  cases h : s.deleted.contains l with
  | true => rfl
  | false => rw [if_neg Bool.false_ne_true, List.erase_of_not_mem (by simpa using h)]

theorem liveIdx_delete (s : Seg) (l : Nat) :
    (s.deleteDocument l true).liveIdx = s.liveIdx.filter (fun p => p.2 != l) := by
  simp only [Seg.liveIdx, Seg.deleteDocument_docs, List.filter_filter]
  apply List.filter_congr
  intro p _
  rw [Seg.isDeleted_deleteDocument s l p.2 true (fun h => nomatch h)]
  by_cases hp : p.2 = l <;> simp [hp]

theorem liveGlobal_singleton_delete (s : Seg) (l base : Nat) :
    liveGlobal [s.deleteDocument l true] base = (liveGlobal [s] base).filter (fun p => p.2 != l + base) := by
  simp only [liveGlobal, List.append_nil, liveIdx_delete, List.filter_map]
  congr 1
  apply List.filter_congr
  intro p _
  show (p.2 != l) = (p.2 + base != l + base)
  rw [Bool.eq_iff_iff, bne_iff_ne, bne_iff_ne]
  exact not_congr Nat.add_right_cancel_iff.symm

/-- The segment list after `delete_document(m, b)` for a valid number `m`. -/
def deleteAt (segs : List Seg) (m : Nat) (b : Bool) : List Seg :=
  segs.modify (locate segs m).1 (fun s => s.deleteDocument (locate segs m).2 b)

theorem deleteAt_map {β} (g : Seg → β) (hg : ∀ s l b, g (s.deleteDocument l b) = g s) (segs : List Seg) (m : Nat)
    (b : Bool) : (deleteAt segs m b).map g = segs.map g :=
  modify_map_of_eq g _ _ _ (fun s => hg s _ _)

theorem mem_deleteAt (segs : List Seg) (m : Nat) (b : Bool) (h : m < docCountAllSegs segs) (x : Seg)
    (hx : x ∈ deleteAt segs m b) : x ∈ segs ∨ ∃ s ∈ segs, ∃ l < s.docCountAll, x = s.deleteDocument l b := by
  obtain ⟨s', hs', hlt⟩ := locate_fst_lt segs m h
  obtain ⟨j, hj⟩ := List.getElem?_of_mem hx
  unfold deleteAt at hj
  rw [List.getElem?_modify, Option.map_eq_map] at hj
  obtain ⟨s, hs, hx⟩ := Option.map_eq_some_iff.mp hj
  split at hx
  · next he =>
    cases hs'.symm.trans (he ▸ hs)
    exact Or.inr ⟨_, List.mem_of_getElem? hs', _, hlt, hx.symm⟩
  · exact Or.inl (hx ▸ List.mem_of_getElem? hs)

theorem deleteAt_docs (segs : List Seg) (m : Nat) (b : Bool) :
    (deleteAt segs m b).flatMap Seg.docs = segs.flatMap Seg.docs := by
  rw [List.flatMap_def, List.flatMap_def, deleteAt_map _ Seg.deleteDocument_docs]

theorem docAt_deleteAt (segs : List Seg) (m n : Nat) (b : Bool) : docAt (deleteAt segs m b) n = docAt segs n := by
  rw [docAt_eq_getElem?, docAt_eq_getElem?, deleteAt_docs]

theorem isDeletedG_deleteAt (segs : List Seg) (m n : Nat) (b : Bool) (h : m < docCountAllSegs segs)
    (hn : b = false → ∀ s ∈ segs, s.deleted.Nodup) :
    isDeletedG (deleteAt segs m b) n = if n = m then b else isDeletedG segs n := by
  unfold deleteAt
  fun_induction locate segs m generalizing n with
  | case1 m => exact absurd h (Nat.not_lt_zero _)
  | case2 s r m hm =>
    -- the first segment is modified: inside it the segment-level fact, beyond it `n ≠ m`
    rw [List.modify_cons, if_pos rfl]
    by_cases hlt : n < s.docCountAll
    · rw [isDeletedG_cons_lt (by rwa [Seg.deleteDocument_count]), isDeletedG_cons_lt hlt]
      exact Seg.isDeleted_deleteDocument s m n b (fun hb => hn hb s List.mem_cons_self)
    · rw [isDeletedG_cons_ge (by rwa [Seg.deleteDocument_count]), isDeletedG_cons_ge hlt, Seg.deleteDocument_count,
        if_neg (fun he => hlt (by rw [he]; exact hm))]
  | case3 s r m hm ih =>
    rw [List.modify_succ_cons]
    by_cases hlt : n < s.docCountAll
    · rw [isDeletedG_cons_lt hlt, isDeletedG_cons_lt hlt, if_neg (fun he => hm (by rw [← he]; exact hlt))]
    · rw [isDeletedG_cons_ge hlt, isDeletedG_cons_ge hlt,
        ih (n - s.docCountAll) (sub_lt_docCountAllSegs h hm) (fun hb x hx => hn hb x (List.mem_cons_of_mem _ hx))]
      by_cases he : n = m
      · rw [if_pos he, if_pos (by rw [he])]
      · rw [if_neg he, if_neg (fun h' => he (by omega))]

theorem liveGlobal_deleteAt (segs : List Seg) (m : Nat) (h : m < docCountAllSegs segs) :
    liveGlobal (deleteAt segs m true) 0 = (liveGlobal segs 0).filter (fun p => p.2 != m) := by
  rw [liveGlobal_eq, liveGlobal_eq, deleteAt_docs, List.filter_filter]
  refine List.filter_congr (fun q _ => ?_)
  rw [isDeletedG_deleteAt segs m _ true h (fun hb => nomatch hb)]
  by_cases he : q.2 = m <;> simp [he]

theorem liveGlobal_undeleteAt (segs : List Seg) (m : Nat) (h : m < docCountAllSegs segs)
    (hn : ∀ s ∈ segs, s.deleted.Nodup) :
    (liveGlobal (deleteAt segs m false) 0).filter (fun p => p.2 != m) = (liveGlobal segs 0).filter (fun p => p.2 != m) ∧
    ∀ d, docAt segs m = some d → (d, m) ∈ liveGlobal (deleteAt segs m false) 0 := by
  have hdel := fun n => isDeletedG_deleteAt segs m n false h (fun _ => hn)
  refine ⟨?_, fun d hd => ?_⟩
  · rw [liveGlobal_eq, liveGlobal_eq, deleteAt_docs, List.filter_filter, List.filter_filter]
    refine List.filter_congr (fun q _ => ?_)
    rw [hdel]
    by_cases he : q.2 = m <;> simp [he]
  · rw [mem_liveGlobal_zero, docAt_deleteAt, hdel]
    exact ⟨hd, by simp⟩

theorem deleteAt_of_eq (segs : List Seg) (m : Nat) (b : Bool) (h : isDeletedG segs m = b) : deleteAt segs m b = segs := by
  unfold deleteAt
  apply List.ext_getElem?
  intro j
  rw [List.getElem?_modify]
  cases hs : segs[j]? with
  | none => rfl
  | some s =>
    rw [Option.map_eq_map, Option.map_some]
    split
    · next he => rw [← h, isDeletedG_locate segs m s (he ▸ hs), Seg.deleteDocument_self]
    · rfl

theorem contentOf_deleteAt_of_live (sc : Schema) (segs : List Seg) (n : Nat) (d : DocRec)
    (h : n < docCountAllSegs segs) (hd : docAt segs n = some d) (hg : isDeletedG segs n = false) :
    (contentOf sc segs).Perm (restrict sc d :: contentOf sc (deleteAt segs n true)) := by
  rw [contentOf_eq_liveGlobal _ segs 0, contentOf_eq_liveGlobal _ (deleteAt segs n true) 0, liveGlobal_deleteAt _ _ h]
  exact (perm_cons_filter_ne (liveGlobal_pairwise segs 0) ((mem_liveGlobal_zero segs (d, n)).mpr ⟨hd, hg⟩)).map _

theorem contentOf_undeleteAt (sc : Schema) (segs : List Seg) (n : Nat) (d : DocRec)
    (h : n < docCountAllSegs segs) (hn : ∀ s ∈ segs, s.deleted.Nodup) (hd : docAt segs n = some d)
    (hg : isDeletedG segs n = true) :
    (contentOf sc (deleteAt segs n false)).Perm (restrict sc d :: contentOf sc segs) := by
  obtain ⟨hfil, hmem⟩ := liveGlobal_undeleteAt segs n h hn
  have := (perm_cons_filter_ne (liveGlobal_pairwise _ 0) (hmem d hd)).map (fun p => restrict sc p.1)
  rw [hfil, liveGlobal_filter_deleted segs n hg, List.map_cons, ← contentOf_eq_liveGlobal, ← contentOf_eq_liveGlobal] at this
  exact this

end WM.Index
