import WM.Lemmas.FaithfulTree
import WM.Lemmas.QualityLeaf
import WM.Lemmas.QualityBinary
import WM.Lemmas.QualityInter
import WM.Lemmas.QualityWrap
import WM.Lemmas.QualityMulti
import WM.Lemmas.QualityCombo
/-! The quality contract (C12) assembled along the `Shape`. -/
namespace WM.Matcher

/-- Invariant of every matcher tree whose scores are non-negative: `WF` plus non-negative weights and
    constants, boosts satisfying `PB`, true block/term statistics with a monotone scorer at the posting-list leaves
    (and what `AUnion.WF` asks: positive scores and boost). -/
def W0 (PB : Rat → Prop) : (s : Shape) → St s → Prop
  | .null, _ => True
  | .list, m => ListM.WF m ∧ ListM.NN m
  | .leaf, m => LeafM.WF m ∧ LeafM.QData m
  | .union a b, m => W0 PB a m.a ∧ W0 PB b m.b
  | .dismax a b, m => W0 PB a m.a ∧ W0 PB b m.b
  | .inter a b, m => W0 PB a m.a ∧ W0 PB b m.b ∧ Inter.Aligned (den a) (den b) m
  | .andNot a b, m => W0 PB a m.a ∧ W0 PB b m.b ∧ AndNot.Ahead (den a) (den b) m
  | .andMaybe a b, m => W0 PB a m.a ∧ W0 PB b m.b ∧ AndMaybe.NotBehind (den a) (den b) m
  | .require a b, m => W0 PB a m.a ∧ W0 PB b m.b ∧ Inter.Aligned (den a) (den b) m
  | .boost c, m => W0 PB c m.child ∧ PB m.boost
  | .filter c, m => (W0 PB c m.child ∧ Filter.Passes (den c) m.ids m.exclude m.child) ∧ PB m.boost
  | .inverse c, m => (W0 PB c m.child ∧ Inverse.Stops (den c) m.limit m.missing m.child m.id) ∧ 0 ≤ m.weight
  | .const c, m => W0 PB c m.child ∧ 0 ≤ m.score
  | .multi c, m => Multi.WF (ops c) (den c) (full c) (W0 PB c) m
  | .aunion c, m => AUnion.WF (den c) (full c) (W0 PB c) m

/-- … and, in addition, every part whose quality is consulted supports block quality (`supports_block_quality()`):
    list leaves carry a scorer, no `InverseMatcher` on a scored path. -/
def WQ (PB : Rat → Prop) : (s : Shape) → St s → Prop
  | .null, _ => True
  | .list, m => (ListM.WF m ∧ ListM.NN m) ∧ m.scorer = true
  | .leaf, m => LeafM.WF m ∧ LeafM.QData m
  | .union a b, m => WQ PB a m.a ∧ WQ PB b m.b
  | .dismax a b, m => WQ PB a m.a ∧ WQ PB b m.b
  | .inter a b, m => WQ PB a m.a ∧ WQ PB b m.b ∧ Inter.Aligned (den a) (den b) m
  | .andNot a b, m => WQ PB a m.a ∧ W0 PB b m.b ∧ AndNot.Ahead (den a) (den b) m
  | .andMaybe a b, m => WQ PB a m.a ∧ WQ PB b m.b ∧ AndMaybe.NotBehind (den a) (den b) m
  | .require a b, m => WQ PB a m.a ∧ W0 PB b m.b ∧ Inter.Aligned (den a) (den b) m
  | .boost c, m => WQ PB c m.child ∧ PB m.boost
  | .filter c, m => (WQ PB c m.child ∧ Filter.Passes (den c) m.ids m.exclude m.child) ∧ PB m.boost
  | .inverse _, _ => False
  | .const c, m => WQ PB c m.child ∧ 0 ≤ m.score
  | .multi c, m => Multi.WF (ops c) (den c) (full c) (WQ PB c) m
  | .aunion c, m => AUnion.WF (den c) (full c) (WQ PB c) m

theorem tree_qfaithful (PB : Rat → Prop) (hPB : ∀ b, PB b → 0 < b) (s : Shape) :
    QFaithful (ops s) (den s) (full s) (WQ PB s) (W0 PB s) := by
  induction s with
  | null => exact null_qfaithful
  | list => exact ListM.qfaithful
  | leaf => exact LeafM.qfaithful
  | union a b iha ihb => exact Union.qfaithful iha ihb
  | dismax a b iha ihb => exact DisMax.qfaithful iha ihb
  | inter a b iha ihb => exact Inter.qfaithful iha ihb
  | andNot a b iha ihb => exact AndNot.qfaithful iha ihb
  | andMaybe a b iha ihb => exact AndMaybe.qfaithful iha ihb
  | require a b iha ihb => exact Require.qfaithful iha ihb
  | boost c ih => exact Boost.qfaithful PB hPB ih
  | filter c ih => exact Filter.qfaithful PB hPB ih
  | inverse c ih => exact Inverse.qfaithful ih
  | const c ih => exact Const.qfaithful ih
  | multi c ih => exact Multi.qfaithful ih
  | aunion c ih => exact AUnion.qfaithful ih

theorem W0.wf (PB : Rat → Prop) : ∀ (s : Shape) (m : St s), W0 PB s m → WF s m := by
  intro s
  induction s with
  | null => exact fun _ _ => trivial
  | list => exact fun _ h => h.1
  | leaf => exact fun _ h => h.1
  | union a b iha ihb | dismax a b iha ihb => exact fun m h => ⟨iha m.a h.1, ihb m.b h.2⟩
  | inter a b iha ihb | andNot a b iha ihb | andMaybe a b iha ihb | require a b iha ihb =>
    exact fun m h => ⟨iha m.a h.1, ihb m.b h.2.1, h.2.2⟩
  | boost c ih | const c ih => exact fun m h => ih m.child h.1
  | filter c ih | inverse c ih => exact fun m h => ⟨ih m.child h.1.1, h.1.2⟩
  | multi c ih => exact fun _ h => Multi.WF.mono ih h
  | aunion c ih => exact fun _ h => AUnion.WF.mono ih h

end WM.Matcher
