import WM.Lemmas.CollectViews
import WM.Lemmas.Yields
/-! For C14.collapse: `bisect.insort`, the best `n` documents of a collapse key, what one `CollapseCollector.collect`
    does to a full or a short list (`collapseCollect_key`), the invariant `CInv` with one induction over the run
    (`collapse_run`), and the test `keepsB` for the documents kept. -/
namespace WM.Collect

theorem insortKD_perm (x : Key × Nat) (l : List (Key × Nat)) : (insortKD x l).Perm (x :: l) := by
  fun_induction insortKD x l with
  | case1 | case3 => exact .refl _
  | case2 y ys _ ih => exact (ih.cons y).trans (.swap x y ys)

theorem mem_insortKD {x y : Key × Nat} {l : List (Key × Nat)} : y ∈ insortKD x l ↔ y = x ∨ y ∈ l := by
  rw [(insortKD_perm x l).mem_iff]; simp

theorem insortKD_length (x : Key × Nat) (l : List (Key × Nat)) : (insortKD x l).length = l.length + 1 :=
  (insortKD_perm x l).length_eq

theorem insortKD_sorted (x : Key × Nat) (l : List (Key × Nat))
    (hl : l.Pairwise (fun a b => kdLe a b = true)) :
    (insortKD x l).Pairwise (fun a b => kdLe a b = true) := by
  fun_induction insortKD x l with
  | case1 => exact List.pairwise_singleton _ _
  | case2 y ys hy ih =>
    rw [List.pairwise_cons] at hl ⊢
    refine ⟨fun z hz => ?_, ih hl.2⟩
    rcases mem_insortKD.mp hz with rfl | hz
    · exact hy
    · exact hl.1 z hz
  | case3 y ys hy =>
    refine List.pairwise_cons.mpr ⟨fun z hz => ?_, hl⟩
    rcases List.mem_cons.mp hz with rfl | hz
    · exact kdLe_sortOrder.of_not hy
    · exact kdLe_sortOrder.trans x y z (kdLe_sortOrder.of_not hy) (List.rel_of_pairwise_cons hl hz)

theorem mergeSort_concat (l : List (Key × Nat)) (x : Key × Nat) :
    (l ++ [x]).mergeSort kdLe = insortKD x (l.mergeSort kdLe) :=
  kdLe_sortOrder.mergeSort_eq
    ((insortKD_perm x _).trans (((List.mergeSort_perm l kdLe).cons x).trans (List.perm_append_singleton x l).symm))
    (insortKD_sorted x _ (kdLe_sortOrder.sorted l))

/-- Unlike `List.mergeSort`, which recurses on a measure, the right side reduces: concrete orders can
    be evaluated. -/
theorem mergeSort_eq_insort (l : List (Key × Nat)) :
    l.mergeSort kdLe = l.foldl (fun acc x => insortKD x acc) [] := by
  have h : ∀ l0 : List (Key × Nat),
      (l0 ++ l).mergeSort kdLe = l.foldl (fun acc x => insortKD x acc) (l0.mergeSort kdLe) := by
    induction l with
    | nil => intro l0; simp
    | cons x l ih => intro l0; rw [List.foldl_cons, ← mergeSort_concat, ← ih, List.append_assoc]; rfl
  simpa using h []

theorem insortKD_take (x : Key × Nat) :
    ∀ (s : List (Key × Nat)) (n : Nat), (insortKD x s).take n = (insortKD x (s.take n)).take n
  | _, 0 => by simp
  | [], _ + 1 => by simp
  | y :: ys, n + 1 => by
    simp only [List.take_succ_cons, insortKD]
    split
    · rw [List.take_succ_cons, List.take_succ_cons, insortKD_take x ys n]
    · rw [List.take_succ_cons, List.take_succ_cons, ← List.take_succ_cons (a := y), List.take_take,
        Nat.min_eq_left (Nat.le_succ n)]

theorem insortKD_concat_of_not {x w : Key × Nat} (h : kdLe w x = false) :
    ∀ l : List (Key × Nat), insortKD x (l ++ [w]) = insortKD x l ++ [w]
  | [] => by simp [insortKD, h]
  | y :: ys => by
    simp only [List.cons_append, insortKD]
    split
    · rw [insortKD_concat_of_not h ys]; rfl
    · rfl

theorem insortKD_of_forall_le {x : Key × Nat} :
    ∀ l : List (Key × Nat), (∀ y ∈ l, kdLe y x = true) → insortKD x l = l ++ [x]
  | [], _ => rfl
  | y :: ys, h => by
    simp only [insortKD, h y (by simp), if_true, List.cons_append]
    rw [insortKD_of_forall_le ys fun z hz => h z (List.mem_cons_of_mem _ hz)]

def keyDocs (ckey : Nat → Option Int) (c : Int) (docs : List Nat) : List Nat :=
  docs.filter fun d => ckey d == some c

def pairsOf (skey : Nat → Key) (l : List Nat) : List (Key × Nat) := l.map fun d => (skey d, d)

/-- The best `n` documents of collapse key `c` among `docs`, in `(sortkey, docnum)` order. -/
def bestOf (ckey : Nat → Option Int) (skey : Nat → Key) (n : Nat) (docs : List Nat) (c : Int) : List (Key × Nat) :=
  ((pairsOf skey (keyDocs ckey c docs)).mergeSort kdLe).take n

theorem keyDocs_snoc_same {ckey : Nat → Option Int} {c : Int} {d : Nat} (pre : List Nat) (h : ckey d = some c) :
    keyDocs ckey c (pre ++ [d]) = keyDocs ckey c pre ++ [d] := by
  simp [keyDocs, List.filter_append, h]

theorem keyDocs_snoc_other {ckey : Nat → Option Int} {c : Int} {d : Nat} (pre : List Nat) (h : ckey d ≠ some c) :
    keyDocs ckey c (pre ++ [d]) = keyDocs ckey c pre := by
  simp [keyDocs, List.filter_append, h]

theorem bestOf_snoc_other {ckey : Nat → Option Int} {d : Nat} {c : Int} (skey : Nat → Key) (n : Nat) (pre : List Nat)
    (h : ckey d ≠ some c) : bestOf ckey skey n (pre ++ [d]) c = bestOf ckey skey n pre c := by
  simp [bestOf, keyDocs_snoc_other pre h]

theorem mem_bestOf {ckey : Nat → Option Int} {skey : Nat → Key} {n : Nat} {docs : List Nat} {c : Int}
    {y : Key × Nat} (hy : y ∈ bestOf ckey skey n docs c) :
    y.2 ∈ docs ∧ ckey y.2 = some c ∧ y.1 = skey y.2 := by
  have h1 := List.mem_of_mem_take hy
  have h2 := (List.mergeSort_perm _ kdLe).subset h1
  obtain ⟨p, hp, rfl⟩ := List.mem_map.mp h2
  have := List.mem_filter.mp hp
  exact ⟨this.1, by simpa using this.2, rfl⟩

theorem bestOf_snoc {ckey : Nat → Option Int} {d : Nat} {c : Int} (skey : Nat → Key) (n : Nat) (pre : List Nat)
    (hc : ckey d = some c) :
    bestOf ckey skey n (pre ++ [d]) c = (insortKD (skey d, d) (bestOf ckey skey n pre c)).take n := by
  unfold bestOf
  rw [keyDocs_snoc_same pre hc, pairsOf, List.map_append, List.map_singleton, mergeSort_concat,
    insortKD_take]
  rfl

theorem bestOf_nodup {ckey : Nat → Option Int} {skey : Nat → Key} {n : Nat} {docs : List Nat} {c : Int}
    (hd : docs.Nodup) : (bestOf ckey skey n docs c).Nodup := by
  unfold bestOf
  apply List.Nodup.sublist (List.take_sublist _ _)
  apply (List.mergeSort_perm _ kdLe).nodup_iff.mpr
  unfold pairsOf keyDocs
  rw [List.Nodup, List.pairwise_map]
  have h := hd.sublist (List.filter_sublist (p := fun d => ckey d == some c))
  exact h.imp (fun hne heq => hne (Prod.mk.inj heq).2)

/-- Membership in the documents a collapser keeps, as a Boolean test: no key, or among the best `n`
    of its key. -/
def keepsB (ckey : Nat → Option Int) (skey : Nat → Key) (n : Nat) (docs : List Nat) (d : Nat) : Bool :=
  match ckey d with
  | none => true
  | some c => (bestOf ckey skey n docs c).contains (skey d, d)

theorem keepsB_iff (ckey : Nat → Option Int) (skey : Nat → Key) (n : Nat) (docs : List Nat) (d : Nat) :
    keepsB ckey skey n docs d = true ↔
      (ckey d = none ∨ ∃ c, ckey d = some c ∧ (skey d, d) ∈ bestOf ckey skey n docs c) := by
  unfold keepsB
  cases h : ckey d with
  | none => simp
  | some c => simp

theorem keepsB_key {ckey : Nat → Option Int} {skey : Nat → Key} {n : Nat} {docs : List Nat} {d : Nat} {c : Int}
    (h : ckey d = some c) : keepsB ckey skey n docs d = true ↔ (skey d, d) ∈ bestOf ckey skey n docs c := by
  simp [keepsB, h]

theorem keepsB_snoc_other {ckey : Nat → Option Int} {skey : Nat → Key} {n : Nat} {pre : List Nat} {d d' : Nat}
    (h : ∀ c, ckey d' = some c → ckey d ≠ some c) :
    keepsB ckey skey n (pre ++ [d]) d' = keepsB ckey skey n pre d' := by
  unfold keepsB
  cases hc : ckey d' with
  | none => rfl
  | some c => exact congrArg (·.contains (skey d', d')) (bestOf_snoc_other skey n pre (h c hc))

/-- Invariant of `CollapseCollector.collect` after the documents `pre`. -/
structure CInv (ckey : Nat → Option Int) (skey : Nat → Key) (n : Nat) (pre : List Nat) (st : CollapseSt) : Prop where
  lists : ∀ c, dictGet c [] st.lists = bestOf ckey skey n pre c
  kept : ∀ d, d ∈ st.kept ↔
    d ∈ pre ∧ (ckey d = none ∨ ∃ c, ckey d = some c ∧ (skey d, d) ∈ bestOf ckey skey n pre c)
  counts : ∀ c, dictGet c 0 st.counts + (bestOf ckey skey n pre c).length = (keyDocs ckey c pre).length

theorem insortKD_concat {k : Key} {d : Nat} {B : List (Key × Nat)} {w : Key × Nat}
    (hs : (B ++ [w]).Pairwise (fun a b => kdLe a b = true)) (hd : w.2 ≤ d) :
    insortKD (k, d) (B ++ [w]) =
      if keyLe k w.1 && !keyLe w.1 k then insortKD (k, d) B ++ [w] else B ++ [w] ++ [(k, d)] := by
  cases hk : keyLe w.1 k
  · have hk' : keyLe k w.1 = true := (keyLe_total _ _).resolve_right (by simp [hk])
    rw [hk', insortKD_concat_of_not (by rw [← Bool.not_eq_true, kdLe_iff_keyLe]; simp [hk])]; rfl
  · have hwx : kdLe w (k, d) = true := (kdLe_iff_keyLe _ _).mpr ⟨hk, fun _ => hd⟩
    rw [Bool.not_true, Bool.and_false, if_neg Bool.false_ne_true]
    refine insortKD_of_forall_le _ fun y hy => ?_
    rcases List.mem_append.mp hy with hy | hy
    · exact kdLe_sortOrder.trans _ _ _ ((List.pairwise_append.mp hs).2.2 y hy w (by simp)) hwx
    · rw [List.mem_singleton.mp hy]; exact hwx

/-- `CollapseCollector.collect` for a document with key `c`, the largest number so far: it is inserted into the
    list of `c`; what then exceeds `n` entries (the old last entry, or the document itself) is counted and
    removed from the child. -/
theorem collapseCollect_key {ckey : Nat → Option Int} {skey : Nat → Key} {n : Nat} {st : CollapseSt} {d : Nat}
    {c : Int} {best : List (Key × Nat)} (hn : 1 ≤ n) (hk : ckey d = some c) (hb : dictGet c [] st.lists = best)
    (hs : best.Pairwise (fun a b => kdLe a b = true)) (hd : ∀ y ∈ best, y.2 < d) (hlen : best.length ≤ n)
    (hdk : d ∉ st.kept) :
    Yields (collapseCollect ckey skey n st d) fun st' =>
      (∀ c', dictGet c' [] st'.lists =
        if c' = c then (insortKD (skey d, d) best).take n else dictGet c' [] st.lists) ∧
      (∀ c', dictGet c' 0 st'.counts =
        if c' = c then dictGet c 0 st.counts + ((insortKD (skey d, d) best).drop n).length
        else dictGet c' 0 st.counts) ∧
      st'.kept = (st.kept ++ [d]).filter fun d' => ((insortKD (skey d, d) best).drop n).all (d' != ·.2) := by
  simp only [collapseCollect, hk, hb]
  by_cases hroom : best.length < n
  · have hl : (insortKD (skey d, d) best).length ≤ n := by rw [insortKD_length]; exact hroom
    rw [if_pos hroom, List.take_of_length_le hl, List.drop_of_length_le hl]
    refine .ok ⟨fun c' => dictGet_update _ _ _ _ _ _, fun c' => ?_, (List.filter_eq_self.mpr fun _ _ => rfl).symm⟩
    split
    · next h => rw [h]; rfl
    · rfl
  · have hfull : best.length = n := Nat.le_antisymm hlen (Nat.le_of_not_lt hroom)
    rw [if_neg hroom]
    cases hw : best.getLast? with
    | none => rw [List.getLast?_eq_none_iff.mp hw] at hroom; exact absurd hn hroom
    | some w =>
      obtain ⟨B, rfl⟩ := List.getLast?_eq_some_iff.mp hw
      have hwd : w.2 < d := hd w (by simp)
      have hB : (insortKD (skey d, d) B).length = n := (insortKD_length _ _).trans (List.length_append.symm.trans hfull)
      rw [insortKD_concat hs (Nat.le_of_lt hwd), List.dropLast_concat]
      dsimp only
      by_cases hlt : (keyLe (skey d) w.1 && !keyLe w.1 (skey d)) = true
      · rw [if_pos hlt, if_pos hlt, List.take_left' hB, List.drop_left' hB]
        refine .ok ⟨fun c' => dictGet_update _ _ _ _ _ _, fun c' => dictGet_update _ _ _ _ _ _, ?_⟩
        simp [List.filter_append, Nat.ne_of_gt hwd]
      · rw [if_neg hlt, if_neg hlt, List.take_left' hfull, List.drop_left' hfull]
        refine .ok ⟨fun c' => ?_, fun c' => dictGet_update _ _ _ _ _ _, ?_⟩
        · split
          · next h => rw [h, hb]
          · rfl
        · rw [List.filter_append, List.filter_eq_self.mpr fun a ha => ?_]
          · simp
          · simpa using fun h : a = d => hdk (h ▸ ha)

theorem collapse_step (ckey : Nat → Option Int) (skey : Nat → Key) (n : Nat) (hn : 1 ≤ n)
    (pre : List Nat) (d : Nat) (st : CollapseSt)
    (hinv : CInv ckey skey n pre st) (hlt : ∀ p ∈ pre, p < d) (hnd : pre.Nodup) :
    Yields (collapseCollect ckey skey n st d) fun st' =>
      CInv ckey skey n (pre ++ [d]) st' ∧ st'.kept.Sublist (st.kept ++ [d]) := by
  have hdpre : d ∉ pre := fun h => Nat.lt_irrefl _ (hlt d h)
  cases hk : ckey d with
  | none =>
    have hno : ∀ c, ckey d ≠ some c := fun c h => by rw [hk] at h; cases h
    simp only [collapseCollect, hk]
    refine .ok ⟨⟨fun c => ?_, fun d' => ?_, fun c => ?_⟩, List.Sublist.refl _⟩
    · rw [bestOf_snoc_other skey n pre (hno c)]; exact hinv.lists c
    · show d' ∈ st.kept ++ [d] ↔ _
      rw [← keepsB_iff, keepsB_snoc_other fun c _ => hno c, List.mem_append, List.mem_append, List.mem_singleton,
        hinv.kept, ← keepsB_iff, or_and_right, and_iff_left_of_imp (a := d' = d)]
      rintro rfl
      simp only [keepsB, hk]
    · rw [bestOf_snoc_other skey n pre (hno c), keyDocs_snoc_other pre (hno c)]
      exact hinv.counts c
  | some c =>
    have hne : ∀ c', c' ≠ c → ckey d ≠ some c' := fun c' h e => h (Option.some.inj (e.symm.trans hk))
    refine (collapseCollect_key (skey := skey) hn hk (hinv.lists c)
      ((kdLe_sortOrder.sorted _).sublist (List.take_sublist _ _)) (fun y hy => hlt _ (mem_bestOf hy).1)
      (List.length_take_le _ _) fun h => hdpre ((hinv.kept d).mp h).1).mono ?_
    rintro st' ⟨hl, hc, hK⟩
    rw [← bestOf_snoc skey n pre hk] at hl
    refine ⟨⟨fun c' => ?_, fun d' => ?_, fun c' => ?_⟩, hK ▸ List.filter_sublist⟩
    · rw [hl]
      split
      · next h => rw [h]
      · next h => rw [hinv.lists, bestOf_snoc_other skey n pre (hne c' h)]
    · have hA : ∀ y ∈ insortKD (skey d, d) (bestOf ckey skey n pre c), y = (skey y.2, y.2) ∧ ckey y.2 = some c := by
        intro y hy
        rcases mem_insortKD.mp hy with rfl | hy
        · exact ⟨rfl, hk⟩
        · exact ⟨Prod.ext (mem_bestOf hy).2.2 rfl, (mem_bestOf hy).2.1⟩
      have hnodup : (insortKD (skey d, d) (bestOf ckey skey n pre c)).Nodup :=
        (insortKD_perm _ _).nodup_iff.mpr
          (List.nodup_cons.mpr ⟨fun h => hdpre (mem_bestOf h).1, bestOf_nodup hnd⟩)
      rw [← List.take_append_drop n (insortKD _ _), List.nodup_append] at hnodup
      rw [hK, List.mem_filter, List.all_eq_true, List.mem_append, List.mem_append, List.mem_singleton, hinv.kept,
        ← keepsB_iff, ← keepsB_iff]
      by_cases hc' : ckey d' = some c
      · -- a document of key `c` is judged by the new list of `c`: the entries that did not fall off
        rw [keepsB_key hc', keepsB_key hc', bestOf_snoc skey n pre hk]
        constructor
        · rintro ⟨h1, h2⟩
          have hm : (skey d', d') ∈ insortKD (skey d, d) (bestOf ckey skey n pre c) :=
            mem_insortKD.mpr (h1.elim (fun h => Or.inr h.2) fun h => Or.inl (by rw [h]))
          rw [← List.take_append_drop n (insortKD _ _), List.mem_append] at hm
          rcases hm with hm | hm
          · exact ⟨h1.imp_left And.left, hm⟩
          · exact absurd rfl (bne_iff_ne.mp (h2 _ hm))
        · rintro ⟨-, h2⟩
          refine ⟨?_, fun y hy => bne_iff_ne.mpr fun h => ?_⟩
          · rcases mem_insortKD.mp (List.mem_of_mem_take h2) with h | h
            · exact Or.inr (Prod.mk.inj h).2
            · exact Or.inl ⟨(mem_bestOf h).1, h⟩
          · -- in the list, a pair is determined by its document
            exact hnodup.2.2 _ h2 y hy (by rw [(hA y (List.mem_of_mem_drop hy)).1, h])
      · -- a document of another key, or of none, keeps its status
        have hd' : d' ≠ d := fun h => hc' (h ▸ hk)
        rw [keepsB_snoc_other fun c'' h e => hc' (h.trans (e.symm.trans hk)), or_iff_left hd', or_iff_left hd',
          and_iff_left fun y hy => bne_iff_ne.mpr fun h : d' = y.2 => hc' (h ▸ (hA y (List.mem_of_mem_drop hy)).2)]
    · rw [hc]
      split
      · next h =>
        have hlen := congrArg List.length (List.take_append_drop n (insortKD (skey d, d) (bestOf ckey skey n pre c)))
        rw [List.length_append, insortKD_length] at hlen
        rw [h, keyDocs_snoc_same pre hk, bestOf_snoc skey n pre hk, List.length_append,
          List.length_singleton, ← hinv.counts c, Nat.add_assoc, Nat.add_comm (List.length _), hlen, Nat.add_assoc]
      · next h =>
        rw [bestOf_snoc_other skey n pre (hne c' h), keyDocs_snoc_other pre (hne c' h)]
        exact hinv.counts c'

theorem collapseRun_inv (ckey : Nat → Option Int) (skey : Nat → Key) (n : Nat) (hn : 1 ≤ n) :
    ∀ (docs pre : List Nat) (st : CollapseSt), CInv ckey skey n pre st → (pre ++ docs).Pairwise (· < ·) →
      Yields (collapseRun ckey skey n docs st) fun st' =>
        CInv ckey skey n (pre ++ docs) st' ∧ st'.kept.Sublist (st.kept ++ docs) := by
  intro docs
  induction docs with
  | nil => intro pre st hinv _; exact .ok ⟨by simpa using hinv, by simp⟩
  | cons d ds ih =>
    intro pre st hinv hasc
    have hp := List.pairwise_append.mp hasc
    obtain ⟨st1, h1, hinv1, hs1⟩ := collapse_step ckey skey n hn pre d st hinv
      (fun p hp' => hp.2.2 p hp' d (by simp)) (hp.1.imp Nat.ne_of_lt)
    rw [List.append_cons] at hasc ⊢
    simp only [collapseRun, h1]
    refine (ih (pre ++ [d]) st1 hinv1 hasc).mono fun st2 h2 => ⟨h2.1, ?_⟩
    exact List.append_cons .. ▸ h2.2.trans (hs1.append_right ds)

theorem bestOf_length (ckey : Nat → Option Int) (skey : Nat → Key) (n : Nat) (docs : List Nat) (c : Int) :
    (bestOf ckey skey n docs c).length = min n (keyDocs ckey c docs).length := by
  rw [bestOf, List.length_take, (List.mergeSort_perm _ kdLe).length_eq, pairsOf, List.length_map]

theorem collapse_run (ckey : Nat → Option Int) (skey : Nat → Key) (n : Nat) (hn : 1 ≤ n) (docs : List Nat)
    (hasc : docs.Pairwise (· < ·)) :
    Yields (collapseRun ckey skey n docs {}) fun st => CInv ckey skey n docs st ∧ st.kept.Sublist docs ∧
      ∀ c, dictGet c 0 st.counts = (keyDocs ckey c docs).length - min n (keyDocs ckey c docs).length := by
  have h0 : CInv ckey skey n [] ({} : CollapseSt) :=
    ⟨fun c => by simp [bestOf, keyDocs, pairsOf, dictGet_nil], fun d => by simp,
     fun c => by simp [bestOf, keyDocs, pairsOf, dictGet_nil]⟩
  refine (collapseRun_inv ckey skey n hn docs [] {} h0 hasc).mono fun st h => ⟨h.1, h.2, fun c => ?_⟩
  exact Nat.eq_sub_of_add_eq (bestOf_length .. ▸ h.1.counts c)

end WM.Collect
