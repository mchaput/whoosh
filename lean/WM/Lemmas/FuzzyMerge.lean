import WM.Lemmas.FindMatches
import WM.Lemmas.Basics
import WM.Lemmas.Yields
/-! `MultiReader._merge_terms`, `terms_from`, `expand_prefix`: the merged term list of a
multi-segment reader is the strictly sorted union of the segment term lists, and the early `return`
of `expand_prefix` loses nothing (the terms that start with a prefix are contiguous).

The entries `(head, rest)` of the loop's `current` are read back as the lists they stand for
(`current = ls.filterMap curHead`): one round removes the least term from every list (`round_eq`), and
what the loop yields depends only on the flattened lists. -/
namespace WM.Lev

theorem minTerm_spec (c : Cur) (cs : List Cur) :
    (∃ x, x ∈ c :: cs ∧ x.1 = minTerm c cs) ∧ ∀ x, x ∈ c :: cs → minTerm c cs ≤ x.1 := by
  induction cs generalizing c with
  | nil =>
    exact ⟨⟨c, List.mem_singleton_self c, rfl⟩, fun x hx => List.mem_singleton.mp hx ▸ List.le_refl _⟩
  | cons c' rest ih =>
    obtain ⟨⟨x, hx, hxe⟩, hle⟩ := ih c'
    rw [minTerm]
    by_cases h : lexLt (minTerm c' rest) c.1 = true
    · rw [if_pos h]
      refine ⟨⟨x, List.mem_cons_of_mem _ hx, hxe⟩, fun y hy => ?_⟩
      rcases List.mem_cons.mp hy with rfl | hy
      · exact List.le_of_lt ((lexLt_iff _ _).mp h)
      · exact hle y hy
    · rw [if_neg h]
      refine ⟨⟨c, List.mem_cons_self .., rfl⟩, fun y hy => ?_⟩
      rcases List.mem_cons.mp hy with rfl | hy
      · exact List.le_refl _
      · exact List.le_trans (List.not_lt.mp fun hlt => h ((lexLt_iff _ _).mpr hlt)) (hle y hy)

theorem flatten_curHead (ls : List (List (List Nat))) :
    ((ls.filterMap curHead).map fun c => c.1 :: c.2).flatten = ls.flatten := by
  induction ls with
  | nil => rfl
  | cons l ls ih =>
    cases l with
    | nil => exact ih
    | cons t r =>
      rw [List.filterMap_cons_some (f := curHead) (a := t :: r) rfl, List.map_cons, List.flatten_cons,
        List.flatten_cons, ih]

theorem mem_curHead {ls : List (List (List Nat))} {c : Cur} (h : c ∈ ls.filterMap curHead) :
    c.1 :: c.2 ∈ ls := by
  obtain ⟨l, hl, hc⟩ := List.mem_filterMap.mp h
  cases l with
  | nil => cases hc
  | cons t r => cases hc; exact hl

theorem step_eq {term a : List Nat} {l : List (List Nat)} (hs : SortedLex (a :: l)) (hle : term ≤ a) :
    (if a == term then advance term l else some (a, l)) = curHead ((a :: l).filter (· != term)) := by
  have hl : ∀ t, t ∈ l → (t != term) = true := fun t ht =>
    bne_iff_ne.mpr fun e =>
      List.lt_irrefl _ (e ▸ List.lt_of_le_of_lt hle ((List.pairwise_cons.mp hs).1 t ht))
  rw [List.filter_cons, List.filter_eq_self.mpr hl]
  by_cases ha : a = term
  · subst ha
    rw [if_pos (beq_self_eq_true a), if_neg (by simp)]
    cases l with
    | nil => rfl
    | cons u r => rw [advance, if_neg (by simpa using hl u (List.mem_cons_self ..))]; rfl
  · rw [if_neg (by simpa using ha), if_pos (by simpa using ha)]; rfl

theorem round_eq (term : List Nat) (ls : List (List (List Nat))) (hs : ∀ l, l ∈ ls → SortedLex l)
    (hge : ∀ t, t ∈ ls.flatten → term ≤ t) :
    ((ls.filterMap curHead).filterMap fun x => if x.1 == term then advance term x.2 else some x) =
      (ls.map (List.filter (· != term))).filterMap curHead := by
  induction ls with
  | nil => rfl
  | cons l ls ih =>
    have ih := ih (fun l h => hs l (List.mem_cons_of_mem _ h))
      fun t h => hge t (List.flatten_cons ▸ List.mem_append_right _ h)
    cases l with
    | nil => exact ih
    | cons a l =>
      have ha : term ≤ a := hge a (List.flatten_cons ▸ List.mem_append_left _ (List.mem_cons_self ..))
      rw [List.filterMap_cons_some (f := curHead) (a := a :: l) rfl, List.filterMap_cons, List.map_cons,
        List.filterMap_cons, ← ih, ← step_eq (hs _ (List.mem_cons_self ..)) ha]

theorem mergeLoop_spec (fuel : Nat) : ∀ (ls : List (List (List Nat))), (∀ l, l ∈ ls → SortedLex l) →
    ls.flatten.length ≤ fuel →
    Yields (mergeLoop fuel (ls.filterMap curHead)) fun r => SortedLex r ∧ ∀ t, t ∈ r ↔ t ∈ ls.flatten := by
  induction fuel with
  | zero =>
    intro ls _ hw
    have h0 := List.eq_nil_of_length_eq_zero (Nat.le_zero.mp hw)
    have := flatten_curHead ls
    cases h : ls.filterMap curHead with
    | nil => exact .ok ⟨List.Pairwise.nil, by simp [h0]⟩
    | cons c cs => rw [h, h0] at this; cases this
  | succ fuel ih =>
    intro ls hs hw
    cases h : ls.filterMap curHead with
    | nil =>
      have := flatten_curHead ls
      rw [h] at this
      exact .ok ⟨List.Pairwise.nil, by simp [← this]⟩
    | cons c cs =>
      obtain ⟨⟨x, hx, hxe⟩, hmin⟩ := minTerm_spec c cs
      rw [mergeLoop, ← h]
      generalize minTerm c cs = term at hxe hmin
      rw [← h] at hx hmin
      have hterm : term ∈ ls.flatten :=
        List.mem_flatten.mpr ⟨_, mem_curHead hx, hxe ▸ List.mem_cons_self ..⟩
      have hge : ∀ t, t ∈ ls.flatten → term ≤ t := by
        intro t ht
        obtain ⟨l, hl, htl⟩ := List.mem_flatten.mp ht
        cases l with
        | nil => cases htl
        | cons a l' =>
          exact List.le_trans (hmin (a, l') (List.mem_filterMap.mpr ⟨_, hl, rfl⟩))
            (sorted_head_le (hs _ hl) t htl)
      have hfl : (ls.map (List.filter (· != term))).flatten = ls.flatten.filter (· != term) :=
        List.filter_flatten.symm
      rw [round_eq term ls hs hge]
      refine (ih (ls.map (List.filter (· != term)))
        (fun l hl => by
          obtain ⟨l0, hl0, rfl⟩ := List.mem_map.mp hl
          exact (hs l0 hl0).sublist List.filter_sublist)
        (by
          rw [hfl]
          have := List.length_filter_lt_length_iff_exists (p := (· != term)).mpr ⟨term, hterm, by simp⟩
          omega)).map ?_
      rintro r ⟨hsr, hmem⟩
      simp only [hfl, List.mem_filter, bne_iff_ne, ne_eq] at hmem
      refine ⟨List.pairwise_cons.mpr ⟨fun t ht => ?_, hsr⟩, fun t => ?_⟩
      · obtain ⟨h1, h2⟩ := (hmem t).mp ht
        exact (List.le_iff_lt_or_eq.mp (hge t h1)).resolve_right (Ne.symm h2)
      · rw [List.mem_cons, hmem]
        by_cases he : t = term
        · subst he; exact ⟨fun _ => hterm, fun _ => Or.inl rfl⟩
        · exact ⟨fun h => h.elim (absurd · he) (·.1), fun h => Or.inr ⟨h, he⟩⟩

theorem mergeTerms_spec (its : List (List (List Nat))) (hs : ∀ l, l ∈ its → SortedLex l) :
    Yields (mergeTerms its) fun m => SortedLex m ∧ ∀ t, t ∈ m ↔ ∃ l, l ∈ its ∧ t ∈ l := by
  simp only [← List.mem_flatten]
  have hfl := flatten_curHead its
  unfold mergeTerms
  split
  · rename_i t r heq
    rw [heq] at hfl
    refine .ok ⟨hs _ (mem_curHead (heq ▸ List.mem_singleton_self _)), fun x => ?_⟩
    rw [← hfl, List.map_singleton, List.flatten_singleton]
  · rw [show ((its.filterMap curHead).map fun c => c.2.length + 1).sum = its.flatten.length by
      rw [← hfl, List.length_flatten, List.map_map]; rfl]
    exact mergeLoop_spec _ its hs (Nat.le_refl _)

theorem termsFrom_eq (lex : List (List Nat)) (pre : List Nat) (hs : SortedLex lex) :
    termsFrom lex pre = lex.filter (lexLe pre) := by
  unfold termsFrom
  induction lex with
  | nil => rfl
  | cons a l ih =>
    rw [List.dropWhile_cons, List.filter_cons, lexLe]
    cases h : lexLt a pre with
    | true => exact ih (List.pairwise_cons.mp hs).2
    | false =>
      refine congrArg (a :: ·) (List.filter_eq_self.mpr fun t ht => (lexLe_iff pre t).mpr ?_).symm
      exact List.le_trans ((lexLe_iff pre a).mp (by rw [lexLe, h]; rfl))
        (sorted_head_le hs t (List.mem_cons_of_mem _ ht))

theorem prefix_convex (pre a b : List Nat) (h1 : pre ≤ a) (h2 : a ≤ b) (hb : pre.isPrefixOf b = true) :
    pre.isPrefixOf a = true := by
  induction pre generalizing a b with
  | nil => rfl
  | cons x ps ih =>
    cases b with
    | nil => cases hb
    | cons y bs =>
      cases a with
      | nil => exact absurd h1 (List.not_le.mpr (List.nil_lt_cons _ _))
      | cons z as =>
        simp only [List.isPrefixOf, Bool.and_eq_true, beq_iff_eq] at hb ⊢
        obtain ⟨rfl, hps⟩ := hb
        -- `x ≤ z ≤ x` at the heads, so the tails are ordered the same way
        rcases List.cons_le_cons_iff.mp h1 with hxz | ⟨rfl, h1'⟩
        · rcases List.cons_le_cons_iff.mp h2 with hzx | ⟨rfl, _⟩
          · exact absurd hxz (Nat.lt_asymm hzx)
          · exact absurd hxz (Nat.lt_irrefl _)
        · rcases List.cons_le_cons_iff.mp h2 with hzx | ⟨_, h2'⟩
          · exact absurd hzx (Nat.lt_irrefl _)
          · exact ⟨rfl, ih as bs h1' h2' hps⟩

theorem expandPrefixOf_eq (terms : List (List Nat)) (pre : List Nat) (hs : SortedLex terms)
    (hge : ∀ t, t ∈ terms → pre ≤ t) :
    expandPrefixOf terms pre = terms.filter fun t => pre.isPrefixOf t := by
  unfold expandPrefixOf
  induction terms with
  | nil => rfl
  | cons a l ih =>
    have hsl : SortedLex l := (List.pairwise_cons.mp hs).2
    rw [List.takeWhile_cons, List.filter_cons]
    by_cases h : pre.isPrefixOf a = true
    · rw [if_pos h, if_pos h, ih hsl (fun t ht => hge t (List.mem_cons_of_mem _ ht))]
    · rw [if_neg h, if_neg h]
      symm
      rw [List.filter_eq_nil_iff]
      intro t ht hp
      have hat : a < t := (List.pairwise_cons.mp hs).1 t ht
      exact h (prefix_convex pre a t (hge a (by simp)) (List.le_of_lt hat) hp)

theorem expandPrefixMulti_spec (segs : List (List (List Nat))) (pre : List Nat)
    (hs : ∀ l, l ∈ segs → SortedLex l) (m : List (List Nat)) (hm : mergeTerms segs = .ok m) :
    expandPrefixMulti segs pre = .ok (m.filter fun t => pre.isPrefixOf t) := by
  obtain ⟨m0, hm0, hsm, hmem⟩ := mergeTerms_spec segs hs
  rw [hm] at hm0
  cases hm0
  obtain ⟨m', hm', hsm', hmem'⟩ := mergeTerms_spec (segs.map (List.filter (lexLe pre))) fun l hl => by
    obtain ⟨lex, hlex, rfl⟩ := List.mem_map.mp hl
    exact (hs lex hlex).sublist List.filter_sublist
  -- the merge of the segments' `terms_from` holds the merged terms at or after the prefix
  simp only [← List.mem_flatten] at hmem hmem'
  simp only [← List.filter_flatten, List.mem_filter, ← hmem, lexLe_iff] at hmem'
  unfold expandPrefixMulti termsFromMulti
  rw [List.map_congr_left fun lex hlex => termsFrom_eq lex pre (hs lex hlex), hm']
  simp only [Except.map]
  congr 1
  rw [expandPrefixOf_eq m' pre hsm' (fun t ht => ((hmem' t).mp ht).2)]
  apply pairwise_ext (List.lt_asymm (α := Nat))
  · exact List.Pairwise.sublist List.filter_sublist hsm'
  · exact List.Pairwise.sublist List.filter_sublist hsm
  · intro t
    rw [List.mem_filter, List.mem_filter, hmem']
    refine ⟨fun h => ⟨h.1.1, h.2⟩, fun h => ⟨⟨h.1, ?_⟩, h.2⟩⟩
    obtain ⟨s, rfl⟩ := List.isPrefixOf_iff_prefix.mp h.2
    exact List.le_append_left

end WM.Lev
