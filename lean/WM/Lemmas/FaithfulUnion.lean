import WM.Lemmas.Faithful
/-! `UnionMatcher` / `DisjunctionMaxMatcher` are faithful cursors over `unionWith f`. -/
namespace WM.Matcher

namespace Union
variable {α β : Type} {A : Ops α} {B : Ops β} {dA fA : α → Den} {dB fB : β → Den}
  {WA : α → Prop} {WB : β → Prop}

theorem nextIf_step (FA : Faithful A dA fA WA) (c : Bool) {a : α} {x : Nat} {r : Rat} {L : Den} (h : WA a)
    (hd : dA a = (x, r) :: L) :
    Yields (A.nextIf c a) (Step A dA fA WA a · (if c then L else (x, r) :: L)) := by
  cases c with
  | false => exact .ok ⟨h, hd, .refl _ _ _ _⟩
  | true => exact FA.next_step h hd

theorem faithful_of (f : Rat → Rat → Rat) (FA : Faithful A dA fA WA) (FB : Faithful B dB fB WB)
    (O : Ops (Bin α β)) (hm : MoveEq O (Union.ops A B)) (hscore : O.score = Union.scoreWith A B f) :
    Faithful O (fun m => unionWith f (dA m.a) (dB m.b)) (fun m => unionWith f (fA m.a) (fB m.b))
      (fun m => WA m.a ∧ WB m.b) := by
  simp only [MoveEq, Union.ops] at hm
  obtain ⟨hact, hid, hnext, hskip, hreset, hrem⟩ := hm
  exact .of_state (fun m h => asc_unionWith f (FA.asc _ h.1) (FB.asc _ h.2))
    (fun m h => by
      have hact' : O.isActive m = (A.isActive m.a || B.isActive m.b) := by rw [hact]
      -- `skip_to` does not look at the heads
      have skip : ∀ t, Yields (O.skipTo m t) (Step O (fun m => unionWith f (dA m.a) (dB m.b))
          (fun m => unionWith f (fA m.a) (fB m.b)) (fun m => WA m.a ∧ WB m.b) m ·
          (dropBelow t (unionWith f (dA m.a) (dB m.b)))) := fun t => by
        rw [hskip]; unfold Union.skipTo
        refine (FA.skipToA_step t h.1).bind fun a' ha2 => (FB.skipToA_step t h.2).bind fun b' hb2 => .ok ?_
        exact ((Moved.left h.2 ha2).trans (Moved.right ha2.wf hb2)).step (unionWith f) (congrFun hrem) ⟨ha2.wf, hb2.wf⟩
          (by simp only [ha2.den_eq, hb2.den_eq, unionWith_dropBelow f (FA.asc _ h.1) (FB.asc _ h.2)])
      rw [hact', hid, hscore, hnext]; unfold Union.id Union.scoreWith Union.next
      rcases FA.head h.1 with ⟨ha, hAa⟩ | ⟨xa, ra, La, ha, hAa, hAid, hAsc⟩
      · rcases FB.head h.2 with ⟨hb, hBa⟩ | ⟨xb, rb, Lb, hb, hBa, hBid, hBsc⟩
        · exact .inl ⟨by rw [ha, hb, unionWith_nil_left], by rw [hAa, hBa]; rfl⟩
        · rw [hAa, hBa]
          refine .inr ⟨xb, rb, Lb, by rw [ha, hb, unionWith_nil_left], rfl, hBid, hBsc,
            (FB.next_step h.2 hb).bind fun b' hb2 => .ok ?_, skip⟩
          exact (Moved.right h.1 hb2).step (unionWith f) (congrFun hrem) ⟨h.1, hb2.wf⟩
            (by simp only [ha, unionWith_nil_left, hb2.den_eq])
      · rcases FB.head h.2 with ⟨hb, hBa⟩ | ⟨xb, rb, Lb, hb, hBa, hBid, hBsc⟩
        · rw [hAa, hBa]
          refine .inr ⟨xa, ra, La, by rw [ha, hb, unionWith_nil_right], rfl, hAid, hAsc,
            (FA.next_step h.1 ha).bind fun a' ha2 => .ok ?_, skip⟩
          exact (Moved.left h.2 ha2).step (unionWith f) (congrFun hrem) ⟨ha2.wf, h.2⟩
            (by simp only [hb, unionWith_nil_right, ha2.den_eq])
        · rw [hAa, hBa, hAid, hBid, hAsc, hBsc]
          refine .inr ⟨_, _, _, by rw [ha, hb, unionWith_cons_eq], rfl, rfl, ?_,
            (nextIf_step FA (decide (xa ≤ xb)) h.1 ha).bind fun a' ha2 =>
              (nextIf_step FB (decide (xb ≤ xa)) h.2 hb).bind fun b' hb2 => .ok ?_, skip⟩
          · show (if xa < xb then Except.ok ra else if xb < xa then Except.ok rb else Except.ok (f ra rb)) = _
            split
            · rfl
            · split <;> rfl
          · exact ((Moved.left h.2 ha2).trans (Moved.right ha2.wf hb2)).step (unionWith f) (congrFun hrem) ⟨ha2.wf, hb2.wf⟩
              (by simp only [ha2.den_eq, hb2.den_eq, decide_eq_true_eq]))
    (fun m h => by
      rw [hreset]; unfold Union.reset
      refine Yields.bind (FA.reset _ h.1) fun a' ha => Yields.bind (FB.reset _ h.2) fun b' hb => .ok ?_
      exact ⟨⟨ha.1, hb.1⟩, by simp only [ha.2.1, hb.2.1], by simp only [ha.2.2, hb.2.2]⟩)

/-- `UnionMatcher` -/
theorem faithful (FA : Faithful A dA fA WA) (FB : Faithful B dB fB WB) :
    Faithful (Union.ops A B) (fun m => unionWith (· + ·) (dA m.a) (dB m.b))
      (fun m => unionWith (· + ·) (fA m.a) (fB m.b)) (fun m => WA m.a ∧ WB m.b) :=
  faithful_of (· + ·) FA FB _ (.refl _) rfl

end Union

theorem DisMax.moveEq_union {α β : Type} (A : Ops α) (B : Ops β) : MoveEq (DisMax.ops A B) (Union.ops A B) :=
  ⟨rfl, rfl, rfl, rfl, rfl, rfl⟩

/-- `DisjunctionMaxMatcher` -/
theorem DisMax.faithful {α β : Type} {A : Ops α} {B : Ops β} {dA fA : α → Den} {dB fB : β → Den}
    {WA : α → Prop} {WB : β → Prop} (FA : Faithful A dA fA WA) (FB : Faithful B dB fB WB) :
    Faithful (DisMax.ops A B) (fun m => unionWith max (dA m.a) (dB m.b))
      (fun m => unionWith max (fA m.a) (fB m.b)) (fun m => WA m.a ∧ WB m.b) :=
  Union.faithful_of max FA FB _ (moveEq_union A B) rfl

end WM.Matcher
