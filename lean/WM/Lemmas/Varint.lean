import WM.Model.Varint
/-! Variable-length integers: the digits of `encode n` are read back by `decodeAux` whatever follows them. -/
namespace WM.Varint

theorem decodeAux_encode (n acc mul : Nat) (rest : List Nat) :
    decodeAux (encode n ++ rest) acc mul = some (acc + n * mul, rest) := by
  fun_induction encode n generalizing acc mul with
  | case1 n h =>
    -- a single byte, no continuation bit
    simp only [List.cons_append, List.nil_append, decodeAux, Nat.div_eq_of_lt h, Nat.mod_eq_of_lt h,
      Nat.zero_mod, Nat.zero_ne_one, ↓reduceIte]
  | case2 n h ih =>
    -- the low seven bits with the continuation bit set, then the digits of `n / 128`
    have hb : (n % 128 + 128) / 128 % 2 = 1 := by
      rw [Nat.add_div_right _ (by decide), Nat.div_eq_of_lt (Nat.mod_lt _ (by decide))]
    have hm : (n % 128 + 128) % 128 = n % 128 := by rw [Nat.add_mod_right, Nat.mod_mod]
    simp only [List.cons_append, decodeAux, hb, hm, ↓reduceIte]
    rw [ih, Nat.add_assoc, Nat.mul_comm mul, ← Nat.mul_assoc, ← Nat.add_mul, Nat.mod_add_div']

theorem decode_encode (n : Nat) (rest : List Nat) : decode (encode n ++ rest) = some (n, rest) := by
  simp [decode, decodeAux_encode]

end WM.Varint
