import WM.Lemmas.NormalizeBasic
/-! Order theory of the `RangeMixin` comparables and the meaning of `overlaps`/`merge`: `merge` computes
    its bounds from the bounds of its arguments (`mergeBounds`), and what it does to the set of terms is a
    fact about a handful of points of a linear order. -/
namespace WM.Normalize
open WM.Sat

theorem Bnd.lt_irrefl (a : Bnd) : Bnd.lt a a = false := by
  cases a <;> simp [Bnd.lt]

theorem Bnd.lt_trans {a b c : Bnd} (h1 : Bnd.lt a b = true) (h2 : Bnd.lt b c = true) :
    Bnd.lt a c = true := by
  cases a <;> cases b <;> cases c <;> simp_all [Bnd.lt] <;> grind

theorem Bnd.lt_tri (a b : Bnd) : Bnd.lt a b = true ∨ a = b ∨ Bnd.lt b a = true := by
  cases a <;> cases b <;> simp_all [Bnd.lt] <;> grind

theorem Bnd.lt_asymm {a b : Bnd} (h1 : Bnd.lt a b = true) : Bnd.lt b a = false :=
  Bool.eq_false_iff.mpr fun h2 => Bool.false_ne_true (Bnd.lt_irrefl a ▸ Bnd.lt_trans h1 h2)

instance : LE Cmp := ⟨fun a b => Cmp.le a b = true⟩
instance : LT Cmp := ⟨fun a b => Cmp.le b a = false⟩
instance : DecidableLE Cmp := fun a b => inferInstanceAs (Decidable (Cmp.le a b = true))
instance : DecidableLT Cmp := fun a b => inferInstanceAs (Decidable (Cmp.le b a = false))

theorem Cmp.le_iff (a b : Cmp) : Cmp.le a b = true ↔ a ≤ b := Iff.rfl
theorem Cmp.le_false_iff (a b : Cmp) : Cmp.le a b = false ↔ b < a := Iff.rfl

instance : Std.IsLinearOrder Cmp where
  le_refl a := by show Cmp.le a a = true; simp [Cmp.le]
  le_trans a b c h1 h2 := by
    simp only [← Cmp.le_iff, Cmp.le, Bool.or_eq_true, Bool.and_eq_true, beq_iff_eq, decide_eq_true_eq] at *
    rcases h1 with h1 | ⟨h1, h1'⟩ <;> rcases h2 with h2 | ⟨h2, h2'⟩
    · exact Or.inl (Bnd.lt_trans h1 h2)
    · rw [← h2]; exact Or.inl h1
    · rw [h1]; exact Or.inl h2
    · right; exact ⟨h1.trans h2, by omega⟩
  le_antisymm a b h1 h2 := by
    simp only [← Cmp.le_iff, Cmp.le, Bool.or_eq_true, Bool.and_eq_true, beq_iff_eq, decide_eq_true_eq] at *
    rcases h1 with h1 | ⟨h1, h1'⟩ <;> rcases h2 with h2 | ⟨h2, h2'⟩
    · have := Bnd.lt_asymm h1; simp_all
    · rw [h2] at h1; simp [Bnd.lt_irrefl] at h1
    · rw [h1] at h2; simp [Bnd.lt_irrefl] at h2
    · cases a; cases b; simp_all; omega
  le_total a b := by
    have := Bnd.lt_tri a.b b.b
    simp only [← Cmp.le_iff, Cmp.le, Bool.or_eq_true, Bool.and_eq_true, beq_iff_eq, decide_eq_true_eq]
    rcases this with h | h | h
    · exact Or.inl (Or.inl h)
    · rw [h]; simp; omega
    · exact Or.inr (Or.inl h)

theorem Cmp.max_eq (a b : Cmp) : Cmp.max a b = if b ≤ a then a else b := rfl
theorem Cmp.min_eq (a b : Cmp) : Cmp.min a b = if a ≤ b then a else b := rfl

theorem Cmp.max_le_iff {a b x : Cmp} : Cmp.max a b ≤ x ↔ a ≤ x ∧ b ≤ x := by
  rw [Cmp.max_eq]; split <;> grind

theorem Cmp.le_min_iff {a b x : Cmp} : x ≤ Cmp.min a b ↔ x ≤ a ∧ x ≤ b := by
  rw [Cmp.min_eq]; split <;> grind

/-- The test of `RangeMixin.overlaps` on the bounds: a bound of one interval lies in the other. -/
def ivOverlap (s1 e1 s2 e2 : Cmp) : Prop :=
  (s2 ≤ s1 ∧ s1 ≤ e2) ∨ (s2 ≤ e1 ∧ e1 ≤ e2) ∨ (s1 ≤ s2 ∧ s2 ≤ e1) ∨ (s1 ≤ e2 ∧ e2 ≤ e1)

/-- The bounds `RangeMixin.merge` computes from the bounds of its two arguments. -/
def mergeBounds (s1 e1 s2 e2 : Cmp) (i : Bool) : Cmp × Cmp :=
  if Cmp.le s2 s1 && Cmp.le e1 e2 then (s2, e2)
  else if Cmp.le s1 s2 && Cmp.le e2 e1 then (s1, e1)
  else if i then (Cmp.max s1 s2, Cmp.min e1 e2)
  else (Cmp.min s1 s2, Cmp.max e1 e2)

theorem Cmp.max_choice (a b : Cmp) : Cmp.max a b = a ∨ Cmp.max a b = b := by
  unfold Cmp.max; split <;> simp

theorem Cmp.min_choice (a b : Cmp) : Cmp.min a b = a ∨ Cmp.min a b = b := by
  unfold Cmp.min; split <;> simp

theorem mergeBounds_mem (s1 e1 s2 e2 : Cmp) (i : Bool) :
    ((mergeBounds s1 e1 s2 e2 i).1 = s1 ∨ (mergeBounds s1 e1 s2 e2 i).1 = s2)
      ∧ ((mergeBounds s1 e1 s2 e2 i).2 = e1 ∨ (mergeBounds s1 e1 s2 e2 i).2 = e2) := by
  fun_cases mergeBounds s1 e1 s2 e2 i
  · exact ⟨Or.inr rfl, Or.inr rfl⟩
  · exact ⟨Or.inl rfl, Or.inl rfl⟩
  · exact ⟨Cmp.max_choice s1 s2, Cmp.min_choice e1 e2⟩
  · exact ⟨Cmp.min_choice s1 s2, Cmp.max_choice e1 e2⟩

theorem mem_mergeBounds_union {s1 e1 s2 e2 : Cmp} (ho : ivOverlap s1 e1 s2 e2) (c : Cmp) :
    (mergeBounds s1 e1 s2 e2 false).1 ≤ c ∧ c ≤ (mergeBounds s1 e1 s2 e2 false).2 ↔
      (s1 ≤ c ∧ c ≤ e1) ∨ (s2 ≤ c ∧ c ≤ e2) := by
  unfold ivOverlap at ho
  -- where neither contains the other the merge is the hull `[min s, max e]`, and only there `ho` is needed, to
  -- exclude a point in the gap between two disjoint intervals
  simp only [mergeBounds, Bool.and_eq_true, Cmp.le_iff, Cmp.min_eq, Cmp.max_eq]
  grind

theorem mem_mergeBounds_inter {s1 e1 s2 e2 : Cmp} (hn1 : ¬ (s2 ≤ s1 ∧ e1 ≤ e2)) (hn2 : ¬ (s1 ≤ s2 ∧ e2 ≤ e1))
    (c : Cmp) :
    (mergeBounds s1 e1 s2 e2 true).1 ≤ c ∧ c ≤ (mergeBounds s1 e1 s2 e2 true).2 ↔
      (s1 ≤ c ∧ c ≤ e1) ∧ (s2 ≤ c ∧ c ≤ e2) := by
  simp only [mergeBounds, Bool.and_eq_true, Cmp.le_iff, hn1, hn2, ↓reduceIte, Cmp.max_le_iff, Cmp.le_min_iff]
  exact and_and_and_comm

theorem mem_of_mem_mergeBounds {s1 e1 s2 e2 : Cmp} (ho : ivOverlap s1 e1 s2 e2) (i : Bool) {c : Cmp} :
    (mergeBounds s1 e1 s2 e2 i).1 ≤ c ∧ c ≤ (mergeBounds s1 e1 s2 e2 i).2 →
      (s1 ≤ c ∧ c ≤ e1) ∨ (s2 ≤ c ∧ c ≤ e2) := by
  cases i
  · exact (mem_mergeBounds_union ho c).mp
  · fun_cases mergeBounds s1 e1 s2 e2 true
    · exact Or.inr
    · exact Or.inl
    · exact fun h => Or.inl ⟨(Cmp.max_le_iff.mp h.1).1, (Cmp.le_min_iff.mp h.2).1⟩
    · exact absurd rfl ‹_›

/-- A bound of it lies in the merge, hence in one of the two, or a bound of the merge, which is a bound of
    one of the two, lies in it. -/
theorem ivOverlap_mergeBounds {s e s1 e1 s2 e2 : Cmp} (i : Bool) (ho : ivOverlap s1 e1 s2 e2)
    (h : ivOverlap s e (mergeBounds s1 e1 s2 e2 i).1 (mergeBounds s1 e1 s2 e2 i).2) :
    ivOverlap s e s1 e1 ∨ ivOverlap s e s2 e2 := by
  unfold ivOverlap at h ⊢
  rcases h with h | h | h | h
  · exact (mem_of_mem_mergeBounds ho i h).imp Or.inl Or.inl
  · exact (mem_of_mem_mergeBounds ho i h).imp (Or.inr ∘ Or.inl) (Or.inr ∘ Or.inl)
  · rcases (mergeBounds_mem s1 e1 s2 e2 i).1 with e | e <;> rw [e] at h
    · exact Or.inl (Or.inr (Or.inr (Or.inl h)))
    · exact Or.inr (Or.inr (Or.inr (Or.inl h)))
  · rcases (mergeBounds_mem s1 e1 s2 e2 i).2 with e | e <;> rw [e] at h
    · exact Or.inl (Or.inr (Or.inr (Or.inr h)))
    · exact Or.inr (Or.inr (Or.inr (Or.inr h)))

/-- The position of a term among the comparables. -/
def pt (x : Text) : Cmp := ⟨.val x, 0⟩

theorem inRange_iff (lo hi : Option Text) (lx hx : Bool) (x : Text) :
    inRange lo hi lx hx x = true ↔ cmpStart lo lx ≤ pt x ∧ pt x ≤ cmpEnd hi hx := by
  simp [inRange, pt, Cmp.le_iff]

/-- Membership of a term in a `TermRange`. -/
def Rng.mem (r : Rng) (x : Text) : Prop := cmpStart r.lo r.lox ≤ pt x ∧ pt x ≤ cmpEnd r.hi r.hix

instance (r : Rng) (x : Text) : Decidable (r.mem x) := by unfold Rng.mem; infer_instance

theorem Rng.overlaps_iff (a b : Rng) (hf : a.f = b.f) :
    a.overlaps b = true ↔
      ivOverlap (cmpStart a.lo a.lox) (cmpEnd a.hi a.hix) (cmpStart b.lo b.lox) (cmpEnd b.hi b.hix) := by
  simp [Rng.overlaps, ivOverlap, hf, Cmp.le_iff, or_assoc]

theorem Rng.overlaps_field {a b : Rng} (h : a.overlaps b = true) : a.f = b.f := by
  unfold Rng.overlaps at h
  split at h
  · simp at h
  · rename_i hne
    simpa using hne

theorem cmpStart_roundtrip (lo : Option Text) (lx : Bool) :
    cmpStart (cmpStart lo lx).b.toOpt ((cmpStart lo lx).adj == 1) = cmpStart lo lx := by
  cases lo <;> cases lx <;> rfl

theorem cmpEnd_roundtrip (hi : Option Text) (hx : Bool) :
    cmpEnd (cmpEnd hi hx).b.toOpt ((cmpEnd hi hx).adj == -1) = cmpEnd hi hx := by
  cases hi <;> cases hx <;> rfl

theorem Rng.merge_f (a b : Rng) (i : Bool) : (a.merge b i).f = a.f := rfl

abbrev Rng.mergeBounds (a b : Rng) (i : Bool) : Cmp × Cmp :=
  WM.Normalize.mergeBounds (cmpStart a.lo a.lox) (cmpEnd a.hi a.hix) (cmpStart b.lo b.lox) (cmpEnd b.hi b.hix) i

/-- Reading the attributes `merge` writes gives back the bounds it computed: each is a bound of an argument. -/
theorem Rng.cmp_merge (a b : Rng) (i : Bool) :
    cmpStart (a.merge b i).lo (a.merge b i).lox = (a.mergeBounds b i).1
      ∧ cmpEnd (a.merge b i).hi (a.merge b i).hix = (a.mergeBounds b i).2 := by
  show cmpStart (a.mergeBounds b i).1.b.toOpt ((a.mergeBounds b i).1.adj == 1) = _
    ∧ cmpEnd (a.mergeBounds b i).2.b.toOpt ((a.mergeBounds b i).2.adj == -1) = _
  obtain ⟨h1, h2⟩ := mergeBounds_mem (cmpStart a.lo a.lox) (cmpEnd a.hi a.hix) (cmpStart b.lo b.lox) (cmpEnd b.hi b.hix) i
  constructor
  · rcases h1 with e | e <;> rw [Rng.mergeBounds, e, cmpStart_roundtrip]
  · rcases h2 with e | e <;> rw [Rng.mergeBounds, e, cmpEnd_roundtrip]

theorem Rng.mem_merge (a b : Rng) (i : Bool) (x : Text) :
    (a.merge b i).mem x ↔ (a.mergeBounds b i).1 ≤ pt x ∧ pt x ≤ (a.mergeBounds b i).2 := by
  rw [← (Rng.cmp_merge a b i).1, ← (Rng.cmp_merge a b i).2]; rfl

theorem Rng.merge_union (a b : Rng) (h : a.overlaps b = true) (x : Text) :
    (a.merge b false).mem x ↔ a.mem x ∨ b.mem x :=
  (Rng.mem_merge a b false x).trans
    (mem_mergeBounds_union ((Rng.overlaps_iff a b (Rng.overlaps_field h)).mp h) (pt x))

theorem Rng.overlaps_merge (q a b : Rng) (i : Bool) (hab : a.overlaps b = true)
    (h : q.overlaps (a.merge b i) = true) : q.overlaps a = true ∨ q.overlaps b = true := by
  have hfab := Rng.overlaps_field hab
  have hfq : q.f = a.f := (Rng.overlaps_field h :)
  rw [Rng.overlaps_iff q a hfq, Rng.overlaps_iff q b (hfq.trans hfab)]
  rw [Rng.overlaps_iff q (a.merge b i) hfq, (Rng.cmp_merge a b i).1, (Rng.cmp_merge a b i).2] at h
  exact ivOverlap_mergeBounds i ((Rng.overlaps_iff a b hfab).mp hab) h

end WM.Normalize
