import WM.Lemmas.IndexOps
/-! Facts about `restrict` and schema changes, then the simulation between a writer session of the model
and a session of the dictionary specification (`SRel`) for the calls that do not read the term index:
add, schema changes, delete and un-delete by number (`delete_by_query`, `delete_by_term` and
`update_document` follow in `IndexTerm`). -/
namespace WM.Index
open WM.Dict

theorem restrict_restrict_of_subset (s s' : Schema) (h : ∀ f, s'.has f = true → s.has f = true) (d : DocRec) :
    restrict s' (restrict s d) = restrict s' d := by
  simp only [restrict, List.filter_filter]
  congr 1
  apply List.filter_congr
  intro fd _
  by_cases h' : s'.has fd.fld = true
  · simp [h', h _ h']
  · simp [h']

theorem restrict_idem (s : Schema) (d : DocRec) : restrict s (restrict s d) = restrict s d :=
  restrict_restrict_of_subset s s (fun _ h => h) d

theorem restrict_of_fits (s : Schema) (d : DocRec) (h : d.fits s = true) : restrict s d = d := by
  simp only [DocRec.fits, List.all_eq_true] at h
  simp only [restrict, List.filter_eq_self.mpr h]

theorem map_restrict_of_fits (sc : Schema) (l : List DocRec) (h : ∀ d ∈ l, d.fits sc = true) :
    l.map (restrict sc) = l :=
  (List.map_congr_left (fun d hd => restrict_of_fits sc d (h d hd))).trans (List.map_id l)

theorem restrict_fits (s : Schema) (d : DocRec) : (restrict s d).fits s = true := by
  simp only [restrict, DocRec.fits, List.all_eq_true, List.mem_filter]
  exact fun fd h => h.2

theorem Schema.has_remove (s : Schema) (f g : Nat) : (s.remove f).has g = (s.has g && g != f) := by
  simp only [Schema.remove, Schema.has]
  by_cases h1 : g ∈ s.fields <;> by_cases h2 : g = f <;> simp [h1, h2]

theorem Schema.has_add (s : Schema) (f g : Nat) (u : Bool) : (s.add f u).has g = (s.has g || g == f) := by
  simp only [Schema.add, Schema.has, List.contains_append]
  by_cases h2 : g = f <;> simp [h2]

theorem Schema.beq_and_has {s : Schema} {f : Nat} (hf : s.has f = true) (g : Nat) : (g == f && s.has g) = (g == f) := by
  by_cases h : g = f
  · simp [h, hf]
  · simp [h]

theorem Schema.beq_and_and_has {s : Schema} {f : Nat} (hf : s.has f = true) (g : Nat) (a : Bool) :
    (g == f && a && s.has g) = (g == f && a) := by
  rw [Bool.and_right_comm, Schema.beq_and_has hf]

theorem restrict_add_of_not_hasField (s : Schema) (f : Nat) (u : Bool) (d : DocRec) (h : d.hasField f = false) :
    restrict (s.add f u) d = restrict s d := by
  simp only [restrict]
  congr 1
  apply List.filter_congr
  intro fd hfd
  simp only [DocRec.hasField, List.any_eq_false] at h
  rw [Schema.has_add, Bool.eq_false_iff.mpr (h fd hfd), Bool.or_false]

theorem fits_hasField_false (sc : Schema) (d : DocRec) (f : Nat) (h : d.fits sc = true) (hf : sc.has f = false) :
    d.hasField f = false := by
  simp only [DocRec.fits, List.all_eq_true] at h
  simp only [DocRec.hasField, List.any_eq_false, beq_iff_eq]
  intro fd hfd heq
  rw [← heq, h fd hfd] at hf
  cases hf

theorem contentOf_fits (sc : Schema) (segs : List Seg) : ∀ d ∈ contentOf sc segs, d.fits sc = true := by
  intro d hd
  obtain ⟨q, _, rfl⟩ := List.mem_map.mp (contentOf_eq_liveGlobal sc segs 0 ▸ hd)
  exact restrict_fits sc q.1

theorem contentOf_restrict (sc : Schema) (segs : List Seg) :
    (contentOf sc segs).map (restrict sc) = contentOf sc segs :=
  map_restrict_of_fits sc _ (contentOf_fits sc segs)

/-- Writer `w` and specification session `ss` describe the same pending state. -/
structure SRel (w : Writer) (ss : Sess) : Prop where
  schema : ss.schema = w.schema
  committed : (contentOf w.schema w.segs).Perm ss.committed
  fresh : ss.fresh = w.ndocs
  fits : ∀ d ∈ w.ndocs, d.fits w.schema = true
  notAdded : w.added = false → w.ndocs = []

theorem SRel.of_frame {w w' : Writer} {ss ss' : Sess} (h : SRel w ss) (f : Frame w w')
    (hs : ss'.schema = ss.schema) (hf : ss'.fresh = ss.fresh)
    (hc : (contentOf w'.schema w'.segs).Perm ss'.committed) : SRel w' ss' where
  schema := by rw [hs, h.schema, f.schema]
  committed := hc
  fresh := by rw [hf, h.fresh, f.ndocs]
  fits := by rw [f.ndocs, f.schema]; exact h.fits
  notAdded := by rw [f.added, f.ndocs]; exact h.notAdded

theorem SRel.deleteWhere {w w' : Writer} {ss : Sess} (h : SRel w ss) (f : Frame w w') (c : DocRec → Bool)
    (hc : contentOf w'.schema w'.segs = (contentOf w.schema w.segs).filter (fun d => !c d)) :
    SRel w' (ss.deleteWhere c) :=
  h.of_frame f rfl rfl (hc ▸ h.committed.filter _)

theorem SRel.step_add {w : Writer} {ss : Sess} (h : SRel w ss) (d : DocRec) :
    SRel (w.step (.add d)).1 (ss.step (w.specOp (.add d))) := by
  rw [Writer.step_add_eq]
  simp only [Writer.specOp]
  split
  · next hf =>
    exact { schema := h.schema, committed := h.committed, fresh := by simp [Sess.step, Sess.add, h.fresh]
            fits := fun x hx => (List.mem_append.mp hx).elim (h.fits x) (fun hx => List.mem_singleton.mp hx ▸ hf)
            notAdded := nofun }
  · exact h

theorem SRel.step_addField {w : Writer} {ss : Sess} (h : SRel w ss) (f : Nat) (u : Bool)
    (hfresh : ∀ q ∈ liveGlobal w.segs 0, q.1.hasField f = false) :
    SRel (w.step (.addField f u)).1 (ss.step (w.specOp (.addField f u))) := by
  rw [Writer.step_addField_eq]
  simp only [Writer.specOp]
  split
  · next hc =>
    have hnd := h.notAdded (by simpa using (Bool.and_eq_true_iff.mp hc).1)
    refine { schema := by simp [Sess.step, Sess.addField, h.schema], committed := ?_, fresh := h.fresh,
             fits := by simp [hnd], notAdded := fun _ => hnd }
    show (contentOf (w.schema.add f u) w.segs).Perm ss.committed
    rw [contentOf_eq_liveGlobal _ _ 0,
      List.map_congr_left (fun q hq => restrict_add_of_not_hasField w.schema f u q.1 (hfresh q hq)),
      ← contentOf_eq_liveGlobal]
    exact h.committed
  · exact h

theorem SRel.step_removeField {w : Writer} {ss : Sess} (h : SRel w ss) (f : Nat) :
    SRel (w.step (.removeField f)).1 (ss.step (w.specOp (.removeField f))) := by
  rw [Writer.step_removeField_eq]
  simp only [Writer.specOp]
  split
  · next hc =>
    have hnd := h.notAdded (by simpa using (Bool.and_eq_true_iff.mp hc).1)
    refine { schema := by simp [Sess.step, Sess.removeField, h.schema], committed := ?_,
             fresh := by simp [Sess.step, Sess.removeField, h.fresh, hnd]
             fits := by simp [hnd], notAdded := fun _ => hnd }
    have hsub : ∀ g, (w.schema.remove f).has g = true → w.schema.has g = true := by
      intro g hg
      rw [Schema.has_remove, Bool.and_eq_true] at hg
      exact hg.1
    have : contentOf (w.schema.remove f) w.segs = (contentOf w.schema w.segs).map (restrict (w.schema.remove f)) := by
      rw [contentOf_eq_liveGlobal _ _ 0, contentOf_eq_liveGlobal _ _ 0, List.map_map]
      exact List.map_congr_left (fun q _ => (restrict_restrict_of_subset _ _ hsub _).symm)
    show (contentOf (w.schema.remove f) w.segs).Perm (ss.committed.map (restrict (ss.schema.remove f)))
    rw [this, h.schema]
    exact h.committed.map _
  · exact h

theorem step_delDoc_frame (w : Writer) (n : Nat) : Frame w (w.step (.delDoc n)).1 := by
  rw [Writer.step_delDoc_eq]
  split
  · exact Frame.deleteAt w n true
  · exact Frame.refl w

theorem SRel.step_delDoc {w : Writer} {ss : Sess} (h : SRel w ss) (n : Nat) :
    SRel (w.step (.delDoc n)).1 (ss.step (w.specOp (.delDoc n))) := by
  rw [Writer.step_delDoc_eq]
  by_cases hn : n < docCountAllSegs w.segs
  · obtain ⟨d, hd⟩ := docAt_eq_some w.segs n hn
    simp only [if_pos hn, Writer.specOp, Writer.isDeleted_eq w n hn, hd]
    cases hg : isDeletedG w.segs n with
    | true =>
      rw [deleteAt_of_eq w.segs n true hg]
      exact h
    | false =>
      refine h.of_frame (Frame.deleteAt w n true) rfl rfl ?_
      have h2 := (h.committed.symm.trans (contentOf_deleteAt_of_live w.schema _ _ d hn hd hg)).erase
        (restrict w.schema d)
      rw [List.erase_cons_head] at h2
      exact h2.symm
  · simp only [if_neg hn, Writer.specOp, Sess.step]
    exact h

theorem SRel.step_undelDoc {w : Writer} {ss : Sess} (h : SRel w ss) (hnd : ∀ s ∈ w.segs, s.deleted.Nodup) (n : Nat) :
    SRel (w.step (.undelDoc n)).1 (ss.step (w.specOp (.undelDoc n))) := by
  rw [Writer.step_undelDoc_eq]
  by_cases hn : n < docCountAllSegs w.segs
  · obtain ⟨d, hd⟩ := docAt_eq_some w.segs n hn
    simp only [if_pos hn, Writer.specOp, Writer.isDeleted_eq w n hn, hd]
    cases hg : isDeletedG w.segs n with
    | false =>
      rw [deleteAt_of_eq w.segs n false hg]
      exact h
    | true =>
      refine h.of_frame (Frame.deleteAt w n false) rfl rfl ?_
      exact (contentOf_undeleteAt w.schema w.segs n d hn hnd hd hg).trans
        ((List.Perm.cons _ h.committed).trans (List.perm_append_singleton _ _).symm)
  · simp only [if_neg hn, Writer.specOp, Sess.step]
    exact h

end WM.Index
