import WM.Lemmas.Den
/-!
How `Keeps` (the contract of quality skipping), `BoundedBy` (`HeadBoundedBy` for the first entry alone) and `NonNegDen`
propagate through the node combinators.  Every combinator has a pointwise reading (`lookup_unionWith`,
`lookup_interWith`, …), so the statements about them are proved at one document: `KeepsAt` is `Keeps` on `Option Rat`.
Concatenation (a dropped prefix, the shifted segments of `MultiMatcher`) has no such reading and is handled on the lists,
through `hi` and `Dominated` (`keeps_append_left` here, `Keeps.append` and `Keeps.shift` in `Den`).
At the end the `Keeps` facts behind the tree rewrites of `replace()`.
-/
namespace WM.Matcher

theorem nonNeg_lookup {L : Den} (h : NonNegDen L) {d : Nat} {r : Rat} (hl : lookup L d = some r) : 0 ≤ r :=
  h (d, r) (lookup_some_mem hl)

theorem bounded_lookup {L : Den} {q : Rat} (h : BoundedBy q L) {d : Nat} {r : Rat} (hl : lookup L d = some r) :
    r ≤ q := h (d, r) (lookup_some_mem hl)

theorem bounded_subset {q : Rat} {L L' : Den} (h : L' ⊆ L) (b : BoundedBy q L) : BoundedBy q L' :=
  fun p hp => b p (h hp)

theorem nonNeg_subset {L L' : Den} (h : L' ⊆ L) (b : NonNegDen L) : NonNegDen L' :=
  fun p hp => b p (h hp)

/-- The first entry of `L`, if there is one, scores at most `q`: all that `block_quality()` promises of a matcher. -/
def HeadBoundedBy (q : Rat) (L : Den) : Prop := ∀ x r T, L = (x, r) :: T → r ≤ q

theorem headBounded_nil (q : Rat) : HeadBoundedBy q [] := fun _ _ _ e => nomatch e

theorem headBounded_of_bounded {q : Rat} {L : Den} (h : BoundedBy q L) : HeadBoundedBy q L :=
  fun x r _ e => h (x, r) (e ▸ List.mem_cons_self)

theorem rat_add_le_add {a b c d : Rat} (h₁ : a ≤ b) (h₂ : c ≤ d) : a + c ≤ b + d :=
  Rat.le_trans (Rat.add_le_add_right.2 h₁) (Rat.add_le_add_left.2 h₂)

theorem rat_le_add_of_nonneg_right {a b c : Rat} (h : a ≤ b) (hc : 0 ≤ c) : a ≤ b + c := by
  have := rat_add_le_add h hc; rwa [Rat.add_zero] at this

theorem rat_le_add_of_nonneg_left {a b c : Rat} (h : a ≤ c) (hb : 0 ≤ b) : a ≤ b + c := by
  have := rat_add_le_add hb h; rwa [Rat.zero_add] at this

theorem rat_le_max_of_le_left {a b c : Rat} (h : a ≤ b) : a ≤ max b c := by
  rw [Rat.max_def]; split
  · exact Rat.le_trans h ‹b ≤ c›
  · exact h

theorem rat_le_max_of_le_right {a b c : Rat} (h : a ≤ c) : a ≤ max b c := by
  rw [Rat.max_def]; split
  · exact h
  · exact Rat.le_trans h (Rat.le_of_lt (Rat.not_le.1 ‹¬b ≤ c›))
theorem rat_max_comm (a b : Rat) : max a b = max b a := by grind
theorem rat_max_le_max {a b c d : Rat} (h₁ : a ≤ b) (h₂ : c ≤ d) : max a c ≤ max b d := by grind
theorem rat_max_lt {a b q : Rat} (ha : a < q) (hb : b < q) : max a b < q := by grind

theorem rat_add_le_of_le_sub {s t b q : Rat} (hs : s ≤ q - b) (ht : t ≤ b) : s + t ≤ q := by
  have := rat_add_le_add hs ht; rwa [Rat.sub_add_cancel] at this

theorem rat_add_le_of_le_sub' {s t b q : Rat} (hs : s ≤ b) (ht : t ≤ q - b) : s + t ≤ q := by
  rw [Rat.add_comm]; exact rat_add_le_of_le_sub ht hs

theorem rat_sub_zero (q : Rat) : q - 0 = q := by grind

theorem rat_sub_le_of_nonneg {b : Rat} (q : Rat) (h : 0 ≤ b) : q - b ≤ q := by grind

inductive KeepsAt (q : Rat) : Option Rat → Option Rat → Prop
  | absent : KeepsAt q none none
  | drop {r : Rat} : r ≤ q → KeepsAt q none (some r)
  | kept {r' r : Rat} : r' ≤ r → (q < r → r' = r) → KeepsAt q (some r') (some r)

theorem KeepsAt.refl (q : Rat) : ∀ o, KeepsAt q o o
  | .none => .absent
  | .some _ => .kept Rat.le_refl fun _ => rfl

theorem KeepsAt.lower {q r' r : Rat} (h : r ≤ q) (hle : r' ≤ r) : KeepsAt q (some r') (some r) :=
  .kept hle fun hq => absurd h (Rat.not_le.2 hq)

theorem KeepsAt.mono {q q' : Rat} (hq : q' ≤ q) {o' o : Option Rat} (k : KeepsAt q' o' o) : KeepsAt q o' o := by
  cases k with
  | absent => exact .absent
  | drop h => exact .drop (Rat.le_trans h hq)
  | kept hle heq => exact .kept hle fun h => heq (Std.lt_of_le_of_lt hq h)

theorem KeepsAt.map {q q' : Rat} {o' o : Option Rat} (g : Rat → Rat) (k : KeepsAt q' o' o)
    (hmono : ∀ a b, a ≤ b → g a ≤ g b) (hthr : ∀ r, o = some r → r ≤ q' → g r ≤ q) :
    KeepsAt q (o'.map g) (o.map g) := by
  cases k with
  | absent => exact .absent
  | drop h => exact .drop (hthr _ rfl h)
  | @kept r' r hle heq =>
    refine .kept (hmono _ _ hle) fun hq => ?_
    rw [heq (Rat.not_le.1 fun h => absurd (hthr r rfl h) (Rat.not_le.2 hq))]

theorem keeps_iff_at {q : Rat} {L' L : Den} (h : Asc L) (h' : Asc L') :
    Keeps q L' L ↔ ∀ d, KeepsAt q (lookup L' d) (lookup L d) := by
  constructor
  · rintro ⟨hhi, hdom⟩ d
    have up : ∀ r, lookup L d = some r → q < r → lookup L' d = some r := fun r hl hq =>
      mem_lookup h' (mem_hi.1 (hhi ▸ mem_hi.2 ⟨lookup_some_mem hl, hq⟩)).1
    cases h1 : lookup L' d with
    | none =>
      cases h2 : lookup L d with
      | none => exact .absent
      | some r => exact .drop (Rat.not_lt.1 fun hq => by rw [up r h2 hq] at h1; cases h1)
    | some r' =>
      obtain ⟨r, hr, hle⟩ := hdom (d, r') (lookup_some_mem h1)
      have h2 := mem_lookup h hr
      rw [h2]
      exact .kept hle fun hq => by rw [up r h2 hq] at h1; exact (Option.some.inj h1).symm
  · intro hat
    refine ⟨den_ext_mem (asc_hi q h') (asc_hi q h) fun p => ?_, fun p hp => ?_⟩
    · obtain ⟨d, r⟩ := p
      rw [mem_hi, mem_hi, mem_iff_lookup h', mem_iff_lookup h]
      have k := hat d
      generalize lookup L' d = o' at k ⊢
      generalize lookup L d = o at k ⊢
      cases k with
      | absent => exact ⟨fun h => (nomatch h.1), fun h => (nomatch h.1)⟩
      | drop h0 => exact ⟨fun h => (nomatch h.1), fun ⟨e, hq⟩ => by cases e; exact absurd h0 (Rat.not_le.2 hq)⟩
      | @kept s' s hle heq =>
        constructor
        · rintro ⟨e, hq⟩
          cases e
          exact ⟨by rw [heq (Std.lt_of_lt_of_le hq hle)], hq⟩
        · rintro ⟨e, hq⟩
          cases e
          exact ⟨by rw [heq hq], hq⟩
    · have k := hat p.1
      rw [mem_lookup h' hp] at k
      generalize ho : lookup L p.1 = o at k
      cases k with
      | kept hle _ => exact ⟨_, lookup_some_mem ho, hle⟩

theorem Keeps.at {q : Rat} {L' L : Den} (k : Keeps q L' L) (h : Asc L) (h' : Asc L') (d : Nat) :
    KeepsAt q (lookup L' d) (lookup L d) := (keeps_iff_at h h').1 k d

theorem keeps_of_at {q : Rat} {L' L : Den} (h : Asc L) (h' : Asc L')
    (k : ∀ d, KeepsAt q (lookup L' d) (lookup L d)) : Keeps q L' L := (keeps_iff_at h h').2 k

theorem keeps_append_left {q : Rat} {P S : Den} (hP : BoundedBy q P) : Keeps q S (P ++ S) := by
  refine ⟨?_, fun p hp => ⟨p.2, List.mem_append_right _ hp, Rat.le_refl⟩⟩
  have : P.filter (fun p => decide (q < p.2)) = [] :=
    List.filter_eq_nil_iff.2 fun p hp => by simpa using Rat.not_lt.2 (hP p hp)
  simp only [hi, List.filter_append, this, List.nil_append]

theorem keeps_nil_of_bounded {q : Rat} {L : Den} (h : BoundedBy q L) : Keeps q [] L := by
  simpa using keeps_append_left (S := []) h

theorem keeps_cons {q : Rat} {x : Nat} {s : Rat} {L : Den} (h : s ≤ q) : Keeps q L ((x, s) :: L) :=
  keeps_append_left (P := [(x, s)]) fun p hp => by rw [List.mem_singleton.1 hp]; exact h

theorem keeps_dropBelow {q : Rat} {L' L : Den} (t : Nat) (h : Asc L) (h' : Asc L') (K : Keeps q L' L) :
    Keeps q (dropBelow t L') (dropBelow t L) := by
  refine keeps_of_at (asc_dropBelow t h) (asc_dropBelow t h') fun d => ?_
  rw [lookup_dropBelow h', lookup_dropBelow h]
  split
  · exact .absent
  · exact K.at h h' d

theorem bounded_shift {q : Rat} {o : Nat} {L : Den} (h : BoundedBy q L) : BoundedBy q (shift o L) := fun p hp => by
  obtain ⟨p', hp', rfl⟩ := List.mem_map.1 hp
  exact h p' hp'

theorem nonNeg_shift {o : Nat} {L : Den} (h : NonNegDen L) : NonNegDen (shift o L) := fun p hp => by
  obtain ⟨p', hp', rfl⟩ := List.mem_map.1 hp
  exact h p' hp'

theorem nonNeg_unionWith (f : Rat → Rat → Rat) {A B : Den} (nA : NonNegDen A) (nB : NonNegDen B)
    (hf : ∀ s t, 0 ≤ s → 0 ≤ t → 0 ≤ f s t) : NonNegDen (unionWith f A B) :=
  forall_unionWith f nA nB (fun _ h => h) (fun _ h => h) fun _ => hf

theorem bounded_unionWith (f : Rat → Rat → Rat) {A B : Den} {qa qb qq : Rat} (bA : BoundedBy qa A) (bB : BoundedBy qb B)
    (hl : qa ≤ qq) (hr : qb ≤ qq) (hf : ∀ s t, s ≤ qa → t ≤ qb → f s t ≤ qq) : BoundedBy qq (unionWith f A B) :=
  forall_unionWith f bA bB (fun _ h => Rat.le_trans h hl) (fun _ h => Rat.le_trans h hr) fun _ => hf

theorem headBounded_unionWith (f : Rat → Rat → Rat) {A B : Den} {qa qb qq : Rat} (ha : HeadBoundedBy qa A)
    (hb : HeadBoundedBy qb B) (hl : qa ≤ qq) (hr : qb ≤ qq) (hf : ∀ s t, s ≤ qa → t ≤ qb → f s t ≤ qq) :
    HeadBoundedBy qq (unionWith f A B) := by
  intro x r L hd
  cases A with
  | nil =>
    rw [unionWith_nil_left] at hd
    exact Rat.le_trans (hb x r L hd) hr
  | cons p La =>
    obtain ⟨xa, ra⟩ := p
    cases B with
    | nil =>
      rw [unionWith_nil_right] at hd
      exact Rat.le_trans (ha x r L hd) hl
    | cons p Lb =>
      obtain ⟨xb, rb⟩ := p
      have ha' := ha xa ra La rfl
      have hb' := hb xb rb Lb rfl
      rw [unionWith_cons] at hd
      split at hd
      · cases hd; exact Rat.le_trans ha' hl
      · split at hd
        · cases hd; exact Rat.le_trans hb' hr
        · cases hd; exact hf _ _ ha' hb'

theorem bounded_unionAdd {A B : Den} {qa qb : Rat} (bA : BoundedBy qa A) (bB : BoundedBy qb B) (h0a : 0 ≤ qa)
    (h0b : 0 ≤ qb) : BoundedBy (qa + qb) (unionWith (· + ·) A B) :=
  bounded_unionWith _ bA bB (rat_le_add_of_nonneg_right Rat.le_refl h0b) (rat_le_add_of_nonneg_left Rat.le_refl h0a)
    fun _ _ => rat_add_le_add

theorem bounded_unionMax {A B : Den} {qa qb : Rat} (bA : BoundedBy qa A) (bB : BoundedBy qb B) :
    BoundedBy (max qa qb) (unionWith max A B) :=
  bounded_unionWith _ bA bB (rat_le_max_of_le_left Rat.le_refl) (rat_le_max_of_le_right Rat.le_refl) fun _ _ => rat_max_le_max

/-- what the skipped side loses or lowers stays at most `q` after the other side's score, at most `bmax`, is added -/
theorem keeps_unionAdd_left {q bmax : Rat} {A A' B : Den} (hA : Asc A) (hA' : Asc A') (hB : Asc B) (nA : NonNegDen A)
    (bB : BoundedBy bmax B) (h0 : 0 ≤ bmax) (KA : Keeps (q - bmax) A' A) :
    Keeps q (unionWith (· + ·) A' B) (unionWith (· + ·) A B) := by
  refine keeps_of_at (asc_unionWith _ hA hB) (asc_unionWith _ hA' hB) fun d => ?_
  rw [lookup_unionWith _ hA' hB, lookup_unionWith _ hA hB]
  have ka := KA.at hA hA' d
  cases hb : lookup B d with
  | none => rw [optUnion_none_right, optUnion_none_right]; exact ka.mono (rat_sub_le_of_nonneg q h0)
  | some t =>
    have ht := bounded_lookup bB hb
    generalize lookup A' d = a' at ka ⊢
    generalize ha : lookup A d = a at ka ⊢
    cases ka with
    | absent => exact .refl _ _
    | @drop s hs => exact .lower (rat_add_le_of_le_sub hs ht) (rat_le_add_of_nonneg_left Rat.le_refl (nonNeg_lookup nA ha))
    | @kept s' s hle heq =>
      refine .kept (Rat.add_le_add_right.2 hle) fun hq => ?_
      rw [heq (Rat.not_le.1 fun hs => absurd (rat_add_le_of_le_sub hs ht) (Rat.not_le.2 hq))]

/-- `UnionMatcher.skip_to_quality`: side `a` skipped below `q - b.max_quality()`, then side `b` below
    `q - a.max_quality()` -/
theorem keeps_unionAdd {q amax bmax : Rat} {A A' B B' : Den} (hA : Asc A) (hA' : Asc A') (hB : Asc B) (hB' : Asc B')
    (nA : NonNegDen A) (nB : NonNegDen B) (bB : BoundedBy bmax B) (hb0 : 0 ≤ bmax) (bA' : BoundedBy amax A')
    (ha0 : 0 ≤ amax) (KA : Keeps (q - bmax) A' A) (KB : Keeps (q - amax) B' B) :
    Keeps q (unionWith (· + ·) A' B') (unionWith (· + ·) A B) := by
  refine Keeps.trans ?_ (keeps_unionAdd_left hA hA' hB nA bB hb0 KA)
  rw [unionWith_comm Rat.add_comm hA' hB', unionWith_comm Rat.add_comm hA' hB]
  exact keeps_unionAdd_left hB hB' hA' nB bA' ha0 KB

theorem keeps_unionMax_left {q : Rat} {A A' B : Den} (hA : Asc A) (hA' : Asc A') (hB : Asc B) (KA : Keeps q A' A) :
    Keeps q (unionWith max A' B) (unionWith max A B) := by
  refine keeps_of_at (asc_unionWith _ hA hB) (asc_unionWith _ hA' hB) fun d => ?_
  rw [lookup_unionWith _ hA' hB, lookup_unionWith _ hA hB]
  have ka := KA.at hA hA' d
  cases hb : lookup B d with
  | none => rw [optUnion_none_right, optUnion_none_right]; exact ka
  | some t =>
    generalize lookup A' d = a' at ka ⊢
    generalize lookup A d = a at ka ⊢
    cases ka with
    | absent => exact .refl _ _
    | @drop s hs => exact .kept (rat_le_max_of_le_right Rat.le_refl) fun hq => by show t = max s t; grind
    | @kept s' s hle heq =>
      exact .kept (rat_max_le_max hle Rat.le_refl) fun hq => by show max s' t = max s t; grind

/-- `DisjunctionMaxMatcher.skip_to_quality`: both sides skipped below the same `q` -/
theorem keeps_unionMax {q : Rat} {A A' B B' : Den} (hA : Asc A) (hA' : Asc A') (hB : Asc B) (hB' : Asc B')
    (KA : Keeps q A' A) (KB : Keeps q B' B) : Keeps q (unionWith max A' B') (unionWith max A B) := by
  refine Keeps.trans ?_ (keeps_unionMax_left hA hA' hB KA)
  rw [unionWith_comm rat_max_comm hA' hB', unionWith_comm rat_max_comm hA' hB]
  exact keeps_unionMax_left hB hB' hA' KB

theorem nonNeg_interWith (f : Rat → Rat → Rat) {A B : Den} (nA : NonNegDen A) (nB : NonNegDen B)
    (hf : ∀ a b, 0 ≤ a → 0 ≤ b → 0 ≤ f a b) : NonNegDen (interWith f A B) := fun p hp => by
  obtain ⟨a, ha, t, hb, rfl⟩ := mem_interWith.1 hp
  exact hf _ _ (nA a ha) (nonNeg_lookup nB hb)

theorem bounded_interAdd {A B : Den} {qa qb : Rat} (bA : BoundedBy qa A) (bB : BoundedBy qb B) :
    BoundedBy (qa + qb) (interWith (· + ·) A B) := fun p hp => by
  obtain ⟨a, ha, t, hb, rfl⟩ := mem_interWith.1 hp
  exact rat_add_le_add (bA a ha) (bounded_lookup bB hb)

theorem bounded_interFst {A B : Den} {qa : Rat} (bA : BoundedBy qa A) :
    BoundedBy qa (interWith (fun s _ => s) A B) := fun p hp => by
  obtain ⟨a, ha, -, -, rfl⟩ := mem_interWith.1 hp
  exact bA a ha

theorem keeps_interWith_left (f : Rat → Rat → Rat) {q q' : Rat} {A A' B : Den} (hA : Asc A) (hA' : Asc A')
    (KA : Keeps q' A' A) (hmono : ∀ t a b, a ≤ b → f a t ≤ f b t) (hthr : ∀ e ∈ B, ∀ s, s ≤ q' → f s e.2 ≤ q) :
    Keeps q (interWith f A' B) (interWith f A B) := by
  refine keeps_of_at (asc_interWith _ _ hA) (asc_interWith _ _ hA') fun d => ?_
  rw [lookup_interWith _ B, lookup_interWith _ B]
  have ka := KA.at hA hA' d
  cases hb : lookup B d with
  | none => cases lookup A' d <;> cases lookup A d <;> exact .absent
  | some t =>
    have := ka.map (f · t) (hmono t) fun s _ => hthr (d, t) (lookup_some_mem hb) s
    cases h1 : lookup A' d <;> cases h2 : lookup A d <;> rw [h1, h2] at this <;> exact this

theorem keeps_interAdd_left {q bmax : Rat} {A A' B : Den} (hA : Asc A) (hA' : Asc A') (bB : BoundedBy bmax B)
    (KA : Keeps (q - bmax) A' A) : Keeps q (interWith (· + ·) A' B) (interWith (· + ·) A B) :=
  keeps_interWith_left _ hA hA' KA (fun _ _ _ h => Rat.add_le_add_right.2 h)
    fun e he _ hs => rat_add_le_of_le_sub hs (bB e he)

theorem keeps_interAdd_right {q amax : Rat} {A B B' : Den} (hA : Asc A) (hB : Asc B) (hB' : Asc B')
    (bA : BoundedBy amax A) (KB : Keeps (q - amax) B' B) :
    Keeps q (interWith (· + ·) A B') (interWith (· + ·) A B) := by
  rw [interWith_comm Rat.add_comm hA hB', interWith_comm Rat.add_comm hA hB]
  exact keeps_interAdd_left hB hB' bA KB

/-- `RequireMatcher`: only the first operand scores -/
theorem keeps_interFst_left {q : Rat} {A A' B : Den} (hA : Asc A) (hA' : Asc A') (KA : Keeps q A' A) :
    Keeps q (interWith (fun s _ => s) A' B) (interWith (fun s _ => s) A B) :=
  keeps_interWith_left _ hA hA' KA (fun _ _ _ h => h) fun _ _ _ hs => hs

theorem keeps_filter_ids {q : Rat} {A A' : Den} (p : Nat → Bool) (hA : Asc A) (hA' : Asc A') (KA : Keeps q A' A) :
    Keeps q (A'.filter fun e => p e.1) (A.filter fun e => p e.1) := by
  refine keeps_of_at (asc_sublist List.filter_sublist hA) (asc_sublist List.filter_sublist hA') fun d => ?_
  rw [lookup_filter p d, lookup_filter p d]
  split
  · exact KA.at hA hA' d
  · exact .absent

theorem diff_subset (A B : Den) : diff A B ⊆ A := List.filter_sublist.subset

theorem keepIds_subset (S : List Nat) (excl : Bool) (C : Den) : keepIds S excl C ⊆ C := List.filter_sublist.subset

theorem keeps_diff_left {q : Rat} {A A' B : Den} (hA : Asc A) (hA' : Asc A') (KA : Keeps q A' A) :
    Keeps q (diff A' B) (diff A B) := keeps_filter_ids (fun i => (lookup B i).isNone) hA hA' KA

theorem keeps_keepIds {q : Rat} {C C' : Den} (S : List Nat) (excl : Bool) (hC : Asc C) (hC' : Asc C')
    (K : Keeps q C' C) : Keeps q (keepIds S excl C') (keepIds S excl C) :=
  keeps_filter_ids (fun i => (S.contains i) != excl) hC hC' K

theorem keeps_map_key {q q' : Rat} {C C' : Den} (g : Nat × Rat → Rat) (hC : Asc C) (hC' : Asc C') (K : Keeps q' C' C)
    (hmono : ∀ d a b, a ≤ b → g (d, a) ≤ g (d, b)) (hthr : ∀ p ∈ C, p.2 ≤ q' → g p ≤ q) :
    Keeps q (C'.map fun p => (p.1, g p)) (C.map fun p => (p.1, g p)) := by
  refine keeps_of_at (asc_map_key _ hC) (asc_map_key _ hC') fun d => ?_
  rw [lookup_map_key, lookup_map_key]
  exact (K.at hC hC' d).map _ (hmono d) fun r hr => hthr (d, r) (lookup_some_mem hr)

theorem nonNeg_scale {w : Rat} {C : Den} (hw : 0 ≤ w) (n : NonNegDen C) : NonNegDen (scale w C) := by
  intro p hp
  obtain ⟨e, he, rfl⟩ := List.mem_map.1 hp
  exact Rat.mul_nonneg (n e he) hw

theorem bounded_scale {w q : Rat} {C : Den} (hw : 0 ≤ w) (b : BoundedBy q C) : BoundedBy (q * w) (scale w C) := by
  intro p hp
  obtain ⟨e, he, rfl⟩ := List.mem_map.1 hp
  exact Rat.mul_le_mul_of_nonneg_right (b e he) hw

theorem nonNeg_constScore {c : Rat} (hc : 0 ≤ c) (C : Den) : NonNegDen (constScore c C) := by
  intro p hp
  obtain ⟨e, -, rfl⟩ := List.mem_map.1 hp
  exact hc

theorem bounded_constScore (c : Rat) (C : Den) : BoundedBy c (constScore c C) := by
  intro p hp
  obtain ⟨e, -, rfl⟩ := List.mem_map.1 hp
  exact Rat.le_refl

/-- `WrappingMatcher.skip_to_quality`: the child is asked for `q / boost` -/
theorem keeps_scale {q w : Rat} {C C' : Den} (hw : 0 < w) (hC : Asc C) (hC' : Asc C') (K : Keeps (q / w) C' C) :
    Keeps q (scale w C') (scale w C) :=
  keeps_map_key (fun p => p.2 * w) hC hC' K (fun _ _ _ h => Rat.mul_le_mul_of_nonneg_right h (Rat.le_of_lt hw))
    fun _ _ hr => Rat.not_lt.1 fun h => absurd hr (Rat.not_le.2 ((Rat.div_lt_iff hw).2 h))

/-- `WrappingMatcher.replace`: a boost in `(0, 1]` with the threshold handed down unscaled -/
theorem keeps_scale_unscaled {q w : Rat} {C C' : Den} (hw0 : 0 < w) (hw1 : w ≤ 1) (hC : Asc C) (hC' : Asc C')
    (nC : NonNegDen C) (K : Keeps q C' C) : Keeps q (scale w C') (scale w C) :=
  keeps_map_key (fun p => p.2 * w) hC hC' K (fun _ _ _ h => Rat.mul_le_mul_of_nonneg_right h (Rat.le_of_lt hw0))
    fun p hp hr => by
      have := Rat.mul_le_mul_of_nonneg_left hw1 (nC p hp)
      rw [Rat.mul_one] at this
      exact Rat.le_trans this hr

theorem nonNeg_leftJoin {A B : Den} (nA : NonNegDen A) (nB : NonNegDen B) : NonNegDen (leftJoin A B) := by
  intro p hp
  obtain ⟨e, he, rfl⟩ := List.mem_map.1 hp
  cases hb : lookup B e.1 with
  | none => exact nA e he
  | some rb => exact Rat.add_nonneg (nA e he) (nonNeg_lookup nB hb)

theorem bounded_leftJoin {A B : Den} {qa qb : Rat} (bA : BoundedBy qa A) (bB : BoundedBy qb B) (h0 : 0 ≤ qb) :
    BoundedBy (qa + qb) (leftJoin A B) := by
  intro p hp
  obtain ⟨e, he, rfl⟩ := List.mem_map.1 hp
  cases hb : lookup B e.1 with
  | none => exact rat_le_add_of_nonneg_right (bA e he) h0
  | some rb => exact rat_add_le_add (bA e he) (bounded_lookup bB hb)

theorem keeps_leftJoin_left {q bmax : Rat} {A A' B : Den} (hA : Asc A) (hA' : Asc A') (bB : BoundedBy bmax B)
    (h0 : 0 ≤ bmax) (KA : Keeps (q - bmax) A' A) : Keeps q (leftJoin A' B) (leftJoin A B) := by
  refine keeps_map_key _ hA hA' KA (fun d a b h => ?_) fun p _ hr => ?_
  · cases lookup B d
    · exact h
    · exact Rat.add_le_add_right.2 h
  · cases hb : lookup B p.1 with
    | none => exact Rat.le_trans hr (rat_sub_le_of_nonneg q h0)
    | some t => exact rat_add_le_of_le_sub hr (bounded_lookup bB hb)

theorem keeps_leftJoin_right {q amax : Rat} {A B B' : Den} (hA : Asc A) (hB : Asc B) (hB' : Asc B') (nB : NonNegDen B)
    (bA : BoundedBy amax A) (KB : Keeps (q - amax) B' B) : Keeps q (leftJoin A B') (leftJoin A B) := by
  refine keeps_of_at (asc_leftJoin _ hA) (asc_leftJoin _ hA) fun d => ?_
  rw [lookup_leftJoin, lookup_leftJoin]
  have kb := KB.at hB hB' d
  cases ha : lookup A d with
  | none => exact .absent
  | some s =>
    have hs := bounded_lookup bA ha
    generalize lookup B' d = b' at kb ⊢
    generalize hb : lookup B d = b at kb ⊢
    cases kb with
    | absent => exact .refl _ _
    | @drop t ht =>
      exact .lower (rat_add_le_of_le_sub' hs ht) (rat_le_add_of_nonneg_right Rat.le_refl (nonNeg_lookup nB hb))
    | @kept t' t hle heq =>
      refine .kept (Rat.add_le_add_left.2 hle) fun hq => ?_
      rw [heq (Rat.not_le.1 fun ht => absurd (rat_add_le_of_le_sub' hs ht) (Rat.not_le.2 hq))]

theorem le_of_bounded_lt {q b : Rat} {L : Den} (h : BoundedBy b L) (hb : b < q) {d : Nat} {r : Rat}
    (hl : lookup L d = some r) : r ≤ q := Rat.le_trans (bounded_lookup h hl) (Rat.le_of_lt hb)

/-- `UnionMatcher.replace`: side `B` cannot reach `q` alone ⇒ `AndMaybe(A, B)` -/
theorem keeps_leftJoin_of_union {q bmax : Rat} {A B : Den} (hA : Asc A) (hB : Asc B)
    (bB : BoundedBy bmax B) (hb : bmax < q) : Keeps q (leftJoin A B) (unionWith (· + ·) A B) := by
  refine keeps_of_at (asc_unionWith _ hA hB) (asc_leftJoin _ hA) fun d => ?_
  rw [lookup_leftJoin, lookup_unionWith _ hA hB]
  cases h1 : lookup A d <;> cases h2 : lookup B d
  · exact .absent
  · exact .drop (le_of_bounded_lt bB hb h2)
  · exact .refl _ _
  · exact .refl _ _

theorem keeps_leftJoin_of_union' {q amax : Rat} {A B : Den} (hA : Asc A) (hB : Asc B)
    (bA : BoundedBy amax A) (ha : amax < q) : Keeps q (leftJoin B A) (unionWith (· + ·) A B) := by
  rw [unionWith_comm Rat.add_comm hA hB]
  exact keeps_leftJoin_of_union hB hA bA ha

/-- `DisjunctionMaxMatcher.replace`: side `B` cannot reach `q` ⇒ side `A` alone -/
theorem keeps_left_of_unionMax {q bmax : Rat} {A B : Den} (hA : Asc A) (hB : Asc B)
    (bB : BoundedBy bmax B) (hb : bmax < q) : Keeps q A (unionWith max A B) := by
  refine keeps_of_at (asc_unionWith _ hA hB) hA fun d => ?_
  rw [lookup_unionWith _ hA hB]
  cases h1 : lookup A d <;> cases h2 : lookup B d
  · exact .absent
  · exact .drop (le_of_bounded_lt bB hb h2)
  · exact .refl _ _
  · rename_i s t
    have := le_of_bounded_lt bB hb h2
    exact .kept (rat_le_max_of_le_left Rat.le_refl) fun hq => by show s = max s t; grind

theorem keeps_right_of_unionMax {q amax : Rat} {A B : Den} (hA : Asc A) (hB : Asc B)
    (bA : BoundedBy amax A) (ha : amax < q) : Keeps q B (unionWith max A B) := by
  rw [unionWith_comm rat_max_comm hA hB]
  exact keeps_left_of_unionMax hB hA bA ha

/-- `AndMaybeMatcher.replace`: the required side cannot reach `q` alone ⇒ intersection -/
theorem keeps_inter_of_leftJoin {q amax : Rat} {A B : Den} (hA : Asc A) (bA : BoundedBy amax A) (ha : amax < q) :
    Keeps q (interWith (· + ·) A B) (leftJoin A B) := by
  refine keeps_of_at (asc_leftJoin _ hA) (asc_interWith _ _ hA) fun d => ?_
  rw [lookup_interWith _ B, lookup_leftJoin]
  cases h1 : lookup A d <;> cases h2 : lookup B d
  · exact .absent
  · exact .absent
  · exact .drop (le_of_bounded_lt bA ha h1)
  · exact .refl _ _

/-- `UnionMatcher.replace`: neither side can reach `q` alone ⇒ only common documents matter -/
theorem keeps_inter_of_union {q amax bmax : Rat} {A B : Den} (hA : Asc A) (hB : Asc B)
    (bA : BoundedBy amax A) (bB : BoundedBy bmax B) (ha : amax < q) (hb : bmax < q) :
    Keeps q (interWith (· + ·) A B) (unionWith (· + ·) A B) :=
  (keeps_inter_of_leftJoin hA bA ha).trans (keeps_leftJoin_of_union hA hB bB hb)

end WM.Matcher
