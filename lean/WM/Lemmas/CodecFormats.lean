import WM.Spec.CodecIndex
import WM.Lemmas.CodecBasic
/-! `formats.py`.  Round trips of the delta loops of the value codecs.  Then `groupTokens` (the
`defaultdict(list)` accumulation of `word_values`) lists, for every distinct token text in order of
first occurrence, the images of its occurrences in stream order.  From that, `word_values` of every
format in closed form (`itemOf`, `wordValues_eq`), the one statement over all formats that its items
agree with `postingSpec` (`itemOf_spec`), and the items of a vector. -/
namespace WM.Codec

theorem decodeCharsAux_encode (pb cb : Int) (l : List (Int × Int × Int)) :
    decodeCharsAux pb cb (encodeCharsAux pb cb l) = l := by
  induction l generalizing pb cb with
  | nil => rfl
  | cons x l ih =>
    obtain ⟨p, s, e⟩ := x
    simp only [encodeCharsAux, decodeCharsAux, Int.sub_add_cancel, ih]

theorem encodeCharsAux_fst (pb cb : Int) (l : List (Int × Int × Int)) :
    (encodeCharsAux pb cb l).map (·.1) = deltaEncodeAux pb (l.map (·.1)) := by
  induction l generalizing pb cb with
  | nil => rfl
  | cons x l ih =>
    obtain ⟨p, s, e⟩ := x
    simp only [encodeCharsAux, List.map_cons, deltaEncodeAux, ih]

theorem decodePosBoostsAux_encode (b : Int) (l : List (Int × Rat)) :
    decodePosBoostsAux b (encodePosBoostsAux b l) = l := by
  induction l generalizing b with
  | nil => rfl
  | cons x l ih =>
    obtain ⟨p, w⟩ := x
    simp only [encodePosBoostsAux, decodePosBoostsAux, Int.sub_add_cancel, ih]

theorem encodePosBoostsAux_fst (b : Int) (l : List (Int × Rat)) :
    (encodePosBoostsAux b l).map (·.1) = deltaEncodeAux b (l.map (·.1)) := by
  induction l generalizing b with
  | nil => rfl
  | cons x l ih =>
    obtain ⟨p, w⟩ := x
    simp only [encodePosBoostsAux, List.map_cons, deltaEncodeAux, ih]

theorem decodeCharBoostsAux_encode (pb cb : Int) (l : List (Int × Int × Int × Rat)) :
    decodeCharBoostsAux pb cb (encodeCharBoostsAux pb cb l) = l := by
  induction l generalizing pb cb with
  | nil => rfl
  | cons x l ih =>
    obtain ⟨p, s, e, w⟩ := x
    have hadd : ∀ a b : Int, a + (b - a) = b := fun a b => by rw [Int.add_comm, Int.sub_add_cancel]
    simp only [encodeCharBoostsAux, decodeCharBoostsAux, hadd, ih]

theorem encodeCharBoostsAux_fst (pb cb : Int) (l : List (Int × Int × Int × Rat)) :
    (encodeCharBoostsAux pb cb l).map (·.1) = deltaEncodeAux pb (l.map (·.1)) := by
  induction l generalizing pb cb with
  | nil => rfl
  | cons x l ih =>
    obtain ⟨p, s, e, w⟩ := x
    simp only [encodeCharBoostsAux, List.map_cons, deltaEncodeAux, ih]

/-- `decode_positions ∘ Positions.encode = id` for every position list (gaps, repeats, even
    descending positions). -/
theorem positions_roundtrip (ps : List Int) : decodePositions (encodePositions ps) = some ps := by
  simp [decodePositions, encodePositions, deltaDecode_encode]

theorem characters_roundtrip (l : List (Int × Int × Int)) :
    decodeCharacters (encodeChars l) = some l ∧
    decodePositions (encodeChars l) = some (l.map (·.1)) := by
  constructor
  · simp [decodeCharacters, encodeChars, decodeCharsAux_encode]
  · simp only [decodePositions, encodeChars, encodeCharsAux_fst]
    exact congrArg some (deltaDecodeAux_encodeAux 0 _)

theorem positionBoosts_roundtrip (f32 : Rat → Rat) (l : List (Int × Rat)) :
    decodePositionBoosts (encodePosBoosts f32 l) = some l ∧
    decodePositions (encodePosBoosts f32 l) = some (l.map (·.1)) := by
  constructor
  · simp [decodePositionBoosts, encodePosBoosts, decodePosBoostsAux_encode]
  · simp only [decodePositions, encodePosBoosts, encodePosBoostsAux_fst]
    exact congrArg some (deltaDecodeAux_encodeAux 0 _)

theorem characterBoosts_roundtrip (f32 : Rat → Rat) (fb : Rat) (l : List (Int × Int × Int × Rat)) :
    decodeCharacterBoosts (encodeCharBoosts f32 fb l).1 = some l ∧
    decodePositions (encodeCharBoosts f32 fb l).1 = some (l.map (·.1)) ∧
    decodeCharacters (encodeCharBoosts f32 fb l).1 = some (l.map fun (p, s, e, _) => (p, s, e)) ∧
    decodePositionBoosts (encodeCharBoosts f32 fb l).1 = some (l.map fun (p, _, _, b) => (p, b)) := by
  refine ⟨?_, ?_, ?_, ?_⟩
  · simp [decodeCharacterBoosts, encodeCharBoosts, decodeCharBoostsAux_encode]
  · simp only [decodePositions, encodeCharBoosts, encodeCharBoostsAux_fst]
    exact congrArg some (deltaDecodeAux_encodeAux 0 _)
  · simp [decodeCharacters, encodeCharBoosts, decodeCharBoostsAux_encode]
  · simp [decodePositionBoosts, encodeCharBoosts, decodeCharBoostsAux_encode]

theorem groupTokens_snoc {β : Type} (f : Token → β) (toks : List Token) (t : Token) :
    groupTokens f (toks ++ [t]) = dictAppend (groupTokens f toks) t.text (f t) := by
  simp [groupTokens, List.foldl_append]

theorem distinctTexts_snoc (toks : List Token) (t : Token) :
    distinctTexts (toks ++ [t]) = insertNew (distinctTexts toks) t.text := by
  simp [distinctTexts, List.foldl_append]

theorem occ_snoc (toks : List Token) (t : Token) (w : String) :
    occ (toks ++ [t]) w = occ toks w ++ (if t.text == w then [t] else []) := by
  simp only [occ, List.filter_append, List.filter_cons, List.filter_nil]

theorem mem_insertNew {l : List String} {k x : String} : x ∈ insertNew l k ↔ x ∈ l ∨ k = x := by
  unfold insertNew
  split
  · next h => exact ⟨Or.inl, fun h' => h'.elim id (· ▸ h)⟩
  · rw [List.mem_append, List.mem_singleton, eq_comm]

theorem nodup_insertNew {l : List String} (k : String) (h : l.Nodup) : (insertNew l k).Nodup := by
  unfold insertNew
  split
  · exact h
  · next hk =>
    refine List.nodup_append.mpr ⟨h, List.pairwise_singleton _ k, fun a ha b hb e => hk ?_⟩
    rwa [← List.mem_singleton.mp hb, ← e]

theorem insertNew_cons_ne {a k : String} (h : a ≠ k) (l : List String) :
    insertNew (a :: l) k = a :: insertNew l k := by
  unfold insertNew
  by_cases hk : k ∈ l
  · rw [if_pos hk, if_pos (List.mem_cons_of_mem _ hk)]
  · rw [if_neg hk, if_neg fun h' => (List.mem_cons.mp h').elim (fun e => h e.symm) hk]; rfl

theorem mem_distinctTexts (toks : List Token) (k : String) :
    k ∈ distinctTexts toks ↔ ∃ t ∈ toks, t.text = k := by
  induction toks using snoc_induction with
  | nil => simp [distinctTexts]
  | snoc toks t ih =>
    rw [distinctTexts_snoc, mem_insertNew, ih]
    simp only [List.mem_append, List.mem_singleton, or_and_right, exists_or, exists_eq_left]

theorem nodup_distinctTexts (toks : List Token) : (distinctTexts toks).Nodup :=
  List.foldlRecOn toks _ List.nodup_nil fun _ h t _ => nodup_insertNew t.text h

theorem occ_isEmpty_eq_false_iff (toks : List Token) (w : String) :
    (occ toks w).isEmpty = false ↔ w ∈ distinctTexts toks := by
  rw [mem_distinctTexts]
  simp [occ]

theorem occ_eq_nil_of_not_mem (toks : List Token) (k : String) (h : k ∉ distinctTexts toks) :
    occ toks k = [] :=
  List.isEmpty_iff.mp (Bool.of_not_eq_false fun e => h ((occ_isEmpty_eq_false_iff toks k).mp e))

/-- Appending to the entry of `k` in a dict with distinct keys `keys` and values `g`; a key that
    is not there yet has no values (`defaultdict`). -/
theorem dictAppend_map {β : Type} (keys : List String) (g : String → List β) (k : String) (v : β)
    (hnd : keys.Nodup) (hg : k ∉ keys → g k = []) :
    dictAppend (keys.map fun w => (w, g w)) k v =
      (insertNew keys k).map fun w => (w, if w = k then g w ++ [v] else g w) := by
  induction keys with
  | nil => simp [dictAppend, insertNew, hg]
  | cons a keys ih =>
    have ha : a ∉ keys := (List.nodup_cons.mp hnd).1
    rw [List.map_cons, dictAppend]
    by_cases hak : a = k
    · subst hak
      rw [if_pos rfl, insertNew, if_pos List.mem_cons_self, List.map_cons, if_pos rfl]
      congr 1
      apply List.map_congr_left
      intro w hw
      rw [if_neg fun e : w = a => ha (e ▸ hw)]
    · have hg' : k ∉ keys → g k = [] := fun h => hg fun h' => (List.mem_cons.mp h').elim (fun e => hak e.symm) h
      rw [if_neg hak, ih (List.nodup_cons.mp hnd).2 hg', insertNew_cons_ne hak, List.map_cons, if_neg hak]

theorem groupTokens_eq {β : Type} (f : Token → β) (toks : List Token) :
    groupTokens f toks = (distinctTexts toks).map fun w => (w, (occ toks w).map f) := by
  induction toks using snoc_induction with
  | nil => simp [groupTokens, distinctTexts]
  | snoc toks t ih =>
    rw [groupTokens_snoc, ih, distinctTexts_snoc, dictAppend_map _ _ _ _ (nodup_distinctTexts toks)
      (fun h => by rw [occ_eq_nil_of_not_mem toks _ h]; rfl)]
    -- the entry of `t.text` gains the image of `t`, the others stay
    apply List.map_congr_left
    intro w _
    rw [occ_snoc]
    by_cases hw : w = t.text
    · subst hw; simp
    · have : (t.text == w) = false := beq_eq_false_iff_ne.mpr fun e => hw e.symm
      simp [hw, this]

/-- The `(frequency, weight, value)` of `word_values` for one term, from the term's occurrences. -/
def itemOf (f32 : Rat → Rat) (fmt : Fmt) (fb : Rat) (os : List Token) : Nat × Rat × FValue :=
  match fmt with
  | .existence => (1, fb, .empty)
  | .frequency => (os.length, sumR (os.map (·.boost)) * fb, .freq os.length)
  | .positions => (os.length, sumR (os.map (·.boost)) * fb, encodePositions (os.map (·.pos)))
  | .characters =>
    (os.length, sumR (os.map (·.boost)) * fb, encodeChars (os.map fun t => (t.pos, t.startchar, t.endchar)))
  | .positionBoosts =>
    (os.length, sumR (os.map (·.boost)) * fb, encodePosBoosts f32 (os.map fun t => (t.pos, t.boost)))
  | .characterBoosts =>
    (os.length, sumR (os.map (·.boost)) * fb,
      (encodeCharBoosts f32 fb (os.map fun t => (t.pos, t.startchar, t.endchar, t.boost))).1)

theorem wordValues_eq (f32 : Rat → Rat) (fmt : Fmt) (fb : Rat) (toks : List Token) :
    wordValues f32 fmt fb toks = (distinctTexts toks).map fun w => (w, itemOf f32 fmt fb (occ toks w)) := by
  cases fmt <;>
    simp only [wordValues, groupTokens_eq, itemOf, encodeCharBoosts, List.map_map, List.length_map,
      Function.comp_def]

theorem wordValues_fst (f32 : Rat → Rat) (fmt : Fmt) (fb : Rat) (toks : List Token) :
    (wordValues f32 fmt fb toks).map (·.1) = distinctTexts toks := by
  rw [wordValues_eq, List.map_map]; exact List.map_id _

theorem itemOf_spec (f32 : Rat → Rat) (fmt : Fmt) (fb : Rat) (os : List Token) :
    (itemOf f32 fmt fb os).1 = (postingSpec fmt fb os).freq ∧
    (itemOf f32 fmt fb os).2.1 = (postingSpec fmt fb os).weight ∧
    valueAgrees fmt (itemOf f32 fmt fb os).2.2 (postingSpec fmt fb os) := by
  cases fmt
  · exact ⟨rfl, rfl, rfl, trivial⟩
  · exact ⟨rfl, rfl, rfl, trivial⟩
  · exact ⟨rfl, rfl, by simp [itemOf, encodePositions, decodeFrequency, postingSpec], positions_roundtrip _⟩
  · have h := characters_roundtrip (os.map fun t => (t.pos, t.startchar, t.endchar))
    rw [List.map_map] at h
    exact ⟨rfl, rfl, by simp [itemOf, encodeChars, decodeFrequency, postingSpec], h.2, h.1⟩
  · have h := positionBoosts_roundtrip f32 (os.map fun t => (t.pos, t.boost))
    rw [List.map_map] at h
    refine ⟨rfl, rfl, by simp [itemOf, encodePosBoosts, decodeFrequency, postingSpec], h.2, ?_⟩
    rw [show (postingSpec .positionBoosts fb os).positions.zip (postingSpec .positionBoosts fb os).boosts
        = os.map fun t => (t.pos, t.boost) from List.zip_map']
    exact h.1
  · have h := characterBoosts_roundtrip f32 fb (os.map fun t => (t.pos, t.startchar, t.endchar, t.boost))
    rw [List.map_map, List.map_map, List.map_map] at h
    refine ⟨rfl, rfl, by simp [itemOf, encodeCharBoosts, decodeFrequency, postingSpec], h.2.1, h.2.2.1, ?_, ?_⟩
    · rw [show (postingSpec .characterBoosts fb os).positions.zip (postingSpec .characterBoosts fb os).boosts
          = os.map fun t => (t.pos, t.boost) from List.zip_map']
      exact h.2.2.2
    · rw [show (postingSpec .characterBoosts fb os).chars.zip (postingSpec .characterBoosts fb os).boosts
          = os.map fun t => ((t.pos, t.startchar, t.endchar), t.boost) from List.zip_map',
        List.map_map]
      exact h.1

theorem mem_vectorItems (f32 : Rat → Rat) (fmt : Fmt) (fb : Rat) (toks : List Token)
    (item : String × Rat × FValue) :
    item ∈ vectorItems f32 fmt fb toks ↔ ∃ w ∈ distinctTexts toks,
      item = (w, (itemOf f32 fmt fb (occ toks w)).2.1, (itemOf f32 fmt fb (occ toks w)).2.2) := by
  unfold vectorItems
  rw [List.mem_mergeSort, wordValues_eq, List.map_map, List.mem_map]
  exact ⟨fun ⟨w, hw, e⟩ => ⟨w, hw, e.symm⟩, fun ⟨w, hw, e⟩ => ⟨w, hw, e.symm⟩⟩

end WM.Codec
