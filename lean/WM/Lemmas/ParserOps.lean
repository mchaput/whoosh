import WM.Spec.Parser
import WM.Lemmas.Basics
/-! `do_operators` as a left-to-right scan with the already scanned part as an accumulator
(`passZ`), and the proof that the index loop of the model (`opLoopL`, which mirrors the Python
`while` loop and `replace_self`) computes exactly that scan. -/
namespace WM.Parser

/-- `isinstance(t, optype) and t.grouptype is gtype` -/
def Node.isOpOf (o : OpCfg) : Node → Bool
  | .op t g _ _ => t == o.t && g == o.g
  | _ => false

def Node.isOp : Node → Bool
  | .op .. => true
  | _ => false

/-- The scan: `done` are the nodes left of the cursor (already final for this pass), the second
    argument is the rest of the list. -/
def passZ (o : OpCfg) : List Node → List Node → List Node
  | done, [] => done
  | done, [x] =>
    if x.isOpOf o then
      match o.t with
      | .inf => done
      | .pre => done
      | .post =>
        match done.getLast? with
        | some left => done.dropLast ++ [.group o.g [left] 1]
        | none => done
    else done ++ [x]
  | done, x :: y :: rest =>
    if x.isOpOf o then
      match o.t with
      | .inf =>
        match done.getLast? with
        | some left => passZ o (done.dropLast ++ [combineL o.g left y]) rest
        | none => passZ o done (y :: rest)
      | .pre => passZ o (done ++ [.group o.g [y] 1]) rest
      | .post =>
        match done.getLast? with
        | some left => passZ o (done.dropLast ++ [.group o.g [left] 1]) (y :: rest)
        | none => passZ o done (y :: rest)
    else passZ o (done ++ [x]) (y :: rest)
termination_by _ rest => rest.length
decreasing_by all_goals simp_wf <;> omega

/-- `replace_self` of an infix operator reads the associativity off the node, not off the tagger of the pass: the
    scan is what the left-to-right loop does only when the operator nodes in the list are left-associative. -/
def Node.laOK : Node → Bool
  | .op _ _ la _ => la
  | _ => true

theorem isOpOf_true {o : OpCfg} {x : Node} (h : x.isOpOf o = true) :
    ∃ la txt, x = .op o.t o.g la txt := by
  cases x <;> simp [Node.isOpOf] at h
  obtain ⟨rfl, rfl⟩ := h
  exact ⟨_, _, rfl⟩

theorem isOp_isOpOf {n : Node} (o : OpCfg) (h : n.isOp = false) : n.isOpOf o = false := by
  cases n <;> first | rfl | cases h

theorem isGroup_laOK {x : Node} (h : x.isGroup = true) : x.laOK = true := by
  cases x <;> first | rfl | cases h

theorem isOp_false_laOK {x : Node} (h : x.isOp = false) : x.laOK = true := by
  cases x <;> first | rfl | cases h

/-! The step equations of the scan do not distinguish a last operand from one that is followed by more nodes. -/

theorem passZ_nil (o : OpCfg) (done : List Node) : passZ o done [] = done := by rw [passZ.eq_def]

theorem passZ_skip (o : OpCfg) (done : List Node) (x : Node) (rest : List Node)
    (hx : x.isOpOf o = false) : passZ o done (x :: rest) = passZ o (done ++ [x]) rest := by
  cases rest with
  | nil => rw [passZ_nil, passZ.eq_def]; simp [hx]
  | cons y rest => rw [passZ.eq_def]; simp [hx]

theorem passZ_pre (o : OpCfg) (done : List Node) (x y : Node) (rest : List Node)
    (ht : o.t = .pre) (hx : x.isOpOf o = true) :
    passZ o done (x :: y :: rest) = passZ o (done ++ [.group o.g [y] 1]) rest := by
  rw [passZ.eq_def]; simp [hx, ht]

theorem passZ_inf (o : OpCfg) (d : List Node) (left x y : Node) (rest : List Node)
    (ht : o.t = .inf) (hx : x.isOpOf o = true) :
    passZ o (d ++ [left]) (x :: y :: rest) = passZ o (d ++ [combineL o.g left y]) rest := by
  rw [passZ.eq_def]; simp [hx, ht]

theorem passZ_post (o : OpCfg) (d : List Node) (left x : Node) (rest : List Node)
    (ht : o.t = .post) (hx : x.isOpOf o = true) :
    passZ o (d ++ [left]) (x :: rest) = passZ o (d ++ [.group o.g [left] 1]) rest := by
  cases rest with
  | nil => rw [passZ_nil, passZ.eq_def]; simp [hx, ht]
  | cons y rest => rw [passZ.eq_def]; simp [hx, ht]

theorem passZ_last (o : OpCfg) (done : List Node) (x : Node) (ht : o.t ≠ .post)
    (hx : x.isOpOf o = true) : passZ o done [x] = done := by
  rw [passZ.eq_def]; cases h : o.t <;> simp_all

theorem passZ_first (o : OpCfg) (x : Node) (rest : List Node) (ht : o.t ≠ .pre)
    (hx : x.isOpOf o = true) : passZ o [] (x :: rest) = passZ o [] rest := by
  cases rest with
  | nil => rw [passZ_nil, passZ.eq_def]; cases h : o.t <;> simp_all
  | cons y rest => rw [passZ.eq_def]; cases h : o.t <;> simp_all

theorem passZ_induct (o : OpCfg) {motive : List Node → List Node → Prop}
    (nil : ∀ done, motive done [])
    (skip : ∀ done x rest, x.isOpOf o = false → motive (done ++ [x]) rest → motive done (x :: rest))
    (pre : ∀ done x y rest, o.t = .pre → x.isOpOf o = true →
      motive (done ++ [.group o.g [y] 1]) rest → motive done (x :: y :: rest))
    (inf : ∀ d left x y rest, o.t = .inf → x.isOpOf o = true →
      motive (d ++ [combineL o.g left y]) rest → motive (d ++ [left]) (x :: y :: rest))
    (post : ∀ d left x rest, o.t = .post → x.isOpOf o = true →
      motive (d ++ [.group o.g [left] 1]) rest → motive (d ++ [left]) (x :: rest))
    (last : ∀ done x, o.t ≠ .post → x.isOpOf o = true → motive done [x])
    (first : ∀ x rest, o.t ≠ .pre → x.isOpOf o = true → motive [] rest → motive [] (x :: rest))
    (done rest : List Node) : motive done rest := by
  induction hn : rest.length using Nat.strongRecOn generalizing done rest with
  | _ n ih =>
    subst hn
    have ih (done' rest' : List Node) (h : rest'.length < rest.length) : motive done' rest' :=
      ih _ h done' rest' rfl
    cases rest with
    | nil => exact nil done
    | cons x rest =>
      have ih1 (done' : List Node) : motive done' rest := ih done' rest (Nat.lt_succ_self _)
      cases hx : x.isOpOf o with
      | false => exact skip done x rest hx (ih1 _)
      | true =>
        have hlast (h : o.t ≠ .post) : motive done [x] := last done x h hx
        cases ht : o.t with
        | pre =>
          cases rest with
          | nil => exact hlast (by simp [ht])
          | cons y rest => exact pre done x y rest ht hx (ih _ rest (Nat.lt_succ_of_lt (Nat.lt_succ_self _)))
        | inf =>
          rcases List.eq_nil_or_concat done with rfl | ⟨d, left, rfl⟩
          · exact first x rest (by simp [ht]) hx (ih1 _)
          · rw [List.concat_eq_append] at hlast ⊢
            cases rest with
            | nil => exact hlast (by simp [ht])
            | cons y rest =>
              exact inf d left x y rest ht hx (ih _ rest (Nat.lt_succ_of_lt (Nat.lt_succ_self _)))
        | post =>
          rcases List.eq_nil_or_concat done with rfl | ⟨d, left, rfl⟩
          · exact first x rest (by simp [ht]) hx (ih1 _)
          · rw [List.concat_eq_append]
            exact post d left x rest ht hx (ih1 _)

theorem passZ_skips (o : OpCfg) (done xs rest : List Node) (h : ∀ x ∈ xs, x.isOpOf o = false) :
    passZ o done (xs ++ rest) = passZ o (done ++ xs) rest := by
  induction xs generalizing done with
  | nil => simp
  | cons x xs ih =>
    rw [List.cons_append, passZ_skip o done x _ (h x (by simp)), ih _ (fun y hy => h y (by simp [hy]))]
    simp

/-- the scan only moves nodes and builds groups over them -/
theorem passZ_forall (o : OpCfg) {P : Node → Prop} (single : ∀ y, P y → P (.group o.g [y] 1))
    (comb : ∀ left y, P left → P y → P (combineL o.g left y))
    (done rest : List Node) (hd : ∀ x ∈ done, P x) (hr : ∀ x ∈ rest, P x) :
    ∀ x ∈ passZ o done rest, P x := by
  induction done, rest using passZ_induct o with
  | nil done => rw [passZ_nil]; exact hd
  | skip done x rest hx ih =>
    rw [List.forall_mem_cons] at hr
    rw [passZ_skip o done x rest hx]
    exact ih (forall_mem_snoc hd hr.1) hr.2
  | pre done x y rest ht hx ih =>
    rw [List.forall_mem_cons, List.forall_mem_cons] at hr
    rw [passZ_pre o done x y rest ht hx]
    exact ih (forall_mem_snoc hd (single y hr.2.1)) hr.2.2
  | inf d left x y rest ht hx ih =>
    rw [List.forall_mem_cons, List.forall_mem_cons] at hr
    rw [List.forall_mem_append, List.forall_mem_singleton] at hd
    rw [passZ_inf o d left x y rest ht hx]
    exact ih (forall_mem_snoc hd.1 (comb left y hd.2 hr.2.1)) hr.2.2
  | post d left x rest ht hx ih =>
    rw [List.forall_mem_append, List.forall_mem_singleton] at hd
    rw [passZ_post o d left x rest ht hx]
    exact ih (forall_mem_snoc hd.1 (single left hd.2)) (List.forall_mem_cons.1 hr).2
  | last done x ht hx => rw [passZ_last o done x ht hx]; exact hd
  | first x rest ht hx ih => rw [passZ_first o x rest ht hx]; exact ih hd (List.forall_mem_cons.1 hr).2

theorem passZ_forall_of_group (o : OpCfg) {P : Node → Prop} (hg : ∀ n, n.isGroup = true → P n) {l : List Node}
    (h : ∀ x ∈ l, P x) : ∀ x ∈ passZ o [] l, P x :=
  passZ_forall o (fun _ _ => hg _ rfl) (fun _ _ _ _ => hg _ (combineL_isGroup ..)) [] l nofun h

theorem opLoopL_step {o : OpCfg} {group g' : List Node} {i i' : Nat}
    (hs : opStepL o group i = .ok (g', i')) : opLoopL o group i = opLoopL o g' i' := by
  -- the step read `group[i]`, so `i` is in bounds
  have hi : i < group.length := by
    unfold opStepL at hs
    cases hg : pyGet group (i : Int) with
    | error e => rw [hg] at hs; cases hs
    | ok x => exact (List.getElem?_eq_some_iff.1 (pyGet_nat.1 hg)).1
  rw [opLoopL.eq_def, dif_pos hi]
  split
  · next e he => rw [hs] at he; cases he
  · next g1 i1 he => rw [hs] at he; cases he; rfl

theorem opLoopL_end (o : OpCfg) (group : List Node) : opLoopL o group group.length = .ok group := by
  rw [opLoopL.eq_def]; simp

theorem opStepL_skip {o : OpCfg} {l : List Node} {i : Nat} {x : Node} (hg : l[i]? = some x)
    (hx : x.isOpOf o = false) : opStepL o l i = .ok (l, i + 1) := by
  unfold opStepL
  rw [pyGet_nat.2 hg]
  split
  · next h => cases h
  · next t g la txt h => cases h; rw [if_neg]; simpa [Node.isOpOf] using hx
  · rfl

theorem opStepL_op {o : OpCfg} {l : List Node} {i : Nat} {la : Bool} {txt : Str}
    (hg : l[i]? = some (.op o.t o.g la txt)) : opStepL o l i = replaceSelf o.t o.g la l i := by
  unfold opStepL
  rw [pyGet_nat.2 hg]
  simp

theorem infixReplace_combineL (g : GK) (d : List Node) (left x right : Node) (rest : List Node) :
    infixReplace g true (d ++ left :: x :: right :: rest) (d.length + 1)
      = .ok (d ++ combineL g left right :: rest, d.length + 1) := by
  rw [infixReplace_ctx]
  unfold combineL
  simp only [Bool.and_true, Bool.not_true, Bool.and_false, Bool.false_eq_true, if_false]
  rcases (if g.merging = true then left.groupOf? g else none) with _ | ⟨ns, b⟩ <;> rfl

theorem opLoopL_snoc (o : OpCfg) (done : List Node) (x : Node) (rest : List Node) :
    opLoopL o ((done ++ [x]) ++ rest) (done ++ [x]).length = opLoopL o (done ++ x :: rest) (done.length + 1) := by
  rw [List.append_assoc, List.singleton_append, List.length_append, List.length_singleton]

theorem opLoopL_eq_passZ (o : OpCfg) (done rest : List Node)
    (hla : ∀ x ∈ rest, x.laOK = true) :
    opLoopL o (done ++ rest) done.length = .ok (passZ o done rest) := by
  induction done, rest using passZ_induct o with
  | nil done => rw [List.append_nil, passZ_nil]; exact opLoopL_end o done
  | skip done x rest hx ih =>
    rw [passZ_skip o done x rest hx, opLoopL_step (opStepL_skip (getElem?_append_len ..) hx), ← opLoopL_snoc]
    exact ih fun z hz => hla z (List.mem_cons_of_mem _ hz)
  | pre done x y rest ht hx ih =>
    obtain ⟨la, txt, rfl⟩ := isOpOf_true hx
    -- after the replacement the loop looks at the new group, which is not an operator, and moves on
    rw [passZ_pre o done _ y rest ht hx,
      opLoopL_step (by rw [opStepL_op (getElem?_append_len ..), ht]; exact prefixReplace_ctx ..),
      opLoopL_step (opStepL_skip (x := .group o.g [y] 1) (getElem?_append_len ..) rfl), ← opLoopL_snoc]
    exact ih fun z hz => hla z (List.mem_cons_of_mem _ (List.mem_cons_of_mem _ hz))
  | inf d left x y rest ht hx ih =>
    obtain ⟨la, txt, rfl⟩ := isOpOf_true hx
    obtain rfl : la = true := hla _ (List.mem_cons_self ..)
    rw [opLoopL_snoc, passZ_inf o d left _ y rest ht hx,
      opLoopL_step (by rw [opStepL_op (getElem?_append_len_succ ..), ht]; exact infixReplace_combineL ..),
      ← opLoopL_snoc]
    exact ih fun z hz => hla z (List.mem_cons_of_mem _ (List.mem_cons_of_mem _ hz))
  | post d left x rest ht hx ih =>
    obtain ⟨la, txt, rfl⟩ := isOpOf_true hx
    rw [opLoopL_snoc, passZ_post o d left _ rest ht hx,
      opLoopL_step (by rw [opStepL_op (getElem?_append_len_succ ..), ht]; exact postfixReplace_ctx ..),
      ← opLoopL_snoc]
    exact ih fun z hz => hla z (List.mem_cons_of_mem _ hz)
  | last done x ht hx =>
    obtain ⟨la, txt, rfl⟩ := isOpOf_true hx
    have hs : opStepL o (done ++ [.op o.t o.g la txt]) done.length = .ok (done, done.length) := by
      rw [opStepL_op (getElem?_append_len ..)]
      cases h : o.t with
      | pre => exact prefixReplace_last ..
      | inf =>
        have := infixReplace_edge o.g la done (.op .inf o.g la txt) [] (by simp)
        rwa [List.append_nil] at this
      | post => exact absurd h ht
    rw [passZ_last o done _ ht hx, opLoopL_step hs]
    exact opLoopL_end o done
  | first x rest ht hx ih =>
    obtain ⟨la, txt, rfl⟩ := isOpOf_true hx
    have hs : opStepL o (.op o.t o.g la txt :: rest) 0 = .ok (rest, 0) := by
      rw [opStepL_op (la := la) (txt := txt) rfl]
      cases h : o.t with
      | pre => exact absurd h ht
      | inf => exact infixReplace_edge o.g la [] _ rest (by simp)
      | post => exact postfixReplace_first o.g _ rest
    rw [passZ_first o _ rest ht hx]
    exact (opLoopL_step hs).trans (ih fun z hz => hla z (List.mem_cons_of_mem _ hz))

end WM.Parser
