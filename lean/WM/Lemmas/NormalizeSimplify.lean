import WM.Lemmas.NormalizeMain
import WM.Spec.CleanS
/-! `simplify(ixreader)` keeps the meaning on the reader it was given. -/
namespace WM.Normalize
open WM.Sat WM.Clean

/-- The reader describes the index of `env`: every term of every document is in the lexicon of its
    field, and that field is in the schema. -/
def ReaderOk (env : Env) (rd : Reader) : Prop :=
  ∀ d ∈ env.index, ∀ f, ∀ x ∈ d.toks f, x ∈ rd.lexicon f ∧ rd.fields.contains f = true

theorem simplifyList_eq_map (m : Nat → Field → Text → Nat → Text → Bool)
    (br : Text → Option ((Nat → Bool) × Nat)) (rd : Reader) (qs : List Q) :
    simplifyList m br rd qs = qs.map (simplify m br rd) := by
  induction qs with
  | nil => rfl
  | cons q qs ih => simp [simplifyList, ih]

theorem multiSimplify_sat (env : Env) (rd : Reader) (f : Field) (b : Rat) (bts : List Text) (d : Doc)
    (hf : rd.fields.contains f = true) :
    sat env (multiSimplify rd f b bts) d = bts.any fun t => (d.toks f).contains t := by
  unfold multiSimplify
  simp only [hf, Bool.not_true, Bool.false_eq_true, ↓reduceIte]
  match bts with
  | [] => rfl
  | [t] => simp [sat]
  | t :: u :: rest =>
    simp only [sat, satAny_eq_any, List.any_map]
    rfl

theorem expansion_any (env : Env) (rd : Reader) (hrd : ReaderOk env rd) (d : Doc) (hd : d ∈ env.index)
    (f : Field) (P : Text → Bool) :
    (((rd.lexicon f).filter P).any fun t => (d.toks f).contains t) = (d.toks f).any fun x => P x := by
  rw [Bool.eq_iff_iff]
  simp only [List.any_eq_true, List.mem_filter, List.contains_eq_mem, decide_eq_true_eq]
  constructor
  · rintro ⟨t, ⟨_, hP⟩, hm⟩
    exact ⟨t, hm, hP⟩
  · rintro ⟨x, hx, hP⟩
    exact ⟨x, ⟨(hrd d hd f x hx).1, hP⟩, hx⟩

theorem leafSimplify_sat (env : Env) (rd : Reader) (hrd : ReaderOk env rd) (d : Doc) (hd : d ∈ env.index)
    (q : Q) (f : Field) (b : Rat) (P : Text → Bool)
    (hbt : btexts env.multi env.bracket rd q = (rd.lexicon f).filter P)
    (hsat : sat env q d = (d.toks f).any fun x => P x) :
    sat env (multiSimplify rd f b (btexts env.multi env.bracket rd q)) d = sat env q d := by
  by_cases hf : rd.fields.contains f = true
  · rw [multiSimplify_sat env rd f b _ d hf, hbt, hsat]
    exact expansion_any env rd hrd d hd f P
  · -- the field is not in the schema: no document has a term in it
    have hnull : multiSimplify rd f b (btexts env.multi env.bracket rd q) = .null := if_pos (by simpa using hf)
    rw [hnull, hsat]
    exact (List.any_eq_false.mpr fun x hx _ => hf (hrd d hd f x hx).2).symm

/-- Hypothesis about the empty term for `simplify` (cf. `EOk`). -/
def EOkS (env : Env) (rd : Reader) (q : Q) : Prop :=
  emptyOkS env.multi env.bracket rd q = true ∨ ∀ d ∈ env.index, d.NoEmpty
def EOkSList (env : Env) (rd : Reader) (qs : List Q) : Prop :=
  emptyOkSList env.multi env.bracket rd qs = true ∨ ∀ d ∈ env.index, d.NoEmpty

mutual
theorem simplify_sat_aux (env : Env) (rd : Reader) (hrd : ReaderOk env rd)
    (hidx : ∀ d ∈ env.index, d.BelowMax) :
    ∀ (q : Q), cleanS env.multi env.bracket rd q = true → EOkS env rd q → ∀ d ∈ env.index,
      sat env (simplify env.multi env.bracket rd q) d = sat env q d
  | .pre f t b c => fun _ _ d hd => leafSimplify_sat env rd hrd d hd _ f b _ rfl (sat_pre env f t b c d)
  | .wild f t b c => fun _ _ d hd => leafSimplify_sat env rd hrd d hd _ f b _ rfl (sat_wild env f t b c d)
  | .multi k f t key b => fun _ _ d hd => by
    show sat env (if k = 3 then .multi k f t key b else _) d = _
    split
    · rfl
    · exact leafSimplify_sat env rd hrd d hd _ f b (fun x => env.multi k f t key x) rfl rfl
  | .range f lo hi lx hx b c => fun _ _ d hd =>
    leafSimplify_sat env rd hrd d hd _ f b (fun x => inRangeQ lo hi lx hx x) rfl rfl
  | .comp k qs b => fun hc he d hd => by
    obtain ⟨hcl, hcn⟩ := (Bool.and_eq_true _ _).mp hc
    have h1 := simplifyList_sat_aux env rd hrd hidx qs hcl (or_of_and he).1 d hd
    cases qs with
    | nil => cases k <;> rfl
    | cons q qs =>
      show sat env (normalize (.comp k (simplifyList env.multi env.bracket rd (q :: qs)) b)) d = _
      rw [normalize_sat_aux env hidx _ hcn (or_of_and he).2 d hd, sat_comp, sat_comp]
      cases k <;> simp only [den, h1.1, h1.2.1, h1.2.2]
  | .seq c qs s o b => fun hc _ d _ => by
    cases qs with
    | nil => rfl
    | cons q qs =>
      obtain ⟨h1, h2⟩ := (Bool.and_eq_true _ _).mp hc
      show sat env (.seq c (normalizeList (simplifyList env.multi env.bracket rd (q :: qs))) s o b) d = _
      rw [beq_iff_eq.mp h1, beq_iff_eq.mp h2]
  | .bin k a b => fun hc he d hd => by
    obtain ⟨hcab, hcn⟩ := (Bool.and_eq_true _ _).mp hc
    obtain ⟨hca, hcb⟩ := (Bool.and_eq_true _ _).mp hcab
    have hes := or_of_and (or_of_and he).1
    show sat env (normalize (.bin k (simplify env.multi env.bracket rd a) (simplify env.multi env.bracket rd b))) d = _
    rw [normalize_sat_aux env hidx _ hcn (or_of_and he).2 d hd]
    exact sat_bin_congr env k a _ b _ (simplify_sat_aux env rd hrd hidx a hca hes.1)
      (simplify_sat_aux env rd hrd hidx b hcb hes.2) d hd
  | .null | .every _ _ | .term _ _ _ | .phrase _ _ _ _ | .not _ _ | .const _ _ | .opq _ _ => fun _ _ _ _ => rfl
theorem simplifyList_sat_aux (env : Env) (rd : Reader) (hrd : ReaderOk env rd)
    (hidx : ∀ d ∈ env.index, d.BelowMax) :
    ∀ (qs : List Q), cleanSList env.multi env.bracket rd qs = true → EOkSList env rd qs → ∀ d ∈ env.index,
      (simplifyList env.multi env.bracket rd qs).isEmpty = qs.isEmpty
      ∧ satAll env (simplifyList env.multi env.bracket rd qs) d = satAll env qs d
      ∧ satAny env (simplifyList env.multi env.bracket rd qs) d = satAny env qs d
  | [] => fun _ _ _ _ => ⟨rfl, rfl, rfl⟩
  | q :: qs => fun hc he d hd =>
    have hc := (Bool.and_eq_true _ _).mp hc
    have h1 := simplify_sat_aux env rd hrd hidx q hc.1 (or_of_and he).1 d hd
    have h2 := simplifyList_sat_aux env rd hrd hidx qs hc.2 (or_of_and he).2 d hd
    ⟨rfl, (congr (congrArg and h1) h2.2.1 : (_ && _) = (_ && _)), (congr (congrArg or h1) h2.2.2 : (_ || _) = (_ || _))⟩
end

end WM.Normalize
