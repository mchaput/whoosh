import WM.Model.Numeric
/-! The masks of `split_ranges` applied to a multiple `X * 2 ^ shift`, as `/`, `%`, `*` on the block index `X`,
    and Python's `&` on a difference that may be negative. -/
namespace WM.Numeric

theorem mask_eq (step shift : Nat) : ((1 <<< step) - 1) <<< shift = (2 ^ step - 1) * 2 ^ shift := by
  rw [Nat.one_shiftLeft, Nat.shiftLeft_eq]

theorem one_shiftLeft_add (shift step : Nat) : 1 <<< (shift + step) = 2 ^ step * 2 ^ shift := by
  rw [Nat.one_shiftLeft, Nat.pow_add']

theorem or_low (x shift : Nat) :
    x ||| (2 ^ shift - 1) = x / 2 ^ shift * 2 ^ shift + (2 ^ shift - 1) := by
  rw [← Nat.shiftLeft_eq,
    Nat.shiftLeft_add_eq_or_of_lt (Nat.sub_one_lt (Nat.ne_of_gt (Nat.two_pow_pos shift)))]
  apply Nat.eq_of_testBit_eq
  intro i
  simp only [Nat.testBit_or, Nat.testBit_shiftLeft, Nat.testBit_two_pow_sub_one,
    Nat.testBit_div_two_pow]
  by_cases h : shift ≤ i
  · simp [h, Nat.sub_add_cancel h, Nat.not_lt.mpr h]
  · simp [h, Nat.lt_of_not_le h]

theorem setbits_mul (X shift : Nat) :
    X * 2 ^ shift ||| ((1 <<< shift) - 1) = X * 2 ^ shift + (2 ^ shift - 1) := by
  rw [Nat.one_shiftLeft, or_low, Nat.mul_div_cancel _ (Nat.two_pow_pos shift)]

theorem mul_and_mask (X step shift : Nat) :
    X * 2 ^ shift &&& ((2 ^ step - 1) * 2 ^ shift) = X % 2 ^ step * 2 ^ shift := by
  rw [← Nat.shiftLeft_eq, ← Nat.shiftLeft_eq, ← Nat.shiftLeft_eq, ← Nat.shiftLeft_and_distrib,
    Nat.and_two_pow_sub_one_eq_mod]

theorem mul_or_mask (X step shift : Nat) :
    X * 2 ^ shift ||| (2 ^ step - 1) * 2 ^ shift
      = (X / 2 ^ step * 2 ^ step + (2 ^ step - 1)) * 2 ^ shift := by
  rw [← Nat.shiftLeft_eq, ← Nat.shiftLeft_eq, ← Nat.shiftLeft_eq, ← Nat.shiftLeft_or_distrib, or_low]

theorem testBit_notMask (n mask i : Nat) :
    (notMask n mask).testBit i = (decide (i < n + 1) && !mask.testBit i) := by
  unfold notMask
  show (pyAnd (Int.negSucc mask) _).testBit i = _
  simp only [pyAnd, Nat.one_shiftLeft, Nat.testBit_xor, Nat.testBit_and, Nat.testBit_two_pow_sub_one]
  cases decide (i < n + 1) <;> cases mask.testBit i <;> rfl

theorem mul_and_notMask (n X step shift : Nat) (hX : X * 2 ^ shift < 2 ^ (n + 1)) :
    X * 2 ^ shift &&& notMask n ((2 ^ step - 1) * 2 ^ shift) = X / 2 ^ step * 2 ^ step * 2 ^ shift := by
  apply Nat.eq_of_testBit_eq
  intro i
  -- bits of `X * 2 ^ shift` above `n` are clear, so the width of the mask does not matter
  have hn : ((X * 2 ^ shift).testBit i && decide (i < n + 1)) = (X * 2 ^ shift).testBit i := by
    by_cases hi : i < n + 1
    · simp [hi]
    · simp [hi, Nat.testBit_lt_two_pow
        (Nat.lt_of_lt_of_le hX (Nat.pow_le_pow_right Nat.two_pos (Nat.le_of_not_lt hi)))]
  rw [Nat.testBit_and, testBit_notMask, ← Bool.and_assoc, hn]
  simp only [Nat.testBit_mul_two_pow, Nat.testBit_two_pow_sub_one, Nat.testBit_div_two_pow]
  by_cases h1 : shift ≤ i
  · by_cases h2 : step ≤ i - shift
    · simp [h1, h2, Nat.not_lt.mpr h2, Nat.sub_add_cancel h2]
    · simp [h1, h2, Nat.lt_of_not_le h2]
  · simp [h1]

theorem pyAnd_ite_sub (c : Prop) [Decidable c] (x d m : Nat) (h : ¬ c → d ≤ x) :
    pyAnd (if c then (x : Int) else (x : Int) - (d : Int)) m = (if c then x else x - d) &&& m := by
  split
  · rfl
  · next hc => rw [← Int.ofNat_sub (h hc)]; rfl

/-- A negative difference above `-2 ^ n` has bit `n` set in two's complement, and `not_mask` keeps it. -/
theorem two_pow_le_pyAnd_sub_of_lt (n step shift x d : Nat) (hn : shift + step ≤ n) (h : x < d) (hd : d ≤ 2 ^ n) :
    2 ^ n ≤ pyAnd ((x : Int) - (d : Int)) (notMask n ((2 ^ step - 1) * 2 ^ shift)) := by
  rw [← Int.subNatNat_eq_coe, Int.subNatNat_of_lt h]
  apply Nat.ge_two_pow_of_testBit
  have h1 : (d - x - 1).testBit n = false := Nat.testBit_lt_two_pow
    (Nat.lt_of_lt_of_le (Nat.sub_one_lt_of_le (Nat.sub_pos_of_lt h) (Nat.sub_le d x)) hd)
  have h2 : ¬ (n - shift < step) := Nat.not_lt.mpr (Nat.le_sub_of_add_le' hn)
  simp [pyAnd, testBit_notMask, Nat.testBit_mul_two_pow, h1, h2]

end WM.Numeric
