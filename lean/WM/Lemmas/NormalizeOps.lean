import WM.Lemmas.NormalizeBasic
import WM.Spec.Clean
/-! `accept(identity)` and `replace` of an absent term (the operator theorems are in `WM/Props/C15.lean`);
    rebuilds are unfolded by definitional equality at the constructor in hand. -/
namespace WM.Normalize
open WM.Sat WM.Clean

mutual
theorem acceptId_of_notFree : ∀ (q : Q), notFree q = true → acceptId q = q
  | .comp k qs b => fun h => congrArg (Q.comp k · b) (acceptIdList_of_notFree qs h)
  | .seq c qs s o b => fun h => congrArg (Q.seq c · s o b) (acceptIdList_of_notFree qs h)
  | .not _ _ => fun h => Bool.noConfusion h
  | .bin k a b => fun h =>
    have h := Bool.and_eq_true_iff.mp h
    show Q.bin k (acceptId a) (acceptId b) = _ by rw [acceptId_of_notFree a h.1, acceptId_of_notFree b h.2]
  | .const q s => fun h => congrArg (Q.const · s) (acceptId_of_notFree q h)
  | .null | .every _ _ | .term _ _ _ | .pre _ _ _ _ | .wild _ _ _ _ | .multi _ _ _ _ _
  | .range _ _ _ _ _ _ _ | .phrase _ _ _ _ | .opq _ _ => fun _ => rfl
theorem acceptIdList_of_notFree : ∀ (qs : List Q), notFreeList qs = true → acceptIdList qs = qs
  | [] => fun _ => rfl
  | q :: qs => fun h =>
    have h := Bool.and_eq_true_iff.mp h
    show acceptId q :: acceptIdList qs = _ by rw [acceptId_of_notFree q h.1, acceptIdList_of_notFree qs h.2]
end

mutual
theorem acceptId_sat (env : Env) : ∀ (q : Q), seqNotFree q = true → sat env (acceptId q) = sat env q
  | .comp k qs b => fun h => by
    have := acceptIdList_sat env qs h
    funext d
    show sat env (.comp k (acceptIdList qs) b) d = _
    cases k <;> simp only [sat, this.1, this.2.1, this.2.2]
  | .seq c qs s o b => fun h => congrArg (fun l => sat env (.seq c l s o b)) (acceptIdList_of_notFree qs h)
  | .not q _ => fun h => congrArg (fun s d => !s d) (acceptId_sat env q h)
  | .bin k a b => fun h => by
    have h' := Bool.and_eq_true_iff.mp h
    have ha := acceptId_sat env a h'.1
    have hb := acceptId_sat env b h'.2
    funext d
    show sat env (.bin k (acceptId a) (acceptId b)) d = _
    cases k <;> simp only [sat, ha, hb]
  | .const q _ => acceptId_sat env q
  | .null | .every _ _ | .term _ _ _ | .pre _ _ _ _ | .wild _ _ _ _ | .multi _ _ _ _ _
  | .range _ _ _ _ _ _ _ | .phrase _ _ _ _ | .opq _ _ => fun _ => rfl
theorem acceptIdList_sat (env : Env) : ∀ (qs : List Q), seqNotFreeList qs = true →
    (acceptIdList qs).isEmpty = qs.isEmpty ∧ satAll env (acceptIdList qs) = satAll env qs
      ∧ satAny env (acceptIdList qs) = satAny env qs
  | [] => fun _ => ⟨rfl, rfl, rfl⟩
  | q :: qs => fun h => by
    have h := Bool.and_eq_true_iff.mp h
    have h1 := acceptId_sat env q h.1
    have h2 := acceptIdList_sat env qs h.2
    refine ⟨rfl, ?_, ?_⟩
    · funext d
      show (sat env (acceptId q) d && satAll env (acceptIdList qs) d) = _
      rw [h1, h2.2.1]; rfl
    · funext d
      show (sat env (acceptId q) d || satAny env (acceptIdList qs) d) = _
      rw [h1, h2.2.2]; rfl
end

mutual
theorem replace_absent_eq (fld : Field) (old new : Text) :
    ∀ (q : Q), absent fld old q = true → replace fld old new q = acceptId q
  | .term f t b => fun h => if_neg fun ⟨hf, ht⟩ => by simp [absent, hf, ht] at h
  | .multi k f t key b => fun h => if_neg fun ⟨hk, hf, ht⟩ => by
    rcases hk with rfl | rfl <;> simp [absent, hf, ht] at h
  | .phrase f ws s b => fun h => by
    show (if f = fld then Q.phrase f (ws.map fun w => if w = old then new else w) s b else .phrase f ws s b) = _
    split
    · next hf =>
      have hm : old ∉ ws := by simpa [absent, hf] using h
      exact congrArg (Q.phrase f · s b)
        ((List.map_congr_left fun w hw => if_neg fun (e : w = old) => hm (e ▸ hw)).trans (List.map_id' ws))
    · rfl
  | .comp k qs b => fun h => congrArg (Q.comp k · b) (replaceList_absent_eq fld old new qs h)
  | .seq c qs s o b => fun h => congrArg (Q.seq c · s o b) (replaceList_absent_eq fld old new qs h)
  | .not q _ => fun h => congrArg (Q.not · 1) (replace_absent_eq fld old new q h)
  | .bin k a b => fun h => by
    have h := Bool.and_eq_true_iff.mp h
    show Q.bin k (replace fld old new a) (replace fld old new b) = _
    rw [replace_absent_eq fld old new a h.1, replace_absent_eq fld old new b h.2]
    rfl
  | .const q s => fun h => congrArg (Q.const · s) (replace_absent_eq fld old new q h)
  | .null | .every _ _ | .pre _ _ _ _ | .wild _ _ _ _ | .range _ _ _ _ _ _ _ | .opq _ _ => fun _ => rfl
theorem replaceList_absent_eq (fld : Field) (old new : Text) :
    ∀ (qs : List Q), absentList fld old qs = true → replaceList fld old new qs = acceptIdList qs
  | [] => fun _ => rfl
  | q :: qs => fun h => by
    have h := Bool.and_eq_true_iff.mp h
    show replace fld old new q :: replaceList fld old new qs = _
    rw [replace_absent_eq fld old new q h.1, replaceList_absent_eq fld old new qs h.2]
    rfl
end

end WM.Normalize
