import WM.Lemmas.SearchSpec
/-! The decidable well-formedness checks imply the hypotheses of the theorems; the query that `Query.docs` evaluates
(`docsForm`) means the same and keeps them. -/
namespace WM.Compile
open WM.Search

mutual
theorem posQ_of_posQuery : ∀ (q : Query), posQuery q = true → PosQ q
  | .term _ _ b, h => (of_decide_eq_true h : 0 < b)
  | .multi _ _ b _, h => (of_decide_eq_true h : 0 < b)
  | .phrase _ _ _ b, h => (of_decide_eq_true h : 0 < b)
  | .numRange _ _ _ _ _ b, h => (of_decide_eq_true h : 0 < b)
  | .every _ b, h => (of_decide_eq_true h : 0 < b)
  | .null, _ => trivial
  | .and qs _, h =>
    have h := Bool.and_eq_true_iff.mp h
    ⟨of_decide_eq_true h.1, posQs_of_posQueries qs h.2⟩
  | .or qs _, h =>
    have h := Bool.and_eq_true_iff.mp h
    ⟨of_decide_eq_true h.1, posQs_of_posQueries qs h.2⟩
  | .dismax qs _, h =>
    have h := Bool.and_eq_true_iff.mp h
    ⟨of_decide_eq_true h.1, posQs_of_posQueries qs h.2⟩
  | .not q, h => posQ_of_posQuery q h
  | .andNot a b, h =>
    have h := Bool.and_eq_true_iff.mp h
    ⟨posQ_of_posQuery a h.1, posQ_of_posQuery b h.2⟩
  | .andMaybe a b, h =>
    have h := Bool.and_eq_true_iff.mp h
    ⟨posQ_of_posQuery a h.1, posQ_of_posQuery b h.2⟩
  | .require a b, h =>
    have h := Bool.and_eq_true_iff.mp h
    ⟨posQ_of_posQuery a h.1, posQ_of_posQuery b h.2⟩
  | .constScore q _, h =>
    have h := Bool.and_eq_true_iff.mp h
    ⟨of_decide_eq_true h.1, posQ_of_posQuery q h.2⟩
theorem posQs_of_posQueries : ∀ (qs : List Query), posQueries qs = true → PosQs qs
  | [], _ => trivial
  | q :: qs, h =>
    have h := Bool.and_eq_true_iff.mp h
    ⟨posQ_of_posQuery q h.1, posQs_of_posQueries qs h.2⟩
end

theorem docsForm_spec (q : Query) : (∀ d, sat (docsForm q) d = sat q d) ∧ (PosQ q → PosQ (docsForm q)) := by
  fun_induction docsForm q with
  | case1 a b =>
    -- `sat (.and [a, b] 1) d` is `true && (sat a d && (sat b d && true))`
    exact ⟨fun d => congrArg (sat a d && ·) (Bool.and_true _), fun h => ⟨by decide, h.1, h.2, trivial⟩⟩
  | case2 a b ih => exact ⟨ih.1, fun h => ih.2 h.1⟩
  | case3 q h1 h2 => exact ⟨fun _ => rfl, id⟩

theorem posLeaf_freq {s : Segment} (h : wfSegment s = true) : PosLeaf freqLeaf s := by
  -- the weight is (sum of the boosts of the tokens with term `t`) × (field boost): the document has such a
  -- token, and the check makes every factor positive
  intro i hi f t ht
  have hd := live_doc_mem hi
  unfold freqLeaf Doc.weight
  have hmem := hasTerm_iff_mem.mp ht
  unfold Doc.terms Doc.tokens at hmem
  unfold Doc.tokens Doc.fboost
  cases hf : (s.doc i).field? f with
  | none => simp [hf] at hmem
  | some fv =>
    simp only [hf] at hmem ⊢
    obtain ⟨k, hk, hkt⟩ := List.mem_map.mp hmem
    unfold wfSegment at h
    have h1 := List.all_eq_true.mp h _ hd
    have h2 := List.all_eq_true.mp h1 fv (List.mem_of_find?_eq_some hf)
    simp only [Bool.and_eq_true, decide_eq_true_eq] at h2
    apply Rat.mul_pos _ h2.1
    apply sum_map_pos
    · intro k' hk'
      have hk'' := (List.mem_filter.mp hk').1
      have h3 := List.all_eq_true.mp h2.2 k' hk''
      simpa using h3
    · intro hnil
      rw [List.filter_eq_nil_iff] at hnil
      exact hnil k hk (by simp [hkt])

end WM.Compile
