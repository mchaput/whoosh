import WM.Model.FSCodec
import WM.Lemmas.FSNames
/-! The codec's file names vs the patterns `clean_files` works with. -/
namespace WM.FS

theorem segOf_segmentId_dot (ix segid rest : Name) (hg : goodSegid segid = true) :
    segOf ix (segmentId ix segid ++ '.' :: rest) = some (segmentId ix segid) := by
  simp only [goodSegid, Bool.and_eq_true, Bool.not_eq_true', List.all_eq_true] at hg
  obtain ⟨hne, hall⟩ := hg
  unfold segOf segmentId
  have : ix ++ '_' :: segid ++ '.' :: rest = (ix ++ ['_']) ++ (segid ++ '.' :: rest) := by simp
  rw [this, stripPrefix_append]
  obtain ⟨h1, h2⟩ := takeWhile_append_stop isSegIdChar segid rest '.' hall (by decide)
  simp only [h1, h2]
  cases segid with
  | nil => simp at hne
  | cons c cs => rfl

theorem mem_segFiles_form (sid : Name) (sh : SegShape) (f : Name) (hf : f ∈ segFiles sid sh) :
    ∃ rest, f = sid ++ '.' :: rest := by
  unfold segFiles at hf
  split at hf
  · simp only [List.mem_singleton] at hf
    exact ⟨['s', 'e', 'g'], by rw [hf]; rfl⟩
  · unfold looseFiles at hf
    simp only [List.mem_append, List.mem_cons, List.mem_map, List.not_mem_nil, or_false] at hf
    rcases hf with ((h | h) | ⟨c, _, h⟩) | h
    · exact ⟨['t', 'r', 'm'], by rw [h]; rfl⟩
    · exact ⟨['p', 's', 't'], by rw [h]; rfl⟩
    · exact ⟨c ++ extCol, by rw [← h]; rfl⟩
    · split at h
      · simp only [List.mem_singleton] at h
        exact ⟨['v', 'p', 's'], by rw [h]; rfl⟩
      · cases h

/-- an index name that starts with a character other than `_` and `.` (assumption of the
    `clean_files` statements: `"MAIN"` by default) -/
def GoodIx (ix : Name) : Prop := ∃ c cs, ix = c :: cs ∧ c ≠ '_' ∧ c ≠ '.'

theorem tocGen_of_goodIx {ix : Name} (h : GoodIx ix) (rest : Name) : tocGen ix (ix ++ rest) = none := by
  obtain ⟨c, cs, rfl, hc, _⟩ := h
  have : stripPrefix ('_' :: (c :: cs ++ ['_'])) (c :: cs ++ rest) = none :=
    stripPrefix_mismatch [] _ _ '_' c (Ne.symm hc)
  rw [tocGen, this]

theorem segOf_underscore {ix : Name} (h : GoodIx ix) (rest : Name) : segOf ix ('_' :: rest) = none := by
  obtain ⟨c, cs, rfl, hc, _⟩ := h
  have : stripPrefix (c :: cs ++ ['_']) ('_' :: rest) = none := stripPrefix_mismatch [] _ _ c '_' hc
  rw [segOf, this]

theorem startsWithDot_of_goodIx {ix : Name} (h : GoodIx ix) (rest : Name) :
    startsWithDot (ix ++ rest) = false := by
  obtain ⟨c, cs, rfl, _, hc⟩ := h
  simp only [List.cons_append]
  unfold startsWithDot
  split
  · next heq => cases heq; exact absurd rfl hc
  · rfl

end WM.FS
