import WM.Model.NormalizeDedupe
import WM.Model.Normalize

/-! `dedupeBy` returns a sublist; a clause it drops has an equivalent in `seen` and a clause it keeps joins
    `seen`, hence `seen` and the output together keep `any` (and, by De Morgan, `all`) of every predicate that
    the equivalence respects. -/
namespace WM.NormalizeDedupe

variable {α : Type}

theorem dedupeBy_sublist (eqv : α → α → Bool) : ∀ (l seen : List α), (dedupeBy eqv seen l).Sublist l
  | [], _ => .slnil
  | s :: rest, seen => by
    unfold dedupeBy
    split
    · exact .cons _ (dedupeBy_sublist eqv rest seen)
    · exact .cons_cons _ (dedupeBy_sublist eqv rest _)

theorem dedupeBy_any (eqv : α → α → Bool) (p : α → Bool) (h : ∀ a b, eqv a b = true → p a = p b) :
    ∀ (l seen : List α), (seen.any p || (dedupeBy eqv seen l).any p) = (seen.any p || l.any p)
  | [], _ => rfl
  | s :: rest, seen => by
    unfold dedupeBy
    split
    · next hs =>
      obtain ⟨t, ht, e⟩ := List.any_eq_true.mp hs
      have hp : p s = true → seen.any p = true := fun hp => List.any_eq_true.mpr ⟨t, ht, h s t e ▸ hp⟩
      rw [dedupeBy_any eqv p h rest seen, List.any_cons]
      cases hps : p s
      · rfl
      · rw [hp hps]; rfl
    · have ih := dedupeBy_any eqv p h rest (s :: seen)
      simp only [List.any_cons, Bool.or_assoc] at ih ⊢
      rw [Bool.or_left_comm, ih, Bool.or_left_comm]

theorem dedupeBy_all (eqv : α → α → Bool) (p : α → Bool) (h : ∀ a b, eqv a b = true → p a = p b)
    (l seen : List α) : (seen.all p && (dedupeBy eqv seen l).all p) = (seen.all p && l.all p) := by
  simp only [List.all_eq_not_any_not, ← Bool.not_or]
  exact congrArg (!·) (dedupeBy_any eqv (!p ·) (fun a b e => congrArg (!·) (h a b e)) l seen)

open WM.Normalize in
theorem dedupe_eq_dedupeBy_filter (ef : List (Option Field)) (l : List Q) : ∀ seen,
    dedupe ef seen l
      = dedupeBy (fun a b => a == b) seen (l.filter fun s => !(!s.isEvery && ef.contains s.field)) := by
  induction l with
  | nil => intro seen; rfl
  | cons s rest ih =>
    intro seen
    have hc : seen.contains s = seenBy (fun a b => a == b) seen s := List.contains_eq_any_beq ..
    cases h : (!s.isEvery && ef.contains s.field)
    · simp only [dedupe, List.filter_cons, h, dedupeBy, hc, ih, Bool.not_false, Bool.false_eq_true, ↓reduceIte]
    · simp only [dedupe, List.filter_cons, h, ih, Bool.not_true, Bool.false_eq_true, ↓reduceIte]

open WM.Normalize in
theorem dedupe_eq_of_fields (ef : List (Option Field)) (l seen : List Q)
    (hw : ∀ s ∈ l, s.isEvery = false → ef.contains s.field = false) :
    dedupe ef seen l = dedupeBy (fun a b => a == b) seen l := by
  rw [dedupe_eq_dedupeBy_filter, List.filter_eq_self.mpr]
  intro s hs
  cases he : s.isEvery
  · rw [hw s hs he]; rfl
  · rfl

end WM.NormalizeDedupe
