import WM.Lemmas.ComboDen
import WM.Lemmas.Faithful
/-!
`MultiMatcher` over faithful sub-matchers is a faithful cursor over the concatenation of their shifted lists.

A well-formed state means `shift off (rest of the current sub-matcher) ++ (lists of the later segments)` (`head`).  Every
move changes the current sub-matcher and then runs `_next_matcher()` (`settle_eq`); `settle_spec` describes that as one
`Step` onto `shift off (new rest) ++ later`: what `next` and the loop of `skip_to` (`skipLoop_spec`) use here and the loop of
`skip_to_quality` in `QualityMulti`; the loop of `replace` (`multi_replLoop_spec` in `ReplaceRest`) moves `current` past whole sub-matchers and needs
`nextMatcher_spec` only.
-/
namespace WM.Matcher

namespace Multi
variable {α : Type} {A : Ops α} {dA fA : α → Den} {WA : α → Prop}

/-- well-formedness of a `MultiMatcher`: well-formed sub-matchers whose complete lists, shifted, ascend
    through the segments; `current` stands on a sub-matcher that has postings left -/
structure WF (A : Ops α) (dA fA : α → Den) (WA : α → Prop) (m : Multi α) : Prop where
  child : ∀ s ∈ m.segs, WA s.1
  sub : ∀ s ∈ m.segs, IdSub (dA s.1) (fA s.1)
  asc : Asc (denOf fA m.segs)
  act : ∀ s, m.segs[m.cur]? = some s → A.isActive s.1 = true

theorem WF.mono {WB : α → Prop} (hw : ∀ a, WA a → WB a) {m : Multi α} (h : WF A dA fA WA m) : WF A dA fA WB m :=
  ⟨fun s hs => hw _ (h.child s hs), h.sub, h.asc, h.act⟩

theorem den_of_get {m : Multi α} {s : α × Nat} (hs : m.segs[m.cur]? = some s) :
    den dA m = shift s.2 (dA s.1) ++ denOf dA (m.segs.drop (m.cur + 1)) := by
  unfold den; rw [drop_of_get hs]; rfl

theorem den_of_none {m : Multi α} (hs : m.segs[m.cur]? = none) : den dA m = [] := by
  unfold den
  rw [List.getElem?_eq_none_iff] at hs
  rw [List.drop_of_length_le hs]; rfl

/-- storing the new state of the current sub-matcher and running `_next_matcher()` (which stays where a live
    sub-matcher is) -/
theorem settle_eq {m : Multi α} {s : α × Nat} (hs : m.segs[m.cur]? = some s) (c : α) :
    settle A m c s.2 = nextMatcher A { m with segs := m.segs.set m.cur (c, s.2) } := by
  unfold settle
  by_cases ha : A.isActive c = true
  · simp only [ha, ↓reduceIte]
    unfold nextMatcher
    rw [drop_set_self hs]
    simp [skipDead, ha]
  · simp only [ha, Bool.false_eq_true, ↓reduceIte]

theorem settle_remaining_lt {m : Multi α} {s : α × Nat} (hs : m.segs[m.cur]? = some s) {c : α} (ha : ¬ A.isActive c = true) :
    (settle A m c s.2).segs.length - (settle A m c s.2).cur < m.segs.length - m.cur := by
  have := (List.getElem?_eq_some_iff.1 hs).1
  rw [settle_eq hs]
  unfold nextMatcher
  rw [drop_set_self hs]
  simp only [skipDead, ha, Bool.false_eq_true, ↓reduceIte, List.length_set]
  omega

section Main
variable (FA : Faithful A dA fA WA)
include FA

theorem skipDead_spec (l : List (α × Nat)) (h : ∀ s ∈ l, WA s.1) :
    denOf dA (l.drop (skipDead A l)) = denOf dA l ∧
    (∀ s, (l.drop (skipDead A l))[0]? = some s → A.isActive s.1 = true) ∧
    remOf A (l.drop (skipDead A l)) ≤ remOf A l := by
  fun_induction skipDead A l with
  | case1 => exact ⟨rfl, (by intro s hs; cases hs), Nat.le_refl _⟩
  | case2 s ss ha =>
    refine ⟨rfl, fun s' hs' => ?_, Nat.le_refl _⟩
    cases hs'; exact ha
  | case3 s ss ha ih =>
    obtain ⟨h1, h2, h3⟩ := ih fun s' hs' => h s' (List.mem_cons_of_mem _ hs')
    have hnil : dA s.1 = [] := (FA.inactive (h s List.mem_cons_self)).1 (by simpa using ha)
    refine ⟨?_, h2, ?_⟩
    · rw [List.drop_succ_cons, h1, denOf, hnil]; rfl
    · rw [List.drop_succ_cons, remOf]; omega

theorem asc_den {m : Multi α} (h : WF A dA fA WA m) : Asc (den dA m) :=
  asc_sublist (denOf_drop_sublist dA m.segs m.cur)
    (asc_denOf (fun s hs => FA.asc _ (h.child s hs)) h.sub h.asc)

theorem head {m : Multi α} (h : WF A dA fA WA m) :
    (den dA m = [] ∧ m.segs[m.cur]? = none) ∨
    ∃ s x r L, den dA m = (x + s.2, r) :: (shift s.2 L ++ denOf dA (m.segs.drop (m.cur + 1))) ∧
      m.segs[m.cur]? = some s ∧ WA s.1 ∧ dA s.1 = (x, r) :: L ∧ A.id s.1 = .ok x ∧ A.score s.1 = .ok r := by
  cases hs : m.segs[m.cur]? with
  | none => exact .inl ⟨den_of_none hs, rfl⟩
  | some s =>
    have hw := h.child s (List.mem_of_getElem? hs)
    rcases FA.head hw with ⟨_, hi⟩ | ⟨x, r, L, hd, _, hid, hsc⟩
    · rw [h.act s hs] at hi; cases hi
    · exact .inr ⟨s, x, r, L, by rw [den_of_get hs, hd, shift_cons, List.cons_append], rfl, hw, hd, hid, hsc⟩

theorem nextMatcher_spec {m : Multi α} (hc : ∀ s ∈ m.segs, WA s.1) (hsub : ∀ s ∈ m.segs, IdSub (dA s.1) (fA s.1))
    (hasc : Asc (denOf fA m.segs)) :
    WF A dA fA WA (nextMatcher A m) ∧ den dA (nextMatcher A m) = den dA m ∧ rem A (nextMatcher A m) ≤ rem A m := by
  obtain ⟨h1, h2, h3⟩ := skipDead_spec FA (m.segs.drop m.cur) fun s hs => hc s (List.mem_of_mem_drop hs)
  rw [List.drop_drop] at h1 h2 h3
  refine ⟨⟨hc, hsub, hasc, fun s hs => h2 s ?_⟩, h1, h3⟩
  rw [List.getElem?_drop]; exact hs

theorem settle_spec {m : Multi α} (h : WF A dA fA WA m) {s : α × Nat} (hs : m.segs[m.cur]? = some s) {c : α}
    (hw : WA c) (hsub : IdSub (dA c) (dA s.1)) (adv : Advances A dA fA s.1 c) :
    Step (ops A) (den dA) (full fA) (WF A dA fA WA) m (settle A m c s.2)
      (shift s.2 (dA c) ++ denOf dA (m.segs.drop (m.cur + 1))) := by
  rw [settle_eq hs]
  let m' : Multi α := { m with segs := m.segs.set m.cur (c, s.2) }
  have hmem : ∀ s' ∈ m'.segs, WA s'.1 ∧ IdSub (dA s'.1) (fA s'.1) := fun s' hs' => by
    rcases List.mem_or_eq_of_mem_set hs' with h1 | rfl
    · exact ⟨h.child s' h1, h.sub s' h1⟩
    · exact ⟨hw, by rw [adv.full_eq]; exact hsub.trans (h.sub s (List.mem_of_getElem? hs))⟩
  have hfull : denOf fA m'.segs = denOf fA m.segs := denOf_set hs adv.full_eq
  obtain ⟨g1, g2, g3⟩ := nextMatcher_spec FA (m := m') (fun s hs => (hmem s hs).1) (fun s hs => (hmem s hs).2)
    (by rw [hfull]; exact h.asc)
  have hdrop : m'.segs.drop m'.cur = (c, s.2) :: m.segs.drop (m.cur + 1) := drop_set_self hs
  have hden : den dA m' = shift s.2 (dA c) ++ denOf dA (m.segs.drop (m.cur + 1)) := by
    unfold den; rw [hdrop]; rfl
  -- the budget of the node follows that of the sub-matcher
  have hrem : rem A m' + A.rem s.1 = rem A m + A.rem c := by
    unfold rem; rw [hdrop, drop_of_get hs]; simp only [remOf]; omega
  have := adv.rem_le
  refine ⟨g1, g2.trans hden, by show rem A (nextMatcher A m') ≤ rem A m; omega, fun hne => ?_, hfull⟩
  have := adv.rem_lt fun he => hne (by rw [g2, hden, he, den_of_get hs])
  show rem A (nextMatcher A m') < rem A m
  omega

theorem skipLoop_spec (t : Nat) : ∀ (n : Nat) (m : Multi α), WF A dA fA WA m → m.segs.length - m.cur < n →
    Yields (skipLoop A t n m) (Step (ops A) (den dA) (full fA) (WF A dA fA WA) m · (dropBelow t (den dA m))) := by
  intro n
  induction n with
  | zero => exact fun _ _ hn => absurd hn (Nat.not_lt_zero _)
  | succ n ih =>
    intro m h hn
    rw [skipLoop]
    rcases head FA h with ⟨hd, hs⟩ | ⟨s, x0, r0, L0, hd, hs, hws, h0, hid, -⟩
    · rw [hs]; exact .ok ⟨h, by rw [hd]; rfl, .refl _ _ _ _⟩
    simp only [hs, hid, bind, Except.bind]
    refine .ite (fun ht => ?_) fun ht => .ok ⟨h, by rw [hd, dropBelow_of_le_head (by omega)], .refl _ _ _ _⟩
    refine (FA.skipTo_step (t - s.2) hws (by simp [h0])).bind fun c st => ?_
    have g := settle_spec FA h hs st.wf (by rw [st.den_eq]; exact .of_sublist (List.dropWhile_sublist _)) st.adv
    have hsh : shift s.2 (dA c) = dropBelow t (shift s.2 (dA s.1)) := by
      rw [st.den_eq]; exact shift_dropBelow s.2 t (by omega) _
    refine .ite (fun ha => .ok ⟨g.wf, ?_, g.adv⟩) fun ha => ?_
    · rw [g.den_eq, den_of_get hs, hsh, dropBelow_append_of_ne_nil]
      rw [← hsh]; exact fun h1 => (FA.active c st.wf).1 ha ((shift_eq_nil _ _).1 h1)
    · refine (ih (settle A m c s.2) g.wf (Nat.lt_of_lt_of_le (settle_remaining_lt hs ha) (Nat.le_of_lt_succ hn))).mono
        fun m' k => ⟨k.wf, ?_, g.adv.trans k.adv⟩
      have hcnil : dA c = [] := (FA.inactive st.wf).1 (by simpa using ha)
      rw [hcnil] at hsh
      rw [k.den_eq, g.den_eq, hcnil, den_of_get hs, dropBelow_append_of_nil hsh.symm]; rfl

theorem resetAll_spec (l : List (α × Nat)) (h : ∀ s ∈ l, WA s.1) :
    Yields (resetAll A l) fun l' => (∀ s ∈ l', WA s.1 ∧ dA s.1 = fA s.1) ∧
      denOf dA l' = denOf fA l ∧ denOf fA l' = denOf fA l := by
  induction l with
  | nil => exact .ok ⟨nofun, rfl, rfl⟩
  | cons s ss ih =>
    rw [resetAll]
    refine Yields.bind (FA.reset s.1 (h s List.mem_cons_self)) fun c hc =>
      (ih fun s' hs' => h s' (List.mem_cons_of_mem _ hs')).bind fun l' k =>
        .ok ⟨?_, by simp only [denOf, hc.2.1, k.2.1], by simp only [denOf, hc.2.2, k.2.2]⟩
    intro s' hs'
    rcases List.mem_cons.1 hs' with rfl | hs'
    · exact ⟨hc.1, hc.2.1.trans hc.2.2.symm⟩
    · exact k.1 s' hs'

theorem faithful : Faithful (ops A) (den dA) (full fA) (WF A dA fA WA) :=
  .of_state (fun m h => asc_den FA h)
    (fun m h => by
      show (_ ∧ isActive m = false) ∨ ∃ x r L, _ ∧ isActive m = true ∧ id A m = _ ∧ score A m = _ ∧
        Yields (next A m) _ ∧ ∀ t, Yields (skipTo A m t) _
      unfold isActive id score next skipTo
      rcases head FA h with ⟨hd, hs⟩ | ⟨s, x0, r0, L0, hd, hs, hws, h0, hid, hsc⟩
      · exact .inl ⟨hd, by simpa using List.getElem?_eq_none_iff.1 hs⟩
      simp only [hs]
      refine .inr ⟨_, _, _, hd, by simpa using (List.getElem?_eq_some_iff.1 hs).1, by rw [hid]; rfl, hsc, ?_, fun t => ?_⟩
      · refine (FA.next_step hws h0).bind fun c st => .ok (st.den_eq ▸ settle_spec FA h hs st.wf ?_ st.adv)
        rw [st.den_eq, h0]; exact .of_sublist (List.sublist_cons_self _ _)
      · rw [hid]
        show Yields (if t ≤ x0 + s.2 then _ else _) _
        exact .ite (fun ht => .ok ⟨h, by rw [hd, dropBelow_of_le_head ht], .refl _ _ _ _⟩) fun ht =>
          skipLoop_spec FA t _ m h (by omega))
    (fun m h => by
      show Yields (reset A m) _
      unfold reset
      refine (resetAll_spec FA m.segs h.child).bind fun l' k => .ok ?_
      obtain ⟨g1, g2, -⟩ := nextMatcher_spec FA (m := ⟨l', 0⟩) (fun s hs => (k.1 s hs).1)
        (fun s hs => by rw [(k.1 s hs).2]; exact IdSub.refl _) (by rw [k.2.2]; exact h.asc)
      exact ⟨g1, g2.trans k.2.1, k.2.2⟩)

end Main

end Multi

end WM.Matcher
