import WM.Spec.Codec
import WM.Lemmas.LengthByte
import WM.Lemmas.Basics
/-! The aggregates `sumW / minLen / maxLen / maxW` of a posting list.  Each is the fold of an
associative operation over what the postings contribute, so it distributes over `++`; `max` and
`wStep` select one of their arguments, which gives a bound that is attained (`foldl_sel_spec`), and
`minLen` is the library's `List.min?` of the truthy lengths.  At the end: the
length byte (`length_to_byte` is monotone and `byte_to_length` defined on its values) and the
`0xffffffff` id sentinel, as `to_bytes` / `from_bytes` use them. -/
namespace WM.Codec

variable {ι : Type}

theorem foldl_op_append {α : Type} (op : α → α → α) (hassoc : ∀ a b c, op (op a b) c = op a (op b c))
    (e : α) (a b : List α) (he : op (a.foldl op e) e = a.foldl op e) :
    (a ++ b).foldl op e = op (a.foldl op e) (b.foldl op e) := by
  rw [List.foldl_append]
  conv => lhs; rw [← he]
  exact List.foldl_hom (op (a.foldl op e)) (fun x y => hassoc _ x y)

theorem sumW_append (f32 : Rat → Rat) (a b : List (Posting ι)) :
    sumW f32 (a ++ b) = sumW f32 a + sumW f32 b := by
  unfold sumW
  rw [List.map_append]
  exact foldl_op_append (· + ·) Rat.add_assoc 0 _ _ (Rat.add_zero _)

theorem minStep_none_eq_some {l : Option Nat} {n : Nat} :
    minStep none l = some n ↔ l = some n ∧ 0 < n := by
  cases l with
  | none => simp [minStep]
  | some k =>
    cases k with
    | zero => simp only [minStep, Option.some.injEq, reduceCtorEq, false_iff]; omega
    | succ k => simp only [minStep, Option.some.injEq]; omega

theorem minStep_eq (acc l : Option Nat) : minStep acc l = Option.merge min acc (minStep none l) := by
  cases l with
  | none => exact Option.merge_none_right.symm
  | some k =>
    cases k with
    | zero => exact Option.merge_none_right.symm
    | succ k =>
      cases acc with
      | none => rfl
      | some m =>
        show (if k + 1 < m then some (k + 1) else some m) = some (min m (k + 1))
        split <;> (congr 1; omega)

theorem minLen_eq_foldl (ps : List (Posting ι)) :
    minLen ps = (ps.map fun p => minStep none p.length).foldl (Option.merge min) none := by
  rw [List.foldl_map]
  exact congrArg (fun f => ps.foldl f none) (funext fun acc => funext fun p => minStep_eq acc p.length)

theorem minLen_append (a b : List (Posting ι)) : minLen (a ++ b) = Option.merge min (minLen a) (minLen b) := by
  rw [minLen_eq_foldl, minLen_eq_foldl, minLen_eq_foldl, List.map_append]
  exact foldl_op_append (Option.merge min) Std.Associative.assoc none _ _ Option.merge_none_right

theorem minStep_none_eq_none {l : Option Nat} : minStep none l = none ↔ truthy l = false := by
  cases l with
  | none => exact ⟨fun _ => rfl, fun _ => rfl⟩
  | some k => cases k <;> simp [minStep, truthy]

theorem minLen_eq_min? (ps : List (Posting ι)) :
    minLen ps = (ps.filterMap fun p => minStep none p.length).min? := by
  suffices h : ∀ acc, ps.foldl (fun a p => minStep a p.length) acc =
      Option.merge min acc (ps.filterMap fun p => minStep none p.length).min? from
    (h none).trans Option.merge_none_left
  induction ps with
  | nil => exact fun acc => Option.merge_none_right.symm
  | cons p ps ih =>
    intro acc
    rw [List.foldl_cons, ih, minStep_eq, Std.Associative.assoc (op := Option.merge min), List.filterMap_cons]
    cases minStep none p.length with
    | none => rw [Option.merge_none_left]
    | some n =>
      rw [List.min?_cons]
      cases (ps.filterMap fun p => minStep none p.length).min? <;> rfl

theorem minLen_spec (ps : List (Posting ι)) :
    match minLen ps with
    | none => ∀ p ∈ ps, truthy p.length = false
    | some m => 0 < m ∧ (∃ p ∈ ps, p.length = some m) ∧
        ∀ p ∈ ps, ∀ l, p.length = some l → 0 < l → m ≤ l := by
  rw [minLen_eq_min?]
  cases hm : (ps.filterMap fun p => minStep none p.length).min? with
  | none =>
    rw [List.min?_eq_none_iff, List.filterMap_eq_nil_iff] at hm
    exact fun p hp => minStep_none_eq_none.mp (hm p hp)
  | some m =>
    obtain ⟨hmem, hle⟩ := List.min?_eq_some_iff.mp hm
    obtain ⟨p, hp, hpm⟩ := List.mem_filterMap.mp hmem
    obtain ⟨hpl, hpos⟩ := minStep_none_eq_some.mp hpm
    exact ⟨hpos, ⟨p, hp, hpl⟩, fun q hq l hl hl0 =>
      hle l (List.mem_filterMap.mpr ⟨q, hq, minStep_none_eq_some.mpr ⟨hl, hl0⟩⟩)⟩

theorem minLen_eq_none_iff (r : List (Posting ι)) :
    minLen r = none ↔ ∀ p ∈ r, truthy p.length = false := by
  rw [minLen_eq_min?, List.min?_eq_none_iff, List.filterMap_eq_nil_iff]
  exact forall₂_congr fun _ _ => minStep_none_eq_none

theorem maxStep_eq (acc : Nat) (l : Option Nat) : maxStep acc l = max acc (l.getD 0) := by
  cases l with
  | none => exact (Nat.max_zero acc).symm
  | some k =>
    cases k with
    | zero => exact (Nat.max_zero acc).symm
    | succ k => simp only [maxStep, Option.getD_some]; split <;> omega

theorem maxLen_eq_foldl (ps : List (Posting ι)) :
    maxLen ps = (ps.map fun p => p.length.getD 0).foldl max 0 := by
  rw [List.foldl_map]
  exact congrArg (fun f => ps.foldl f 0) (funext fun acc => funext fun p => maxStep_eq acc p.length)

theorem maxLen_append (a b : List (Posting ι)) : maxLen (a ++ b) = max (maxLen a) (maxLen b) := by
  rw [maxLen_eq_foldl, maxLen_eq_foldl, maxLen_eq_foldl, List.map_append]
  exact foldl_op_append max Nat.max_assoc 0 _ _ (Nat.max_zero _)

theorem maxLen_spec (ps : List (Posting ι)) :
    (∀ p ∈ ps, ∀ l, p.length = some l → l ≤ maxLen ps) ∧
      (maxLen ps = 0 ∨ ∃ p ∈ ps, p.length = some (maxLen ps)) := by
  have h := foldl_sel_spec (· ≤ ·) (max : Nat → Nat → Nat) Nat.le_refl (fun _ _ _ => Nat.le_trans)
    Nat.le_max_left Nat.le_max_right (fun a b => by omega) (ps.map fun p => p.length.getD 0) 0
  rw [← maxLen_eq_foldl] at h
  obtain ⟨-, hle, hmem⟩ := h
  refine ⟨fun p hp l hl => ?_, hmem.elim Or.inl fun h => ?_⟩
  · have := hle _ (List.mem_map_of_mem hp)
    rwa [hl] at this
  · obtain ⟨p, hp, hpl⟩ := List.mem_map.mp h
    cases hl : p.length with
    | none => rw [hl] at hpl; exact Or.inl hpl.symm
    | some l => rw [hl] at hpl; exact Or.inr ⟨p, hp, by rw [hl, ← hpl]; rfl⟩

theorem wStep_assoc (a x w : Rat) : wStep (wStep a x) w = wStep a (wStep x w) := by
  unfold wStep; grind

theorem le_wStep_left (a b : Rat) : a ≤ wStep a b := by unfold wStep; grind

theorem le_wStep_right (a b : Rat) : b ≤ wStep a b := by unfold wStep; grind

theorem wStep_sel (a b : Rat) : wStep a b = a ∨ wStep a b = b := by unfold wStep; grind

theorem maxW_eq_foldl (f32 : Rat → Rat) (ps : List (Posting ι)) :
    maxW f32 ps = (ps.map fun p => f32 p.weight).foldl wStep 0 := List.foldl_map.symm

theorem maxW_sel (f32 : Rat → Rat) (ps : List (Posting ι)) :
    0 ≤ maxW f32 ps ∧ (∀ x ∈ ps.map fun p => f32 p.weight, x ≤ maxW f32 ps) ∧
      (maxW f32 ps = 0 ∨ maxW f32 ps ∈ ps.map fun p => f32 p.weight) := by
  rw [maxW_eq_foldl]
  exact foldl_sel_spec (· ≤ ·) wStep (fun _ => Rat.le_refl) (fun _ _ _ => Rat.le_trans)
    le_wStep_left le_wStep_right wStep_sel _ 0

theorem maxW_spec (f32 : Rat → Rat) (ps : List (Posting ι)) :
    (∀ p ∈ ps, f32 p.weight ≤ maxW f32 ps) ∧ (maxW f32 ps = 0 ∨ ∃ p ∈ ps, f32 p.weight = maxW f32 ps) :=
  ⟨fun _ hp => (maxW_sel f32 ps).2.1 _ (List.mem_map_of_mem hp),
    (maxW_sel f32 ps).2.2.imp id List.mem_map.mp⟩

theorem maxW_append (f32 : Rat → Rat) (a b : List (Posting ι)) :
    maxW f32 (a ++ b) = wStep (maxW f32 a) (maxW f32 b) := by
  have h0 : wStep (maxW f32 a) 0 = maxW f32 a := by
    have := (maxW_sel f32 a).1
    unfold wStep; grind
  rw [maxW_eq_foldl] at h0
  rw [maxW_eq_foldl, maxW_eq_foldl, maxW_eq_foldl, List.map_append]
  exact foldl_op_append wStep wStep_assoc 0 _ _ h0

/-- The table is the one of `WM.LengthByte` (both mirror `numeric._length_byte_cache`). -/
theorem lengthByteCache_eq : lengthByteCache = LengthByte.table := rfl

theorem lengthByteCache_length : lengthByteCache.length = 256 :=
  lengthByteCache_eq ▸ LengthByte.table_length

theorem lengthToByte_le_255 (l : Nat) : lengthToByte (some l) ≤ 255 := by
  unfold lengthToByte
  simp only
  split
  · omega
  · next h =>
    -- the last of the 256 entries is not below `l`, so not every entry is counted
    have hlen := lengthByteCache_length
    have hmem : 106374 ∈ lengthByteCache := lengthByteCache_eq ▸ LengthByte.last_mem
    have hne : lengthByteCache.countP (· < l) ≠ lengthByteCache.length := fun e =>
      h (Nat.le_of_lt (of_decide_eq_true (List.countP_eq_length.mp e _ hmem)))
    have := List.countP_le_length (p := (· < l)) (l := lengthByteCache)
    omega

theorem lengthToByte_mono (a b : Nat) (h : a ≤ b) : lengthToByte (some a) ≤ lengthToByte (some b) := by
  by_cases hb : b ≥ 106374
  · have : lengthToByte (some b) = 255 := by simp [lengthToByte, hb]
    rw [this]; exact lengthToByte_le_255 a
  · have ha : ¬ a ≥ 106374 := by omega
    simp only [lengthToByte, ha, hb, if_false]
    apply List.countP_mono_left
    intro x _ hx
    simp only [decide_eq_true_eq] at hx ⊢
    omega

theorem byteToLength_lengthToByte (l : Option Nat) : ∃ n, byteToLength (lengthToByte l) = some n := by
  have hle : lengthToByte l ≤ 255 := by
    cases l with
    | none => exact Nat.zero_le _
    | some x => exact lengthToByte_le_255 x
  have hlen := lengthByteCache_length
  exact ⟨_, List.getElem?_eq_getElem (by omega)⟩

theorem minLenByte_eq (o : Option Nat) : minLenByte o = lengthToByte o := by cases o <;> rfl

theorem unNoId_of_ne (o : Option Int) (h : ∀ x, o = some x → x ≠ 4294967295) : unNoId o = o := by
  unfold unNoId
  split
  · exact absurd rfl (h _ rfl)
  · rfl

end WM.Codec
