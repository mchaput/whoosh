import WM.Model.Sort
/-! External merge sort (C20): merging keeps runs sorted; the invariant of `SortingPool`. -/
namespace WM.C20
open WM.Sort

section
variable {α : Type} (le : α → α → Bool)
  (htrans : ∀ a b c, le a b = true → le b c = true → le a c = true)
  (htotal : ∀ a b, (le a b || le b a) = true)

def SortedBy (l : List α) : Prop := l.Pairwise (fun a b => le a b = true)

include htrans htotal in
theorem mergeRuns_spec (runs : List (List α)) (hs : ∀ r ∈ runs, SortedBy le r) :
    SortedBy le (mergeRuns le runs) ∧ (mergeRuns le runs).Perm runs.flatten := by
  induction runs with
  | nil => exact ⟨List.Pairwise.nil, List.Perm.refl _⟩
  | cons r t ih =>
    rcases ih (fun x hx => hs x (List.mem_cons_of_mem _ hx)) with ⟨h1, h2⟩
    simp only [mergeRuns, List.foldr_cons, List.flatten_cons] at h1 h2 ⊢
    constructor
    · exact List.pairwise_merge htrans htotal _ _ (hs r (by simp)) h1
    · exact (List.merge_perm_append le).trans (List.Perm.append (List.Perm.refl _) h2)

theorem reduceTo_eq {target k : Nat} (ht : 1 ≤ target) (hk : 2 ≤ k) (runs : List (List α)) :
    reduceTo le target k runs = .ok (reduceLoop le (target - 1) (k - 2) runs) := by
  rw [reduceTo, if_neg (Nat.not_lt.mpr hk), if_neg (Nat.not_lt.mpr ht)]

theorem length_reduceLoop_le (target' k' : Nat) (runs : List (List α)) :
    (reduceLoop le target' k' runs).length ≤ target' + 1 := by
  fun_induction reduceLoop le target' k' runs with
  | case1 runs h tomerge rest ih =>
    simp only [tomerge, List.unattach_reverse, List.unattach_attach] at ih
    exact ih
  | case2 runs h => exact Nat.le_of_not_lt h

/-- One round of the loop works on a rearrangement of the runs: those popped off the end, then those left. -/
theorem pop_perm (runs : List (List α)) (k : Nat) :
    (runs.reverse.take k ++ runs.take (runs.length - k)).Perm runs := by
  rw [List.take_reverse]
  exact ((List.reverse_perm _).append_right _).trans
    (List.perm_append_comm.trans (List.take_append_drop .. ▸ List.Perm.refl _))

include htrans htotal in
theorem reduceLoop_runs (target' k' : Nat) (runs : List (List α)) (hs : ∀ r ∈ runs, SortedBy le r) :
    (∀ r ∈ reduceLoop le target' k' runs, SortedBy le r) ∧
      (reduceLoop le target' k' runs).flatten.Perm runs.flatten := by
  fun_induction reduceLoop le target' k' runs with
  | case1 runs h tomerge rest ih =>
    simp only [tomerge, List.unattach_reverse, List.unattach_attach] at ih
    have hp := pop_perm runs (k' + 2)
    have hs' := fun r hr => hs r (hp.subset hr)
    obtain ⟨m1, m2⟩ := mergeRuns_spec le htrans htotal _ fun r hr => hs' r (List.mem_append_left _ hr)
    obtain ⟨r1, r2⟩ := ih fun r hr =>
      (List.mem_cons.mp hr).elim (· ▸ m1) fun hr => hs' r (List.mem_append_right _ hr)
    refine ⟨r1, r2.trans ?_⟩
    rw [List.flatten_cons]
    exact (m2.append_right _).trans (List.flatten_append ▸ hp.flatten)
  | case2 runs h => exact ⟨hs, List.Perm.refl _⟩

def PoolInv (p : Pool α) (input : List α) : Prop :=
  (∀ r ∈ p.runs, SortedBy le r) ∧ (p.runs.flatten ++ p.current).Perm input

theorem save_current (p : Pool α) : (p.save le).current = [] := by
  unfold Pool.save
  split
  · next hc => exact List.isEmpty_iff.mp hc
  · rfl

include htrans htotal in
theorem save_inv (p : Pool α) (input : List α) (h : PoolInv le p input) : PoolInv le (p.save le) input := by
  unfold Pool.save
  split
  · exact h
  · refine ⟨?_, ?_⟩
    · intro r hr
      simp only [List.mem_append, List.mem_singleton] at hr
      rcases hr with hr | rfl
      · exact h.1 r hr
      · exact List.pairwise_mergeSort htrans htotal _
    · simp only [List.flatten_append, List.flatten_cons, List.flatten_nil, List.append_nil]
      exact (List.Perm.append (List.Perm.refl _) (List.mergeSort_perm _ le)).trans h.2

include htrans htotal in
theorem add_inv (p : Pool α) (input : List α) (x : α) (h : PoolInv le p input) :
    PoolInv le (p.add le x) (input ++ [x]) := by
  unfold Pool.add
  simp only
  have h' : PoolInv le (if p.current.length ≥ p.maxsize then p.save le else p) input := by
    split
    · exact save_inv le htrans htotal p input h
    · exact h
  refine ⟨h'.1, ?_⟩
  simp only
  rw [← List.append_assoc]
  exact List.Perm.append h'.2 (List.Perm.refl _)

include htrans htotal in
theorem foldl_add_inv (xs : List α) : ∀ (p : Pool α) (input : List α), PoolInv le p input →
    PoolInv le (xs.foldl (Pool.add le) p) (input ++ xs) := by
  induction xs with
  | nil => intro p input h; simpa using h
  | cons x t ih =>
    intro p input h
    have := ih (p.add le x) (input ++ [x]) (add_inv le htrans htotal p input x h)
    simpa using this

include htrans htotal in
theorem items_spec (p : Pool α) (input : List α) (h : PoolInv le p input) (maxfiles : Nat) (hm : 2 ≤ maxfiles) :
    ∃ out, p.items le maxfiles = .ok out ∧ SortedBy le out ∧ out.Perm input := by
  unfold Pool.items
  rw [if_neg (Nat.not_lt.mpr hm)]
  split
  · next hr =>
    have h2 := h.2
    rw [List.isEmpty_iff.mp hr] at h2
    exact ⟨_, rfl, List.pairwise_mergeSort htrans htotal _, (List.mergeSort_perm _ le).trans h2⟩
  · obtain ⟨hs, hperm⟩ := save_inv le htrans htotal p input h
    rw [save_current, List.append_nil] at hperm
    simp only
    split
    · rw [reduceTo_eq le (Nat.le_of_succ_le hm) hm]
      obtain ⟨r1, r2⟩ := reduceLoop_runs le htrans htotal (maxfiles - 1) (maxfiles - 2) _ hs
      obtain ⟨m1, m2⟩ := mergeRuns_spec le htrans htotal _ r1
      exact ⟨_, rfl, m1, m2.trans (r2.trans hperm)⟩
    · obtain ⟨m1, m2⟩ := mergeRuns_spec le htrans htotal _ hs
      exact ⟨_, rfl, m1, m2.trans hperm⟩

end

end WM.C20
