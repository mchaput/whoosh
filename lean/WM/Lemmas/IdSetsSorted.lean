import WM.Lemmas.IdSetsBits
import WM.Lemmas.Yields
/-! Binary search (`bisectBy_spec`, which `MultiIdSet` and the ordered hash reader use as well; `bisect_sorted`) and
`SortedIntSet`. -/
namespace WM.IdSets
open WM.Spec.IdSet (Sorted)

theorem mid_bounds {lo hi : Nat} (h : lo < hi) : lo ≤ (lo + hi) / 2 ∧ (lo + hi) / 2 < hi := by omega

/-- The loop invariant of the search: `p` holds below `lo` and fails from `hi` on.  `hmono`: `p` is true on a
    prefix of the list (if it holds at `j` it holds at every earlier index). -/
theorem bisectBy_inv {α} (p : α → Bool) (a : List α)
    (hmono : ∀ (i j : Nat) (hij : i < j) (hj : j < a.length), p a[j] = true → p (a[i]'(Nat.lt_trans hij hj)) = true)
    (lo hi : Nat) (hle : lo ≤ hi) (hlen : hi ≤ a.length)
    (hlo : ∀ k (hk : k < a.length), k < lo → p a[k] = true)
    (hhi : ∀ k (hk : k < a.length), hi ≤ k → p a[k] = false) :
    Yields (bisectBy p a lo hi) fun r => r ≤ a.length ∧
      (∀ k (hk : k < a.length), k < r → p a[k] = true) ∧ (∀ k (hk : k < a.length), r ≤ k → p a[k] = false) := by
  fun_induction bisectBy p a lo hi with
  | case1 lo hi hlt mid hnone =>
    exact absurd (Nat.lt_of_lt_of_le (mid_bounds hlt).2 hlen) (Nat.not_lt.mpr (List.getElem?_eq_none_iff.mp hnone))
  | case2 lo hi hlt mid v hv hp ih =>
    obtain ⟨hml, rfl⟩ := List.getElem?_eq_some_iff.mp hv
    exact ih (mid_bounds hlt).2 hlen (fun k hk hkm => (Nat.lt_or_eq_of_le (Nat.le_of_lt_succ hkm)).elim
      (fun h => hmono k mid h hml hp) fun h => by subst h; exact hp) hhi
  | case3 lo hi hlt mid v hv hp ih =>
    obtain ⟨hml, rfl⟩ := List.getElem?_eq_some_iff.mp hv
    exact ih (mid_bounds hlt).1 (Nat.le_of_lt hml) hlo fun k hk hmk => (Nat.lt_or_eq_of_le hmk).elim
      (fun h => Bool.eq_false_iff.mpr fun hpk => hp (hmono mid k h hk hpk))
      fun h => by subst h; exact Bool.eq_false_iff.mpr hp
  | case4 lo hi hge =>
    exact .ok ⟨Nat.le_trans hle hlen, hlo, fun k hk h => hhi k hk (Nat.le_trans (Nat.le_of_not_lt hge) h)⟩

theorem bisectBy_spec {α} (p : α → Bool) (a : List α)
    (hmono : ∀ (i j : Nat) (hij : i < j) (hj : j < a.length), p a[j] = true → p (a[i]'(Nat.lt_trans hij hj)) = true) :
    Yields (bisectBy p a 0 a.length) fun r => r ≤ a.length ∧
      (∀ k (hk : k < a.length), k < r → p a[k] = true) ∧ (∀ k (hk : k < a.length), r ≤ k → p a[k] = false) :=
  bisectBy_inv p a hmono 0 a.length (Nat.zero_le _) (Nat.le_refl _) (fun _ _ h => absurd h (Nat.not_lt_zero _))
    fun _ hk h => absurd hk (Nat.not_lt.mpr h)

theorem bisect_sorted {data : List Nat} (hs : Sorted data) (p : Nat → Bool)
    (hp : ∀ x y, x < y → p y = true → p x = true) :
    ∃ a b, data = a ++ b ∧ bisectBy p data 0 data.length = .ok a.length ∧
      (∀ x ∈ a, p x = true) ∧ (∀ x ∈ b, p x = false) := by
  obtain ⟨r, hr, h2, h3, h4⟩ := bisectBy_spec p data
    fun i j hij hj h => hp _ _ (List.pairwise_iff_getElem.mp hs i j (Nat.lt_trans hij hj) hj hij) h
  refine ⟨data.take r, data.drop r, (List.take_append_drop r data).symm,
    by rw [hr, List.length_take, Nat.min_eq_left h2], fun x hx => ?_, fun x hx => ?_⟩
  · obtain ⟨j, hj, rfl⟩ := List.mem_take_iff_getElem.mp hx
    exact h3 j (Nat.lt_min.mp hj).2 (Nat.lt_min.mp hj).1
  · obtain ⟨j, hj, rfl⟩ := List.mem_drop_iff_getElem.mp hx
    exact h4 (r + j) (Nat.add_comm j r ▸ hj) (Nat.le_add_right ..)

theorem bisectLeft_sorted {data : List Nat} (hs : Sorted data) (i : Nat) :
    ∃ a b, bisectLeft data i = .ok a.length ∧ (∀ x ∈ a, x < i) ∧ (∀ x ∈ b, i < x) ∧
      (data = a ++ b ∨ data = a ++ i :: b) := by
  obtain ⟨a, b, rfl, hr, ha, hb⟩ := bisect_sorted hs (· < i)
    (fun x y hxy h => decide_eq_true (Nat.lt_trans hxy (of_decide_eq_true h)))
  have ha' : ∀ x ∈ a, x < i := fun x hx => of_decide_eq_true (ha x hx)
  cases b with
  | nil => exact ⟨a, [], hr, ha', nofun, .inl rfl⟩
  | cons v t =>
    have ht : ∀ x ∈ t, v < x := fun x => List.rel_of_pairwise_cons (List.pairwise_append.mp hs).2.1
    rcases Nat.lt_or_eq_of_le (Nat.le_of_not_lt (of_decide_eq_false (hb v (List.mem_cons_self ..)))) with hv | rfl
    · exact ⟨a, v :: t, hr, ha', fun x hx => (List.mem_cons.mp hx).elim (· ▸ hv) fun hx => Nat.lt_trans hv (ht x hx),
        .inl rfl⟩
    · exact ⟨a, t, hr, ha', ht, .inr rfl⟩

/-- The two ends of the list, which `SortedIntSet` looks at before it searches. -/
theorem ends_cases (data : List Nat) :
    data = [] ∨ ∃ mn mx, data.head? = some mn ∧ data.getLast? = some mx := by
  cases data with
  | nil => exact Or.inl rfl
  | cons a t => exact Or.inr ⟨a, _, rfl, List.getLast?_eq_some_getLast (List.cons_ne_nil a t)⟩

theorem sisContains_spec {data : List Nat} (hs : Sorted data) (i : Nat) :
    sisContains data i = .ok (decide (i ∈ data)) := by
  unfold sisContains
  rcases ends_cases data with rfl | ⟨mn, mx, hmn, hmx⟩
  · simp
  · rw [hmn, hmx]
    simp only
    split
    · next hout =>
      congr 1; symm
      rw [decide_eq_false_iff_not]
      intro hmem
      have := WM.Spec.IdSet.sorted_bounds hs hmn hmx i hmem
      simp only [Bool.or_eq_true, decide_eq_true_eq] at hout
      omega
    · obtain ⟨a, b, hr, ha, hb, rfl | rfl⟩ := bisectLeft_sorted hs i
      · have hi : i ∉ a ++ b := fun h =>
          (List.mem_append.mp h).elim (fun h => Nat.lt_irrefl i (ha i h)) fun h => Nat.lt_irrefl i (hb i h)
        rw [hr, decide_eq_false hi]
        show (if a.length = (a ++ b).length then _ else _) = _
        cases b with
        | nil => simp
        | cons v t => simp [Nat.ne_of_gt (hb v (List.mem_cons_self ..))]
      · rw [hr]
        show (if a.length = (a ++ i :: b).length then _ else _) = _
        simp

theorem sisAdd_spec {data : List Nat} (hs : Sorted data) (i : Nat) :
    sisAdd data i = .ok (WM.Spec.IdSet.insert i data) := by
  unfold sisAdd
  rcases ends_cases data with rfl | ⟨mn, mx, hmn, hmx⟩
  · rfl
  · rw [hmn, hmx]
    simp only
    by_cases hgt : i > mx
    · have := WM.Spec.IdSet.insert_append_of_lt (i := i) (a := data) (b := [])
        fun x hx => Nat.lt_of_le_of_lt (WM.Spec.IdSet.sorted_bounds hs hmn hmx x hx).2 hgt
      rw [List.append_nil] at this
      rw [if_pos hgt, this]; rfl
    · rw [if_neg hgt]
      by_cases heq : (decide (i = mn) || decide (i = mx)) = true
      · rw [if_pos heq, WM.Spec.IdSet.insert_of_mem hs]
        simp only [Bool.or_eq_true, decide_eq_true_eq] at heq
        rcases heq with rfl | rfl
        · exact List.mem_of_mem_head? hmn
        · exact List.mem_of_getLast? hmx
      · rw [if_neg heq]
        by_cases hlt : i < mn
        · obtain ⟨t, rfl⟩ := List.head?_eq_some_iff.mp hmn
          rw [if_pos hlt, WM.Spec.IdSet.insert_cons_of_lt hlt]
        · rw [if_neg hlt]
          obtain ⟨a, b, hr, ha, hb, rfl | rfl⟩ := bisectLeft_sorted hs i
          · rw [hr, WM.Spec.IdSet.insert_append_of_lt ha]
            show (match (a ++ b)[a.length]? with | none => _ | some v => _) = _
            cases b with
            | nil =>
              rw [List.append_nil] at hmx
              exact absurd (ha mx (List.mem_of_getLast? hmx)) hgt
            | cons v t =>
              have hv := hb v (List.mem_cons_self ..)
              rw [WM.Spec.IdSet.insert_cons_of_lt hv]
              simp [insertAt, Nat.ne_of_gt hv]
          · rw [hr, WM.Spec.IdSet.insert_append_of_lt ha, WM.Spec.IdSet.insert_cons_self]
            show (match (a ++ i :: b)[a.length]? with | none => _ | some v => _) = _
            simp

theorem sisDiscard_spec {data : List Nat} (hs : Sorted data) (i : Nat) :
    sisDiscard data i = .ok (WM.Spec.IdSet.erase i data) := by
  unfold sisDiscard
  obtain ⟨a, b, hr, ha, hb, rfl | rfl⟩ := bisectLeft_sorted hs i
  · have hi : i ∉ a ++ b := fun h =>
      (List.mem_append.mp h).elim (fun h => Nat.lt_irrefl i (ha i h)) fun h => Nat.lt_irrefl i (hb i h)
    rw [hr, WM.Spec.IdSet.erase_of_not_mem hi]
    show (match (a ++ b)[a.length]? with | none => _ | some v => _) = _
    cases b with
    | nil => simp
    | cons v t => simp [Nat.ne_of_gt (hb v (List.mem_cons_self ..))]
  · rw [hr, WM.Spec.IdSet.erase_append_cons (fun h => Nat.lt_irrefl i (ha i h)) fun h => Nat.lt_irrefl i (hb i h)]
    show (match (a ++ i :: b)[a.length]? with | none => _ | some v => _) = _
    simp [List.eraseIdx_append_of_length_le]

theorem sisBefore_spec {data : List Nat} (hs : Sorted data) (i : Int) :
    sisBefore data i = .ok (WM.Spec.IdSet.before data i) := by
  unfold sisBefore WM.Spec.IdSet.before
  obtain ⟨a, b, rfl, hr, ha, hb⟩ := bisect_sorted hs (fun (x : Nat) => decide ((x : Int) < i))
    (fun a b hab h => by simp only [decide_eq_true_eq] at h ⊢; omega)
  rw [hr, List.filter_append, List.filter_eq_self.mpr ha,
    List.filter_eq_nil_iff.mpr fun x hx => by rw [hb x hx]; simp, List.append_nil, List.getLast?_eq_getElem?]
  show (if a.length < 1 then _ else _) = _
  split
  · next h0 => rw [List.getElem?_eq_none (by omega)]
  · next h0 => rw [List.getElem?_append_left (by omega), List.getElem?_eq_getElem (by omega)]

theorem sisAfter_spec {data : List Nat} (hs : Sorted data) (i : Int) :
    sisAfter data i = .ok (WM.Spec.IdSet.after data i) := by
  unfold sisAfter WM.Spec.IdSet.after
  rcases ends_cases data with rfl | ⟨mn, mx, hmn, hmx⟩
  · rfl
  · have hbd := WM.Spec.IdSet.sorted_bounds hs hmn hmx
    rw [hmn, hmx]
    simp only
    by_cases hge : i ≥ (mx : Int)
    · rw [if_pos hge, List.find?_eq_none.mpr]
      intro x hx
      have := (hbd x hx).2
      simp only [gt_iff_lt, decide_eq_true_eq]; omega
    · rw [if_neg hge]
      by_cases hlt : i < (mn : Int)
      · obtain ⟨t, rfl⟩ := List.head?_eq_some_iff.mp hmn
        rw [if_pos hlt, List.find?_cons, decide_eq_true (by omega : (mn : Int) > i)]
      · rw [if_neg hlt]
        obtain ⟨a, b, rfl, hr, ha, hb⟩ := bisect_sorted hs (fun (x : Nat) => decide ((x : Int) ≤ i))
          (fun a b hab h => by simp only [decide_eq_true_eq] at h ⊢; omega)
        rw [hr, List.find?_append, List.find?_eq_none.mpr fun x hx => by
          have := ha x hx; simp only [decide_eq_true_eq] at this ⊢; omega, Option.none_or]
        show (match (a ++ b)[a.length]? with | none => _ | some v => _) = _
        rw [List.getElem?_append_right (Nat.le_refl _), Nat.sub_self]
        cases b with
        | nil =>
          rw [List.append_nil] at hmx
          have := ha mx (List.mem_of_getLast? hmx)
          simp only [decide_eq_true_eq] at this; omega
        | cons v t =>
          have := hb v (List.mem_cons_self ..)
          simp only [decide_eq_false_iff_not] at this
          rw [List.find?_cons, decide_eq_true (by omega : (v : Int) > i)]
          rfl

end WM.IdSets
