import WM.Lemmas.SearchLists
/-!
Spec-side lemmas for C01/C09: hypotheses of the theorems (`PosQ`, `PosLeaf`,
`ValidOracle`), the pointwise specification `specLookup`, the relation `R` in which a compiled list agrees with it,
how the pointwise folds of the list operators evaluate on specifications, positivity of specified scores,
patterns that match every term, phrases.
-/
namespace WM.Compile
open WM.Search

mutual
/-- every boost / constant score in the query is positive -/
def PosQ : Query → Prop
  | .term _ _ b => 0 < b
  | .multi _ _ b _ => 0 < b
  | .phrase _ _ _ b => 0 < b
  | .numRange _ _ _ _ _ b => 0 < b
  | .every _ b => 0 < b
  | .null => True
  | .and qs b => 0 < b ∧ PosQs qs
  | .or qs b => 0 < b ∧ PosQs qs
  | .dismax qs b => 0 < b ∧ PosQs qs
  | .not q => PosQ q
  | .andNot a b => PosQ a ∧ PosQ b
  | .andMaybe a b => PosQ a ∧ PosQ b
  | .require a b => PosQ a ∧ PosQ b
  | .constScore q sc => 0 < sc ∧ PosQ q
def PosQs : List Query → Prop
  | [] => True
  | q :: qs => PosQ q ∧ PosQs qs
end

def PosLeaf (ls : LeafScore) (s : Segment) : Prop :=
  ∀ i ∈ s.live, ∀ f t, (s.doc i).hasTerm f t = true → 0 < ls (s.doc i) f t

/-- whatever tree the implementation builds over `n ≥ 2` clauses, its leaves are the clauses -/
def ValidOracle (so : ShapeOracle) : Prop := ∀ qs, 2 ≤ qs.length → (so qs).Valid qs.length

theorem ValidOracle.valid {so : ShapeOracle} (hso : ValidOracle so) {qs : List Query} {n : Nat}
    (hn : n = qs.length) (h2 : 2 ≤ n) : (so qs).Valid n := by
  subst hn
  exact hso qs h2

def specLookup (ls : LeafScore) (s : Segment) (q : Query) (i : Nat) : Option Rat :=
  if i ∈ s.live ∧ sat q (s.doc i) = true then some (scoreOf ls q (s.doc i)) else none

theorem live_asc (s : Segment) : s.live.Pairwise (· < ·) :=
  List.Pairwise.sublist List.filter_sublist List.pairwise_lt_range

theorem lookup_segHits (ls : LeafScore) (q : Query) (s : Segment) (i : Nat) :
    lookup (segHits ls q s) i = specLookup ls s q i :=
  lookup_canon s.live _ _ i

theorem segHits_sorted (ls : LeafScore) (q : Query) (s : Segment) : Sorted (segHits ls q s) :=
  canon_sorted (live_asc s) _ _

theorem live_lt {s : Segment} {i : Nat} (h : i ∈ s.live) : i < s.size :=
  List.mem_range.mp (List.mem_filter.mp h).1

theorem canon_id_lt {s : Segment} {p : Nat → Bool} {sc : Nat → Rat} : ∀ e ∈ canon s.live p sc, e.id < s.size := by
  intro e he
  obtain ⟨i, hi, rfl⟩ := List.mem_map.mp he
  exact live_lt (List.mem_filter.mp hi).1

theorem live_doc_mem {s : Segment} {i : Nat} (h : i ∈ s.live) : s.doc i ∈ s.docs := by
  have hi : i < s.docs.length := live_lt h
  unfold Segment.doc
  rw [List.getD_eq_getElem?_getD, List.getElem?_eq_getElem hi]
  simp

/-- how a compiled entry stands to the specified one: both present or both absent, and equal when the context is
    scored; an unscored context (under `Not`, on the right of `AndNot`/`Require`, a constant-score expansion,
    `weighting=None`) builds lists whose scores mean nothing, so only presence is compared there -/
def R (scored : Bool) (x y : Option Rat) : Prop := x.isSome = y.isSome ∧ (scored = true → x = y)

theorem R.refl (s : Bool) (x : Option Rat) : R s x x := ⟨rfl, fun _ => rfl⟩

theorem R.weaken {x y : Option Rat} {s : Bool} (h : R s x y) : R false x y := ⟨h.1, fun h => by cases h⟩

theorem R.of_eq {s : Bool} {x y : Option Rat} (h : x = y) : R s x y := h ▸ R.refl s x

theorem R.optMerge {g : Rat → Rat → Rat} {s : Bool} {x y x' y' : Option Rat} (h : R s x y) (h' : R s x' y') :
    R s (optMerge g x x') (optMerge g y y') :=
  ⟨by rw [isSome_optMerge, isSome_optMerge, h.1, h'.1], fun hs => by rw [h.2 hs, h'.2 hs]⟩

theorem R.optBoth {s : Bool} {x y x' y' : Option Rat} (h : R s x y) (h' : R s x' y') :
    R s (optBoth x x') (optBoth y y') :=
  ⟨by rw [isSome_optBoth, isSome_optBoth, h.1, h'.1], fun hs => by rw [h.2 hs, h'.2 hs]⟩

theorem R.isNone {sc : Bool} {x y : Option Rat} (h : R sc x y) : x.isNone = y.isNone := by
  rw [← Option.not_isSome, ← Option.not_isSome, h.1]

theorem R.map {s : Bool} {x y : Option Rat} (f : Rat → Rat) (h : R s x y) : R s (x.map f) (y.map f) :=
  ⟨by rw [Option.isSome_map, Option.isSome_map, h.1], fun hs => by rw [h.2 hs]⟩

theorem R.ite {sc : Bool} {c : Prop} [Decidable c] {x y : Option Rat} (h : R sc x y) :
    R sc (if c then x else none) (if c then y else none) := by
  split
  · exact h
  · exact R.refl _ _

/-- a constant score forgets the values -/
theorem R.const {s s' : Bool} {x y : Option Rat} (c : Rat) (h : R s' x y) :
    R s (x.map (fun _ => c)) (y.map (fun _ => c)) := by
  have hc : ∀ o : Option Rat, o.map (fun _ => c) = if o.isSome then some c else none := fun o => by
    cases o <;> rfl
  exact R.of_eq (by rw [hc, hc, h.1])

theorem R.foldr {α} {F : Option Rat → Option Rat → Option Rat} {s : Bool}
    (hF : ∀ x y x' y', R s x y → R s x' y' → R s (F x x') (F y y')) (e : Option Rat)
    (zs : List α) (f g : α → Option Rat) (h : ∀ z ∈ zs, R s (f z) (g z)) :
    R s ((zs.map f).foldr F e) ((zs.map g).foldr F e) := by
  induction zs with
  | nil => exact R.refl s e
  | cons z zs ih =>
    simp only [List.map_cons, List.foldr_cons]
    exact hF _ _ _ _ (h z List.mem_cons_self) (ih (fun z hz => h z (List.mem_cons_of_mem _ hz)))

/-! ### pointwise folds of guarded values

Every specification met below has the form `if L ∧ c q then some (v q) else none` (`L`: the document is
live): a union fold is defined iff `L` and some `c q` hold, and is the sum over those; an intersection
fold iff `L` and all `c q` hold. -/

theorem foldr_add_guard {α} (L : Prop) [Decidable L] (c : α → Bool) (v : α → Rat) (qs : List α) :
    (qs.map (fun q => if L ∧ c q = true then some (v q) else none)).foldr (optMerge (· + ·)) none =
      if L ∧ qs.any c = true then some (((qs.filter c).map v).sum) else none := by
  induction qs with
  | nil => simp
  | cons q qs ih =>
    rw [List.map_cons, List.foldr_cons, ih]
    by_cases hl : L
    · cases hq : c q
      · simp [hl, hq, optMerge]
      · cases hr : qs.any c
        · simp [hl, hq, hr, optMerge, List.filter_eq_nil_iff.mpr (List.any_eq_false.mp hr), Rat.add_zero]
        · simp [hl, hq, hr, optMerge]
    · simp [hl, optMerge]

theorem foldr_both_guard {α} (L : Prop) [Decidable L] (c : α → Bool) (v : α → Rat) (qs : List α)
    (hne : qs ≠ []) :
    (qs.map (fun q => if L ∧ c q = true then some (v q) else none)).foldr optBoth (some 0) =
      if L ∧ qs.all c = true then some ((qs.map v).sum) else none := by
  by_cases hl : L
  · clear hne
    induction qs with
    | nil => simp [hl]
    | cons q qs ih =>
      rw [List.map_cons, List.foldr_cons, ih]
      cases hq : c q <;> cases hr : qs.all c <;> simp [hl, hq, hr, optBoth]
  · cases qs with
    | nil => exact absurd rfl hne
    | cons q qs => simp [hl, optBoth]

theorem specLookup_not_live {ls : LeafScore} {s : Segment} {q : Query} {i : Nat} (h : i ∉ s.live) :
    specLookup ls s q i = none := by
  simp [specLookup, h]

theorem specLookup_live {ls : LeafScore} {s : Segment} {q : Query} {i : Nat} (h : i ∈ s.live) :
    specLookup ls s q i = if sat q (s.doc i) = true then some (scoreOf ls q (s.doc i)) else none := by
  simp [specLookup, h]

theorem specLookup_eq_none {ls : LeafScore} {s : Segment} {q : Query} {i : Nat} (h : sat q (s.doc i) = false) :
    specLookup ls s q i = none :=
  if_neg (fun hc => by rw [h] at hc; cases hc.2)

theorem satAny_eq_any (qs : List Query) (d : Doc) : satAny qs d = qs.any (fun q => sat q d) := by
  induction qs with
  | nil => rfl
  | cons q qs ih => rw [satAny, List.any_cons, ih]

theorem satAll_eq_all (qs : List Query) (d : Doc) : satAll qs d = qs.all (fun q => sat q d) := by
  induction qs with
  | nil => rfl
  | cons q qs ih => rw [satAll, List.all_cons, ih]

theorem sumSat_eq (ls : LeafScore) (qs : List Query) (d : Doc) :
    sumSat ls qs d = ((qs.filter (fun q => sat q d)).map (fun q => scoreOf ls q d)).sum := by
  induction qs with
  | nil => rfl
  | cons q qs ih =>
    rw [sumSat, List.filter_cons, ih]
    cases sat q d <;> simp [Rat.zero_add]

theorem sumAll_eq (ls : LeafScore) (qs : List Query) (d : Doc) :
    sumAll ls qs d = (qs.map (fun q => scoreOf ls q d)).sum := by
  induction qs with
  | nil => rfl
  | cons q qs ih => rw [sumAll, List.map_cons, List.sum_cons, ih]

theorem foldr_add_spec (ls : LeafScore) (s : Segment) (qs : List Query) (i : Nat) :
    (qs.map (fun q => specLookup ls s q i)).foldr (optMerge (· + ·)) none =
      if i ∈ s.live ∧ satAny qs (s.doc i) = true then some (sumSat ls qs (s.doc i)) else none := by
  rw [satAny_eq_any, sumSat_eq]
  exact foldr_add_guard _ (fun q => sat q (s.doc i)) _ qs

theorem foldr_both_spec (ls : LeafScore) (s : Segment) (qs : List Query) (i : Nat) (hne : qs ≠ []) :
    (qs.map (fun q => specLookup ls s q i)).foldr optBoth (some 0) =
      if i ∈ s.live ∧ satAll qs (s.doc i) = true then some (sumAll ls qs (s.doc i)) else none := by
  rw [satAll_eq_all, sumAll_eq]
  exact foldr_both_guard _ (fun q => sat q (s.doc i)) _ qs hne

theorem foldr_max_spec (ls : LeafScore) (s : Segment) (qs : List Query) (i : Nat) :
    (qs.map (fun q => specLookup ls s q i)).foldr (optMerge ratMax) none =
      if i ∈ s.live then maxSat ls qs (s.doc i) else none := by
  induction qs with
  | nil => simp [maxSat]
  | cons q qs ih =>
    rw [List.map_cons, List.foldr_cons, ih]
    by_cases hl : i ∈ s.live
    · rw [specLookup_live hl, if_pos hl, if_pos hl, maxSat]
      cases maxSat ls qs (s.doc i) with
      | none => cases sat q (s.doc i) <;> rfl
      | some m =>
        cases sat q (s.doc i)
        · rfl
        · -- `maxSat` compares in the other order
          simp only [if_true, optMerge, ratMax_comm _ m]
          rfl
    · rw [specLookup_not_live hl, if_neg hl, if_neg hl]; rfl

theorem maxSat_isSome (ls : LeafScore) (qs : List Query) (d : Doc) :
    (maxSat ls qs d).isSome = satAny qs d := by
  induction qs with
  | nil => rfl
  | cons q qs ih =>
    rw [maxSat, satAny, ← ih]
    cases maxSat ls qs d <;> cases sat q d <;> rfl

theorem maxSat_mem {ls : LeafScore} {d : Doc} : ∀ {qs : List Query} {m : Rat}, maxSat ls qs d = some m →
    ∃ q ∈ qs, sat q d = true ∧ m = scoreOf ls q d
  | [], _, h => by cases h
  | q :: qs, m, h => by
    rw [maxSat] at h
    cases hr : maxSat ls qs d with
    | none =>
      rw [hr] at h
      cases hq : sat q d
      · rw [hq] at h; cases h
      · rw [hq] at h; exact ⟨q, List.mem_cons_self, hq, (Option.some.inj h).symm⟩
    | some m' =>
      rw [hr] at h
      obtain ⟨q', hq', hs', rfl⟩ := maxSat_mem hr
      have tail : ∃ c ∈ q :: qs, sat c d = true ∧ scoreOf ls q' d = scoreOf ls c d :=
        ⟨q', List.mem_cons_of_mem _ hq', hs', rfl⟩
      cases hq : sat q d
      · rw [hq] at h; cases Option.some.inj h; exact tail
      · rw [hq] at h
        cases Option.some.inj h
        split
        · exact ⟨q, List.mem_cons_self, hq, rfl⟩
        · exact tail

theorem mem_dedup {t : Term} {l : List Term} : t ∈ dedup l ↔ t ∈ l := by
  induction l with
  | nil => rfl
  | cons x xs ih =>
    unfold dedup
    split
    · rename_i h
      rw [ih, List.mem_cons]
      exact ⟨Or.inr, fun h' => h'.elim (fun e => by subst e; exact ih.mp (List.contains_iff_mem.mp h)) id⟩
    · rw [List.mem_cons, List.mem_cons, ih]

theorem nodup_dedup (l : List Term) : (dedup l).Nodup := by
  induction l with
  | nil => exact List.nodup_nil
  | cons x xs ih =>
    unfold dedup
    split
    · exact ih
    · rename_i h
      exact List.nodup_cons.mpr ⟨fun hm => h (List.contains_iff_mem.mpr hm), ih⟩

theorem hasTerm_iff_mem {d : Doc} {f : String} {t : Term} : d.hasTerm f t = true ↔ t ∈ d.terms f :=
  List.contains_iff_mem

theorem positions_ne_nil_iff {d : Doc} {f : String} {t : Term} :
    d.positions f t ≠ [] ↔ t ∈ d.terms f := by
  simp [Doc.positions, Doc.terms]

theorem positions_eq_nil_of_not_mem {d : Doc} {f : String} {t : Term} (h : t ∉ d.terms f) :
    d.positions f t = [] :=
  Decidable.byContradiction fun hne => h (positions_ne_nil_iff.mp hne)

theorem globMatch_star (t : List Nat) : globMatch [.star] t = true := by
  induction t with
  | nil => simp [globMatch]
  | cons x t ih => simp [globMatch, ih]

theorem isAllPred_test {p : TermPred} (h : isAllPred p = true) (t : Term) : p.test t = true := by
  cases p with
  | pfx q => cases q with
    | nil => simp [TermPred.test]
    | cons _ _ => simp [isAllPred] at h
  | glob pat =>
    match pat, h with
    | [.star], _ => simp [TermPred.test, globMatch_star]
  | all => rfl
  | range _ _ _ _ => simp [isAllPred] at h
  | fuzzy _ _ _ => simp [isAllPred] at h
  | oneOf _ => simp [isAllPred] at h

theorem endsStep_mem {slop : Nat} {ends bpos : List Nat} {p : Nat} :
    p ∈ endsStep slop ends bpos ↔ p ∈ bpos ∧ ∃ e ∈ ends, e < p ∧ p - e ≤ slop := by
  unfold endsStep
  simp only [List.mem_filter, List.any_eq_true, Bool.and_eq_true, decide_eq_true_eq]

theorem foldl_ends_ne_nil (slop : Nat) (more : List (List Nat)) (ends : List Nat) :
    (more.foldl (endsStep slop) ends ≠ []) ↔ ends.any (fun e => chainFrom slop e more) = true := by
  induction more generalizing ends with
  | nil =>
    simp only [List.foldl_nil, chainFrom]
    cases ends <;> simp
  | cons ps more ih =>
    simp only [List.foldl_cons]
    rw [ih]
    simp only [List.any_eq_true, chainFrom, Bool.and_eq_true, decide_eq_true_eq]
    constructor
    · rintro ⟨p, hp, hc⟩
      obtain ⟨hpb, e, he, hlt, hd⟩ := endsStep_mem.mp hp
      exact ⟨e, he, p, hpb, ⟨⟨hlt, hd⟩, hc⟩⟩
    · rintro ⟨e, he, p, hpb, ⟨⟨hlt, hd⟩, hc⟩⟩
      exact ⟨p, endsStep_mem.mpr ⟨hpb, e, he, hlt, hd⟩, hc⟩

theorem phraseEnds_iff (slop : Nat) (pss : List (List Nat)) :
    (!(phraseEnds slop pss).isEmpty) = phraseSat slop pss := by
  cases pss with
  | nil => rfl
  | cons ps more =>
    rw [Bool.eq_iff_iff, phraseSat, ← foldl_ends_ne_nil, phraseEnds]
    cases List.foldl (endsStep slop) ps more <;> simp

theorem chainFrom_all_ne_nil {slop prev : Nat} {pss : List (List Nat)} (h : chainFrom slop prev pss = true) :
    ∀ ps ∈ pss, ps ≠ [] := by
  induction pss generalizing prev with
  | nil => intro ps hps; cases hps
  | cons ps more ih =>
    simp only [chainFrom, List.any_eq_true, Bool.and_eq_true] at h
    obtain ⟨p, hp, _, hc⟩ := h
    exact List.forall_mem_cons.mpr ⟨List.ne_nil_of_mem hp, ih hc⟩

theorem phraseSat_all_ne_nil {slop : Nat} {pss : List (List Nat)} (h : phraseSat slop pss = true) :
    pss ≠ [] ∧ ∀ ps ∈ pss, ps ≠ [] := by
  cases pss with
  | nil => cases h
  | cons ps more =>
    simp only [phraseSat, List.any_eq_true] at h
    obtain ⟨p, hp, hc⟩ := h
    exact ⟨List.cons_ne_nil _ _, List.forall_mem_cons.mpr ⟨List.ne_nil_of_mem hp, chainFrom_all_ne_nil hc⟩⟩

theorem phraseSat_words {slop : Nat} {d : Doc} {f : String} {ws : List Term}
    (h : phraseSat slop (ws.map (d.positions f)) = true) : ws ≠ [] ∧ ∀ w ∈ ws, w ∈ d.terms f :=
  have ⟨hne, hall⟩ := phraseSat_all_ne_nil h
  ⟨fun hnil => hne (by rw [hnil]; rfl), fun _ hw => positions_ne_nil_iff.mp (hall _ (List.mem_map_of_mem hw))⟩

section
variable {ls : LeafScore} {d : Doc} {qs : List Query}
  (hpos : ∀ q ∈ qs, sat q d = true → 0 < scoreOf ls q d)
include hpos

theorem sumSat_nonneg : 0 ≤ sumSat ls qs d := by
  rw [sumSat_eq]
  exact sum_map_nonneg fun q hq => hpos q (List.mem_filter.mp hq).1 (List.mem_filter.mp hq).2

theorem sumSat_pos (hs : satAny qs d = true) : 0 < sumSat ls qs d := by
  rw [sumSat_eq]
  rw [satAny_eq_any] at hs
  obtain ⟨q0, hq0, hs0⟩ := List.any_eq_true.mp hs
  exact sum_map_pos (fun q hq => hpos q (List.mem_filter.mp hq).1 (List.mem_filter.mp hq).2)
    (List.ne_nil_of_mem (List.mem_filter.mpr ⟨hq0, hs0⟩))

theorem sumAll_nonneg (hs : satAll qs d = true) : 0 ≤ sumAll ls qs d := by
  rw [sumAll_eq]
  rw [satAll_eq_all] at hs
  exact sum_map_nonneg fun q hq => hpos q hq (List.all_eq_true.mp hs q hq)

theorem sumAll_pos (hs : satAll qs d = true) (hne : qs ≠ []) : 0 < sumAll ls qs d := by
  rw [sumAll_eq]
  rw [satAll_eq_all] at hs
  exact sum_map_pos (fun q hq => hpos q hq (List.all_eq_true.mp hs q hq)) hne

theorem maxSat_pos {m : Rat} (hm : maxSat ls qs d = some m) : 0 < m := by
  obtain ⟨q, hq, hs, rfl⟩ := maxSat_mem hm
  exact hpos q hq hs

end

mutual
theorem scoreOf_pos (ls : LeafScore) (d : Doc) (hleaf : ∀ f t, d.hasTerm f t = true → 0 < ls d f t) :
    ∀ (q : Query), PosQ q → sat q d = true → 0 < scoreOf ls q d
  | .term f t b, hp, hs => Rat.mul_pos (hleaf f t hs) hp
  | .multi f p b cs, hp, hs => by
    show 0 < if (cs || isAllPred p) = true then b else _ * b
    split
    · exact hp
    · obtain ⟨t, ht, hpt⟩ := List.any_eq_true.mp hs
      exact Rat.mul_pos (sum_map_pos
        (fun t' ht' => hleaf f t' (hasTerm_iff_mem.mpr (mem_dedup.mp (List.mem_filter.mp ht').1)))
        (List.ne_nil_of_mem (List.mem_filter.mpr ⟨mem_dedup.mpr ht, hpt⟩))) hp
  | .phrase f ws slop b, hp, hs => by
    have ⟨hne, hall⟩ := phraseSat_words hs
    exact Rat.mul_pos (sum_map_pos (fun w hw => hleaf f w (hasTerm_iff_mem.mpr (hall w hw))) hne) hp
  | .numRange f lo hi le he b, hp, _ => hp
  | .every f b, hp, _ => hp
  | .null, _, hs => by cases hs
  | .and qs b, hp, hs => by
    have hs' : (!qs.isEmpty && satAll qs d) = true := hs
    exact Rat.mul_pos (sumAll_pos (scoreOfs_pos ls d hleaf qs hp.2) (Bool.and_eq_true_iff.mp hs').2
      (fun h => by subst h; cases hs)) hp.1
  | .or qs b, hp, hs => Rat.mul_pos (sumSat_pos (scoreOfs_pos ls d hleaf qs hp.2) hs) hp.1
  | .dismax qs b, hp, hs => by
    show 0 < (maxSat ls qs d).getD 0 * b
    have hs' : satAny qs d = true := hs
    cases hm : maxSat ls qs d with
    | none => rw [← maxSat_isSome ls, hm] at hs'; cases hs'
    | some m => exact Rat.mul_pos (maxSat_pos (scoreOfs_pos ls d hleaf qs hp.2) hm) hp.1
  | .not q, _, _ => by show (0 : Rat) < 1; decide
  | .andNot a b, hp, hs =>
    have hs' : (sat a d && !sat b d) = true := hs
    scoreOf_pos ls d hleaf a hp.1 (Bool.and_eq_true_iff.mp hs').1
  | .andMaybe a b, hp, hs => by
    have ha := scoreOf_pos ls d hleaf a hp.1 hs
    show 0 < scoreOf ls a d + if sat b d = true then scoreOf ls b d else 0
    split
    · rename_i hb
      exact add_pos_of_pos_of_nonneg ha (Rat.le_of_lt (scoreOf_pos ls d hleaf b hp.2 hb))
    · rwa [Rat.add_zero]
  | .require a b, hp, hs =>
    have hs' : (sat a d && sat b d) = true := hs
    scoreOf_pos ls d hleaf a hp.1 (Bool.and_eq_true_iff.mp hs').1
  | .constScore q sc, hp, _ => hp.1
theorem scoreOfs_pos (ls : LeafScore) (d : Doc) (hleaf : ∀ f t, d.hasTerm f t = true → 0 < ls d f t) :
    ∀ (qs : List Query), PosQs qs → ∀ q ∈ qs, sat q d = true → 0 < scoreOf ls q d
  | [], _ => fun _ hq => by cases hq
  | q0 :: qs, hp => fun q hq =>
    (List.mem_cons.mp hq).elim (fun h => h ▸ scoreOf_pos ls d hleaf q0 hp.1) (scoreOfs_pos ls d hleaf qs hp.2 q)
end

theorem lists_pos (ls : LeafScore) (d : Doc) (hleaf : ∀ f t, d.hasTerm f t = true → 0 < ls d f t) :
    ∀ (qs : List Query), PosQs qs →
      (satAll qs d = true → 0 ≤ sumAll ls qs d ∧ (qs ≠ [] → 0 < sumAll ls qs d)) ∧
      (0 ≤ sumSat ls qs d ∧ (satAny qs d = true → 0 < sumSat ls qs d)) ∧
      (∀ m, maxSat ls qs d = some m → 0 < m) := fun qs hp =>
  have hpos := scoreOfs_pos ls d hleaf qs hp
  ⟨fun hs => ⟨sumAll_nonneg hpos hs, sumAll_pos hpos hs⟩, ⟨sumSat_nonneg hpos, sumSat_pos hpos⟩,
    fun _ => maxSat_pos hpos⟩

end WM.Compile
