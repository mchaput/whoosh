import WM.Lemmas.ReplaceSpec
/-! `IntersectionMatcher.replace` and `RequireMatcher.replace`; what the constructors of the aligning binary classes return
and the lists two replaced sub-matchers of an additive class give (`kept_additive`). -/
namespace WM.Matcher

theorem any_isActive (m : Any) : m.isActive = (ops m.1).isActive m.2 := rfl
theorem any_den (m : Any) : m.den = den m.1 m.2 := rfl

variable {W : (s : Shape) → St s → Prop} (I : TreeInv W)
include I

theorem any_den_nil (r : Any) (h : W r.1 r.2) (hi : (!r.isActive) = true) : r.den = [] := I.den_nil h hi

theorem interWith_nil_of_inactive (f : Rat → Rat → Rat) {sa sb : Shape} {a : St sa} {b : St sb} (wa : W sa a) (wb : W sb b)
    (h : (!((ops sa).isActive a && (ops sb).isActive b)) = true) : interWith f (den sa a) (den sb b) = [] := by
  rw [Bool.not_and, Bool.or_eq_true] at h
  rcases h with h | h
  · rw [I.den_nil wa h]; exact interWith_nil_left _ _
  · rw [I.den_nil wb h]; exact interWith_nil_right _ _

section
variable {a b : Any} (wa : W a.1 a.2) (wb : W b.1 b.2)
include wa wb

theorem mkInter_spec : Yields (mkInter a b) fun n => W n.1 n.2 ∧ n.den = interWith (· + ·) a.den b.den :=
  .bind (Inter.init_spec (· + ·) (I.faithful a.1) (I.faithful b.1) a.2 b.2 wa wb) fun _ g => .ok ⟨I.inter.2 g.1, g.2⟩

theorem mkRequire_spec : Yields (mkRequire a b) fun n => W n.1 n.2 ∧ n.den = interWith (fun s _ => s) a.den b.den :=
  .bind (Inter.init_spec (fun s _ => s) (I.faithful a.1) (I.faithful b.1) a.2 b.2 wa wb) fun _ g =>
    .ok ⟨I.require.2 g.1, g.2⟩

theorem mkAndNot_spec : Yields (mkAndNot a b) fun n => W n.1 n.2 ∧ n.den = diff a.den b.den :=
  .bind (AndNot.init_spec (I.faithful a.1) (I.faithful b.1) a.2 b.2 wa wb) fun _ g => .ok ⟨I.andNot.2 g.1, g.2⟩

theorem mkAndMaybe_spec : Yields (mkAndMaybe a b) fun n => W n.1 n.2 ∧ n.den = leftJoin a.den b.den :=
  .bind (AndMaybe.init_spec (I.faithful a.1) (I.faithful b.1) a.2 b.2 wa wb) fun _ g => .ok ⟨I.andMaybe.2 g.1, g.2⟩

end

variable {sa sb : Shape} {ra : St sa → Rat → Repl} {rb : St sb → Rat → Repl}

/-- Both sides of an additive class replaced, each with the slack the other leaves: the second threshold is taken from
    the replaced first side (`UnionMatcher`) or from the original one, which bounds it (`Slack.mono`).  `hop` is what
    the list operator makes of two such lists. -/
theorem kept_additive (op : Den → Den → Den)
    (hop : ∀ {q amax bmax : Rat} {A A' B B' : Den}, Asc A → Asc A' → Asc B → Asc B' → NonNegDen A → NonNegDen B →
      BoundedBy bmax B → 0 ≤ bmax → BoundedBy amax A' → 0 ≤ amax → Keeps (q - bmax) A' A → Keeps (q - amax) B' B →
      Keeps q (op A' B') (op A B))
    {q qa qb : Rat} {ma : St sa} {mb : St sb} {ca cb : Bool} {a' b' : Any} (hQ : q = 0 ∨ Scored W) (wa : W sa ma)
    (wb : W sb mb) (oa : ReplOK W sa ma qa (ca, a')) (ob : ReplOK W sb mb qb (cb, b')) (ha : Slack q (den sb mb) qa)
    (hb : Slack q a'.den qb) : Kept q (op a'.den b'.den) (op (den sa ma) (den sb mb)) := by
  refine oa.op₂ ob.toKept op (fun hq => ⟨ha.zero hq, hb.zero hq⟩) fun hq => ?_
  have hS := hQ.resolve_left hq
  obtain ⟨bmax, hb1, hb0, rfl⟩ := ha.sub hq
  obtain ⟨amax, ha1, ha0, rfl⟩ := hb.sub hq
  exact hop (I.asc wa) (I.asc oa.inv) (I.asc wb) (I.asc ob.inv) (hS.nn wa) (hS.nn wb) hb1 hb0 ha1 ha0 oa.keeps ob.keeps

theorem interMain_spec (hra : ReplSpec W sa ra) (hrb : ReplSpec W sb rb) {m : Bin (St sa) (St sb)} {q amin bmin : Rat}
    (hQ : q = 0 ∨ Scored W) (h : W (.inter sa sb) m) (ha : Slack q (den sb m.b) amin) (hb : Slack q (den sa m.a) bmin) :
    Yields (interMain sa sb ra rb m amin bmin) (ReplOK W (.inter sa sb) m q) := by
  obtain ⟨wa, wb, -⟩ := I.inter.1 h
  refine (hra m.a amin (ha.thr hQ) wa).bind ?_
  rintro ⟨ca, a'⟩ oa
  refine (hrb m.b bmin (hb.thr hQ) wb).bind ?_
  rintro ⟨cb, b'⟩ ob
  have hk := kept_additive I (interWith (· + ·))
    (fun hA hA' hB hB' _ _ bB _ bA' _ KA KB =>
      (keeps_interAdd_right hA' hB hB' bA' KB).trans (keeps_interAdd_left hA hA' bB KA))
    hQ wa wb oa ob ha (hb.mono oa.keeps.dom)
  refine .ite (fun hact => ?_) fun _ => rebuild_spec h (mkInter_spec I oa.inv ob.inv) hk
  exact null_spec I (interWith_nil_of_inactive I (· + ·) oa.inv ob.inv hact ▸ hk)

theorem interReplace_spec (hra : ReplSpec W sa ra) (hrb : ReplSpec W sb rb) :
    ReplSpec W (.inter sa sb) (interReplace sa sb ra rb) := by
  intro m q hQ h
  obtain ⟨wa, wb, -⟩ := I.inter.1 h
  refine .ite (fun hact => ?_) fun _ => .ite (fun hq => ?_) fun hq => ?_
  · exact null_spec I (.of_eq (interWith_nil_of_inactive I (· + ·) wa wb hact).symm)
  · obtain ⟨hq, hS⟩ := scored_of hQ hq
    refine (hS.max wa).bind fun amax ha => (hS.max wb).bind fun bmax hb => .ite (fun hlow => ?_) fun _ => ?_
    · exact null_spec I (.nil_of_lt hq (bounded_interAdd ha.1 hb.1) hlow)
    · exact interMain_spec I hra hrb hQ h (.of_ne hq hb.1 hb.2) (.of_ne hq ha.1 ha.2)
  · exact interMain_spec I hra hrb hQ h (.of_zero hq) (.of_zero hq)

theorem requireReplace_spec (hra : ReplSpec W sa ra) (hrb : ReplSpec W sb rb) :
    ReplSpec W (.require sa sb) (requireReplace sa sb ra rb) := by
  intro m q hQ h
  obtain ⟨wa, wb, -⟩ := I.require.1 h
  have main : Yields (requireMain sa sb ra rb m q) (ReplOK W (.require sa sb) m q) := by
    refine (hra m.a q hQ wa).bind ?_
    rintro ⟨ca, a'⟩ oa
    refine (hrb m.b 0 (.inl rfl) wb).bind ?_
    rintro ⟨cb, _⟩ -
    -- the second operand is kept as it is
    have hk := oa.op₂ (.of_eq (L₁ := den sb m.b) rfl) (interWith fun s _ => s) (fun hq => ⟨hq, rfl⟩) fun _ =>
      keeps_interFst_left (I.asc wa) (I.asc oa.inv) oa.keeps
    refine .ite (fun hact => ?_) fun _ => rebuild_spec h (mkRequire_spec I oa.inv wb) hk
    have hnil : interWith (fun s _ => s) a'.den (den sb m.b) = [] := by
      rw [any_den_nil I a' oa.inv hact]; exact interWith_nil_left _ _
    exact null_spec I (hnil ▸ hk)
  refine .ite (fun hact => ?_) fun _ => .ite (fun hq => ?_) fun _ => main
  · exact null_spec I
      (.of_eq (interWith_nil_of_inactive I (fun s _ => s) wa wb hact).symm)
  · obtain ⟨hq, hS⟩ := scored_of hQ hq
    refine (hS.max wa).bind fun amax ha => .ite (fun hlow => ?_) fun _ => main
    exact null_spec I (.nil_of_lt hq (bounded_interFst ha.1) hlow)

end WM.Matcher
