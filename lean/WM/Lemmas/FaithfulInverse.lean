import WM.Lemmas.Faithful
/-! `InverseMatcher` is a faithful cursor over `complement`. -/
namespace WM.Matcher

namespace Inverse
variable {α : Type} {A : Ops α} {dA fA : α → Den} {WA : α → Prop}

/-- the budget `(limit - i) + r` of `_find_next` is used up as `i` advances below `limit` or `r` shrinks -/
theorem budget_lt {limit i i' r r' n : Nat} (h : (limit - i) + r < n + 1) (hi : i ≤ i') (hr : r' ≤ r)
    (hlt : (i < i' ∧ i < limit) ∨ r' < r) : (limit - i') + r' < n :=
  Nat.lt_of_lt_of_le
    (hlt.elim (fun h2 => Nat.add_lt_add_of_lt_of_le (Nat.sub_lt_sub_left h2.2 h2.1) hr)
      fun h2 => Nat.add_lt_add_of_le_of_lt (Nat.sub_le_sub_left hi _) h2)
    (Nat.le_of_lt_succ h)

/-- when active, the matcher sits on an id that is neither missing nor in the child, and the child
    is strictly ahead -/
def Stops (dA : α → Den) (limit : Nat) (missing : List Nat) (c : α) (i : Nat) : Prop :=
  i < limit → missing.contains i = false ∧ ∀ x r L, dA c = (x, r) :: L → i < x

theorem findLoop_spec (FA : Faithful A dA fA WA) (limit : Nat) (missing : List Nat) (w : Rat) :
    ∀ (fuel : Nat) (c : α) (i : Nat), WA c → (limit - i) + A.rem c < fuel →
      Yields (findLoop A limit missing fuel c i) fun (c', i') => WA c' ∧ Stops dA limit missing c' i' ∧
        complement i' limit missing (dA c') w = complement i limit missing (dA c) w ∧
        i ≤ i' ∧ Advances A dA fA c c' := by
  intro fuel
  induction fuel with
  | zero => intro c i _ h; exact absurd h (Nat.not_lt_zero _)
  | succ n ih =>
    intro c i wc hfuel
    unfold findLoop
    by_cases hlim : i < limit
    · rw [if_pos hlim]
      cases hmiss : missing.contains i with
      | true =>
        -- a missing id is no entry
        rw [if_pos rfl]
        refine (ih c (i + 1) wc (budget_lt hfuel (Nat.le_succ i) (Nat.le_refl _) (.inl ⟨Nat.lt_succ_self i, hlim⟩))).mono
          fun _ ⟨g2, g3, g4, g5, g6⟩ => ⟨g2, g3, ?_, Nat.le_of_succ_le g5, g6⟩
        rw [g4, complement_step hlim, if_neg fun hh => Bool.noConfusion (hmiss.symm.trans hh.1)]
      | false =>
        rw [if_neg (by simp)]
        rcases FA.head wc with ⟨h0, hina⟩ | ⟨x, r, L, hc, hact, hid, -⟩
        · rw [hina]
          exact .ok ⟨wc, fun _ => ⟨hmiss, fun x r L h => by rw [h0] at h; cases h⟩, rfl, Nat.le_refl _, .refl _ _ _ _⟩
        · rw [hact, hid]
          show Yields (if x < i then _ else _) _
          by_cases hxi : x < i
          · -- the child catches up: what it loses lies below `i`
            rw [if_pos hxi]
            refine (FA.skipTo_step i wc (by simp [hc])).bind fun c1 st => ?_
            have hlt := st.adv.rem_lt (by rw [st.den_eq, hc]; exact dropBelow_ne_of_head_lt hxi)
            refine (ih c1 i st.wf (budget_lt hfuel (Nat.le_refl i) (Nat.le_of_lt hlt) (.inr hlt))).mono
              fun _ ⟨g2, g3, g4, g5, g6⟩ => ⟨g2, g3, ?_, g5, st.adv.trans g6⟩
            rw [g4, st.den_eq]
            exact complement_congr fun d hd => by rw [lookup_dropBelow (FA.asc _ wc), if_neg (Nat.not_lt.2 hd)]
          · rw [if_neg hxi]
            show Yields (if (x == i) = true then _ else _) _
            by_cases hei : x = i
            · -- the child is on `i`: no entry, both move on
              subst hei
              rw [if_pos (by simp)]
              refine (FA.next_step wc hc).bind fun c1 st => ?_
              have h4 := st.rem_lt hc
              refine (ih c1 (x + 1) st.wf (budget_lt hfuel (Nat.le_succ x) (Nat.le_of_lt h4) (.inr h4))).mono
                fun _ ⟨g2, g3, g4, g5, g6⟩ => ⟨g2, g3, ?_, Nat.le_of_succ_le g5, st.adv.trans g6⟩
              have hno : ¬(missing.contains x = false ∧ lookup ((x, r) :: L) x = none) := fun hh => by
                rw [lookup_head] at hh; cases hh.2
              rw [g4, st.den_eq, hc, complement_step hlim, if_neg hno]
              exact complement_congr fun d hd => by rw [lookup_tail_of_ne (Nat.ne_of_lt hd)]
            · rw [if_neg (by simp [hei])]
              exact .ok ⟨wc, fun _ => ⟨hmiss, fun x' r' L' h => by
                  rw [hc] at h; cases h; exact Nat.lt_of_le_of_ne (Nat.le_of_not_lt hxi) (Ne.symm hei)⟩, rfl,
                Nat.le_refl _, .refl _ _ _ _⟩
    · rw [if_neg hlim]
      exact .ok ⟨wc, fun h => absurd h hlim, rfl, Nat.le_refl _, .refl _ _ _ _⟩

theorem findNext_spec (FA : Faithful A dA fA WA) (w : Rat) (m : Inverse α) (wc : WA m.child) :
    ∃ c' i', findNext A m = .ok { m with child := c', id := i' } ∧
      WA c' ∧ Stops dA m.limit m.missing c' i' ∧
      complement i' m.limit m.missing (dA c') w = complement m.id m.limit m.missing (dA m.child) w ∧
      m.id ≤ i' ∧ Advances A dA fA m.child c' := by
  obtain ⟨⟨c', i'⟩, g1, g⟩ :=
    findLoop_spec FA m.limit m.missing w ((m.limit - m.id) + A.rem m.child + 1) m.child m.id wc (Nat.lt_succ_self _)
  exact ⟨c', i', by unfold findNext; rw [g1]; rfl, g⟩

theorem head (FA : Faithful A dA fA WA) (w : Rat) (m : Inverse α) (wc : WA m.child)
    (hs : Stops dA m.limit m.missing m.child m.id) (hlt : m.id < m.limit) :
    complement m.id m.limit m.missing (dA m.child) w =
      (m.id, w) :: complement (m.id + 1) m.limit m.missing (dA m.child) w := by
  obtain ⟨hmiss, hahead⟩ := hs hlt
  have hl : lookup (dA m.child) m.id = none := by
    rcases FA.head wc with ⟨h0, -⟩ | ⟨x, r, L, hc, -, -, -⟩
    · rw [h0]; rfl
    · rw [hc]; exact lookup_eq_none_of_lt_head (hc ▸ FA.asc _ wc) (hahead x r L hc)
  rw [complement_step hlt, if_pos ⟨hmiss, hl⟩]

/-- an id gained or a change of the child's list pays for the move -/
theorem advances {O : Ops (Inverse α)} {w : Inverse α → Rat} (hw : ∀ m c i, w { m with child := c, id := i } = w m)
    (hrem : O.rem = (Inverse.ops A).rem) (m : Inverse α) (hlt : m.id < m.limit) {c' : α} {i' : Nat} (hi : m.id ≤ i')
    (h : Advances A dA fA m.child c') :
    Advances O (fun m => complement m.id m.limit m.missing (dA m.child) (w m))
      (fun m => complement 0 m.limit m.missing (fA m.child) (w m)) m { m with child := c', id := i' } := by
  refine ⟨by rw [hrem]; exact Nat.add_le_add (Nat.sub_le_sub_left hi _) h.rem_le, fun hne => ?_,
    by simp only [hw, h.full_eq]⟩
  rw [hrem]
  exact budget_lt (Nat.lt_succ_self _) hi h.rem_le <| (Nat.lt_or_ge m.id i').imp (fun h1 => ⟨h1, hlt⟩) fun h1 =>
    h.rem_lt fun e => hne (by simp only [hw, e, Nat.le_antisymm h1 hi])

/-- any table with the cursor of `InverseMatcher` that reads `w m` (the weight; no term for `matching_terms()`) is faithful
    over the complement scored `w m`, under any invariant `W` that implies the class's and survives a change of child and id -/
theorem faithful_of (FA : Faithful A dA fA WA) (O : Ops (Inverse α)) (w : Inverse α → Rat)
    (hw : ∀ m c i, w { m with child := c, id := i } = w m) (hm : MoveEq O (Inverse.ops A))
    (hscore : ∀ m, O.score m = .ok (w m))
    (W : Inverse α → Prop) (hW : ∀ m, W m → WA m.child ∧ Stops dA m.limit m.missing m.child m.id)
    (hset : ∀ (m : Inverse α) c i, W m → WA c → Stops dA m.limit m.missing c i → W { m with child := c, id := i }) :
    Faithful O (fun m => complement m.id m.limit m.missing (dA m.child) (w m))
      (fun m => complement 0 m.limit m.missing (fA m.child) (w m)) W := by
  obtain ⟨hact, hid, hnext, hskip, hreset, hrem⟩ := hm
  exact .of_state (fun m _ => asc_complement ..)
    (fun m h => by
      rw [hact, hid, hscore, hnext, hskip]
      show (_ ∧ decide (m.id < m.limit) = false) ∨ ∃ x r L, _ ∧ decide (m.id < m.limit) = true ∧ _
      by_cases hlt : m.id < m.limit
      · refine .inr ⟨_, _, _, head FA _ m (hW m h).1 (hW m h).2 hlt, decide_eq_true hlt, rfl, rfl, ?_, fun t => ?_⟩
        · obtain ⟨c', i', g1, g2, g3, g4, g5, g6⟩ := findNext_spec FA (w m) { m with id := m.id + 1 } (hW m h).1
          exact ⟨{ m with child := c', id := i' }, (if_neg (Nat.not_le_of_lt hlt)).trans g1, hset m c' i' h g2 g3,
            by simp only [hw]; exact g4, advances hw hrem m hlt (Nat.le_of_succ_le g5) g6⟩
        · have hge := Nat.not_le_of_lt hlt
          rw [dropBelow_complement]
          by_cases htid : t < m.id
          · rw [Nat.max_eq_left (Nat.le_of_lt htid)]
            exact ⟨m, (if_neg hge).trans (if_pos htid), h, rfl, .refl _ _ _ _⟩
          · rw [Nat.max_eq_right (Nat.le_of_not_lt htid)]
            obtain ⟨c', i', g1, g2, g3, g4, g5, g6⟩ := findNext_spec FA (w m) { m with id := t } (hW m h).1
            exact ⟨{ m with child := c', id := i' }, (if_neg hge).trans ((if_neg htid).trans g1), hset m c' i' h g2 g3,
              by simp only [hw]; exact g4, advances hw hrem m hlt (Nat.le_trans (Nat.le_of_not_lt htid) g5) g6⟩
      · exact .inl ⟨complement_eq_nil_of_ge (Nat.le_of_not_lt hlt) _ _ _, decide_eq_false hlt⟩)
    (fun m h => by
      obtain ⟨c1, h1, h2, h3, h4⟩ := FA.reset _ (hW m h).1
      obtain ⟨c', i', g1, g2, g3, g4, -, g6⟩ := findNext_spec FA (w m) { m with child := c1, id := 0 } h2
      refine ⟨{ m with child := c', id := i' }, ?_, hset m c' i' h g2 g3, by simp only [hw]; rw [← h3]; exact g4,
        by simp only [hw]; rw [← h4, ← g6.full_eq]⟩
      rw [hreset]
      show (do let c ← A.reset m.child; findNext A { m with child := c, id := 0 }) = _
      rw [h1]; exact g1)

theorem faithful_inv (FA : Faithful A dA fA WA) (W : Inverse α → Prop)
    (hW : ∀ m, W m → WA m.child ∧ Stops dA m.limit m.missing m.child m.id)
    (hset : ∀ (m : Inverse α) c i, W m → WA c → Stops dA m.limit m.missing c i → W { m with child := c, id := i }) :
    Faithful (Inverse.ops A) (fun m => complement m.id m.limit m.missing (dA m.child) m.weight)
      (fun m => complement 0 m.limit m.missing (fA m.child) m.weight) W :=
  faithful_of FA _ (·.weight) (fun _ _ _ => rfl) (.refl _) (fun _ => rfl) W hW hset

/-- `InverseMatcher` -/
theorem faithful (FA : Faithful A dA fA WA) :
    Faithful (Inverse.ops A) (fun m => complement m.id m.limit m.missing (dA m.child) m.weight)
      (fun m => complement 0 m.limit m.missing (fA m.child) m.weight)
      (fun m => WA m.child ∧ Stops dA m.limit m.missing m.child m.id) :=
  faithful_inv FA _ (fun _ h => h) (fun _ _ _ _ h1 h2 => ⟨h1, h2⟩)

theorem init_spec (FA : Faithful A dA fA WA) (c : α) (limit : Nat) (missing : List Nat) (w : Rat) (i : Nat)
    (wc : WA c) :
    Yields (Inverse.init A c limit missing w i) fun m' =>
      (WA m'.child ∧ Stops dA m'.limit m'.missing m'.child m'.id) ∧
      complement m'.id m'.limit m'.missing (dA m'.child) m'.weight = complement i limit missing (dA c) w := by
  obtain ⟨c', i', g1, g2, g3, g4, -⟩ := findNext_spec FA w ⟨c, limit, missing, w, i⟩ wc
  exact ⟨_, g1, ⟨g2, g3⟩, g4⟩

end Inverse
end WM.Matcher
