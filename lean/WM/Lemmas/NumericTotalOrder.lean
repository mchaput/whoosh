import WM.Spec.Numeric
/-! The IEEE total order on 64-bit patterns as `<` on an integer key, and Python's comparisons on
    doubles in terms of that key; at the end, closed float ranges whose bounds are equal as Python numbers (C13). -/
namespace WM.Numeric
open WM.NumericSpec

/-- A sign-magnitude pattern read as an integer: `m` for `+m`, `-m - 1` for `-m`, so that `-0.0` sits
    directly below `+0.0`. -/
def tkey (b : Nat) : Int :=
  if b / 2 ^ 63 % 2 = 1 then -((b % 2 ^ 63 : Nat) : Int) - 1 else ((b % 2 ^ 63 : Nat) : Int)

theorem totalLt_iff_tkey (a b : Nat) : totalLt a b = true ↔ tkey a < tkey b := by
  simp only [totalLt, tkey]
  generalize a / 2 ^ 63 % 2 = sa, a % 2 ^ 63 = ma, b / 2 ^ 63 % 2 = sb, b % 2 ^ 63 = mb
  by_cases h1 : sa = 1 <;> by_cases h2 : sb = 1 <;> simp only [h1, h2, if_true, if_false] <;> simp <;> omega

theorem tkey_eq (b : Nat) (hb : b < 2 ^ 64) :
    tkey b = if b < 2 ^ 63 then (b : Int) else 2 ^ 63 - 1 - (b : Int) := by
  unfold tkey
  by_cases h : b < 2 ^ 63
  · rw [if_pos h, Nat.div_eq_of_lt h, Nat.mod_eq_of_lt h]; rfl
  · have hd : b / 2 ^ 63 = 1 := Nat.div_eq_of_lt_le (Nat.le_of_not_lt h) hb
    rw [if_neg h, hd, Nat.mod_eq_sub_mod (Nat.le_of_not_lt h), Nat.mod_eq_of_lt (by omega), if_pos rfl]
    omega

theorem tkey_inj (a b : Nat) (ha : a < 2 ^ 64) (hb : b < 2 ^ 64) (h : tkey a = tkey b) : a = b := by
  rw [tkey_eq a ha, tkey_eq b hb] at h
  omega

theorem totalLt_eq_false_iff (a b : Nat) : totalLt a b = false ↔ tkey b ≤ tkey a := by
  rw [← Bool.not_eq_true, totalLt_iff_tkey, Int.not_lt]

theorem totalLt_irrefl (a : Nat) : totalLt a a = false :=
  (totalLt_eq_false_iff a a).mpr (Int.le_refl _)

theorem tkey_of_isZero (a : Nat) (h : isZero a = true) : tkey a = 0 ∨ tkey a = -1 := by
  simp only [isZero, beq_iff_eq] at h
  unfold tkey
  rw [h]
  split
  · exact Or.inr rfl
  · exact Or.inl rfl

theorem ieeeLe_iff (a b : Nat) : ieeeLe a b = true ↔
    isNaN a = false ∧ isNaN b = false ∧ ((isZero a = true ∧ isZero b = true) ∨ tkey a ≤ tkey b) := by
  simp only [ieeeLe, Bool.and_eq_true, Bool.or_eq_true, Bool.not_eq_true', totalLt_eq_false_iff,
    and_assoc]

/-- Two zeros of opposite sign: the only non-NaN pair on which `<`/`<=` and the total order differ. -/
def zeroClash (a b : Nat) : Bool := isZero a && isZero b && a != b

theorem ieee_eq_total (a b : Nat) (ha : isNaN a = false) (hb : isNaN b = false)
    (hz : zeroClash a b = false) :
    ieeeLt a b = totalLt a b ∧ ieeeLe a b = !totalLt b a := by
  unfold ieeeLt ieeeLe
  unfold zeroClash at hz
  by_cases h1 : isZero a = true <;> by_cases h2 : isZero b = true
  · have hab : a = b := by
      simp only [h1, h2, Bool.and_self, Bool.true_and, bne_eq_false_iff_eq] at hz; exact hz
    subst hab
    simp [ha, h1, totalLt_irrefl]
  · simp [ha, hb, h1, h2]
  · simp [ha, hb, h1, h2]
  · simp [ha, hb, h1, h2]

theorem inInterval_total_eq_num (start end_ : Option Nat) (sx ex : Bool) (v : Nat)
    (hv : isNaN v = false)
    (hs : ∀ a, start = some a → isNaN a = false ∧ zeroClash a v = false)
    (he : ∀ b, end_ = some b → isNaN b = false ∧ zeroClash b v = false) :
    inInterval totalLt start end_ sx ex v = inIntervalNum start end_ sx ex v := by
  have clash_symm : ∀ a, zeroClash a v = false → zeroClash v a = false := by
    intro a h
    unfold zeroClash at *
    rw [Bool.and_comm (isZero v) (isZero a), bne_comm]; exact h
  unfold inInterval inIntervalNum
  congr 1
  · cases start with
    | none => rfl
    | some s =>
      obtain ⟨g1, g2⟩ := hs s rfl
      have B := ieee_eq_total s v g1 hv g2
      cases sx <;> simp [B.1, B.2]
  · cases end_ with
    | none => rfl
    | some e =>
      obtain ⟨h1, h2⟩ := he e rfl
      have A := ieee_eq_total v e hv h1 (clash_symm e h2)
      cases ex <;> simp [A.1, A.2]

/-- Python's `a == b` on doubles (patterns): `a <= b and b <= a`. -/
def pyEq (a b : Nat) : Bool := ieeeLe a b && ieeeLe b a

theorem pyEq_iff (a b : Nat) (ha : a < 2 ^ 64) (hb : b < 2 ^ 64) :
    pyEq a b = true ↔
      isNaN a = false ∧ isNaN b = false ∧ (a = b ∨ (isZero a = true ∧ isZero b = true)) := by
  simp only [pyEq, Bool.and_eq_true, ieeeLe_iff]
  constructor
  · rintro ⟨⟨h1, h2, h3⟩, -, -, h4⟩
    refine ⟨h1, h2, ?_⟩
    rcases h3 with h3 | h3
    · exact Or.inr h3
    · rcases h4 with h4 | h4
      · exact Or.inr ⟨h4.2, h4.1⟩
      · exact Or.inl (tkey_inj a b ha hb (Int.le_antisymm h3 h4))
  · rintro ⟨h1, h2, rfl | h3⟩
    · exact ⟨⟨h1, h2, Or.inr (Int.le_refl _)⟩, h2, h1, Or.inr (Int.le_refl _)⟩
    · exact ⟨⟨h1, h2, Or.inl h3⟩, h2, h1, Or.inl ⟨h3.2, h3.1⟩⟩

theorem equal_bounds_total (a b v : Nat) (ha : a < 2 ^ 64) (hb : b < 2 ^ 64) (hv : v < 2 ^ 64)
    (heq : pyEq a b = true) :
    inInterval totalLt (some a) (some b) false false v = true ↔
      (totalLt b a = false ∧ (v = a ∨ v = b)) := by
  have ea : v = a ↔ tkey v = tkey a := ⟨congrArg tkey, tkey_inj v a hv ha⟩
  have eb : v = b ↔ tkey v = tkey b := ⟨congrArg tkey, tkey_inj v b hv hb⟩
  simp only [inInterval, Bool.false_eq_true, if_false, Bool.and_eq_true, Bool.not_eq_true',
    totalLt_eq_false_iff, ea, eb]
  -- `==` bounds have the same key or are the two zeros, whose keys `-1` and `0` are adjacent
  have hab : tkey a = tkey b ∨ ((tkey a = 0 ∨ tkey a = -1) ∧ (tkey b = 0 ∨ tkey b = -1)) := by
    rcases ((pyEq_iff a b ha hb).mp heq).2.2 with h | h
    · exact Or.inl (congrArg tkey h)
    · exact Or.inr ⟨tkey_of_isZero a h.1, tkey_of_isZero b h.2⟩
  omega

end WM.Numeric
