import WM.Lemmas.ColumnsBytes
import WM.Lemmas.ColumnsRows
/-! Columns across documents and segments: the adds `W3PerDocWriter` hands a column, the merge copy of
`write_per_doc`, where `MultiColumnReader` finds a document and what it reads there, the stored dict of a
document. -/
namespace WM.Columns

theorem mem_perDocAdds {α : Type} (vals : List (Option α)) (d : Nat) (v : α) :
    (d, v) ∈ perDocAdds vals ↔ vals[d]? = some (some v) := by
  simp only [perDocAdds, List.mem_filterMap, Option.map_eq_some_iff, Prod.mk.injEq]
  constructor
  · rintro ⟨⟨o, i⟩, hm, w, rfl, rfl, rfl⟩
    exact List.mk_mem_zipIdx_iff_getElem?.mp hm
  · exact fun h => ⟨(some v, d), List.mk_mem_zipIdx_iff_getElem?.mpr h, v, rfl, rfl, rfl⟩

theorem perDocAdds_increasing {α : Type} (vals : List (Option α)) : Increasing (perDocAdds vals) := by
  refine List.Pairwise.filterMap _ (fun a a' h b hb b' hb' => ?_) (zipIdx_pairwise vals 0)
  obtain ⟨_, _, rfl⟩ := Option.map_eq_some_iff.mp hb
  obtain ⟨_, _, rfl⟩ := Option.map_eq_some_iff.mp hb'
  exact h

theorem perDocAdds_within {α : Type} (vals : List (Option α)) : Within (perDocAdds vals) vals.length :=
  fun q hq => (List.getElem?_eq_some_iff.mp ((mem_perDocAdds vals q.1 q.2).mp hq)).1

theorem lookup_perDocAdds {α : Type} (vals : List (Option α)) (d : Nat) :
    lookup (perDocAdds vals) d = (vals[d]?).join :=
  Option.ext fun v => (lookup_eq_some_iff (perDocAdds_increasing vals)).trans
    ((mem_perDocAdds vals d v).trans Option.join_eq_some_iff.symm)

theorem mergedAdds_eq_perDocAdds {α : Type} (default : α) (adds : List (Nat × α)) (live : List Nat) :
    mergedAdds default adds live = perDocAdds (live.map fun d => some (cell default adds d)) := by
  simp only [mergedAdds, perDocAdds, List.zipIdx_map, List.filterMap_map]
  rw [← List.filterMap_eq_map]; rfl

theorem mergeColumnAdds_ok {α : Type} (read : Nat → Except Err α) (f : Nat → α) (live : List Nat) (base : Nat)
    (h : ∀ d ∈ live, read d = .ok (f d)) :
    mergeColumnAdds true read base live = .ok ((live.zipIdx base).map fun p => (p.2, f p.1)) := by
  induction live generalizing base with
  | nil => rfl
  | cons d rest ih =>
    simp only [mergeColumnAdds, if_true, h d (by simp), ih (base + 1) (fun x hx => h x (by simp [hx])),
      List.zipIdx_cons, List.map_cons]

theorem mergeColumnAdds_none {α : Type} (read : Nat → Except Err α) (live : List Nat) (base : Nat) :
    mergeColumnAdds false read base live = .ok [] := by
  cases live <;> simp [mergeColumnAdds]

theorem bisectRight_deriveOffsets (counts : List Nat) (base d : Nat) (hb : base ≤ d)
    (hd : d < base + counts.sum) :
    ∃ i c, bisectRight (deriveOffsets base counts) d = i + 1 ∧ counts[i]? = some c ∧
      base + (counts.take i).sum ≤ d ∧ d < base + (counts.take i).sum + c := by
  induction counts generalizing base with
  | nil => exact absurd hd (Nat.not_lt.mpr hb)
  | cons c cs ih =>
    rw [List.sum_cons, ← Nat.add_assoc] at hd
    rw [deriveOffsets, bisectRight, List.countP_cons_of_pos (by simpa using hb)]
    by_cases hin : d < base + c
    · have : (deriveOffsets (base + c) cs).countP (· ≤ d) = 0 :=
        List.countP_eq_zero.mpr fun o ho h => Nat.not_le.mpr
          (Nat.lt_of_lt_of_le hin (deriveOffsets_ge (base + c) cs o ho)) (of_decide_eq_true h)
      exact ⟨0, c, by rw [this], rfl, hb, hin⟩
    · obtain ⟨i, c', h1, h2, h3, h4⟩ := ih (base + c) (Nat.le_of_not_lt hin) hd
      refine ⟨i + 1, c', by rw [← bisectRight, h1], h2, ?_⟩
      rw [List.take_succ_cons, List.sum_cons, ← Nat.add_assoc]
      exact ⟨h3, h4⟩

theorem multiLocate_eq (counts : List Nat) (d : Nat) (hd : d < counts.sum) :
    ∃ i c, counts[i]? = some c ∧ (deriveOffsets 0 counts)[i]? = some (counts.take i).sum ∧
      multiLocate (deriveOffsets 0 counts) d = some (i, d - (counts.take i).sum) ∧
      (counts.take i).sum ≤ d ∧ d - (counts.take i).sum < c := by
  obtain ⟨i, c, h1, h2, h3, h4⟩ := bisectRight_deriveOffsets counts 0 d (Nat.zero_le _) (by simpa using hd)
  have ho := deriveOffsets_getElem? 0 counts i (List.getElem?_eq_some_iff.mp h2).1
  rw [Nat.zero_add] at ho h3 h4
  refine ⟨i, c, h2, ho, ?_, h3, Nat.sub_lt_left_of_lt_add h3 h4⟩
  simp only [multiLocate, h1, Nat.add_sub_cancel, ho]

theorem SegCol.expand_length {α : Type} (default : α) (s : SegCol α) : (s.expand default).length = s.len := by
  cases s <;> simp [SegCol.expand, SegCol.len]

theorem map_length_expand {α : Type} (default : α) (segs : List (SegCol α)) :
    (segs.map (SegCol.expand default)).map List.length = segs.map SegCol.len := by
  rw [List.map_map]
  exact List.map_congr_left fun s _ => s.expand_length default

theorem SegCol.get_expand {α : Type} (default : α) (s : SegCol α) (loc : Nat) (h : loc < s.len) :
    Yields (s.get default loc) fun v => (s.expand default)[loc]? = some v := by
  cases s with
  | rows r =>
    simp only [SegCol.len] at h
    exact ⟨r[loc], by simp [SegCol.get, h], by simp [SegCol.expand, h]⟩
  | empty n =>
    simp only [SegCol.len] at h
    exact ⟨default, rfl, by simp [SegCol.expand, h]⟩

/-- `SegCol.iter` of the model and `SegCol.expand` of the specification are defined alike. -/
theorem multiIter_eq_flatten {α : Type} (default : α) (segs : List (SegCol α)) :
    multiIter default segs = (segs.map (SegCol.expand default)).flatten :=
  rfl

theorem FieldIn.entry_eq {α : Type} (f : FieldIn α) :
    f.entry = (specField f).map fun v => (f.name, v) := by
  unfold FieldIn.entry specField FieldIn.custom
  cases hv : f.value with
  | none => simp
  | some v =>
    cases hs : f.stored with
    | false => simp
    | true => cases f.override <;> simp

theorem name_mem_of_mem_storedDict {α : Type} {fields : List (FieldIn α)} {kv : String × α}
    (h : kv ∈ storedDict fields) : kv.1 ∈ fields.map (·.name) := by
  obtain ⟨g, hg, he⟩ := List.mem_filterMap.mp h
  rw [FieldIn.entry_eq] at he
  obtain ⟨v, _, rfl⟩ := Option.map_eq_some_iff.mp he
  exact List.mem_map_of_mem hg

theorem storedDict_cons {α : Type} (f : FieldIn α) (rest : List (FieldIn α)) :
    storedDict (f :: rest) = match specField f with
      | some v => (f.name, v) :: storedDict rest
      | none => storedDict rest := by
  rw [storedDict, List.filterMap_cons, FieldIn.entry_eq]
  cases specField f <;> rfl

theorem storedDict_lookup {α : Type} (fields : List (FieldIn α))
    (hnd : (fields.map (·.name)).Nodup) (name : String) :
    ((storedDict fields).find? (fun kv => kv.1 == name)).map (·.2) = specStored fields name := by
  induction fields with
  | nil => rfl
  | cons f rest ih =>
    obtain ⟨hf, hnd'⟩ := List.nodup_cons.mp hnd
    rw [storedDict_cons, specStored, List.find?_cons]
    by_cases hn : f.name = name
    · subst hn
      rw [beq_self_eq_true]
      cases hsf : specField f with
      | some v => simp only [List.find?_cons, beq_self_eq_true, Option.map_some, Option.bind_some, hsf]
      | none =>
        have : (storedDict rest).find? (fun kv => kv.1 == f.name) = none :=
          List.find?_eq_none.mpr fun kv hkv e => hf (by
            have := name_mem_of_mem_storedDict hkv
            rwa [beq_iff_eq.mp e] at this)
        simp only [this, Option.map_none, Option.bind_some, hsf]
    · have hb : (f.name == name) = false := beq_eq_false_iff_ne.mpr hn
      rw [hb, ← specStored, ← ih hnd']
      cases specField f with
      | none => rfl
      | some v => rw [List.find?_cons]; simp only [hb]

/-- `stored_fields` reads the `None` of a document without stored values as `{}`. -/
theorem storedValue_getD {α : Type} (fields : List (FieldIn α)) :
    (storedValue fields).getD [] = storedDict fields := by
  unfold storedValue
  split
  · rename_i h; exact (List.isEmpty_iff.mp h).symm
  · rfl

end WM.Columns
