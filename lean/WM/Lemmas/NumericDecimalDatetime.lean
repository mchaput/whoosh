import WM.Model.Numeric
import WM.Spec.Numeric
/-! Decimal fields: scaling, truncation of bounds, round trip; datetimes as (days, seconds, microseconds)
    triples: round trips with the microsecond count, order. -/
namespace WM.Numeric
open WM.NumericSpec

theorem tdiv_num_den (y : Rat) :
    Int.tdiv y.num y.den = if 0 ≤ y then y.floor else y.ceil := by
  by_cases h : 0 ≤ y
  · have hn : 0 ≤ y.num := Rat.num_nonneg.mpr h
    rw [if_pos h, Rat.floor_def, Int.tdiv_eq_ediv_of_nonneg hn]
  · have hn : y.num < 0 := by
      have : ¬ (0 ≤ y.num) := fun h0 => h (Rat.num_nonneg.mp h0)
      omega
    rw [if_neg h, Rat.ceil_eq_neg_floor_neg, Rat.floor_def, Rat.neg_num, Rat.neg_den]
    have e : y.num = -(-y.num) := by omega
    conv => lhs; rw [e, Int.neg_tdiv, Int.tdiv_eq_ediv_of_nonneg (by omega)]

theorem trunc_mono (y z : Rat) (h : y ≤ z) :
    Int.tdiv y.num y.den ≤ Int.tdiv z.num z.den := by
  rw [tdiv_num_den, tdiv_num_den]
  by_cases hy : 0 ≤ y
  · have hz : 0 ≤ z := Rat.le_trans hy h
    rw [if_pos hy, if_pos hz]; exact Rat.floor_monotone h
  · by_cases hz : 0 ≤ z
    · rw [if_neg hy, if_pos hz]
      have h1 : y.ceil ≤ 0 := Rat.ceil_le_iff.mpr (by
        have := Rat.not_le.mp hy
        exact Rat.le_of_lt this)
      have h2 : (0 : Int) ≤ z.floor := Rat.le_floor_iff.mpr hz
      omega
    · rw [if_neg hy, if_neg hz, Rat.ceil_eq_neg_floor_neg, Rat.ceil_eq_neg_floor_neg]
      have := Rat.floor_monotone (Rat.neg_le_neg h)
      omega

theorem trunc_of_nonpos (y : Rat) (h : y ≤ 0) : Int.tdiv y.num y.den = y.ceil := by
  rw [tdiv_num_den]
  by_cases h0 : 0 ≤ y
  · have : y = 0 := Rat.le_antisymm h h0
    subst this; rfl
  · rw [if_neg h0]

def decScale (dc : Nat) : Rat := (((10 : Int) ^ dc : Int) : Rat)

theorem decScale_pos (dc : Nat) : 0 < decScale dc :=
  Rat.intCast_pos.mpr (Int.pow_pos (by decide))

theorem decScale_ne (dc : Nat) : decScale dc ≠ 0 := fun h => by
  have := decScale_pos dc; rw [h] at this; exact absurd this (by decide)

theorem unprepare_mul (dc : Nat) (x : Int) : unprepareDecimal dc x * decScale dc = x :=
  Rat.div_mul_cancel (decScale_ne dc)

theorem unprepare_le_iff (dc : Nat) (x : Int) (q : Rat) :
    unprepareDecimal dc x ≤ q ↔ (x : Rat) ≤ q * decScale dc := by
  show (x : Rat) / decScale dc ≤ q ↔ _
  rw [← Rat.not_lt, ← Rat.not_lt, ← Rat.mul_lt_mul_right (decScale_pos dc),
    Rat.div_mul_cancel (decScale_ne dc)]

theorem le_unprepare_iff (dc : Nat) (x : Int) (q : Rat) :
    q ≤ unprepareDecimal dc x ↔ q * decScale dc ≤ (x : Rat) := by
  show q ≤ (x : Rat) / decScale dc ↔ _
  rw [← Rat.not_lt, ← Rat.not_lt, ← Rat.mul_lt_mul_right (decScale_pos dc),
    Rat.div_mul_cancel (decScale_ne dc)]

theorem decimalToInt_eq (dc : Nat) (q : Rat) :
    decimalToInt dc q = Int.tdiv (q * decScale dc).num (q * decScale dc).den := rfl

theorem decimalToInt_unprepare (dc : Nat) (m : Int) : decimalToInt dc (unprepareDecimal dc m) = m := by
  rw [decimalToInt_eq, unprepare_mul, Rat.num_intCast, Rat.den_intCast]
  exact Int.tdiv_one m

theorem unprepare_lt_iff (dc : Nat) (a b : Int) : unprepareDecimal dc a < unprepareDecimal dc b ↔ a < b := by
  rw [← Rat.mul_lt_mul_right (decScale_pos dc), unprepare_mul, unprepare_mul]
  exact Rat.intCast_lt_intCast

theorem ediv_of_lt (d r B : Int) (h0 : 0 ≤ r) (h1 : r < B) : (d * B + r) / B = d := by
  rw [Int.add_comm, Int.add_mul_ediv_right _ _ (by omega), Int.ediv_eq_zero_of_lt h0 h1, Int.zero_add]

theorem longToTD_tdToUsecs (t : TD) (ht : t.normal) : longToTD (tdToUsecs t) = t := by
  obtain ⟨d, s, u⟩ := t
  obtain ⟨h1, h2, h3, h4⟩ := ht
  simp only [longToTD, tdToUsecs] at *
  have e0 : d * 86400000000 + s * 1000000 + u - d * 86400000000 = s * 1000000 + u := by omega
  rw [Int.add_assoc, ediv_of_lt d _ _ (by omega) (by omega), ← Int.add_assoc, e0,
    ediv_of_lt s u _ h3 h4]
  congr 1
  omega

theorem tdToUsecs_longToTD (x : Int) : tdToUsecs (longToTD x) = x ∧ (longToTD x).normal := by
  -- `x - x / B * B` is `x % B`: the claims are `Int.ediv_add_emod` and the bounds of `%`, for both radices
  simp only [longToTD, tdToUsecs, TD.normal]
  omega

def TD.triple (t : TD) : Int × Int × Int := (t.days, t.seconds, t.micros)

/-- Order of datetimes = lexicographic order of their normalised triples. -/
def tdLt (a b : TD) : Bool := tripleLt a.triple b.triple

theorem tdLt_iff (t u : TD) (ht : t.normal) (hu : u.normal) :
    tdLt t u = true ↔ tdToUsecs t < tdToUsecs u := by
  obtain ⟨d, s, m⟩ := t
  obtain ⟨d', s', m'⟩ := u
  simp only [TD.normal] at ht hu
  obtain ⟨h1, h2, h3, h4⟩ := ht
  obtain ⟨g1, g2, g3, g4⟩ := hu
  unfold tdLt tripleLt
  rw [decide_eq_true_iff]
  simp only [TD.triple, tdToUsecs]
  omega

end WM.Numeric
