import WM.Lemmas.ParserFields
/-! Totality of the modelled filter pipeline: no index access of the mirrored code is out of
bounds, no loop gets stuck. -/
namespace WM.Parser

theorem wildLoop_spec {P : Node → Prop} (hP : ∀ k t f b, P (.text k t f b)) (group : List Node) (i : Nat)
    (hg : ∀ x ∈ group, P x) : Yields (wildLoop group i) (∀ x ∈ ·, P x) := by
  fun_induction wildLoop group i with
  | case1 group i hi e hs => exact nomatch hs ▸ (wildStep_spec hP hi hg).exists
  | case2 group i hi g1 i1 hs ih => exact ih ((wildStep_spec hP hi hg).of_eq hs).2
  | case3 group i hi => exact .ok hg

theorem doWildcards_nongroup {n : Node} (h : n.isGroup = false) : doWildcards n = .ok n := by
  rw [doWildcards]
  · rfl
  · rintro k ns b rfl; cases h

theorem doWildcards_group_eq (k : GK) (ns : List Node) (b : Rat) :
    doWildcards (.group k ns b) = (ns.mapM doWildcards).bind fun ns1 =>
      (wildLoop ns1 0).bind fun ns2 => .ok (.group k (ns2.map toPrefix) b) := by
  rw [doWildcards.eq_def]; rfl

theorem doWildcards_ok (n : Node) : ∃ r, doWildcards n = .ok r := by
  fun_induction doWildcards n with
  | case1 k ns b ih =>
    exact bind_ok (mapM_ok ih) fun ns1 =>
      bind_ok (wildLoop_spec (P := fun _ => True) (fun _ _ _ _ => trivial) ns1 0 fun _ _ => trivial).exists fun _ => ⟨_, rfl⟩
  | case2 n hn => exact ⟨_, rfl⟩

theorem gtltLoop_ok (group : List Node) (i : Nat) (acc : List Node) : ∃ r, gtltLoop group i acc = .ok r := by
  fun_induction gtltLoop group i acc with
  | case1 i acc hi e hs => exact nomatch hs ▸ (gtltStep_spec hi acc).exists
  | case2 i acc hi i1 acc1 hs ih => exact ih
  | case3 i acc hi => exact ⟨_, rfl⟩

theorem doGtLt_spec (n : Node) : Yields (doGtLt n) fun r => r.isGroup = n.isGroup := by
  fun_induction doGtLt n with
  | case1 k ns b ih =>
    refine .bind (.mapM fun x hx => (ih x hx).mono fun _ _ => trivial) fun ns0 _ => ?_
    obtain ⟨ns1, h1⟩ := gtltLoop_ok ns0 0 []
    rw [h1]; exact .ok rfl
  | case2 n hn => exact .ok rfl

theorem doGtLt_group {k ns b r} (h : doGtLt (.group k ns b) = .ok r) : r.isGroup = true :=
  (doGtLt_spec _).of_eq h

theorem fuzzyLoop_ok (group : List Node) (i : Nat) (acc : List Node) : ∃ r, fuzzyLoop group i acc = .ok r := by
  fun_induction fuzzyLoop group i acc with
  | case1 i acc hi e hs => exact nomatch hs ▸ (fuzzyStep_spec hi).exists
  | case2 i acc hi i1 n hs ih => exact ih
  | case3 i acc hi => exact ⟨_, rfl⟩

theorem doFuzzy_ok (n : Node) : ∃ r, doFuzzy n = .ok r := by
  fun_induction doFuzzy n with
  | case1 k ns b ih => exact bind_ok (mapM_ok ih) fun ns0 => bind_ok (fuzzyLoop_ok ns0 0 []) fun _ => ⟨_, rfl⟩
  | case2 n hn => exact ⟨_, rfl⟩

theorem opLoopL_ok (o : OpCfg) (group : List Node) (i : Nat) : ∃ r, opLoopL o group i = .ok r := by
  fun_induction opLoopL o group i with
  | case1 group i hi e hs => exact nomatch hs ▸ (opStepL_spec o hi).exists
  | case2 group i hi g1 i1 hs ih => exact ih
  | case3 group i hi => exact ⟨_, rfl⟩

/-- `i1 = i + 1 ≤ len(group)`: the right-to-left loop never reads past the end -/
theorem opLoopR_ok (o : OpCfg) (group : List Node) (i1 : Nat) (h : i1 ≤ group.length) :
    ∃ r, opLoopR o group i1 = .ok r := by
  fun_induction opLoopR o group i1 with
  | case1 group i1 h0 e hs =>
    exact nomatch hs ▸ (opStepR_spec o (Nat.lt_of_lt_of_le (Nat.sub_lt h0 Nat.one_pos) h)).exists
  | case2 group i1 h0 g1 i' hs ih =>
    exact ih ((opStepR_spec o (Nat.lt_of_lt_of_le (Nat.sub_lt h0 Nat.one_pos) h)).of_eq hs).2.2
  | case3 group i1 h0 => exact ⟨_, rfl⟩

theorem opPasses_ok (ops : List OpCfg) (group : List Node) : ∃ r, opPasses ops group = .ok r := by
  induction ops generalizing group with
  | nil => exact ⟨_, rfl⟩
  | cons o rest ih =>
    unfold opPasses
    have : ∃ g', opPass group o = .ok g' := by
      unfold opPass
      split
      · exact opLoopL_ok o group 0
      · exact opLoopR_ok o group group.length (Nat.le_refl _)
    obtain ⟨g', hg⟩ := this
    rw [hg]
    exact ih g'

theorem doOperators_nongroup (ops : List OpCfg) {n : Node} (h : n.isGroup = false) :
    doOperators ops n = .ok n := by
  rw [doOperators]
  · rfl
  · rintro k ns b rfl; cases h

theorem groupOf?_group (g k : GK) (ns : List Node) (b : Rat) :
    (Node.group k ns b).groupOf? g = if k = g then some (ns, b) else none := rfl

theorem doOperators_spec (ops : List OpCfg) (n : Node) :
    Yields (doOperators ops n) fun r => ∀ g, n.groupOf? g = none → r.groupOf? g = none := by
  -- the descent goes into the members of the list the passes return, not into those of `n`
  fun_induction doOperators ops n with
  | case1 k ns b e hp => exact nomatch hp ▸ opPasses_ok ops ns
  | case2 k ns b ns1 hp ih =>
    obtain ⟨ns2, h2⟩ := mapM_ok (l := ns1.attach) fun x _ => (ih x.1 x.2).exists
    rw [h2]
    refine .ok fun g h => if_neg fun hk => ?_
    rw [groupOf?_group, if_pos hk] at h
    cases h
  | case3 n hn => exact .ok fun _ h => h

theorem applyFilter_ok (c : Cfg) (f : FilterId) (n : Node) : ∃ r, applyFilter c f n = .ok r := by
  cases f with
  | groups => cases n <;> exact ⟨_, rfl⟩
  | fuzzy => exact doFuzzy_ok n
  | wildcards => exact doWildcards_ok n
  | gtlt => exact (doGtLt_spec n).exists
  | fieldnames => exact ⟨_, doFieldnames_eq_fieldsOut c n⟩
  | operators => exact (doOperators_spec c.ops n).exists
  | _ => exact ⟨_, rfl⟩

theorem applyFilters_ok (c : Cfg) (fs : List FilterId) (n : Node) : ∃ r, applyFilters c fs n = .ok r := by
  induction fs generalizing n with
  | nil => exact ⟨_, rfl⟩
  | cons f fs ih =>
    obtain ⟨n', h⟩ := applyFilter_ok c f n
    simp only [applyFilters, h]
    exact ih n'

theorem applyFilters_append (c : Cfg) (a b : List FilterId) (n : Node) :
    applyFilters c (a ++ b) n = (applyFilters c a n).bind (applyFilters c b) := by
  induction a generalizing n with
  | nil => rfl
  | cons f fs ih =>
    rw [List.cons_append, applyFilters, applyFilters]
    cases applyFilter c f n with
    | error e => rfl
    | ok n' => exact ih n'

theorem filterize_split {c : Cfg} {a b : List FilterId} {ns : List Node} {t : Node}
    (hp : priorized c.filters = a ++ b) (e : applyFilters c a (.group c.group ns 1) = .ok t) :
    filterize c ns = applyFilters c b t := by
  rw [filterize, hp, applyFilters_append, e]
  rfl

end WM.Parser
