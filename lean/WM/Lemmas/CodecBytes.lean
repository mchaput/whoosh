import WM.Model.CodecBytes
import WM.Lemmas.ColumnsBytes
import WM.Lemmas.NumLists
/-! The byte layout of `W3TermInfo` (C10): the packing helpers invert, and `from_bytes` and the
    fixed-position readers on a record that is laid out field after field. -/
namespace WM.Codec
open WM.Columns (be unbe slice be_length unbe_be unbe_single slice_flatten)
open WM.NumLists (toUnsigned fromUnsigned toUnsigned_lt fromUnsigned_toUnsigned)

theorem slice_field (rows : List Bytes) (lens : List Nat) (hl : rows.map List.length = lens) (tail : Bytes)
    (d : Nat) (row : Bytes) (h : rows[d]? = some row) :
    slice (rows.flatten ++ tail) (lens.take d).sum (lens.getD d 0) = row := by
  subst hl
  have := slice_flatten rows tail d row h
  rwa [List.map_take, show row.length = (rows.map List.length).getD d 0 by simp [h]] at this

theorem packU32_eq_some {x : Int} {bs : Bytes} :
    packU32 x = some bs ↔ (0 ≤ x ∧ x < 4294967296) ∧ be 4 x.toNat = bs := by
  unfold packU32
  split <;> simp [*]

theorem packU32_spec {x : Int} {bs : Bytes} (h : packU32 x = some bs) :
    bs.length = 4 ∧ (unbe bs : Int) = x := by
  obtain ⟨hx, rfl⟩ := packU32_eq_some.mp h
  refine ⟨be_length 4 _, ?_⟩
  rw [unbe_be 4 _ (by omega)]
  omega

/-- The packed word is the two's-complement residue `toUnsigned`; `unpackSigned` is `fromUnsigned`. -/
theorem packSigned_spec {w : Nat} (hw : 0 < w) {x : Int} {bs : Bytes} (h : packSigned w x = some bs) :
    bs.length = w ∧ unpackSigned w bs = x := by
  unfold packSigned at h
  split at h
  · rename_i hx
    injection h with h; subst h
    refine ⟨be_length w _, ?_⟩
    have hHM : (2 : Int) ^ (8 * w - 1) ≤ 2 ^ (8 * w) := by
      rw [← two_pow_cast, ← two_pow_cast]
      exact Int.ofNat_le.mpr (Nat.pow_le_pow_right (by decide) (Nat.sub_le _ _))
    have hn : (if x < 0 then (x + 2 ^ (8 * w)).toNat else x.toNat) = toUnsigned w x := by
      unfold toUnsigned
      split
      · rw [← Int.add_emod_right, Int.emod_eq_of_lt (by omega) (by omega)]
      · rw [Int.emod_eq_of_lt (by omega) (by omega)]
    rw [hn]
    show fromUnsigned w (unbe (be w (toUnsigned w x))) = x
    rw [unbe_be w _ (toUnsigned_lt w x)]
    exact fromUnsigned_toUnsigned w hw x hx.1 hx.2
  · cases h

theorem PostRef.bytes_spec {ref : PostRef} {post : Bytes} (h : ref.bytes = some post) :
    (if ref.flag ≠ 0 then PostRef.inlined post
     else .extent (unpackSigned 8 (slice post 0 8)) (unpackSigned 4 (slice post 8 4))) = ref := by
  cases ref with
  | inlined q => cases h; rfl
  | extent o l =>
    obtain ⟨ob, ho, lb, hl, rfl⟩ : ∃ ob, packSigned 8 o = some ob ∧ ∃ lb, packSigned 4 l = some lb ∧
        ob ++ lb = post := by
      simpa [PostRef.bytes, Option.bind_eq_some_iff] using h
    obtain ⟨lo, vo⟩ := packSigned_spec (by decide) ho
    obtain ⟨ll, vl⟩ := packSigned_spec (by decide) hl
    have hl : [ob, lb].map List.length = [8, 4] := by simp [lo, ll]
    have e1 : slice (ob ++ lb) 0 8 = ob := by simpa using slice_field [ob, lb] _ hl [] 0 ob rfl
    have e2 : slice (ob ++ lb) 8 4 = lb := by simpa using slice_field [ob, lb] _ hl [] 1 lb rfl
    simp only [PostRef.flag, ne_eq, not_true_eq_false, if_false, e1, e2, vo, vl]

theorem unNoId_idOrSentinel (o : Option Int) (n : Nat) (h : (n : Int) = idOrSentinel o) :
    (if n = 4294967295 then none else some (n : Int)) = unNoId o := by
  cases o with
  | none =>
    have : n = 4294967295 := by simp only [idOrSentinel] at h; omega
    rw [if_pos this]; rfl
  | some i =>
    simp only [idOrSentinel] at h
    subst h
    by_cases hn : n = 4294967295
    · subst hn; rfl
    · rw [if_neg hn]
      unfold unNoId
      split
      · next heq => exact absurd (by have := Option.some.inj heq; omega) hn
      · rfl

theorem tiToBytes_eq_some {packF : Rat → Bytes} {t : TermInfo Int} {ref : PostRef} {bs : Bytes} :
    tiToBytes packF t ref = some bs ↔
      ∃ df mn mx post, packU32 t.df = some df ∧ packU32 (idOrSentinel t.minid) = some mn ∧
        packU32 (idOrSentinel t.maxid) = some mx ∧ ref.bytes = some post ∧
        [ref.flag] ++ packF t.weight ++ df ++ [minLenByte t.minlength] ++ [lengthToByte (some t.maxlength)]
          ++ packF t.maxweight ++ mn ++ mx ++ post = bs := by
  simp only [tiToBytes, Option.bind_eq_some_iff, Option.some.injEq]
  constructor
  · rintro ⟨df, hdf, mn, hmn, mx, hmx, post, hpost, rfl⟩
    exact ⟨df, mn, mx, post, hdf, hmn, hmx, hpost, rfl⟩
  · rintro ⟨df, mn, mx, post, hdf, hmn, hmx, hpost, rfl⟩
    exact ⟨df, hdf, mn, hmn, mx, hmx, post, hpost, rfl⟩

/-- `from_bytes` and the fixed-position readers on a laid-out record, whatever the fields hold. -/
theorem ti_record (unpackF : Bytes → Rat) (flag mnb mxb : Nat) (w df mw mn mx post : Bytes)
    (lw : w.length = 4) (ldf : df.length = 4) (lmw : mw.length = 4) (lmn : mn.length = 4)
    (lmx : mx.length = 4) :
    let bs := [flag] ++ w ++ df ++ [mnb] ++ [mxb] ++ mw ++ mn ++ mx ++ post
    (∀ {mnl mxl : Nat}, byteToLength mnb = some mnl → byteToLength mxb = some mxl →
      tiFromBytes unpackF bs =
        some ({ weight := unpackF w, df := unbe df, minlength := some mnl, maxlength := mxl
                maxweight := unpackF mw
                minid := if unbe mn = 4294967295 then none else some (unbe mn : Int)
                maxid := if unbe mx = 4294967295 then none else some (unbe mx : Int) },
              if flag ≠ 0 then .inlined post
              else .extent (unpackSigned 8 (slice post 0 8)) (unpackSigned 4 (slice post 8 4)))) ∧
    tiReadWeight unpackF bs = unpackF w ∧ tiReadDocFreq bs = unbe df ∧
      tiReadMinMaxLength bs = (byteToLength mnb, byteToLength mxb) ∧ tiReadMaxWeight unpackF bs = unpackF mw := by
  -- the 23-byte head `struct "!BfIBBfII"` as a list of eight fields; the offsets are the sums of `hl`
  have hbs : [flag] ++ w ++ df ++ [mnb] ++ [mxb] ++ mw ++ mn ++ mx ++ post =
      [[flag], w, df, [mnb], [mxb], mw, mn, mx].flatten ++ post := by
    simp only [List.flatten_cons, List.flatten_nil, List.append_nil, List.append_assoc]
  have hl : [[flag], w, df, [mnb], [mxb], mw, mn, mx].map List.length = [1, 4, 4, 1, 1, 4, 4, 4] := by
    simp only [List.map_cons, List.map_nil, List.length_singleton, lw, ldf, lmw, lmn, lmx]
  have hlen : [[flag], w, df, [mnb], [mxb], mw, mn, mx].flatten.length = 23 := by
    rw [List.length_flatten, hl]; rfl
  have f := slice_field [[flag], w, df, [mnb], [mxb], mw, mn, mx] _ hl post
  have s0 : slice _ 0 1 = _ := f 0 _ rfl
  have s1 : slice _ 1 4 = _ := f 1 _ rfl
  have s5 : slice _ 5 4 = _ := f 2 _ rfl
  have s9 : slice _ 9 1 = _ := f 3 _ rfl
  have s10 : slice _ 10 1 = _ := f 4 _ rfl
  have s11 : slice _ 11 4 = _ := f 5 _ rfl
  have s15 : slice _ 15 4 = _ := f 6 _ rfl
  have s19 : slice _ 19 4 = _ := f 7 _ rfl
  have hdrop := List.drop_left' (l₂ := post) hlen
  simp only [hbs]
  generalize [[flag], w, df, [mnb], [mxb], mw, mn, mx].flatten = hd at *
  generalize hs : hd ++ post = s at *
  have hlen : 23 ≤ s.length := by rw [← hs, List.length_append]; omega
  refine ⟨fun {mnl mxl} hmnl hmxl => ?_, ?_⟩
  · have e1 : slice s 23 8 = slice post 0 8 := by unfold slice; rw [hdrop]; rfl
    have e2 : slice s 31 4 = slice post 8 4 := by unfold slice; rw [← hdrop, List.drop_drop]
    unfold tiFromBytes
    rw [if_neg (by omega)]
    simp only [s0, s1, s5, s9, s10, s11, s15, s19, e1, e2, hdrop, unbe_single, hmnl, hmxl]
    by_cases hf : flag ≠ 0
    · rw [if_pos hf, if_pos hf]
    · rw [if_neg hf, if_neg hf]
  · simp only [tiReadWeight, tiReadDocFreq, tiReadMinMaxLength, tiReadMaxWeight, s1, s5, s9, s10, s11,
      unbe_single, and_self]

end WM.Codec
