import WM.Model.CodecMulti
import WM.Lemmas.CodecAgg
/-! `combine_terminfos` over per-segment aggregates = aggregates of the concatenated list. -/
namespace WM.Codec

variable {α β : Type}

theorem foldl_map_flatMap (op : α → α → α) (hassoc : ∀ a b c, op (op a b) c = op a (op b c)) (e : α)
    (hl : ∀ a, op e a = a) (hr : ∀ a, op a e = a) (g : β → List α) (segs : List β) (v : β → α)
    (hv : ∀ s ∈ segs, v s = (g s).foldl op e) :
    (segs.map v).foldl op e = (segs.flatMap g).foldl op e := by
  rw [List.map_congr_left hv]
  clear hv
  induction segs with
  | nil => rfl
  | cons s rest ih =>
    rw [List.map_cons, ← List.singleton_append, foldl_op_append op hassoc e _ _ (hr _), List.foldl_cons,
      List.foldl_nil, hl, ih, List.flatMap_cons, foldl_op_append op hassoc e _ _ (hr _)]

theorem fold1_append (op : α → α → α) (h : ∀ a b c, op (op a b) c = op a (op b c)) (d : α)
    (a b : List α) (ha : a ≠ []) (hb : b ≠ []) :
    fold1 op d (a ++ b) = op (fold1 op d a) (fold1 op d b) := by
  cases a with
  | nil => exact absurd rfl ha
  | cons x xs =>
    cases b with
    | nil => exact absurd rfl hb
    | cons y ys =>
      simp only [fold1, List.cons_append, List.foldl_append, List.foldl_cons]
      exact List.foldl_hom (op (xs.foldl op x)) (fun a b => h _ a b)

theorem fold1_map_flatMap (op : α → α → α) (h : ∀ a b c, op (op a b) c = op a (op b c)) (d : α)
    (g : β → List α) (segs : List β) (hne : segs ≠ []) (hg : ∀ s ∈ segs, g s ≠ []) (v : β → α)
    (hv : ∀ s ∈ segs, v s = fold1 op d (g s)) :
    fold1 op d (segs.map v) = fold1 op d (segs.flatMap g) := by
  rw [List.map_congr_left hv]
  clear hv
  induction segs with
  | nil => exact absurd rfl hne
  | cons s rest ih =>
    cases rest with
    | nil => simp [fold1]
    | cons s' rest' =>
      have hg' : ∀ t ∈ s' :: rest', g t ≠ [] := fun t ht => hg t (List.mem_cons_of_mem _ ht)
      have hfm : (s' :: rest').flatMap g ≠ [] := fun hnil =>
        hg s' (by simp) (List.append_eq_nil_iff.mp (List.flatMap_cons ▸ hnil)).1
      rw [List.flatMap_cons, fold1_append op h d _ _ (hg s (by simp)) hfm, ← ih (by simp) hg']
      exact fold1_append op h d [_] _ (by simp) (by simp)

/-- (Adding the segment's document offset commutes with `min` / `max` of the ids.) -/
theorem fold1_map_hom (op : α → α → α) (f : α → α) (hf : ∀ a b, op (f a) (f b) = f (op a b)) (d : α)
    (l : List α) (hl : l ≠ []) : fold1 op d (l.map f) = f (fold1 op d l) := by
  cases l with
  | nil => exact absurd rfl hl
  | cons x xs =>
    simp only [List.map_cons, fold1, List.foldl_map]
    exact List.foldl_hom f (fun a b => hf a b)

/-- The one-element branch of `combine_terminfos` computes the same numbers as the general one. -/
theorem combineTerminfos_eq (tis : List (TiStats × Int)) (hne : tis ≠ []) :
    combineTerminfos tis = some (combineGen tis) := by
  match tis, hne with
  | [(ti, off)], _ =>
    simp only [combineTerminfos, combineGen, List.map_cons, List.map_nil, List.foldl_cons, List.foldl_nil, fold1]
    congr 1
    cases ti
    simp only [TiStats.mk.injEq, and_true]
    refine ⟨by grind, by omega⟩
  | _ :: _ :: _, _ => rfl

end WM.Codec
