import WM.Lemmas.StructFile
import WM.Lemmas.HashFormats
/-! Byte level of the hash file: where the parts of a written file stand (`Parts`, in terms of
`WM.NumLists.At`), and the reader over the bytes the writer produced. -/
namespace WM.HashBytes
open WM.NumLists
open WM.StructFile
open WM.HashFile

theorem length_enc2 (t1 t2 : TC) (a b : Nat) : (enc2 t1 t2 a b).length = t1.size + t2.size := by
  unfold enc2; rw [List.length_append, length_encodeBE, length_encodeBE]

theorem length_recBytes (r : Rec Bytes) : (recBytes r).length = lengthsSize + r.key.length + r.val.length := by
  unfold recBytes
  rw [List.length_append, List.length_append, length_enc2]; rfl

theorem length_slotBytes (s : Slot) : (slotBytes s).length = 12 := by
  unfold slotBytes; rw [length_enc2]; rfl

theorem length_dirEntryBytes (e : Nat × Nat) : (dirEntryBytes e).length = 12 := by
  unfold dirEntryBytes; rw [length_enc2]; rfl

theorem length_headerBytes (magic : Bytes) (hashtype : Nat) (hm : magic.length = 4) :
    (headerBytes magic hashtype).length = headerSize := by
  unfold headerBytes
  rw [List.length_append, List.length_append, List.length_append, hm, length_encodeBE, length_encodeBE]; rfl

/-- what `_lengths.unpack`, the key read and the value read see at the record's position -/
structure RecAt (file : Bytes) (r : Rec Bytes) : Prop where
  lens : unpack2N .i .i (get file r.pos 8) = .ok (r.key.length, r.val.length)
  key : get file (r.pos + 8) r.key.length = r.key
  val : get file (r.pos + 8 + r.key.length) r.val.length = r.val

theorem recAt_of_at {file : Bytes} {r : Rec Bytes} (h : At file r.pos (recBytes r))
    (hk : r.key.length < 2 ^ 31) (hv : r.val.length < 2 ^ 31) : RecAt file r where
  lens := unpack2N_enc .i .i _ _ h.head.head (lt_cap_i _ hk) (lt_cap_i _ hv)
  key := At.get_eq (h.head.tail.cast (by rw [length_enc2]; rfl)) rfl
  val := At.get_eq (h.tail.cast (by rw [List.length_append, length_enc2, ← Nat.add_assoc]; rfl)) rfl

theorem at_layout : ∀ (kvs : List (Key × Bytes)) (p : Nat) (file : Bytes),
    At file p ((layout List.length p kvs).flatMap recBytes) → ∀ r ∈ layout List.length p kvs, At file r.pos (recBytes r)
  | [], _, _, _ => fun _ hr => nomatch hr
  | kv :: t, p, file, h => by
    rw [layout, List.flatMap_cons] at h
    intro r hr
    rw [layout, List.mem_cons] at hr
    rcases hr with rfl | hr
    · exact h.head
    · refine at_layout t _ file (h.tail.cast ?_) r hr
      rw [length_recBytes, ← Nat.add_assoc, ← Nat.add_assoc]

theorem length_layout_bytes : ∀ (kvs : List (Key × Bytes)) (p : Nat),
    ((layout List.length p kvs).flatMap recBytes).length + p = endPos List.length p kvs
  | [], p => by simp [layout, endPos]
  | kv :: t, p => by
    simp only [layout, endPos, List.flatMap_cons, List.length_append, length_recBytes]
    have := length_layout_bytes t (p + lengthsSize + kv.1.length + kv.2.length)
    omega

theorem slot_read (f : File Bytes) (file : Bytes) (h : At file f.endofdata (f.tables.flatten.flatMap slotBytes))
    (b : Nat) (T : List Slot) (hT : f.tables[b]? = some T) (i : Nat) (hi : i < T.length) :
    At file (tablePos f b + i * 12) (slotBytes T[i]) := by
  refine (h.trans (at_flatMap slotBytes 12 length_slotBytes _
    (((f.tables.take b).map List.length).sum + i) T[i] ?_)).cast ?_
  · rw [flatten_getElem?_offset f.tables b i T hT hi]
    exact List.getElem?_eq_getElem hi
  · unfold tablePos
    rw [Nat.add_mul, Nat.mul_comm pointerSize, Nat.add_assoc]; rfl

theorem dirFrom_eq : ∀ (ts : List (List Slot)) (p : Nat), dirFrom p ts =
    (List.range ts.length).map fun b => (p + pointerSize * ((ts.take b).map List.length).sum, (ts[b]?.getD []).length)
  | [], _ => rfl
  | t :: ts, p => by
    rw [dirFrom, dirFrom_eq ts, List.length_cons, List.range_succ_eq_map, List.map_cons, List.map_map]
    simp [Nat.mul_add, Nat.add_assoc]

theorem directory_eq (f : File Bytes) : directory f =
    (List.range f.tables.length).map fun b => (tablePos f b, (f.tables[b]?.getD []).length) :=
  dirFrom_eq f.tables f.endofdata

theorem directory_index (f : File Bytes) (b : Nat) (T : List Slot) (hT : f.tables[b]? = some T) :
    (directory f)[b]? = some (tablePos f b, T.length) := by
  rw [directory_eq, List.getElem?_map, List.getElem?_range (List.getElem?_eq_some_iff.mp hT).1, Option.map_some, hT]; rfl

theorem length_tables_bytes (f : File Bytes) :
    (f.tables.flatten.flatMap slotBytes).length + f.endofdata = tablePos f f.tables.length := by
  rw [length_flatMap_fixed slotBytes 12 length_slotBytes]
  unfold tablePos
  rw [List.take_length, List.length_flatten]
  simp only [pointerSize]; omega

theorem tablePos_mono (f : File Bytes) (b : Nat) : tablePos f b ≤ tablePos f f.tables.length := by
  unfold tablePos
  refine Nat.add_le_add_left (Nat.mul_le_mul_left _ ?_) _
  conv => rhs; rw [List.take_length, ← List.take_append_drop b f.tables, List.map_append, List.sum_append]
  exact Nat.le_add_right _ _

theorem scanBytes_eq (f : File Bytes) (file key : Bytes) (T : List Slot) (tpos kh : Nat)
    (hslot : ∀ i (hi : i < T.length), At file (tpos + i * 12) (slotBytes T[i]))
    (hfit : ∀ s ∈ T, (s.1 : Int) < cap .I ∧ (s.2 : Int) < cap .q)
    (hrec : ∀ s ∈ T, s.2 ≠ 0 → ∃ r ∈ f.recs, r.pos = s.2)
    (hat : ∀ r ∈ f.recs, RecAt file r)
    (hfind : ∀ r ∈ f.recs, recAt f r.pos = some r) :
    ∀ (fuel slot : Nat), slot < T.length →
      scanBytes file tpos T.length kh key slot fuel = .ok (scan T kh (checkKey f key) slot fuel)
  | 0, _, _ => rfl
  | fuel + 1, slot, hs => by
    have ih := scanBytes_eq f file key T tpos kh hslot hfit hrec hat hfind fuel
      (nextSlot T.length slot) (nextSlot_lt hs)
    have hmem : T[slot] ∈ T := List.getElem_mem hs
    have hread : unpack2N .I .q (get file (tpos + slot * 12) 12) = .ok T[slot] :=
      unpack2N_enc .I .q _ _ (hslot slot hs) (hfit _ hmem).1 (hfit _ hmem).2
    unfold scanBytes scan
    rw [List.getElem?_eq_getElem hs]
    refine (bind_ok _ hread).trans ?_
    generalize T[slot] = s at hmem
    obtain ⟨sh, ip⟩ := s
    simp only
    by_cases h0 : ip = 0
    · rw [if_pos h0, if_pos h0]
    · rw [if_neg h0, if_neg h0]
      refine (bind_ok _ ih).trans ?_
      by_cases hk : sh = kh
      · -- the slot carries the key's hash: compare the record it points at
        obtain ⟨r, hr, hpos⟩ := hrec _ hmem h0
        have hra := hat r hr
        cases hpos
        rw [if_pos hk, if_pos hk]
        refine (bind_ok _ hra.lens).trans ?_
        unfold checkKey
        rw [hfind r hr]
        simp only
        by_cases hl : r.key.length = key.length
        · rw [if_pos hl, hra.key, hra.val]
          by_cases hkey : r.key = key
          · rw [if_pos hkey.symm, if_pos ⟨hl, hkey⟩]
          · rw [if_neg (fun h => hkey h.symm), if_neg (fun h => hkey h.2)]
        · rw [if_neg hl, if_neg (fun h => hl h.1)]
      · rw [if_neg hk, if_neg hk]

variable {hash : Key → Nat} {so : Nat} {kvs : List (Key × Bytes)} {f : File Bytes}

/-- where the parts of the file stand: header at `so`, then records, hash tables, directory, the
    extras region and its length in the last four bytes -/
structure Parts (file : Bytes) (so : Nat) (magic extras : Bytes) (hashtype : Nat) (f : File Bytes) : Prop where
  header : At file so (headerBytes magic hashtype)
  recs : At file (so + headerSize) (f.recs.flatMap recBytes)
  tables : At file f.endofdata (f.tables.flatten.flatMap slotBytes)
  dir : At file (tablePos f 256) ((directory f).flatMap dirEntryBytes)
  exlen : At file (tablePos f 256 + directorySize + extras.length) (encodeBE 4 extras.length)
  length : file.length = tablePos f 256 + directorySize + extras.length + 4

theorem _root_.WM.HashFile.Written.parts (w : Written hash List.length so kvs f) (magic extras pre : Bytes) (hashtype : Nat)
    (hm : magic.length = 4) (hp : pre.length = so) :
    Parts (fileBytes magic hashtype extras pre f) so magic extras hashtype f := by
  have lR := length_layout_bytes kvs (so + headerSize)
  rw [← w.built.recs, ← w.built.eod] at lR
  have lT := length_tables_bytes f
  rw [w.ntab] at lT
  have lD : ((directory f).flatMap dirEntryBytes).length = directorySize := by
    rw [length_flatMap_fixed dirEntryBytes 12 length_dirEntryBytes, directory_eq, List.length_map, List.length_range,
      w.ntab]; rfl
  have h0 : At (fileBytes magic hashtype extras pre f) 0
      (pre ++ (headerBytes magic hashtype ++ (f.recs.flatMap recBytes ++ (f.tables.flatten.flatMap slotBytes ++
        ((directory f).flatMap dirEntryBytes ++ (extras ++ encodeBE 4 extras.length)))))) := by
    simp only [← List.append_assoc]; exact at_self _
  -- along the file: each piece starts where the one before it ends
  have h1 := h0.tail.cast ((Nat.zero_add _).trans hp)
  have h2 := h1.tail.cast (congrArg (so + ·) (length_headerBytes magic hashtype hm))
  have h3 := h2.tail.cast ((Nat.add_comm ..).trans lR)
  have h4 := h3.tail.cast ((Nat.add_comm ..).trans lT)
  have h5 := h4.tail.cast (congrArg (tablePos f 256 + ·) lD)
  refine ⟨h1.head, h2.head, h3.head, h4.head, h5.tail, ?_⟩
  unfold fileBytes
  simp only [List.length_append, hp, length_headerBytes magic hashtype hm, lD, length_encodeBE]
  omega

theorem _root_.WM.HashFile.Written.recAt (w : Written hash List.length so kvs f) {file magic extras : Bytes} {hashtype : Nat}
    (pt : Parts file so magic extras hashtype f) {r : Rec Bytes} (hr : r ∈ f.recs) : RecAt file r :=
  recAt_of_at (at_layout kvs _ file (w.built.recs ▸ pt.recs) r (w.built.recs ▸ hr)) (w.recs r hr).1 (w.recs r hr).2.1

/-- `openReader` succeeds when each of its reads and checks does, one hypothesis per step of the `do` block in
    order; `open_written` supplies them from the byte layout. -/
theorem openReader_ok {magic file : Bytes} {so length hashtype exlen : Nat} {a b : Int}
    {tables : List (Nat × Nat)} {t0 : Nat × Nat}
    (h1 : get file so 4 = magic) (h2 : getNat .B file (so + 4) = .ok hashtype)
    (h3 : getNum .i file (so + 5) = .ok a) (h4 : getNum .i file (so + 9) = .ok b)
    (hl : ¬ so + length < 4) (h5 : getNat .i file (so + length - 4) = .ok exlen)
    (hd : ¬ so + length - 4 < exlen + directorySize)
    (h7 : (List.range 256).mapM (fun b =>
      unpack2N .q .i (get file (so + length - 4 - exlen - directorySize + b * 12) 12)) = .ok tables)
    (h8 : tables.head? = some t0) :
    openReader magic file so length = .ok
      { file := file, startoffset := so, hashtype := hashtype, startofdata := so + 13, endofdata := t0.1,
        tables := tables, expos := so + length - 4 - exlen, exlen := exlen } := by
  unfold openReader
  refine (if_neg (fun h => h h1)).trans <| (bind_ok _ h2).trans <| (bind_ok _ h3).trans <| (bind_ok _ h4).trans <|
    (if_neg hl).trans <| (bind_ok _ h5).trans <| (if_neg hd).trans <| (bind_ok _ h7).trans ?_
  simp only [h8]

theorem Parts.read_header {file magic extras : Bytes} {so hashtype : Nat} {f : File Bytes}
    (pt : Parts file so magic extras hashtype f) (hm : magic.length = 4) (hh : hashtype < 256) :
    get file so 4 = magic ∧ getNat .B file (so + 4) = .ok hashtype ∧
      getNum .i file (so + 5) = .ok ((0 : Nat) : Int) ∧ getNum .i file (so + 9) = .ok ((0 : Nat) : Int) := by
  have hd : At file so (magic ++ encodeBE 1 hashtype ++ encodeBE 4 0 ++ encodeBE 4 0) := pt.header
  refine ⟨hd.head.head.head.get_eq hm, getNat_enc .B _ _ ?_ (by rw [show cap .B = 256 from by decide]; omega),
    getNum_enc .i _ 0 ?_ (lt_cap_i 0 (by decide)), getNum_enc .i _ 0 ?_ (lt_cap_i 0 (by decide))⟩
  · exact hd.head.head.tail.cast (by rw [hm])
  · exact hd.head.tail.cast (by rw [List.length_append, hm, length_encodeBE])
  · exact hd.tail.cast (by rw [List.length_append, List.length_append, hm, length_encodeBE, length_encodeBE])

theorem _root_.WM.HashFile.Written.read_directory (w : Written hash List.length so kvs f) {file magic extras : Bytes} {hashtype : Nat}
    (pt : Parts file so magic extras hashtype f) :
    (List.range 256).mapM (fun b => unpack2N .q .i (get file (tablePos f 256 + b * 12) 12)) = .ok (directory f) := by
  rw [directory_eq, w.ntab]
  refine mapM_eq_map fun b hb => ?_
  have hb' : b < f.tables.length := w.ntab ▸ List.mem_range.mp hb
  have hT := List.getElem?_eq_getElem hb'
  have hat := pt.dir.trans (at_flatMap dirEntryBytes 12 length_dirEntryBytes _ b _ (directory_index f b _ hT))
  rw [hT]
  refine unpack2N_enc .q .i _ _ hat (lt_cap_q _ ?_) (lt_cap_i _ (w.tabs _ (List.getElem_mem hb')))
  exact Nat.lt_of_le_of_lt (w.ntab ▸ tablePos_mono f b) w.dirpos

theorem open_written (w : Written hash List.length so kvs f) {file magic extras : Bytes} {hashtype : Nat}
    (pt : Parts file so magic extras hashtype f)
    (hm : magic.length = 4) (hh : hashtype < 256) (he : extras.length < 2 ^ 31) :
    openReader magic file so (file.length - so) = .ok
      { file := file, startoffset := so, hashtype := hashtype,
        startofdata := so + 13, endofdata := f.endofdata, tables := directory f,
        expos := tablePos f 256 + directorySize, exlen := extras.length } := by
  obtain ⟨h1, h2, h3, h4⟩ := pt.read_header hm hh
  have h0 : 0 < f.tables.length := w.ntab ▸ (by decide : 0 < 256)
  have h8 : (directory f).head? = some (f.endofdata, (f.tables[0]).length) := by
    rw [List.head?_eq_getElem?, directory_index f 0 _ (List.getElem?_eq_getElem h0)]
    rfl
  -- the positions `__init__` computes from the file length
  have hL : so + (file.length - so) = file.length :=
    Nat.add_sub_cancel' (Nat.le_trans (Nat.le_add_right _ _) pt.header.bound)
  have e2 : file.length - 4 = tablePos f 256 + directorySize + extras.length := by
    rw [pt.length]; exact Nat.add_sub_cancel ..
  have e5 : tablePos f 256 + directorySize + extras.length - extras.length = tablePos f 256 + directorySize :=
    Nat.add_sub_cancel ..
  have e4 : tablePos f 256 + directorySize - directorySize = tablePos f 256 := Nat.add_sub_cancel ..
  rw [openReader_ok h1 h2 h3 h4 (by rw [hL, pt.length]; exact Nat.not_lt.mpr (Nat.le_add_left _ _))
    (by rw [hL, e2]; exact getNat_enc .i _ _ pt.exlen (lt_cap_i _ he))
    (by rw [hL, e2, Nat.add_comm extras.length]
        exact Nat.not_lt.mpr (Nat.add_le_add_right (Nat.le_add_left _ _) _))
    (by rw [hL, e2, e5, e4]; exact w.read_directory pt) h8, hL, e2, e5]

theorem all_written (w : Written hash List.length so kvs f) {magic extras : Bytes} {hashtype : Nat} (r : Reader)
    (pt : Parts r.file so magic extras hashtype f) (hrt : r.tables = directory f) (key : Bytes) :
    allBytes hash r key = .ok (all hash f key) := by
  have hlt : hash key % 256 < 256 := Nat.mod_lt _ (by omega)
  rcases w.built.tables _ hlt with ⟨T, hT, _, hinv⟩
  unfold allBytes all
  simp only
  rw [hrt, directory_index f _ T hT, hT]
  simp only
  by_cases h0 : T.length = 0
  · rw [if_pos h0, if_pos h0]
  rw [if_neg h0, if_neg h0]
  have hentry : ∀ s ∈ T, s = null ∨ ∃ q ∈ f.recs, s = (hash q.key, q.pos) := fun s hs =>
    (hinv.shape s hs).imp_right fun hnz => by
      obtain ⟨q, hq, rfl⟩ := List.mem_map.mp (hinv.mem s hs hnz)
      exact ⟨q, (List.mem_filter.mp hq).1, rfl⟩
  apply scanBytes_eq f r.file key T (tablePos f (hash key % 256)) (hash key)
  · exact slot_read f r.file pt.tables _ T hT
  · intro s hs
    rcases hentry s hs with rfl | ⟨q, hq, rfl⟩
    · exact ⟨by decide, by decide⟩
    · have := w.recs q hq
      exact ⟨by rw [cap_I]; simp only; omega, lt_cap_q _ this.2.2.2⟩
  · intro s hs hz
    rcases hentry s hs with rfl | ⟨q, hq, rfl⟩
    · exact absurd rfl hz
    · exact ⟨q, hq, rfl⟩
  · exact fun q => w.recAt pt
  · exact fun q hq => w.built.recAt_pos hq
  · exact Nat.mod_lt _ (by omega)

theorem itemsFrom_layout (r : Reader) : ∀ (kvs : List (Key × Bytes)) (p fuel : Nat), kvs.length < fuel →
    r.endofdata = endPos List.length p kvs → (∀ q ∈ layout List.length p kvs, RecAt r.file q) →
    itemsFrom r p fuel = .ok kvs
  | _, _, 0, hf, _, _ => absurd hf (Nat.not_lt_zero _)
  | [], p, n + 1, _, he, _ => by
    unfold itemsFrom
    rw [if_neg (by rw [he]; exact Nat.lt_irrefl p)]
  | kv :: t, p, n + 1, hf, he, hall => by
    have hlt : p < r.endofdata := he ▸ ((layout_bounds List.length (kv :: t) p).2.2 _ List.mem_cons_self).2
    have hra := hall ⟨p, kv.1, kv.2⟩ List.mem_cons_self
    have ih := itemsFrom_layout r t (p + lengthsSize + kv.1.length + kv.2.length) n
      (Nat.lt_of_succ_lt_succ hf) he (fun q hq => hall q (List.mem_cons_of_mem _ hq))
    unfold itemsFrom
    rw [if_pos hlt]
    refine (bind_ok _ hra.lens).trans ((bind_ok _ ih).trans ?_)
    exact congrArg (fun kv' => Except.ok (kv' :: t)) (Prod.ext hra.key hra.val)

theorem items_written (w : Written hash List.length so kvs f) {magic extras : Bytes} {hashtype : Nat} (r : Reader)
    (pt : Parts r.file so magic extras hashtype f) (hre : r.endofdata = f.endofdata)
    (hrs : r.startofdata = so + 13) : items r = .ok kvs := by
  unfold items
  rw [hrs]
  apply itemsFrom_layout r kvs (so + 13) (r.endofdata + 1)
  · have := (layout_bounds List.length kvs (so + headerSize)).1
    rw [hre, w.built.eod]; simp only [lengthsSize] at this; omega
  · rw [hre, w.built.eod]; rfl
  · exact fun q hq => w.recAt pt (w.built.recs ▸ hq)

end WM.HashBytes
