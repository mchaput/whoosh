import WM.Lemmas.HashBuilt
import WM.Lemmas.IdSetsSorted
import WM.Lemmas.NumLists
/-! `OrderedHashReader` on any file with the parts `build` produces: the position index read back from its bytes,
the binary search over it, then `closest_key` and `items_from`. -/
namespace WM.HashFile

theorem dropWhile_eq_drop {α} (p : α → Bool) (l : List α) (lo : Nat)
    (h1 : ∀ k (hk : k < l.length), k < lo → p l[k] = true)
    (h2 : ∀ (hlo : lo < l.length), p l[lo] = false) (hle : lo ≤ l.length) : l.dropWhile p = l.drop lo := by
  rw [List.dropWhile_eq_drop_findIdx_not]
  congr 1
  rcases Nat.lt_or_ge lo l.length with hlt | hge
  · exact (List.findIdx_eq hlt).mpr ⟨by rw [h2 hlt]; rfl, fun j hj => by rw [h1 j (Nat.lt_trans hj hlt) hj]; rfl⟩
  · cases Nat.le_antisymm hle hge
    exact List.findIdx_eq_length.mpr fun x hx => by
      obtain ⟨k, hk, rfl⟩ := List.getElem_of_mem hx
      rw [h1 k hk hk]; rfl

theorem head?_dropWhile {α} (p : α → Bool) : ∀ (l : List α), (l.dropWhile p).head? = l.find? (fun x => !p x)
  | [] => rfl
  | a :: t => by
    rw [List.dropWhile_cons, List.find?_cons]
    cases p a
    · rfl
    · exact head?_dropWhile p t

variable {α : Type} {hash : Key → Nat} {vlen : α → Nat} {so : Nat} {kvs : List (Key × α)} {f : File α}

open WM.NumLists in
/-- Reading the stored position index back (`_get_pos`): item `k` is the position of record `k`,
    whatever typecode the array was retyped to, as long as positions are below 2^63. -/
theorem index_readback (hb : Built hash vlen so kvs f) (hpos : ∀ r ∈ f.recs, r.pos < 2 ^ 63) :
    (indexArray (f.recs.map (·.pos))).2 = false ∧ f.indexLen = f.recs.length ∧
      ∀ k (hk : k < f.recs.length), getPos f k = some (f.recs[k]).pos := by
  obtain ⟨tc', he, hfit⟩ := GA.extend_nat ((f.recs.map (·.pos)).map Int.ofNat) (.mk .H [] true) rfl nofun (by
    intro n hn
    obtain ⟨p, hp, rfl⟩ := List.mem_map.mp hn
    obtain ⟨r, hr, rfl⟩ := List.mem_map.mp hp
    have := hpos r hr
    exact ⟨Int.natCast_nonneg _, by simp only [Int.ofNat_eq_natCast]; omega⟩)
  dsimp only [List.nil_append] at he hfit
  obtain ⟨htc, hlen, hbytes⟩ := hb.index
  rw [indexArray, he] at htc hlen hbytes ⊢
  refine ⟨rfl, by rw [hlen, List.length_map, List.length_map], fun k hk => ?_⟩
  rw [getPos, htc, hbytes, readItem_toBytes ⟨tc', _, true⟩ hfit k (by rw [List.length_map, List.length_map]; exact hk)]
  simp only [List.getElem_map, Int.ofNat_eq_natCast, Int.natCast_nonneg, ↓reduceIte, Int.toNat_natCast]

theorem closestKeyPos_built (hb : Built hash vlen so kvs f) (hpos : ∀ r ∈ f.recs, r.pos < 2 ^ 63)
    (hord : (kvs.map (·.1)).Pairwise (· < ·)) (key : Key) :
    ∃ lo, closestKeyPos f key = .ok ((f.recs[lo]?).map (·.pos)) ∧ f.recs.length = kvs.length ∧
      kvs.dropWhile (fun kv => decide (kv.1 < key)) = kvs.drop lo := by
  have hlen := hb.length_recs
  obtain ⟨_, hilen', hget⟩ := index_readback hb hpos
  have hilen : f.indexLen = kvs.length := hilen'.trans hlen
  have hidx : ∀ k (hk : k < kvs.length), keyBeforeIdx f key k = decide ((kvs[k]).1 < key) := by
    intro k hk
    have hk' : k < f.recs.length := hlen ▸ hk
    unfold keyBeforeIdx keyBefore
    rw [hget k hk']
    simp only
    rw [hb.recAt_pos (List.getElem_mem hk')]
    simp only
    rw [hb.key_getElem k hk']
  have hkeys : ∀ i j (hij : i < j) (hj : j < kvs.length), (kvs[i]).1 < (kvs[j]).1 := by
    intro i j hij hj
    have := List.pairwise_iff_getElem.mp hord i j (by rw [List.length_map]; exact Nat.lt_trans hij hj)
      (by rw [List.length_map]; exact hj) hij
    rwa [List.getElem_map, List.getElem_map] at this
  unfold closestKeyPos
  rw [hilen]
  obtain ⟨lo, hr, hlo, h3, h4⟩ := WM.IdSets.bisectBy_spec (keyBeforeIdx f key) (List.range kvs.length) (by
    intro i j hij hj hp
    rw [List.length_range] at hj
    rw [List.getElem_range, hidx j hj, decide_eq_true_eq] at hp
    rw [List.getElem_range, hidx i (Nat.lt_trans hij hj), decide_eq_true_eq]
    exact List.lt_trans (hkeys i j hij hj) hp)
  rw [List.length_range] at hr hlo
  rw [hr]
  refine ⟨lo, ?_, hlen, ?_⟩
  · simp only [bind, Except.bind]
    by_cases hend : lo = kvs.length
    · rw [if_pos hend, List.getElem?_eq_none (by rw [hlen, hend]; exact Nat.le_refl _)]; rfl
    · have hlo' : lo < f.recs.length := by rw [hlen]; exact Nat.lt_of_le_of_ne hlo hend
      rw [if_neg hend, hget lo hlo', List.getElem?_eq_getElem hlo']
      rfl
  · -- the keys before `lo` are below `key`, the one at `lo` is not: `dropWhile` stops there too
    refine dropWhile_eq_drop _ kvs lo (fun k hk hklo => ?_) (fun hlo' => ?_) hlo
    · have := h3 k (by rw [List.length_range]; exact hk) hklo
      rwa [List.getElem_range, hidx k hk] at this
    · have := h4 lo (by rw [List.length_range]; exact hlo') (Nat.le_refl _)
      rwa [List.getElem_range, hidx lo hlo'] at this

theorem closestKey_built (hb : Built hash vlen so kvs f) (hpos : ∀ r ∈ f.recs, r.pos < 2 ^ 63)
    (hord : (kvs.map (·.1)).Pairwise (· < ·)) (key : Key) :
    closestKey f key = .ok ((kvs.map (·.1)).find? (fun k => !decide (k < key))) := by
  rcases closestKeyPos_built hb hpos hord key with ⟨lo, hcl, hlen, hdrop⟩
  unfold closestKey
  rw [hcl]
  simp only [bind, Except.bind]
  have hfind : (kvs.map (·.1)).find? (fun k => !decide (k < key)) = (kvs[lo]?).map (·.1) := by
    rw [← head?_dropWhile, List.dropWhile_map]
    exact (congrArg (fun l => (l.map (·.1)).head?) hdrop).trans (by rw [List.head?_map, List.head?_drop])
  rw [hfind]
  by_cases hend : lo < kvs.length
  · have hlr : lo < f.recs.length := by omega
    rw [List.getElem?_eq_getElem hlr]
    simp only [Option.map_some]
    rw [hb.recAt_pos (List.getElem_mem hlr)]
    simp only
    rw [List.getElem?_eq_getElem hend, hb.key_getElem lo hlr]
    rfl
  · rw [List.getElem?_eq_none (by omega), List.getElem?_eq_none (by omega)]
    rfl

theorem itemsFrom_built (hb : Built hash vlen so kvs f) (hpos : ∀ r ∈ f.recs, r.pos < 2 ^ 63)
    (hord : (kvs.map (·.1)).Pairwise (· < ·)) (key : Key) :
    itemsFrom vlen f key = .ok (kvs.dropWhile (fun kv => decide (kv.1 < key))) := by
  rcases closestKeyPos_built hb hpos hord key with ⟨lo, hcl, hlen, hdrop⟩
  unfold itemsFrom
  rw [hcl, hdrop]
  simp only [bind, Except.bind]
  by_cases hend : lo < kvs.length
  · have hlr : lo < f.recs.length := by omega
    rw [List.getElem?_eq_getElem hlr]
    simp only [Option.map_some]
    rw [hb.walk_getElem hlr, List.map_drop, ← hb.kvs_eq]
  · rw [List.getElem?_eq_none (by omega)]
    simp only [Option.map_none]
    rw [List.drop_eq_nil_of_le (by omega)]

end WM.HashFile
