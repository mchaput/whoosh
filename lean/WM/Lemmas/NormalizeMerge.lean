import WM.Lemmas.NormalizeLeaf
import WM.Lemmas.NormalizeStable
import WM.Spec.Clean
/-! What the "merge ranges and Everys" loop of `CompoundQuery.normalize` keeps of the meaning of the clause list.
    The inner loop (`absorb`) merges overlapping ranges into their union (`absorb_satAny`), wherever the empty
    term is harmless for the ranges involved (`LOk`); so the outer loop keeps the union there too, on documents
    below the largest term (`mergeLoop_or`),
    and the intersection on lists where it merges nothing and drops only repeated `Every`s (`AndOk`,
    `mergeLoop_and`).  `everyfields` enters as the `Every`s it stands for (`efAny`, `efAll`). -/
namespace WM.Normalize
open WM.Sat

/-- The empty term is harmless on `d` for every range clause of `l`. -/
def LOk (d : Doc) (l : List Q) : Prop := ∀ s ∈ l, ∀ r, s.asRange = some r → ROk d r

theorem LOk.of_noEmpty {d : Doc} (h : d.NoEmpty) (l : List Q) : LOk d l := fun _ _ _ _ => Or.inr h

theorem LOk.tail {d : Doc} {s : Q} {l : List Q} (h : LOk d (s :: l)) : LOk d l :=
  fun x hx r hr => h x (List.mem_cons_of_mem _ hx) r hr

theorem LOk.sub {d : Doc} {l l' : List Q} (h : LOk d l) (hs : ∀ x ∈ l', x ∈ l) : LOk d l' :=
  fun x hx r hr => h x (hs x hx) r hr

theorem Rng.merge_openExcl (a b : Rng) (i : Bool) (ha : a.openExcl = false) (hb : b.openExcl = false) :
    (a.merge b i).openExcl = false := by
  -- `merge` writes `lo`, `lox` from its start comparable, which is the start of one of the two (`mergeBounds_mem`)
  let oe (s : Cmp) : Bool := (s.adj == 1) && (s.b.toOpt == none || s.b.toOpt == some [])
  have key : ∀ lo lx, (lx && (lo == none || lo == some [])) = false → oe (cmpStart lo lx) = false := by
    intro lo lx h
    cases lo with
    | none => rfl
    | some t => cases lx <;> first | rfl | exact h
  show oe (a.mergeBounds b i).1 = false
  rcases (mergeBounds_mem ..).1 with e | e <;> rw [Rng.mergeBounds, e]
  · exact key _ _ ha
  · exact key _ _ hb

theorem ROk.merge {d : Doc} {a b : Rng} (i : Bool) (ha : ROk d a) (hb : ROk d b) : ROk d (a.merge b i) := by
  rcases ha with ha | ha
  · rcases hb with hb | hb
    · exact Or.inl (Rng.merge_openExcl a b i ha hb)
    · exact Or.inr hb
  · exact Or.inr ha

theorem sat_merge_union (env : Env) (a b : Rng) (d : Doc) (h : a.overlaps b = true)
    (ha : ROk d a) (hb : ROk d b) :
    sat env (a.merge b false).toQ d = (sat env a.toQ d || sat env b.toQ d) := by
  rw [sat_range_ROk env _ d (ROk.merge false ha hb), sat_range_ROk env a d ha, sat_range_ROk env b d hb, Rng.merge_f,
    ← Rng.overlaps_field h, ← any_or_split]
  exact congrArg _ (funext fun x => (decide_eq_decide.mpr (Rng.merge_union a b h x)).trans (Bool.decide_or ..))

theorem absorb_satAny (env : Env) (d : Doc) (q : Rng) (rest : List Q) (hq : ROk d q) (hl : LOk d rest) :
    satAny env ((absorb false q rest).1.toQ :: (absorb false q rest).2) d
      = satAny env (q.toQ :: rest) d ∧ ROk d (absorb false q rest).1 := by
  fun_induction absorb false q rest with
  | case1 q rest h => exact ⟨rfl, hq⟩
  | case2 q rest r rest' h ih =>
    have hsub := popOverlap_sublist h
    obtain ⟨hov, l1, l2, rfl, rfl⟩ := popOverlap_some h
    have hr : ROk d r := hl r.toQ (by simp) r rfl
    obtain ⟨ih1, ih2⟩ := ih (ROk.merge false hq hr) (hl.sub fun x hx => hsub.subset hx)
    refine ⟨?_, ih2⟩
    rw [ih1]
    simp only [satAny, satAny_append, sat_merge_union env q r d hov hq hr]
    cases sat env q.toQ d <;> cases sat env r.toQ d <;> cases satAny env l1 d <;> rfl

def efAny (d : Doc) (ef : List (Option Field)) : Bool := ef.any (everySat d)
def efAll (d : Doc) (ef : List (Option Field)) : Bool := ef.all (everySat d)

theorem efAny_next (env : Env) (d : Doc) (q : Q) (ef : List (Option Field)) :
    efAny d (efNext q ef) = ((q.isEvery && sat env q d) || efAny d ef) := by
  cases q <;> simp [efNext, Q.isEvery, efAny, sat_every]

theorem efAll_next (env : Env) (d : Doc) (q : Q) (ef : List (Option Field)) :
    efAll d (efNext q ef) = ((!q.isEvery || sat env q d) && efAll d ef) := by
  cases q <;> simp [efNext, Q.isEvery, efAll, sat_every]

theorem sat_of_field_mem (env : Env) (d : Doc) (q : Q) (ef : List (Option Field))
    (h : ef.contains q.field = true) (hs : sat env q d = true) : efAny d ef = true :=
  List.any_eq_true.mpr ⟨q.field, by simpa using h, everySat_field env d q hs⟩

/-- Emitting `q`, and recording it in `everyfields` if it is an `Every`, keeps the union. -/
private theorem efAny_emit (env : Env) (d : Doc) (q : Q) (ef : List (Option Field)) {S1 S2 : Bool}
    (h : (efAny d (efNext q ef) || S1) = (efAny d (efNext q ef) || S2)) :
    (efAny d ef || (sat env q d || S1)) = (efAny d ef || (sat env q d || S2)) := by
  rw [efAny_next env] at h
  revert h
  cases efAny d ef <;> cases q.isEvery <;> cases sat env q d <;> simp

private theorem bool_or_pop (A Sq S1 S2 : Bool) (hq : Sq = true → A = true)
    (h : (A || S1) = (A || S2)) : (A || S1) = (A || (Sq || S2)) := by
  cases A <;> cases Sq <;> simp_all

theorem mergeLoop_or (env : Env) (d : Doc) (hp : d.BelowMax) (ef : List (Option Field)) (l : List Q)
    (hl : LOk d l) :
    (efAny d ef || satAny env (mergeLoop false ef l).1 d) = (efAny d ef || satAny env l d) := by
  fun_induction mergeLoop false ef l with
  | case1 ef => rfl
  | case2 ef q rest h ih =>
    exact bool_or_pop _ _ _ _ (sat_of_field_mem env d q ef h) (ih hl.tail)
  | case3 ef q rest h r hr p q' ef' res ih =>
    have hrok : ROk d r := hl q (List.mem_cons_self ..) r hr
    obtain ⟨h2, hpok⟩ := absorb_satAny env d r rest hrok hl.tail
    rw [asRange_some hr]
    refine (efAny_emit env d q' ef (ih (hl.tail.sub fun _ h => (absorb_sublist false r rest).subset h))).trans ?_
    rw [show sat env q' d = _ from rngNormalize_sat env p.1 d hp hpok]
    exact congrArg _ h2
  | case4 ef q rest h hr ef' res ih => exact efAny_emit env d q ef (ih hl.tail)

open WM.Clean in
/-- A clause list on which the loop merges nothing (`apart`), `TermRange.normalize` leaves every
    range clause as it is (`proper`), and a clause whose field is recorded in `ef`, or carried by an `Every` of the
    list, is itself an `Every`: so what the loop drops as already covered is a repeated `Every` (`every`). -/
structure AndOk (ef : List (Option Field)) (l : List Q) : Prop where
  apart : rangesApart l = true
  proper : ∀ r : Rng, r.toQ ∈ l → r.proper = true
  every : ∀ s ∈ l, (s.field ∈ ef ∨ ∃ b, Q.every s.field b ∈ l) → s.isEvery = true

theorem AndOk.tail {ef : List (Option Field)} {q : Q} {rest : List Q} (h : AndOk ef (q :: rest)) :
    AndOk ef rest where
  apart := ((Bool.and_eq_true ..).mp h.apart).2
  proper := fun r hr => h.proper r (List.mem_cons_of_mem _ hr)
  every := fun s hs hw => h.every s (List.mem_cons_of_mem _ hs)
    (hw.imp_right fun ⟨b, hb⟩ => ⟨b, List.mem_cons_of_mem _ hb⟩)

theorem AndOk.next {ef : List (Option Field)} {q : Q} {rest : List Q} (h : AndOk ef (q :: rest)) :
    AndOk (efNext q ef) rest := by
  refine ⟨h.tail.apart, h.tail.proper, fun s hs hw => h.every s (List.mem_cons_of_mem _ hs) ?_⟩
  rcases hw with hw | ⟨b, hb⟩
  · rcases mem_efNext.mp hw with hw | ⟨b, rfl⟩
    · exact Or.inl hw
    · exact Or.inr ⟨b, List.mem_cons_self ..⟩
  · exact Or.inr ⟨b, List.mem_cons_of_mem _ hb⟩

theorem AndOk.head {ef : List (Option Field)} {q : Q} {rest : List Q} (h : AndOk ef (q :: rest)) :
    ∀ r, q.asRange = some r → r.proper = true ∧ NoOv r rest := by
  intro r hr
  refine ⟨h.proper r (asRange_some hr ▸ List.mem_cons_self ..), fun s hs r' hr' => ?_⟩
  have := h.apart
  simp only [WM.Clean.rangesApart, hr, Bool.and_eq_true, List.all_eq_true] at this
  simpa only [hr', Bool.not_eq_true'] using this.1 s hs

private theorem efAll_emit (env : Env) (d : Doc) (q : Q) (ef : List (Option Field)) {S1 S2 : Bool}
    (h : (efAll d (efNext q ef) && S1) = (efAll d (efNext q ef) && S2)) :
    (efAll d ef && (sat env q d && S1)) = (efAll d ef && (sat env q d && S2)) := by
  rw [efAll_next env] at h
  revert h
  cases efAll d ef <;> cases q.isEvery <;> cases sat env q d <;> simp

/-- On an `AndOk` list the loop merges nothing; a clause it drops is an `Every(f)` that `efAll` demands already. -/
theorem mergeLoop_and (env : Env) (d : Doc) (ef : List (Option Field)) (l : List Q) (h : AndOk ef l) :
    (efAll d ef && satAll env (mergeLoop true ef l).1 d) = (efAll d ef && satAll env l d)
      ∧ (∀ x ∈ (mergeLoop true ef l).1, x ∈ l) := by
  induction l generalizing ef with
  | nil => rw [mergeLoop]; exact ⟨rfl, fun x hx => hx⟩
  | cons q rest ih =>
    rw [mergeLoop_cons_of_noOv h.head]
    by_cases hc : ef.contains q.field = true
    · rw [if_pos hc]
      obtain ⟨ih1, ih2⟩ := ih ef h.tail
      refine ⟨?_, fun x hx => List.mem_cons_of_mem _ (ih2 x hx)⟩
      have hm : q.field ∈ ef := by simpa using hc
      rw [ih1, satAll]
      cases hA : efAll d ef
      · rfl
      · rw [sat_of_isEvery env d q (h.every q (List.mem_cons_self ..) (Or.inl hm)), List.all_eq_true.mp hA _ hm]
        rfl
    · rw [if_neg hc]
      obtain ⟨ih1, ih2⟩ := ih _ h.next
      exact ⟨efAll_emit env d q ef ih1,
        List.forall_mem_cons.mpr ⟨List.mem_cons_self .., fun x hx => List.mem_cons_of_mem _ (ih2 x hx)⟩⟩

end WM.Normalize
