import WM.Model.SearchCursor
import WM.Lemmas.AllIds
import WM.Lemmas.SearchSeg
/-!
`Denotes`: a built matcher is well formed and its result list is a given posting list.  The pieces of
`Query.matcher` on the cursor side against the list operators of `WM.Compile`: list matchers, the boost
wrapper, binary constructors folded along a tree shape, the inverse, `Or._matcher` with its scored array
union, the constant-score scheme.
-/
namespace WM.Compile
open WM.Search
open WM.Matcher (Any mkInter mkUnion mkDisMax mkAndNot mkAndMaybe mkRequire mkInverse mkConst mkAUnion allIds WF ListM
  scale mkInter_spec mkAndNot_spec mkAndMaybe_spec mkRequire_spec treeInv_WF)

def Denotes (m : Any) (l : PL) : Prop := WF m.1 m.2 ∧ toPL m.den = l

theorem denotes_null : Denotes Any.null [] := ⟨trivial, rfl⟩

def listM (l : PL) : WM.Matcher.St .list := (⟨l.map (·.id), l.map (·.score), 0, true⟩ : ListM)

theorem den_listOf (l : PL) : toPL (WM.Matcher.den .list (listM l)) = l := by
  show toPL (((l.map (·.id)).zip (l.map (·.score))).drop 0) = l
  rw [List.drop_zero]
  induction l with
  | nil => rfl
  | cons e l ih =>
    simp only [List.map_cons, List.zip_cons_cons, toPL_cons, ih]

theorem denotes_listOf {l : PL} (h : Sorted l) : Denotes (listOf l) l :=
  ⟨⟨List.pairwise_map.mpr h, by simp [listOf]⟩, den_listOf l⟩

theorem denotes_boostM (b : Rat) {m : Any} {l : PL} (h : Denotes m l) : Denotes (boostM b m) (boostL b l) := by
  unfold boostM
  split
  · rename_i hb
    rw [hb, boostL_one]; exact h
  · exact ⟨h.1, (toPL_scale b m.den).trans (by rw [h.2])⟩

theorem Denotes.sorted {m : Any} {l : PL} (h : Denotes m l) : Sorted l :=
  h.2 ▸ sorted_toPL.mpr ((WM.Matcher.tree_faithful m.1).asc m.2 h.1)

theorem Denotes.of_den {x : MR Any} {D : WM.Matcher.Den} {l : PL} (h : Yields x fun n => WF n.1 n.2 ∧ n.den = D)
    (hl : toPL D = l) : Yields x (Denotes · l) :=
  h.mono fun _ hn => ⟨hn.1, hn.2 ▸ hl⟩

def OpOk (op : Any → Any → MR Any) (opL : PL → PL → PL) : Prop :=
  ∀ {a b la lb}, Denotes a la → Denotes b lb → Yields (op a b) (Denotes · (opL la lb))

def DenotesL : List Any → List PL → Prop
  | [], [] => True
  | m :: ms, l :: ls => Denotes m l ∧ DenotesL ms ls
  | _, _ => False

theorem DenotesL.length : ∀ {ms : List Any} {pls : List PL}, DenotesL ms pls → ms.length = pls.length := by
  intro ms pls h
  fun_induction DenotesL ms pls with
  | case1 => rfl
  | case2 m ms l ls ih => exact congrArg Nat.succ (ih h.2)
  | case3 => cases h

theorem getD_denotes {ms : List Any} {pls : List PL} (h : DenotesL ms pls) (i : Nat) :
    Denotes (ms.getD i Any.null) (pls.getD i []) := by
  fun_induction DenotesL ms pls generalizing i with
  | case1 => exact denotes_null
  | case2 m ms l ls ih => cases i with
    | zero => exact h.1
    | succ i => exact ih h.2 i
  | case3 => cases h

theorem foldShapeM_denotes {op : Any → Any → MR Any} {opL : PL → PL → PL} (hop : OpOk op opL)
    {ms : List Any} {pls : List PL} (h : DenotesL ms pls) (sh : Compile.Shape) :
    Yields (foldShapeM op ms sh) (Denotes · (foldShape opL pls sh)) := by
  induction sh with
  | leaf i => exact .ok (getD_denotes h i)
  | node l r ihl ihr => exact ihl.bind fun _ ha => ihr.bind fun _ hb => hop ha hb

/-- `_tree_matcher`: the tree over the clause matchers, then the boost wrapper -/
theorem treeM_denotes {op : Any → Any → MR Any} {opL : PL → PL → PL} (hop : OpOk op opL)
    {ms : List Any} {pls : List PL} (h : DenotesL ms pls) (sh : Compile.Shape) (b : Rat) :
    Yields (do let m ← foldShapeM op ms sh; pure (boostM b m)) (Denotes · (boostL b (foldShape opL pls sh))) :=
  (foldShapeM_denotes hop h sh).bind fun _ hm => .ok (denotes_boostM b hm)

theorem OpOk.of_den {op : Any → Any → MR Any} {opL : PL → PL → PL}
    {den₂ : WM.Matcher.Den → WM.Matcher.Den → WM.Matcher.Den}
    (hc : ∀ {a b : Any}, WF a.1 a.2 → WF b.1 b.2 → Yields (op a b) fun n => WF n.1 n.2 ∧ n.den = den₂ a.den b.den)
    (ht : ∀ A B, toPL (den₂ A B) = opL (toPL A) (toPL B)) : OpOk op opL :=
  fun ha hb => Denotes.of_den (hc ha.1 hb.1) (by rw [ht, ha.2, hb.2])

theorem opOk_inter : OpOk mkInter interL := OpOk.of_den (mkInter_spec treeInv_WF) toPL_interAdd

theorem opOk_andNot : OpOk mkAndNot andNotL := OpOk.of_den (mkAndNot_spec treeInv_WF) toPL_diff

theorem opOk_andMaybe : OpOk mkAndMaybe andMaybeL := OpOk.of_den (mkAndMaybe_spec treeInv_WF) toPL_leftJoin

theorem opOk_require : OpOk mkRequire requireL := OpOk.of_den (mkRequire_spec treeInv_WF) toPL_require

theorem opOk_union : OpOk (fun a b => pure (mkUnion a b)) unionL :=
  OpOk.of_den (fun ha hb => .ok (a := mkUnion _ _) ⟨⟨ha, hb⟩, rfl⟩) (toPL_unionWith _)

theorem opOk_dismax : OpOk (fun a b => pure (mkDisMax a b)) dismaxL :=
  OpOk.of_den (fun ha hb => .ok (a := mkDisMax _ _) ⟨⟨ha, hb⟩, rfl⟩) toPL_unionMax

theorem inverse_denotes (s : Segment) {c : Any} {l : PL} (h : Denotes c l) :
    Yields (mkInverse c s.size s.deleted 1 0)
      (Denotes · ((s.live.filter (fun i => (lookup l i).isNone)).map (fun i => (⟨i, 1⟩ : Hit)))) :=
  Denotes.of_den (WM.Matcher.mkInverse_spec h.1 s.size s.deleted 1 0) (by rw [toPL_complement, h.2])

theorem listOf_eq (l : PL) : listOf l = ⟨.list, listM l⟩ := rfl
theorem listOf_def : listOf = fun l => (⟨.list, listM l⟩ : Any) := rfl

theorem castTo_list (pls : List PL) : castTo .list (pls.map listOf) = some (pls.map listM) := by
  induction pls with
  | nil => rfl
  | cons l pls ih =>
    simp only [List.map_cons, castTo, listOf_eq, dite_true]
    rw [ih]; rfl

/-- `ArrayUnionMatcher` over plain list matchers: the scores being positive, the array-union list of `compile` is
    the boosted sum -/
theorem aunion_denotes (dc : Nat) (b : Rat) (hb : 0 < b) (pls : List PL)
    (hpl : ∀ l ∈ pls, Sorted l ∧ ∀ e ∈ l, 0 < e.score ∧ e.id < dc) :
    Yields (mkAUnion .list (pls.map listM) dc b 2048)
      (Denotes · (arrayParts 2048 (unionAll (pls.map (boostL b))))) := by
  have hpos : ∀ l ∈ pls, ∀ p ∈ WM.Matcher.den .list (listM l), 0 < p.2 := fun l hl p hp =>
    ((hpl l hl).2 _ (den_listOf l ▸ mem_toPL hp : (⟨p.1, p.2⟩ : Hit) ∈ l)).1
  have hsum : toPL (WM.Matcher.sumDens ((pls.map listM).map fun x => scale b (WM.Matcher.den .list x))) =
      unionAll (pls.map (boostL b)) := by
    rw [toPL_sumDens, List.map_map, List.map_map]
    exact congrArg unionAll (List.map_congr_left fun l _ => (toPL_scale b _).trans (congrArg _ (den_listOf l)))
  have hall := unionAll_boostL_pos (P := (· < dc)) hb fun l hl => (hpl l hl).2
  -- a fresh list matcher has read nothing: its complete list is its remaining list
  refine Denotes.of_den (WM.Matcher.mkAUnion_spec .list (pls.map listM) dc b 2048
    (List.forall_mem_map.mpr fun l hl => (denotes_listOf (hpl l hl).1).1) hb (by decide)
    (List.forall_mem_map.mpr hpos) (List.forall_mem_map.mpr hpos)) ?_
  rw [toPL_below _ _ (hsum ▸ fun e he => (hall e he).2), hsum, arrayParts_pos _ _ fun e he => (hall e he).1]

/-- the condition under which `orManyM` has a node for what `Or._matcher` builds: where it does not choose the tree
    of unions, the array union is a scored one over plain list matchers with positive scores.  `UnionOK` says it of the
    clauses of the query, where the theorems assume it; this form says it of the matchers built from them, which is what
    `orManyM_denotes` uses (`UnionOK.orOK` leads from the one to the other). -/
def OrOK (ctx : Ctx) (dc : Nat) (b : Rat) (ms : List Any) (pls : List PL) : Prop :=
  ¬(ms.length < 1024 ∧ ((ctx.nc = true ∨ ms.length = 2) ∨ 5000 < dc)) →
    ctx.scored = true ∧ 0 < b ∧ ms = pls.map listOf ∧ ∀ l ∈ pls, Sorted l ∧ ∀ e ∈ l, 0 < e.score ∧ e.id < dc

theorem orManyM_denotes {ctx : Ctx} {dc : Nat} {b : Rat} {ms : List Any} {pls : List PL} (sh : Compile.Shape)
    (h : DenotesL ms pls) (h2 : 2 ≤ ms.length) (hok : OrOK ctx dc b ms pls) :
    Yields (orManyM ctx dc sh ms b) (Denotes · (orMany ctx dc sh pls b)) := by
  unfold orManyM orMany
  rw [← h.length]
  by_cases hcond : (decide (ms.length < 1024) && (ctx.nc || ms.length == 2 || decide (5000 < dc))) = true
  · rw [if_pos hcond, if_pos hcond]
    exact treeM_denotes opOk_union h sh b
  · rw [if_neg hcond, if_neg hcond]
    simp only [Bool.and_eq_true, Bool.or_eq_true, decide_eq_true_eq, beq_iff_eq] at hcond
    obtain ⟨hsc, hb, rfl, hpl⟩ := hok hcond
    rw [if_pos hsc, if_pos hsc]
    cases pls with
    | nil => simp at h2
    | cons l0 pls' =>
      have hc := castTo_list (l0 :: pls')
      simp only [List.map_cons, listOf_def] at hc ⊢
      rw [hc]
      exact aunion_denotes dc b hb (l0 :: pls') hpl

theorem csM_denotes : ∀ (ctx : Ctx) (c : Rat) {m : Any} {l : PL}, Denotes m l →
    Yields (csM ctx c m) (Denotes · (csL ctx c l))
  | ⟨true, _⟩, c, m, _, h => .ok (a := mkConst m c) ⟨h.1, (toPL_constScore c m.den).trans (congrArg _ h.2)⟩
  | ⟨false, _⟩, c, m, _, h => by
    show Yields (allIds m >>= _) _
    rw [WM.Matcher.allIds_spec m h.1]
    refine .ok (a := listOf _) ?_
    have heq : (m.den.map (·.1)).map (fun i => (⟨i, wOf c⟩ : Hit)) = constL (wOf c) (toPL m.den) := by
      rw [constL, toPL, List.map_map, List.map_map]; rfl
    rw [heq, h.2]
    exact denotes_listOf (constL_sorted _ h.sorted)

end WM.Compile
