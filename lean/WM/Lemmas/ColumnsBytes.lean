import WM.Model.Columns
import WM.Lemmas.Basics
/-! Fixed-width big-endian numbers and arrays: `unbe ∘ be = id` below `256^w`, array round trip,
exclusive prefix sums, slicing a concatenation of rows. -/
namespace WM.Columns

theorem be_length (w n : Nat) : (be w n).length = w := by
  induction w with
  | zero => rfl
  | succ w ih => simp [be, ih]

theorem foldl_be (w n acc : Nat) :
    (be w n).foldl (fun acc b => acc * 256 + b) acc = acc * 256 ^ w + n % 256 ^ w := by
  induction w generalizing acc with
  | zero => simp [be, Nat.mod_one]
  | succ w ih =>
    rw [be, List.foldl_cons, ih, Nat.mod_pow_succ, Nat.pow_succ, Nat.add_mul, Nat.mul_assoc,
      Nat.mul_comm 256 (256 ^ w), Nat.mul_comm (256 ^ w) (n / 256 ^ w % 256), Nat.add_assoc,
      Nat.add_comm (n % 256 ^ w)]

theorem unbe_be (w n : Nat) (h : n < 256 ^ w) : unbe (be w n) = n := by
  rw [unbe, foldl_be, Nat.mod_eq_of_lt h, Nat.zero_mul, Nat.zero_add]

theorem unbe_single (x : Nat) : unbe [x] = x := by simp [unbe]

theorem packArr_nil (sz : Nat) : packArr sz [] = [] := rfl

theorem packArr_cons (sz x : Nat) (xs : List Nat) : packArr sz (x :: xs) = be sz x ++ packArr sz xs :=
  List.flatMap_cons

theorem packArr_append (sz : Nat) (xs ys : List Nat) :
    packArr sz (xs ++ ys) = packArr sz xs ++ packArr sz ys :=
  List.flatMap_append

theorem packArr_eq_flatten (sz : Nat) (xs : List Nat) : packArr sz xs = (xs.map (be sz)).flatten :=
  List.flatMap_def ..

theorem unpackArr_packArr (sz : Nat) (xs : List Nat) (rest : Bytes) (h : ∀ x ∈ xs, x < 256 ^ sz) :
    unpackArr sz xs.length (packArr sz xs ++ rest) = xs := by
  induction xs with
  | nil => rfl
  | cons x xs ih =>
    have hl : (be sz x).length = sz := be_length sz x
    rw [List.length_cons, unpackArr, packArr_cons, List.append_assoc, List.take_left' hl,
      List.drop_left' hl, unbe_be sz x (h x List.mem_cons_self),
      ih (fun y hy => h y (List.mem_cons_of_mem _ hy))]

theorem deriveOffsets_append (base : Nat) (ls ms : List Nat) :
    deriveOffsets base (ls ++ ms) = deriveOffsets base ls ++ deriveOffsets (base + ls.sum) ms := by
  induction ls generalizing base with
  | nil => rfl
  | cons a ls ih => simp [deriveOffsets, ih, Nat.add_assoc]

theorem deriveOffsets_replicate_zero (base k : Nat) :
    deriveOffsets base (List.replicate k 0) = List.replicate k base := by
  induction k with
  | zero => rfl
  | succ k ih => rw [List.replicate_succ, deriveOffsets, Nat.add_zero, ih, List.replicate_succ]

theorem deriveOffsets_length (base : Nat) (ls : List Nat) : (deriveOffsets base ls).length = ls.length := by
  induction ls generalizing base with
  | nil => rfl
  | cons a ls ih => simp [deriveOffsets, ih]

theorem deriveOffsets_getElem? (base : Nat) (ls : List Nat) (d : Nat) (h : d < ls.length) :
    (deriveOffsets base ls)[d]? = some (base + (ls.take d).sum) := by
  induction ls generalizing base d with
  | nil => simp at h
  | cons a ls ih =>
    cases d with
    | zero => simp [deriveOffsets]
    | succ d =>
      simp only [deriveOffsets, List.getElem?_cons_succ, List.take_succ_cons, List.sum_cons]
      rw [ih (base + a) d (by simpa using h), Nat.add_assoc]

theorem deriveOffsets_ge (base : Nat) (cs : List Nat) : ∀ o ∈ deriveOffsets base cs, base ≤ o := by
  induction cs generalizing base with
  | nil => exact fun _ h => nomatch h
  | cons c cs ih =>
    intro o ho
    rcases List.mem_cons.mp ho with rfl | ho
    · exact Nat.le_refl _
    · exact Nat.le_trans (Nat.le_add_right _ _) (ih (base + c) o ho)

theorem slice_flatten (rows : List Bytes) (tail : Bytes) (d : Nat) (row : Bytes)
    (h : rows[d]? = some row) :
    slice (rows.flatten ++ tail) ((rows.take d).map List.length).sum row.length = row := by
  rw [slice, flatten_split h, ← List.length_flatten, List.append_assoc, List.append_assoc, List.drop_left,
    List.take_left]

theorem flatten_uniform_length (k : Nat) (rows : List Bytes) (h : ∀ r ∈ rows, r.length = k) :
    rows.flatten.length = k * rows.length := by
  induction rows with
  | nil => rfl
  | cons r rows ih =>
    rw [List.flatten_cons, List.length_append, ih (fun x hx => h x (List.mem_cons_of_mem _ hx)),
      h r List.mem_cons_self, List.length_cons, Nat.mul_succ, Nat.add_comm]

theorem packArr_length (sz : Nat) (xs : List Nat) : (packArr sz xs).length = sz * xs.length := by
  rw [packArr_eq_flatten, flatten_uniform_length sz _ (List.forall_mem_map.mpr fun x _ => be_length sz x),
    List.length_map]

theorem slice_uniform (k : Nat) (rows : List Bytes) (tail : Bytes) (h : ∀ r ∈ rows, r.length = k)
    (d : Nat) (row : Bytes) (hr : rows[d]? = some row) :
    slice (rows.flatten ++ tail) (k * d) k = row := by
  have hd : d < rows.length := (List.getElem?_eq_some_iff.mp hr).1
  have hsum := flatten_uniform_length k (rows.take d) (fun r hr' => h r (List.mem_of_mem_take hr'))
  rw [List.length_flatten, List.length_take, Nat.min_eq_left (Nat.le_of_lt hd)] at hsum
  have := slice_flatten rows tail d row hr
  rwa [hsum, h row (List.mem_of_getElem? hr)] at this

theorem slice_packArr (sz : Nat) (xs : List Nat) (tail : Bytes) (d x : Nat) (h : xs[d]? = some x) :
    slice (packArr sz xs ++ tail) (d * sz) sz = be sz x := by
  rw [packArr_eq_flatten, Nat.mul_comm]
  exact slice_uniform sz _ tail (List.forall_mem_map.mpr fun y _ => be_length sz y) d _
    (by rw [List.getElem?_map, h]; rfl)

end WM.Columns
