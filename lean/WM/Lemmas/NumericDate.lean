import WM.Model.NumericDate
import WM.Lemmas.NumericField
import Mathlib.Tactic.Ring -- no `ring` below: under it `2 ^ n` in C13Date's statements is Mathlib's Monoid power
/-! The calendar (`toordinal` is strictly monotone, `_ord2ymd` inverts it), datetimes as microsecond
    counts, `_parse_datestring` produces prefix-shaped partial dates, `floor`/`ceil` delimit the
    period, what `parse_range`/`parse_query` compute on parsed dates; last, BOOLEAN's `to_bytes`
    is injective on truth values. -/
namespace WM.NumericDate
open WM.Numeric

theorem isLeap_iff (y : Nat) : isLeap y = true ↔ 4 ∣ y ∧ (¬ 100 ∣ y ∨ 400 ∣ y) := by
  simp [isLeap, Nat.dvd_iff_mod_eq_zero]

/-- `_days_before_year` without the truncated subtraction. -/
theorem dby_add (n : Nat) : daysBeforeYear (n + 1) + n / 100 = n * 365 + n / 4 + n / 400 := by
  unfold daysBeforeYear
  simp only [Nat.add_sub_cancel]
  omega

/-- Leap years by inclusion and exclusion. -/
theorem leap_ind (n : Nat) :
    (if isLeap n = true then 1 else 0) + (if 100 ∣ n then 1 else 0) =
      (if 4 ∣ n then 1 else 0) + (if 400 ∣ n then 1 else 0) := by
  have h1 : 400 ∣ n → 100 ∣ n := Nat.dvd_trans (by decide)
  have h2 : 100 ∣ n → 4 ∣ n := Nat.dvd_trans (by decide)
  simp only [isLeap_iff]
  by_cases d100 : 100 ∣ n
  · by_cases d400 : 400 ∣ n <;> simp [h2 d100, d100, d400]
  · by_cases d4 : 4 ∣ n <;> simp [d4, d100, mt h1 d100]

theorem dby_succ (y : Nat) (h : 1 ≤ y) :
    daysBeforeYear (y + 1) = daysBeforeYear y + 365 + (if isLeap y = true then 1 else 0) := by
  obtain ⟨k, rfl⟩ := Nat.exists_eq_add_of_le' h
  have a := dby_add k
  have b := dby_add (k + 1)
  have c := leap_ind (k + 1)
  simp only [Nat.succ_div] at b
  generalize k / 4 = A at *; generalize k / 100 = B at *; generalize k / 400 = C at *
  omega

theorem dby_mono {y y' : Nat} (h : y ≤ y') : daysBeforeYear y ≤ daysBeforeYear y' := by
  induction h with
  | refl => exact Nat.le_refl _
  | @step n _ ih =>
    rcases Nat.eq_zero_or_pos n with rfl | hn
    · exact ih
    · rw [dby_succ n hn]; omega

theorem dbm_mono (leap : Bool) {m m' : Nat} (h : m ≤ m') :
    daysBeforeMonth leap m ≤ daysBeforeMonth leap m' := by
  induction h with
  | refl => exact Nat.le_refl _
  | step _ ih => exact Nat.le_trans ih (Nat.le_add_right _ _)

theorem dbm_next (leap : Bool) {m m' : Nat} (h : m < m') :
    daysBeforeMonth leap m + daysInMonth leap m ≤ daysBeforeMonth leap m' :=
  dbm_mono leap (m := m + 1) h

theorem dbm_13 (leap : Bool) : daysBeforeMonth leap 13 = 365 + (if leap = true then 1 else 0) := by
  cases leap <;> rfl

theorem dim_bounds (leap : Bool) (m : Nat) (h1 : 1 ≤ m) (h2 : m ≤ 12) :
    28 ≤ daysInMonth leap m ∧ daysInMonth leap m ≤ 31 := by
  have : ∀ (leap : Bool) (m : Fin 13), 1 ≤ m.val →
      28 ≤ daysInMonth leap m.val ∧ daysInMonth leap m.val ≤ 31 := by decide
  exact this leap ⟨m, by omega⟩ h1

/-- What `date(y, m, d)` accepts, the upper limit of the year aside. -/
def dateOk (y m d : Nat) : Prop :=
  1 ≤ y ∧ 1 ≤ m ∧ m ≤ 12 ∧ 1 ≤ d ∧ d ≤ daysInMonth (isLeap y) m

theorem Civil.valid.dateOk {c : Civil} (h : c.valid) : dateOk c.year c.month c.day :=
  ⟨h.1, h.2.2.1, h.2.2.2.1, h.2.2.2.2.1, h.2.2.2.2.2.1⟩

section
variable {y m d y' m' d' : Nat}

theorem ordinal_le_next (h : dateOk y m d) : ordinal y m d ≤ daysBeforeYear (y + 1) := by
  obtain ⟨a1, -, a4, -, a6⟩ := h
  have B := dbm_next (isLeap y) (Nat.lt_succ_of_le a4)
  rw [dbm_13] at B
  rw [dby_succ y a1, ordinal]
  omega

theorem ordinal_lt (h : dateOk y m d) (h' : dateOk y' m' d')
    (hl : y < y' ∨ y = y' ∧ (m < m' ∨ m = m' ∧ d < d')) : ordinal y m d < ordinal y' m' d' := by
  have A := ordinal_le_next h
  obtain ⟨-, -, -, -, a6⟩ := h
  obtain ⟨-, -, -, b5, -⟩ := h'
  unfold ordinal at *
  rcases hl with hl | ⟨rfl, hl | ⟨rfl, hl⟩⟩
  · have := dby_mono (y := y + 1) hl
    omega
  · have B := dbm_next (isLeap y) hl
    omega
  · omega

theorem ordinal_lt_eq_iff (h : dateOk y m d) (h' : dateOk y' m' d') :
    (ordinal y m d < ordinal y' m' d' ↔ y < y' ∨ y = y' ∧ (m < m' ∨ m = m' ∧ d < d')) ∧
    (ordinal y m d = ordinal y' m' d' ↔ y = y' ∧ m = m' ∧ d = d') := by
  rcases (by omega : (y < y' ∨ y = y' ∧ (m < m' ∨ m = m' ∧ d < d')) ∨
    (y' < y ∨ y' = y ∧ (m' < m ∨ m' = m ∧ d' < d)) ∨ y = y' ∧ m = m' ∧ d = d') with l | l | ⟨rfl, rfl, rfl⟩
  · have := ordinal_lt h h' l
    omega
  · have := ordinal_lt h' h l
    omega
  · omega

theorem ordinal_pos (h : dateOk y m d) : 1 ≤ ordinal y m d :=
  Nat.le_trans h.2.2.2.1 (Nat.le_add_left _ _)

/-- December 31st of year 9999 is the last day. -/
theorem ordinal_le_max (h : dateOk y m d) (h9 : y ≤ 9999) : ordinal y m d ≤ 3652059 :=
  show _ ≤ daysBeforeYear 10000 from Nat.le_trans (ordinal_le_next h) (dby_mono (Nat.succ_le_succ h9))

end

theorem civilToTD_normal (a : Civil) (ha : a.valid) : (civilToTD a).normal := by
  obtain ⟨_, _, _, _, _, _, a7, a8, a9, a10⟩ := ha
  unfold civilToTD TD.normal
  simp only
  omega

/-- The bound is 3652060 days in microseconds, a day more than `ordinal 9999 12 31`; what is used of it is `< 2 ^ 63`. -/
theorem civilToLong_range (a : Civil) (ha : a.valid) :
    0 ≤ civilToLong a ∧ civilToLong a < 315537984000000000 := by
  have h1 := ordinal_pos ha.dateOk
  have h2 := ordinal_le_max ha.dateOk ha.2.1
  obtain ⟨_, _, _, _, _, _, a7, a8, a9, a10⟩ := ha
  unfold civilToLong tdToUsecs civilToTD
  simp only
  omega

theorem civilToLong_inDomain (a : Civil) (ha : a.valid) : inDomain 64 true (civilToLong a) := by
  have h := civilToLong_range a ha
  unfold inDomain
  rw [minMaxInt_eq 64 (by decide) true]
  simp only [if_true]
  constructor <;> omega

/-- `datetime_to_long` as a numeral with the digits ordinal, hour, minute, second, microsecond. -/
theorem civilToLong_digits (a : Civil) :
    civilToLong a + 86400000000 = ((((ordinal a.year a.month a.day * 24 + a.hour) * 60 + a.minute) * 60 +
      a.second) * 1000000 + a.micro : Nat) := by
  unfold civilToLong tdToUsecs civilToTD
  simp only
  omega

theorem civilToLong_lt_iff (a b : Civil) (ha : a.valid) (hb : b.valid) :
    civilToLong a < civilToLong b ↔ civilLt a b = true := by
  have da := ha.dateOk
  have db := hb.dateOk
  obtain ⟨_, _, _, _, _, _, a7, a8, a9, a10⟩ := ha
  obtain ⟨_, _, _, _, _, _, b7, b8, b9, b10⟩ := hb
  rw [← Int.add_lt_add_iff_right 86400000000, civilToLong_digits, civilToLong_digits, Int.ofNat_lt,
    (radix_lt_eq a10 b10).1, (radix_lt_eq a9 b9).1, (radix_lt_eq a9 b9).2, (radix_lt_eq a8 b8).1,
    (radix_lt_eq a8 b8).2, (radix_lt_eq a7 b7).1, (radix_lt_eq a7 b7).2, (ordinal_lt_eq_iff da db).1,
    (ordinal_lt_eq_iff da db).2]
  simp only [civilLt, decide_eq_true_eq, and_or_left, or_assoc, and_assoc]

theorem ok_of_bind {α β} (x : Except Err α) (f : α → Except Err β) (b : β)
    (h : (x >>= f) = .ok b) : ∃ a, x = .ok a ∧ f a = .ok b := by
  cases x with
  | error e => simp [bind, Except.bind] at h
  | ok a => exact ⟨a, rfl, h⟩

theorem foldl_digits_lt (cs : List Nat) (h : ∀ c ∈ cs, c < 10) (acc : Nat) :
    cs.foldl (fun a c => 10 * a + c) acc < (acc + 1) * 10 ^ cs.length := by
  induction cs generalizing acc with
  | nil => simp
  | cons c cs ih =>
    have hc : c < 10 := h c (by simp)
    have := ih (fun x hx => h x (by simp [hx])) (10 * acc + c)
    simp only [List.foldl_cons, List.length_cons]
    have e : (acc + 1) * 10 ^ (cs.length + 1) = (10 * acc + 10) * 10 ^ cs.length := by
      rw [Nat.pow_succ, Nat.mul_comm _ 10, ← Nat.mul_assoc, Nat.add_mul, Nat.one_mul, Nat.mul_comm acc]
    rw [e]
    exact Nat.lt_of_lt_of_le this (Nat.mul_le_mul_right _ (by omega))

theorem intOf_lt (cs : List Nat) (v : Nat) (h : intOf cs = some v) : v < 10 ^ cs.length := by
  cases cs with
  | nil => simp [intOf] at h
  | cons c cs =>
    simp only [intOf] at h
    split at h
    · rename_i hall
      injection h with h
      subst h
      have := foldl_digits_lt (c :: cs) (by simpa using hall) 0
      simpa using this
    · cases h

theorem field_ok (cs : List Nat) (k lo hi : Nat) (o : Option Nat) (h : field cs k lo hi = .ok o) :
    (o.isSome ↔ k ≤ cs.length) ∧ ∀ v, o = some v → v < 10 ^ (hi - lo) := by
  unfold field at h
  split at h
  · rename_i hk
    split at h
    · rename_i v hv
      injection h with h; subst h
      refine ⟨by simpa using hk, fun w hw => ?_⟩
      injection hw with hw; subst hw
      exact Nat.lt_of_lt_of_le (intOf_lt _ _ hv) (Nat.pow_le_pow_right (by decide) (by simp; omega))
    · cases h
  · rename_i hk
    injection h with h; subst h
    exact ⟨by simp; omega, fun v hv => by cases hv⟩

/-- The range checks of `adatetime.__init__` as a predicate. -/
def ADT.fieldsOk (p : ADT) : Prop :=
  (∀ m, p.month = some m → 1 ≤ m ∧ m ≤ 12) ∧ (∀ d, p.day = some d → 1 ≤ d) ∧
  (∀ y m d, p.year = some y → p.month = some m → p.day = some d → d ≤ daysInMonth (isLeap y) m) ∧
  (∀ h, p.hour = some h → h ≤ 23) ∧ (∀ x, p.minute = some x → x ≤ 59) ∧
  (∀ x, p.second = some x → x ≤ 59) ∧ (∀ x, p.micro = some x → x ≤ 999999)

theorem adatetimeInit_some (y mo d h mi s us : Option Nat) (p : ADT)
    (hp : adatetimeInit y mo d h mi s us = some p) : p = ⟨y, mo, d, h, mi, s, us⟩ ∧ p.fieldsOk := by
  unfold adatetimeInit at hp
  by_cases hc : adtBad y mo d h mi s us = true
  · rw [if_pos hc] at hp; cases hp
  · rw [if_neg hc] at hp
    injection hp with hp
    subst hp
    refine ⟨rfl, ?_⟩
    unfold adtBad at hc
    simp only [Bool.or_eq_true, not_or, Bool.not_eq_true] at hc
    obtain ⟨⟨⟨⟨⟨⟨c1, c2⟩, c3⟩, c4⟩, c5⟩, c6⟩, c7⟩ := hc
    refine ⟨?_, ?_, ?_, ?_, ?_, ?_, ?_⟩
    · intro m hm; simp only at hm; subst hm; simp at c1; omega
    · intro m hm; simp only at hm; subst hm; simp at c2; omega
    · intro y' m d' h1 h2 h3; simp only at h1 h2 h3; subst h1 h2 h3; simp at c3; omega
    · intro m hm; simp only at hm; subst hm; simp at c4; omega
    · intro m hm; simp only at hm; subst hm; simp at c5; omega
    · intro m hm; simp only at hm; subst hm; simp at c6; omega
    · intro m hm; simp only at hm; subst hm; simp at c7; omega

/-- What `_parse_datestring` guarantees about a successfully parsed date. -/
def ADT.wf (p : ADT) : Prop :=
  p.prefixShaped ∧ p.fieldsOk ∧ ∃ y, p.year = some y ∧ 1 ≤ y ∧ y ≤ 9999

theorem yearField_ok (cs : List Nat) (o : Option Nat) (h : yearField cs = .ok o) :
    field cs 4 0 4 = .ok o ∧ o ≠ some 0 := by
  unfold yearField at h
  split at h
  · cases h
  · rename_i hne
    refine ⟨h, ?_⟩
    intro h0
    subst h0
    exact hne h

theorem none_of_isSome_imp {a b : Option Nat} (h : b.isSome → a.isSome) (ha : a = none) :
    b = none := by
  cases b with
  | none => rfl
  | some _ => rw [ha] at h; cases h rfl

theorem ADT.year_isSome {p : ADT} (hs : p.prefixShaped) (hv : p.void = false) : p.year.isSome := by
  obtain ⟨s1, s2, s3, s4, s5, s6⟩ := hs
  cases hy : p.year with
  | some _ => rfl
  | none =>
    have e1 := none_of_isSome_imp s1 hy
    have e2 := none_of_isSome_imp s2 e1
    have e3 := none_of_isSome_imp s3 e2
    have e4 := none_of_isSome_imp s4 e3
    have e5 := none_of_isSome_imp s5 e4
    have e6 := none_of_isSome_imp s6 e5
    simp [ADT.void, hy, e1, e2, e3, e4, e5, e6] at hv

theorem parseDatestring_wf (cs : List Nat) (p : ADT) (h : parseDatestring cs = .ok p) : p.wf := by
  unfold parseDatestring at h
  obtain ⟨y, hy0, h⟩ := ok_of_bind _ _ _ h
  obtain ⟨hy, hyne⟩ := yearField_ok cs y hy0
  obtain ⟨mo, hmo, h⟩ := ok_of_bind _ _ _ h
  obtain ⟨d, hd, h⟩ := ok_of_bind _ _ _ h
  obtain ⟨hh, hhh, h⟩ := ok_of_bind _ _ _ h
  obtain ⟨mi, hmi, h⟩ := ok_of_bind _ _ _ h
  obtain ⟨se, hse, h⟩ := ok_of_bind _ _ _ h
  obtain ⟨us, hus, h⟩ := ok_of_bind _ _ _ h
  have US : us.isSome → cs.length = 20 := by
    intro hsome
    unfold microField at hus
    split at hus
    · assumption
    · injection hus with hus; subst hus; cases hsome
  split at h
  · cases h
  · rename_i q hq
    obtain ⟨rfl, hok⟩ := adatetimeInit_some _ _ _ _ _ _ _ _ hq
    have hp : p = ⟨y, mo, d, hh, mi, se, us⟩ ∧ (⟨y, mo, d, hh, mi, se, us⟩ : ADT).void = false := by
      split at h
      · cases h
      · rename_i hv
        refine ⟨?_, by simpa using hv⟩
        split at h
        · injection h with h; exact h.symm
        · obtain ⟨_, _, h⟩ := ok_of_bind _ _ _ h
          injection h with h; exact h.symm
    obtain ⟨rfl, hvoid⟩ := hp
    have Y := field_ok _ _ _ _ _ hy
    have MO := (field_ok _ _ _ _ _ hmo).1
    have D := (field_ok _ _ _ _ _ hd).1
    have H := (field_ok _ _ _ _ _ hhh).1
    have MI := (field_ok _ _ _ _ _ hmi).1
    have SE := (field_ok _ _ _ _ _ hse).1
    -- each field is there from some length of the string on, and the lengths increase
    have hsh : ADT.prefixShaped ⟨y, mo, d, hh, mi, se, us⟩ :=
      ⟨fun a => Y.1.2 (by have := MO.1 a; omega), fun a => MO.2 (by have := D.1 a; omega),
       fun a => D.2 (by have := H.1 a; omega), fun a => H.2 (by have := MI.1 a; omega),
       fun a => MI.2 (by have := SE.1 a; omega), fun a => SE.2 (by have := US a; omega)⟩
    obtain ⟨y0, rfl⟩ := Option.isSome_iff_exists.1 (ADT.year_isSome hsh hvoid)
    have : y0 < 10000 := Y.2 y0 rfl
    exact ⟨hsh, hok, y0, rfl, Nat.pos_of_ne_zero fun h0 => hyne (by rw [h0]), by omega⟩

theorem getD_of {P : Nat → Prop} {o : Option Nat} {d : Nat} (h : ∀ v, o = some v → P v) (hd : P d) :
    P (o.getD d) := by
  cases o with
  | none => exact hd
  | some v => exact h v rfl

theorem getD_le_getD {o : Option Nat} {x lo hi : Nat} (h : ∀ v, o = some v → x = v) (hl : lo ≤ x)
    (hh : x ≤ hi) : o.getD lo ≤ x ∧ x ≤ o.getD hi := by
  cases o with
  | none => exact ⟨hl, hh⟩
  | some v => rw [h v rfl]; exact ⟨Nat.le_refl _, Nat.le_refl _⟩

theorem agrees_getD (p : ADT) (y mo d h mi s us : Nat) :
    p.agrees ⟨p.year.getD y, p.month.getD mo, p.day.getD d, p.hour.getD h, p.minute.getD mi,
      p.second.getD s, p.micro.getD us⟩ := by
  refine ⟨?_, ?_, ?_, ?_, ?_, ?_, ?_⟩ <;> (intro v hv; rw [hv]; rfl)

theorem civilLt_eq_false_of_le {a b : Civil} (hy : b.year ≤ a.year) (hm : b.month ≤ a.month)
    (hd : b.day ≤ a.day) (hh : b.hour ≤ a.hour) (hmi : b.minute ≤ a.minute)
    (hs : b.second ≤ a.second) (hus : b.micro ≤ a.micro) : civilLt a b = false := by
  simp only [civilLt, decide_eq_false_iff_not]
  omega

/-- One field of `agrees_convex`: where it is specified, `f` and `cl` carry its value, so does a
    datetime between them, which then lies between them on the finer fields. -/
theorem between_step {o : Option Nat} {x a b : Nat} {R₁ R₂ : Prop}
    (ha : ∀ v, o = some v → a = v) (hb : ∀ v, o = some v → b = v)
    (h : o.isSome = true → ¬(x < a ∨ x = a ∧ R₁) ∧ ¬(b < x ∨ b = x ∧ R₂)) :
    (∀ v, o = some v → x = v) ∧ (o.isSome = true → ¬R₁ ∧ ¬R₂) := by
  cases o with
  | none => exact ⟨nofun, nofun⟩
  | some v =>
    have ea := ha v rfl
    have eb := hb v rfl
    have h := h rfl
    have e : x = v := by omega
    exact ⟨fun w hw => by cases hw; exact e, fun _ => ⟨fun r => h.1 (.inr ⟨e.trans ea.symm, r⟩),
      fun r => h.2 (.inr ⟨eb.trans e.symm, r⟩)⟩⟩

theorem ADT.agrees_convex {p : ADT} (hs : p.prefixShaped) {f cl c : Civil} (hf : p.agrees f)
    (hcl : p.agrees cl) (h₁ : civilLt c f = false) (h₂ : civilLt cl c = false) : p.agrees c := by
  obtain ⟨s1, s2, s3, s4, s5, s6⟩ := hs
  obtain ⟨f1, f2, f3, f4, f5, f6, f7⟩ := hf
  obtain ⟨g1, g2, g3, g4, g5, g6, g7⟩ := hcl
  simp only [civilLt, decide_eq_false_iff_not] at h₁ h₂
  -- a specified field has all coarser fields specified, so the descent reaches it
  obtain ⟨a1, b1⟩ := between_step f1 g1 fun _ => ⟨h₁, h₂⟩
  obtain ⟨a2, b2⟩ := between_step f2 g2 fun h => b1 (s1 h)
  obtain ⟨a3, b3⟩ := between_step f3 g3 fun h => b2 (s2 h)
  obtain ⟨a4, b4⟩ := between_step f4 g4 fun h => b3 (s3 h)
  obtain ⟨a5, b5⟩ := between_step f5 g5 fun h => b4 (s4 h)
  obtain ⟨a6, b6⟩ := between_step f6 g6 fun h => b5 (s5 h)
  refine ⟨a1, a2, a3, a4, a5, a6, fun v hv => ?_⟩
  have := b6 (s6 (hv ▸ rfl))
  have := f7 v hv
  have := g7 v hv
  omega

theorem ADT.floor_eq {p : ADT} {y : Nat} (hy : p.year = some y) :
    p.floor = mkDatetime y (p.month.getD 1) (p.day.getD 1) (p.hour.getD 0) (p.minute.getD 0)
      (p.second.getD 0) (p.micro.getD 0) := by
  simp only [ADT.floor, hy]

theorem ADT.ceil_eq {p : ADT} {y : Nat} (hy : p.year = some y) :
    p.ceil = mkDatetime y (p.month.getD 12) (p.day.getD (daysInMonth (isLeap y) (p.month.getD 12)))
      (p.hour.getD 23) (p.minute.getD 59) (p.second.getD 59) (p.micro.getD 999999) := by
  simp only [ADT.ceil, hy]
  cases p.day <;> rfl

theorem floor_ceil (p : ADT) (hw : p.wf) :
    ∃ f cl, p.floor = .ok f ∧ p.ceil = .ok cl ∧ f.valid ∧ cl.valid ∧ p.agrees f ∧ p.agrees cl ∧
      ∀ c : Civil, c.valid → ((civilLt c f = false ∧ civilLt cl c = false) ↔ p.agrees c) := by
  obtain ⟨hs, ⟨k1, k2, k3, k4, k5, k6, k7⟩, y, hy, y1, y9⟩ := hw
  -- a specified day comes with a specified month and lies in it; so must the default
  have hday : ∀ dm dd, (1 ≤ dd ∧ dd ≤ daysInMonth (isLeap y) (p.month.getD dm)) →
      1 ≤ p.day.getD dd ∧ p.day.getD dd ≤ daysInMonth (isLeap y) (p.month.getD dm) := by
    intro dm dd h
    cases e : p.day with
    | none => exact h
    | some d =>
      obtain ⟨m, em⟩ := Option.isSome_iff_exists.1 (hs.2.1 (e ▸ rfl))
      rw [em]
      exact ⟨k2 d e, k3 y m d hy em e⟩
  have hf : 1 ≤ p.month.getD 1 ∧ p.month.getD 1 ≤ 12 := getD_of k1 ⟨Nat.le_refl _, by decide⟩
  have hc : 1 ≤ p.month.getD 12 ∧ p.month.getD 12 ≤ 12 := getD_of k1 ⟨by decide, Nat.le_refl _⟩
  have df := hday 1 1 ⟨Nat.le_refl _, Nat.le_trans (by decide) (dim_bounds _ _ hf.1 hf.2).1⟩
  have dc := hday 12 _ ⟨Nat.le_trans (by decide) (dim_bounds _ _ hc.1 hc.2).1, Nat.le_refl _⟩
  have ht : ∀ {h0 m0 s0 u0 : Nat}, h0 ≤ 23 → m0 ≤ 59 → s0 ≤ 59 → u0 ≤ 999999 →
      p.hour.getD h0 < 24 ∧ p.minute.getD m0 < 60 ∧ p.second.getD s0 < 60 ∧
        p.micro.getD u0 < 1000000 :=
    fun h1 h2 h3 h4 => ⟨Nat.lt_succ_of_le (getD_of k4 h1), Nat.lt_succ_of_le (getD_of k5 h2),
      Nat.lt_succ_of_le (getD_of k6 h3), Nat.lt_succ_of_le (getD_of k7 h4)⟩
  have vf : Civil.valid ⟨y, p.month.getD 1, p.day.getD 1, p.hour.getD 0, p.minute.getD 0,
      p.second.getD 0, p.micro.getD 0⟩ :=
    ⟨y1, y9, hf.1, hf.2, df.1, df.2, ht (Nat.zero_le _) (Nat.zero_le _) (Nat.zero_le _) (Nat.zero_le _)⟩
  have vcl : Civil.valid ⟨y, p.month.getD 12,
      p.day.getD (daysInMonth (isLeap y) (p.month.getD 12)), p.hour.getD 23, p.minute.getD 59,
      p.second.getD 59, p.micro.getD 999999⟩ :=
    ⟨y1, y9, hc.1, hc.2, dc.1, dc.2, ht (Nat.le_refl _) (Nat.le_refl _) (Nat.le_refl _) (Nat.le_refl _)⟩
  have af := agrees_getD p y 1 1 0 0 0 0
  have acl := agrees_getD p y 12 (daysInMonth (isLeap y) (p.month.getD 12)) 23 59 59 999999
  simp only [hy, Option.getD_some] at af acl
  refine ⟨_, _, ?_, ?_, vf, vcl, af, acl, fun c ⟨c1, c2, c3, c4, c5, c6, c7, c8, c9, c10⟩ =>
    ⟨fun h => ADT.agrees_convex hs af acl h.1 h.2, fun ⟨a1, a2, a3, a4, a5, a6, a7⟩ => ?_⟩⟩
  · exact (ADT.floor_eq hy).trans (if_pos vf)
  · exact (ADT.ceil_eq hy).trans (if_pos vcl)
  · -- the unspecified fields of `c` lie between their lowest and highest values
    have ey : c.year = y := a1 y hy
    have hd : c.day ≤ daysInMonth (isLeap y) (p.month.getD 12) := by
      rw [ey] at c6
      cases e : p.month with
      | none => exact Nat.le_trans c6 (dim_bounds _ _ c3 c4).2
      | some m => rw [a2 m e] at c6; exact c6
    have b2 := getD_le_getD a2 c3 c4
    have b3 := getD_le_getD a3 c5 hd
    have b4 := getD_le_getD a4 (Nat.zero_le _) (Nat.le_of_lt_succ c7)
    have b5 := getD_le_getD a5 (Nat.zero_le _) (Nat.le_of_lt_succ c8)
    have b6 := getD_le_getD a6 (Nat.zero_le _) (Nat.le_of_lt_succ c9)
    have b7 := getD_le_getD a7 (Nat.zero_le _) (Nat.le_of_lt_succ c10)
    exact ⟨civilLt_eq_false_of_le (Nat.le_of_eq ey.symm) b2.1 b3.1 b4.1 b5.1 b6.1 b7.1,
      civilLt_eq_false_of_le (Nat.le_of_eq ey) b2.2 b3.2 b4.2 b5.2 b6.2 b7.2⟩

theorem civilLt_false_iff (a b : Civil) (ha : a.valid) (hb : b.valid) :
    civilLt a b = false ↔ civilToLong b ≤ civilToLong a := by
  rw [← Bool.not_eq_true, ← civilToLong_lt_iff a b ha hb, Int.not_lt]

theorem civilLt_of_le_of_lt {a b c : Civil} (ha : a.valid) (hb : b.valid) (hc : c.valid)
    (h1 : civilLt b a = false) (h2 : civilLt b c = true) : civilLt a c = true :=
  (civilToLong_lt_iff a c ha hc).1 (Int.lt_of_le_of_lt ((civilLt_false_iff b a hb ha).1 h1)
    ((civilToLong_lt_iff b c hb hc).2 h2))

theorem civilLt_of_lt_of_le {a b c : Civil} (ha : a.valid) (hb : b.valid) (hc : c.valid)
    (h1 : civilLt a b = true) (h2 : civilLt c b = false) : civilLt a c = true :=
  (civilToLong_lt_iff a c ha hc).1 (Int.lt_of_lt_of_le ((civilToLong_lt_iff a b ha hb).2 h1)
    ((civilLt_false_iff c b hc hb).1 h2))

theorem civilLt_false_trans {a b c : Civil} (ha : a.valid) (hb : b.valid) (hc : c.valid)
    (h1 : civilLt b a = false) (h2 : civilLt c b = false) : civilLt c a = false :=
  (civilLt_false_iff c a hc ha).2 (Int.le_trans ((civilLt_false_iff b a hb ha).1 h1)
    ((civilLt_false_iff c b hc hb).1 h2))

theorem rangeBound_ok {cs : List Nat} {p : ADT} {c : Civil} (lowerSide excl : Bool)
    (hp : parseDatestring cs = .ok p)
    (hc : (if (lowerSide != excl) = true then p.floor else p.ceil) = .ok c) :
    rangeBound cs lowerSide excl = .ok (civilToLong c) := by
  unfold rangeBound
  rw [hp]
  simp only [bind, Except.bind, pure, Except.pure]
  split at hc <;> rename_i hb <;> simp [hb, hc]

/-- One side of `parse_range`: an absent bound stays absent. -/
def optBound (o : Option (List Nat)) (lowerSide excl : Bool) : Except Err (Option Int) :=
  match o with
  | none => pure none
  | some cs => (rangeBound cs lowerSide excl).map some

theorem parseRange_eq (start end_ : Option (List Nat)) (sx ex : Bool)
    (h : ¬(start = none ∧ end_ = none)) :
    parseRange start end_ sx ex =
      (do let a ← optBound start true sx
          let b ← optBound end_ false ex
          pure (some (a, b))) := by
  cases start <;> cases end_ <;> first | exact absurd ⟨rfl, rfl⟩ h | rfl

theorem parseQuery_ok {cs : List Nat} {p : ADT} {f cl : Civil} (hp : parseDatestring cs = .ok p)
    (hf : p.floor = .ok f) (hcl : p.ceil = .ok cl) :
    parseQuery cs = .ok (if p.ambiguous = true then .range (civilToLong f) (civilToLong cl)
      else .term (civilToLong f)) := by
  unfold parseQuery
  simp only [hp, hf, hcl]
  split <;> rfl

/-- Where `_ord2ymd`'s `(n + 50) >> 5` comes from: month `k` begins on or after day `32 k - 50` and ends
    before day `32 k + 15` (0-based days of the year), so the estimate is the month of day `n` or the one after. -/
theorem month_estimate : ∀ (leap : Bool) (k : Fin 13), 1 ≤ k.val →
    32 * k.val ≤ daysBeforeMonth leap k.val + 50 ∧
      daysBeforeMonth leap (k.val + 1) + 49 < 32 * (k.val + 2) := by decide

theorem month_of_day (leap : Bool) (n : Nat) : ∀ j, n < daysBeforeMonth leap (j + 1) →
    ∃ k, 1 ≤ k ∧ k ≤ j ∧ daysBeforeMonth leap k ≤ n ∧ n < daysBeforeMonth leap (k + 1)
  | 0, h => absurd h (Nat.not_lt_zero n)
  | j + 1, h =>
    if hj : daysBeforeMonth leap (j + 1) ≤ n then ⟨j + 1, Nat.succ_pos j, Nat.le_refl _, hj, h⟩
    else
      have ⟨k, h1, h2, h3⟩ := month_of_day leap n j (Nat.lt_of_not_le hj)
      ⟨k, h1, Nat.le_succ_of_le h2, h3⟩

theorem monthDay_spec (leap : Bool) (n : Nat) (h : n < daysBeforeMonth leap 13) :
    1 ≤ (monthDay leap n).1 ∧ (monthDay leap n).1 ≤ 12 ∧ 1 ≤ (monthDay leap n).2 ∧
    (monthDay leap n).2 ≤ daysInMonth leap (monthDay leap n).1 ∧
    daysBeforeMonth leap (monthDay leap n).1 + (monthDay leap n).2 = n + 1 := by
  obtain ⟨k, k1, k12, lo, hi⟩ := month_of_day leap n 12 h
  obtain ⟨e1, e2⟩ := month_estimate leap ⟨k, by omega⟩ k1
  have hi' : n < daysBeforeMonth leap k + daysInMonth leap k := hi
  simp only at e1 e2
  -- the estimate is `k` or `k + 1`, and the correction step lands on `k`
  have e : monthDay leap n = (k, n - daysBeforeMonth leap k + 1) := by
    unfold monthDay
    simp only [Nat.shiftRight_eq_div_pow]
    rcases (by omega : (n + 50) / 2 ^ 5 = k ∨ (n + 50) / 2 ^ 5 = k + 1) with m | m
    · rw [m, if_neg (Nat.not_lt.mpr lo)]
    · rw [m, if_pos hi]
      show (k, n - (daysBeforeMonth leap k + daysInMonth leap k - daysInMonth leap k) + 1) = _
      rw [Nat.add_sub_cancel]
  rw [e]
  simp only
  omega

/-- The year with digits `a b c e` in the cycles of 400, 100, 4 and 1 years. -/
theorem dby_decomp (a b c e : Nat) (hb : b ≤ 3) (hc : c ≤ 24) (he : e ≤ 3) :
    daysBeforeYear (a * 400 + 1 + b * 100 + c * 4 + e) =
      146097 * a + 36524 * b + 1461 * c + 365 * e := by
  have := dby_add (a * 400 + b * 100 + c * 4 + e)
  rw [show a * 400 + 1 + b * 100 + c * 4 + e = a * 400 + b * 100 + c * 4 + e + 1 by omega]
  omega

theorem leap_decomp (a b c e : Nat) (hb : b ≤ 3) (hc : c ≤ 24) (he : e ≤ 3) :
    isLeap (a * 400 + 1 + b * 100 + c * 4 + e) = decide (e = 3 ∧ (c ≠ 24 ∨ b = 3)) := by
  rw [Bool.eq_iff_iff, isLeap_iff, decide_eq_true_eq]
  omega

theorem ordinal_digits {a b c e q y : Nat} (hy : y = a * 400 + 1 + b * 100 + c * 4 + e)
    (hb : b ≤ 3) (hc : c ≤ 24) (he : e ≤ 3) (hq : q < 365 ∨ q = 365 ∧ isLeap y = true) :
    dateOk y (monthDay (isLeap y) q).1 (monthDay (isLeap y) q).2 ∧
      ordinal y (monthDay (isLeap y) q).1 (monthDay (isLeap y) q).2 =
        146097 * a + 36524 * b + 1461 * c + 365 * e + q + 1 := by
  obtain ⟨t1, t2, t3, t4, t5⟩ := monthDay_spec (isLeap y) q (by
    rw [dbm_13]
    rcases hq with h | ⟨h, l⟩
    · omega
    · rw [if_pos l]; omega)
  unfold ordinal
  rw [hy, dby_decomp a b c e hb hc he] at *
  exact ⟨⟨by omega, t1, t2, t3, t4⟩, by omega⟩

theorem div_mod_digits (n k : Nat) (hk : 0 < k) :
    ∃ q r, n / k = q ∧ n % k = r ∧ n = k * q + r ∧ r < k :=
  ⟨_, _, rfl, rfl, (Nat.div_add_mod n k).symm, Nat.mod_lt n hk⟩

theorem ord2ymd_spec (n : Nat) (h1 : 1 ≤ n) :
    dateOk (ord2ymd n).1 (ord2ymd n).2.1 (ord2ymd n).2.2 ∧
    ordinal (ord2ymd n).1 (ord2ymd n).2.1 (ord2ymd n).2.2 = n := by
  obtain ⟨N, rfl⟩ := Nat.exists_eq_add_of_le' h1
  unfold ord2ymd
  simp only [Nat.add_sub_cancel]
  -- the digits of `N` in the cycles of 400, 100, 4 and 1 years
  obtain ⟨a, r₁, ea, er₁, rfl, l₁⟩ := div_mod_digits N 146097 (by decide)
  simp only [ea, er₁]
  obtain ⟨b, r₂, eb, er₂, rfl, l₂⟩ := div_mod_digits r₁ 36524 (by decide)
  simp only [eb, er₂]
  obtain ⟨c, r₃, ec, er₃, rfl, l₃⟩ := div_mod_digits r₂ 1461 (by decide)
  simp only [ec, er₃]
  obtain ⟨e, q, ee, eq, rfl, l₄⟩ := div_mod_digits r₃ 365 (by decide)
  simp only [ee, eq]
  clear ea er₁ eb er₂ ec er₃ ee eq h1
  by_cases hx : e = 4 ∨ b = 4
  · simp only [hx, if_true]
    -- day 366 of the year before, which is a leap year
    obtain ⟨b', c', hY, hb', hc', hlp, hN'⟩ : ∃ b' c', a * 400 + 1 + b * 100 + c * 4 + e - 1 =
        a * 400 + 1 + b' * 100 + c' * 4 + 3 ∧ b' ≤ 3 ∧ c' ≤ 24 ∧ (c' ≠ 24 ∨ b' = 3) ∧
        146097 * a + (36524 * b + (1461 * c + (365 * e + q))) =
          146097 * a + 36524 * b' + 1461 * c' + 365 * 3 + 365 := by
      rcases hx with rfl | rfl
      · obtain ⟨rfl, hb, hc⟩ : q = 0 ∧ b ≤ 3 ∧ c ≤ 23 := by omega
        exact ⟨b, c, rfl, hb, Nat.le_succ_of_le hc, .inl (Nat.ne_of_lt (Nat.lt_succ_of_le hc)),
          by omega⟩
      · obtain ⟨rfl, rfl, rfl⟩ : c = 0 ∧ e = 0 ∧ q = 0 := by omega
        exact ⟨3, 24, by omega, Nat.le_refl _, Nat.le_refl _, .inr rfl, by omega⟩
    have hL : isLeap (a * 400 + 1 + b * 100 + c * 4 + e - 1) = true := by
      rw [hY, leap_decomp a b' c' 3 hb' hc' (Nat.le_refl _)]; simpa using hlp
    have := ordinal_digits hY hb' hc' (Nat.le_refl _) (.inr ⟨rfl, hL⟩)
    rw [hL, show monthDay true 365 = (12, 31) by decide] at this
    rw [hN']
    exact this
  · simp only [hx, if_false]
    have hb3 : b ≤ 3 := by omega
    have hc24 : c ≤ 24 := by omega
    have he3 : e ≤ 3 := by omega
    rw [← leap_decomp a b c e hb3 hc24 he3, show 146097 * a + (36524 * b + (1461 * c + (365 * e + q))) =
      146097 * a + 36524 * b + 1461 * c + 365 * e + q by omega]
    exact ordinal_digits rfl hb3 hc24 he3 (.inl l₄)

theorem seconds_split {h mi s : Nat} (hmi : mi < 60) (hs : s < 60) :
    (h * 3600 + mi * 60 + s) / 3600 = h ∧ (h * 3600 + mi * 60 + s) / 60 % 60 = mi ∧
      (h * 3600 + mi * 60 + s) % 60 = s := by
  omega

theorem ord2ymd_ordinal (c : Civil) (hc : c.valid) :
    ord2ymd (ordinal c.year c.month c.day) = (c.year, c.month, c.day) := by
  have hd := hc.dateOk
  obtain ⟨s, e⟩ := ord2ymd_spec _ (ordinal_pos hd)
  obtain ⟨e1, e2, e3⟩ := (ordinal_lt_eq_iff s hd).2.1 e
  exact Prod.ext e1 (Prod.ext e2 e3)

theorem boolToBytes_inj (a b : Bool) : boolToBytes (.obj a) = boolToBytes (.obj b) ↔ a = b := by
  cases a <;> cases b <;> decide

end WM.NumericDate
