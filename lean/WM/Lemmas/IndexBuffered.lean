import WM.Lemmas.IndexTerm
/-! BufferedWriter: every call sees committed + buffered documents; flushes and `close()` lose nothing. -/
namespace WM.Index
open WM.Dict

/-- invariant of a buffered writer between calls -/
structure BInv (b : Buffered) : Prop where
  wwf : b.writer.WF
  rwf : b.ram.WF
  rfit : ∀ d ∈ b.ram.docs, d.fits b.writer.schema = true
  ndocs : b.writer.ndocs = []
  added : b.writer.added = false
  count : b.count = 0 → b.ram.docs = []
  plan : PlanOK b.plan

theorem emptySeg_wf : emptySeg.WF := ⟨by simp [emptySeg], by simp [emptySeg], by simp [emptySeg, allPostings], by simp [emptySeg]⟩

theorem BInv.readSegs_wf {b : Buffered} (hi : BInv b) : ∀ s ∈ b.readSegs, s.WF :=
  forall_mem_snoc hi.wwf.segs hi.rwf

theorem BInv.ram_live {b : Buffered} (hi : BInv b) : b.ram.liveDocs.map (restrict b.writer.schema) = b.ram.liveDocs :=
  map_restrict_of_fits _ _ (fun d hd => hi.rfit d (liveDocs_mem_docs _ d hd))

theorem Buffered.content_eq (b : Buffered) (hi : BInv b) :
    b.content = contentOf b.writer.schema b.writer.segs ++ b.ram.liveDocs := by
  rw [Buffered.content, Buffered.readSegs, contentOf_append, contentOf_singleton, hi.ram_live]

theorem Buffered.close_spec (b : Buffered) (hi : BInv b) :
    Yields b.close fun t => t.WF ∧ t.schema = b.writer.schema ∧ t.content.Perm b.content := by
  -- the writer that commits holds the live buffered documents as its own, whether or not `add_reader` ran
  have hflush : Yields (if b.count > 0 then b.writer.addReader b.ram else .ok b.writer) fun w1 =>
      w1.WF ∧ w1.schema = b.writer.schema ∧ w1.segs = b.writer.segs ∧ w1.ndocs = b.ram.liveDocs ∧
      (w1.added = false → w1.ndocs = []) := by
    split
    · obtain ⟨w1, h1, wf1⟩ := Writer.addReader_ok b.writer b.ram hi.wwf hi.rwf
      obtain ⟨a1, a2, a4, a5⟩ := Writer.addReader_fields h1
      exact ⟨w1, h1, wf1, a1, a2, by rw [a5, hi.ndocs, List.nil_append, hi.ram_live], fun h => by rw [a4] at h; cases h⟩
    · next hc =>
      exact .ok ⟨hi.wwf, rfl, rfl, by simp [hi.ndocs, Seg.liveDocs, Seg.liveIdx, hi.count (by omega)], fun _ => hi.ndocs⟩
  refine hflush.bind ?_
  rintro w1 ⟨wf1, a1, a2, a5, hna⟩
  obtain ⟨t, h2, wft⟩ := Writer.commitPlan_ok w1 b.plan wf1 (hi.plan.sub _)
  have hp := Writer.commitPlan_content_perm hi.plan h2
    (fun d hd => a1 ▸ hi.rfit d (liveDocs_mem_docs _ d (a5 ▸ hd))) hna
  rw [a1, a2, a5, ← Buffered.content_eq b hi] at hp
  exact ⟨t, h2, wft, (Writer.commitPlan_schema h2).trans a1, hp⟩

theorem Buffered.commit_eq_close (b : Buffered) :
    b.commit = b.close.map fun t => { b with writer := t.writer, ram := emptySeg, count := 0 } := by
  unfold Buffered.commit Buffered.close
  cases (if b.count > 0 then b.writer.addReader b.ram else Except.ok b.writer) <;> rfl

theorem Buffered.commit_spec (b : Buffered) (hi : BInv b) :
    Yields b.commit fun b' => BInv b' ∧ b'.writer.schema = b.writer.schema ∧ b'.content.Perm b.content := by
  rw [Buffered.commit_eq_close]
  refine (Buffered.close_spec b hi).map ?_
  rintro t ⟨wft, hs, hc⟩
  refine ⟨⟨Toc.writer_wf t wft, emptySeg_wf, by simp [emptySeg], rfl, rfl, fun _ => rfl, hi.plan⟩, hs, ?_⟩
  have : contentOf t.schema [emptySeg] = [] := rfl
  simpa only [Buffered.content, Buffered.readSegs, contentOf_append, Toc.writer, Toc.content, this, List.append_nil] using hc

theorem liveDocs_append_doc (s : Seg) (d : DocRec) (posts : List Posting) (hr : ∀ n ∈ s.deleted, n < s.docCountAll) :
    ({ docs := s.docs ++ [d], posts := posts, deleted := s.deleted } : Seg).liveDocs = s.liveDocs ++ [d] := by
  have hnm : s.docs.length ∉ s.deleted := fun hm => Nat.lt_irrefl _ (hr _ hm)
  simp [Seg.liveDocs, Seg.liveIdx, Seg.isDeleted, List.zipIdx_append, hnm]

theorem Buffered.addDocument_spec (b : Buffered) (hi : BInv b) (d : DocRec) (hf : d.fits b.writer.schema = true) :
    Yields (b.addDocument d) fun b' => BInv b' ∧ b'.writer.schema = b.writer.schema ∧ b'.content.Perm (b.content ++ [d]) := by
  let ram' : Seg := { docs := b.ram.docs ++ [d]
                      posts := (b.ram.posts ++ docPostings d b.ram.docs.length).mergeSort Posting.le
                      deleted := b.ram.deleted }
  let b1 : Buffered := { b with ram := ram', count := b.count + 1 }
  have hram : ram'.WF := by
    refine ⟨hi.rwf.delNodup, fun n hn => ?_, ?_, Posting.sortOrder.sorted _⟩
    · exact Nat.lt_of_lt_of_le (hi.rwf.delRange n hn) (by simp [ram', Seg.docCountAll])
    · refine (List.mergeSort_perm _ _).trans ?_
      show (b.ram.posts ++ docPostings d b.ram.docs.length).Perm (allPostings (b.ram.docs ++ [d]))
      rw [allPostings_append, allPostings_singleton, Nat.zero_add]
      exact hi.rwf.posts.append_right _
  have hi1 : BInv b1 :=
    ⟨hi.wwf, hram, fun x hx => (List.mem_append.mp hx).elim (hi.rfit x) (fun hx => List.mem_singleton.mp hx ▸ hf),
      hi.ndocs, hi.added, fun h => absurd h (Nat.succ_ne_zero _), hi.plan⟩
  have hc1 : b1.content = b.content ++ [d] := by
    rw [Buffered.content_eq b1 hi1, Buffered.content_eq b hi]
    show _ ++ ram'.liveDocs = _
    rw [liveDocs_append_doc b.ram d _ hi.rwf.delRange, List.append_assoc]
  have hstep : b.addDocument d = if b1.count ≥ b1.limit then b1.commit else .ok b1 := by
    simp only [Buffered.addDocument, hf, Bool.not_true, Bool.false_eq_true, if_false]
    rfl
  rw [hstep, ← hc1]
  split
  · exact Buffered.commit_spec b1 hi1
  · exact .ok ⟨hi1, rfl, List.Perm.refl _⟩

theorem Buffered.adds_spec (b : Buffered) (hi : BInv b) (docs : List DocRec)
    (hf : ∀ d ∈ docs, d.fits b.writer.schema = true) :
    Yields (docs.foldlM (fun b d => b.addDocument d) b) fun b' => BInv b' ∧ b'.content.Perm (b.content ++ docs) := by
  induction docs generalizing b with
  | nil => exact .ok ⟨hi, by simp⟩
  | cons d r ih =>
    rw [List.foldlM_cons]
    refine (Buffered.addDocument_spec b hi d (hf d List.mem_cons_self)).bind ?_
    rintro b1 ⟨hi1, hs1, hc1⟩
    refine (ih b1 hi1 fun x hx => hs1 ▸ hf x (List.mem_cons_of_mem _ hx)).mono ?_
    rintro b' ⟨hi', hc'⟩
    refine ⟨hi', hc'.trans ?_⟩
    simpa [List.append_assoc] using hc1.append_right r

theorem Buffered.deleteDocument_spec (b : Buffered) (hi : BInv b) (q : DocRec × Nat) (hq : q ∈ liveGlobal b.readSegs 0) :
    Yields (b.deleteDocument q.2) fun b' => BInv b' ∧ b'.writer.schema = b.writer.schema ∧
      liveGlobal b'.readSegs 0 = (liveGlobal b.readSegs 0).filter (fun p => p.2 != q.2) := by
  simp only [Buffered.readSegs, liveGlobal_append, Nat.zero_add, List.mem_append, List.filter_append] at hq ⊢
  unfold Buffered.deleteDocument
  by_cases hlt : q.2 < docCountAllSegs b.writer.segs
  · -- a committed document: the underlying writer deletes it, the RAM segment lies above `q.2`
    obtain ⟨w', h1, f1, l1⟩ := Writer.deleteDocument_ok b.writer q.2 hlt
    refine ⟨{ b with writer := w' }, by simp only [hlt, if_true, h1, Except.map], ?_, f1.schema, ?_⟩
    · exact ⟨Writer.deleteDocument_wf hi.wwf h1, hi.rwf, f1.schema ▸ hi.rfit, f1.ndocs ▸ hi.ndocs,
        f1.added ▸ hi.added, hi.count, hi.plan⟩
    · rw [f1.total, l1, liveGlobal_filter_ne_self [b.ram] _ q.2 (Or.inl hlt)]
  · -- a buffered document: `x` is its entry in the RAM segment, the writer's segments lie below `q.2`
    have hq2 : q ∈ liveGlobal [b.ram] (docCountAllSegs b.writer.segs) :=
      hq.resolve_left (fun hq => hlt (by simpa using liveGlobal_lt b.writer.segs 0 q hq))
    obtain ⟨x, hx, hxq⟩ := List.mem_map.mp (show q ∈ b.ram.liveIdx.map _ by simpa only [liveGlobal, List.append_nil] using hq2)
    have hloc : q.2 - docCountAllSegs b.writer.segs = x.2 := by rw [← hxq]; simp
    have hxlt := liveIdx_lt b.ram x hx
    refine ⟨{ b with ram := b.ram.deleteDocument x.2 true }, ?_, ?_, rfl, ?_⟩
    · simp only [hlt, if_false, hloc, hxlt, liveIdx_live b.ram x hx, decide_true, Bool.not_false, Bool.and_self, if_true]
    · exact { hi with rwf := Seg.deleteDocument_wf b.ram x.2 true hi.rwf hxlt
                      rfit := by rw [Seg.deleteDocument_docs]; exact hi.rfit
                      count := by rw [Seg.deleteDocument_docs]; exact hi.count }
    · rw [liveGlobal_filter_ne_self b.writer.segs 0 q.2 (Or.inr (by omega)), liveGlobal_singleton_delete, ← hxq]

theorem Buffered.deleteMany_spec (b : Buffered) (hi : BInv b) (ns : List Nat) (hn : ns.Nodup)
    (hl : ∀ n ∈ ns, ∃ q ∈ liveGlobal b.readSegs 0, q.2 = n) :
    Yields (b.deleteMany ns) fun b' => BInv b' ∧ b'.writer.schema = b.writer.schema ∧
      liveGlobal b'.readSegs 0 = (liveGlobal b.readSegs 0).filter (fun p => !ns.contains p.2) := by
  induction ns generalizing b with
  | nil => exact .ok ⟨hi, rfl, (List.filter_eq_self.mpr (fun _ _ => rfl)).symm⟩
  | cons n r ih =>
    rw [List.nodup_cons] at hn
    obtain ⟨q, hq, rfl⟩ := hl n List.mem_cons_self
    rw [Buffered.deleteMany, List.foldlM_cons]
    refine (Buffered.deleteDocument_spec b hi q hq).bind ?_
    rintro b1 ⟨hi1, s1, l1⟩
    refine (ih b1 hi1 hn.2 (by
      intro m hm
      obtain ⟨p, hp, rfl⟩ := hl m (List.mem_cons_of_mem _ hm)
      exact ⟨p, l1 ▸ List.mem_filter.mpr ⟨hp, bne_iff_ne.mpr (fun he => hn.1 (he ▸ hm))⟩, rfl⟩)).mono ?_
    rintro b2 ⟨hi2, s2, l2⟩
    exact ⟨hi2, s2.trans s1, by rw [l2, l1, filter_not_contains_cons]⟩

/-- side conditions per call, on the dictionary state -/
def BOpOK (sp : State) : Op → Prop
  | .add _ => True
  | .update d => ∀ ft ∈ uniqTerms sp.schema d, (sp.docs.filter (fun c => c.hasTerm ft.1 ft.2)).length ≤ 1
  | .delBy (.pred _) => True
  | .delBy (.term f t) => ∀ c ∈ sp.docs, termCount sp.schema f t c ≤ 1
  | _ => False

def BRunOK : State → List Op → Prop
  | _, [] => True
  | sp, o :: r => BOpOK sp o ∧ BRunOK (flatStep sp o) r

/-- Buffered writer `b`, between calls, shows its own reader the documents of dictionary state `sp`, in some order. -/
structure BRel (b : Buffered) (sp : State) : Prop where
  inv : BInv b
  schema : sp.schema = b.writer.schema
  docs : b.content.Perm sp.docs

theorem BRel.deleteMany {b : Buffered} {sp : State} (h : BRel b sp) (ns : List Nat) (c : DocRec → Bool) (hn : ns.Nodup)
    (hs : Selects (liveGlobal b.readSegs 0) (fun x => c (restrict b.writer.schema x.1)) ns) :
    Yields (b.deleteMany ns) fun b' => BRel b' { sp with docs := sp.docs.filter (fun d => !c d) } := by
  refine (Buffered.deleteMany_spec b h.inv ns hn
    (fun n hn => by obtain ⟨x, hx, he, _⟩ := (hs n).mp hn; exact ⟨x, hx, he⟩)).mono ?_
  rintro b' ⟨hi', s1, l1⟩
  refine ⟨hi', h.schema.trans s1.symm, ?_⟩
  rw [Buffered.content, s1, hs.contentOf l1]
  exact h.docs.filter _

theorem BRel.step_add {b : Buffered} {sp : State} (h : BRel b sp) (d : DocRec) :
    BRel (b.step (.add d)) (flatStep sp (.add d)) := by
  by_cases hf : d.fits b.writer.schema = true
  · obtain ⟨b', h1, hi', hs', hc'⟩ := Buffered.addDocument_spec b h.inv d hf
    simp only [Buffered.step, h1, flatStep, if_pos (h.schema ▸ hf)]
    exact ⟨hi', h.schema.trans hs'.symm, hc'.trans (h.docs.append_right _)⟩
  · have hf0 : d.fits b.writer.schema = false := by simpa using hf
    simp only [Buffered.step, Buffered.addDocument, hf0, Bool.not_false, if_true, flatStep, if_neg (h.schema ▸ hf)]
    exact h

theorem Buffered.step_update_eq (b : Buffered) (d : DocRec) :
    b.step (.update d) = match b.deleteMany (findUnique b.writer.schema b.readSegs (uniqTerms b.writer.schema d)) with
      | .ok b1 => b1.step (.add d)
      | .error _ => b := by
  simp only [Buffered.step, Buffered.updateDocument]
  cases b.deleteMany (findUnique b.writer.schema b.readSegs (uniqTerms b.writer.schema d)) with
  | error e => rfl
  | ok b1 => simp only; cases b1.addDocument d <;> rfl

/-- Without the side condition a buffered document that carries the term twice is listed twice, and its second
    deletion raises. -/
theorem Buffered.deleteByQuery_spec (b : Buffered) (sp : State) (h : BRel b sp) (q : Query) (hok : BOpOK sp (.delBy q)) :
    Yields (b.deleteByQuery q) fun (b', n) =>
      n = (sp.docs.filter (C07.denote q)).length ∧ BRel b' (flatStep sp (.delBy q)) := by
  have hwf := h.inv.readSegs_wf
  have hone : ∀ f t, q = .term f t → ∀ x ∈ liveGlobal b.readSegs 0, termCount b.writer.schema f t x.1 ≤ 1 := by
    rintro f t rfl x hx
    have hm : restrict b.writer.schema x.1 ∈ b.content := by
      rw [Buffered.content, contentOf_eq_liveGlobal _ _ 0]
      exact List.mem_map.mpr ⟨x, hx, rfl⟩
    have := hok _ (h.docs.mem_iff.mp hm)
    rwa [h.schema, termCount, restrict_idem] at this
  refine (h.deleteMany _ (C07.denote q)
    ((docsForQuery_perm b.writer.schema q b.readSegs hwf hone).nodup_iff.mpr (map_snd_filter_nodup _ (liveGlobal_pairwise _ _) _))
    (docsForQuery_selects b.writer.schema q b.readSegs hwf)).map fun b' hr => ⟨?_, by cases q <;> exact hr⟩
  rw [docsForQuery_length b.writer.schema q b.readSegs hwf hone, ← Buffered.content, (h.docs.filter _).length_eq]

theorem buffered_step (b : Buffered) (sp : State) (h : BRel b sp) (op : Op) (hok : BOpOK sp op) :
    BRel (b.step op) (flatStep sp op) := by
  cases op with
  | add d => exact h.step_add d
  | update d =>
    -- `_find_unique` yields duplicate-free numbers of live documents: exactly those sharing a unique term
    obtain ⟨b1, h1, hr⟩ := h.deleteMany (findUnique b.writer.schema b.readSegs (uniqTerms b.writer.schema d))
      (sharesUnique (uniqTerms b.writer.schema d)) (eraseDups_nodup _)
      (findUnique_selects b.writer.schema b.readSegs _ h.inv.readSegs_wf
        (fun ft hft => (h.docs.filter _).length_eq ▸ hok ft (h.schema ▸ hft)))
    have hadd := hr.step_add d
    rw [Buffered.step_update_eq, h1]
    simp only [flatStep, h.schema] at hadd ⊢
    split
    · next hf => simpa only [if_pos hf] using hadd
    · next hf => simpa only [if_neg hf, List.append_nil] using hadd
  | delBy q =>
    obtain ⟨⟨b', n⟩, h1, -, hr⟩ := Buffered.deleteByQuery_spec b sp h q hok
    simp only [Buffered.step, h1]
    exact hr
  | delDoc n => exact hok.elim
  | undelDoc n => exact hok.elim
  | addField f u => exact hok.elim
  | removeField f => exact hok.elim

end WM.Index
