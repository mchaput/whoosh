import WM.Lemmas.SearchSpec
/-!
Compound operators of `WM.Compile` (tree folds of any valid shape, `orMany` with its three
strategies) against pointwise specifications.
-/
namespace WM.Compile

abbrev PSpec := Nat → Option Rat

/-- the compiled list `l` against the pointwise specification `sp`.  That `l` is ascending is part of the relation:
    every operator law (`OpSpec`) asks it of its arguments and gives it of its result. -/
def AgreeP (sc : Bool) (l : PL) (sp : PSpec) : Prop := Sorted l ∧ ∀ i, R sc (lookup l i) (sp i)

def AgreeL (sc : Bool) : List PL → List PSpec → Prop
  | [], [] => True
  | m :: ms, sp :: sps => AgreeP sc m sp ∧ AgreeL sc ms sps
  | _, _ => False

theorem AgreeP.congr {sc : Bool} {l : PL} {sp sp' : PSpec} (h : AgreeP sc l sp) (he : ∀ i, sp i = sp' i) :
    AgreeP sc l sp' :=
  ⟨h.1, fun i => he i ▸ h.2 i⟩

theorem agreeP_nil (sc : Bool) {sp : PSpec} (h : ∀ i, sp i = none) : AgreeP sc [] sp :=
  ⟨sorted_nil, fun i => by rw [h i]; exact R.refl _ _⟩

theorem AgreeP.pos {m : PL} {sp : PSpec} (h : AgreeP true m sp) (hp : ∀ i v, sp i = some v → 0 < v) :
    ∀ e ∈ m, 0 < e.score :=
  fun e he => hp e.id e.score (((h.2 e.id).2 rfl).symm.trans (lookup_of_mem h.1 he))

theorem AgreeL.length {sc : Bool} : ∀ {ms : List PL} {sps : List PSpec}, AgreeL sc ms sps → ms.length = sps.length := by
  intro ms sps h
  fun_induction AgreeL sc ms sps with
  | case1 => rfl
  | case2 m ms sp sps ih => exact congrArg Nat.succ (ih h.2)
  | case3 => cases h

theorem AgreeL.exists_of_mem {sc : Bool} {ms : List PL} {sps : List PSpec} (h : AgreeL sc ms sps) :
    ∀ m ∈ ms, ∃ sp ∈ sps, AgreeP sc m sp := by
  fun_induction AgreeL sc ms sps with
  | case1 => nofun
  | case2 m ms sp sps ih =>
    intro x hx
    rcases List.mem_cons.mp hx with rfl | hx
    · exact ⟨sp, List.mem_cons_self, h.1⟩
    · obtain ⟨sp', hs, ha⟩ := ih h.2 x hx
      exact ⟨sp', List.mem_cons_of_mem _ hs, ha⟩
  | case3 => cases h

theorem AgreeL.sorted {sc : Bool} : ∀ {ms : List PL} {sps : List PSpec}, AgreeL sc ms sps → ∀ m ∈ ms, Sorted m :=
  fun h m hm => have ⟨_, _, ha⟩ := h.exists_of_mem m hm; ha.1

theorem AgreeL.foldr {sc : Bool} {F : Option Rat → Option Rat → Option Rat}
    (hF : ∀ x y x' y', R sc x y → R sc x' y' → R sc (F x x') (F y y')) (e : Option Rat) (i : Nat)
    {ms : List PL} {sps : List PSpec} (h : AgreeL sc ms sps) :
    R sc ((ms.map (fun m => lookup m i)).foldr F e) ((sps.map (fun sp => sp i)).foldr F e) := by
  fun_induction AgreeL sc ms sps with
  | case1 => exact R.refl sc e
  | case2 m ms sp sps ih => exact hF _ _ _ _ (h.1.2 i) (ih h.2)
  | case3 => cases h

theorem AgreeL.map {sc : Bool} (g : PL → PL) (gs : PSpec → PSpec)
    (hg : ∀ m sp, AgreeP sc m sp → AgreeP sc (g m) (gs sp)) {ms : List PL} {sps : List PSpec}
    (h : AgreeL sc ms sps) : AgreeL sc (ms.map g) (sps.map gs) := by
  fun_induction AgreeL sc ms sps with
  | case1 => trivial
  | case2 m ms sp sps ih => exact ⟨hg m sp h.1, ih h.2⟩
  | case3 => cases h

theorem OpSpec.agree {op : PL → PL → PL} {F : Option Rat → Option Rat → Option Rat} (hop : OpSpec op F)
    {sc sc' : Bool} (hR : ∀ x y x' y', R sc x y → R sc' x' y' → R sc (F x x') (F y y'))
    {a b : PL} {spa spb : PSpec} (ha : AgreeP sc a spa) (hb : AgreeP sc' b spb) :
    AgreeP sc (op a b) (fun i => F (spa i) (spb i)) :=
  ⟨hop.sorted a b ha.1 hb.1, fun i => by rw [hop.lookup a b ha.1 hb.1]; exact hR _ _ _ _ (ha.2 i) (hb.2 i)⟩

theorem foldShape_agree {sc : Bool} {op : PL → PL → PL} {F : Option Rat → Option Rat → Option Rat}
    {e : Option Rat} (hop : OpSpec op F) (hF : Monoidal F e)
    (hR : ∀ x y x' y', R sc x y → R sc x' y' → R sc (F x x') (F y y'))
    {ms : List PL} {sps : List PSpec} (h : AgreeL sc ms sps) {sh : Shape} (hv : sh.Valid ms.length) :
    AgreeP sc (foldShape op ms sh) (fun i => (sps.map (fun sp => sp i)).foldr F e) := by
  have hfs := foldShape_spec hop hF (AgreeL.sorted h) sh
  refine ⟨hfs.1, fun i => ?_⟩
  rw [hfs.2 i, hF.foldr_perm (List.Perm.map _ hv), map_range_getD ms [] (fun m => lookup m i)]
  exact AgreeL.foldr hR e i h

theorem guard_congr {L c c' : Prop} [Decidable L] [Decidable c] [Decidable c'] {x : Option Rat}
    (h : L → (c ↔ c')) : (if L ∧ c then x else none) = if L ∧ c' then x else none := by
  simp only [and_congr_right h]

theorem boostL_agree {sc : Bool} (w : Rat) {m : PL} {sp : PSpec} (h : AgreeP sc m sp) :
    AgreeP sc (boostL w m) (fun i => (sp i).map (· * w)) :=
  ⟨boostL_sorted w h.1, fun i => by rw [lookup_boostL]; exact R.map _ (h.2 i)⟩

theorem constL_agree {sc sc' : Bool} (c : Rat) {m : PL} {sp : PSpec} (h : AgreeP sc' m sp) :
    AgreeP sc (constL c m) (fun i => (sp i).map (fun _ => c)) :=
  ⟨constL_sorted c h.1, fun i => by rw [lookup_constL]; exact R.const c (h.2 i)⟩

theorem filter_id_agree {sc : Bool} {l : PL} {sp : PSpec} (P : Nat → Bool) (h : AgreeP sc l sp) :
    AgreeP sc (l.filter (fun e => P e.id)) (fun i => if P i = true then sp i else none) :=
  ⟨h.1.filter _, fun i => by rw [lookup_filter]; exact (h.2 i).ite⟩

theorem foldr_add_map_mul (b : Rat) (xs : List (Option Rat)) :
    (xs.map (fun x => x.map (· * b))).foldr (optMerge (· + ·)) none =
      (xs.foldr (optMerge (· + ·)) none).map (· * b) := by
  induction xs with
  | nil => rfl
  | cons x xs ih =>
    simp only [List.map_cons, List.foldr_cons, ih]
    cases x <;> cases (List.foldr (optMerge fun x1 x2 => x1 + x2) none xs) <;> simp [optMerge, Rat.add_mul]

theorem foldr_add_isSome (xs : List (Option Rat)) :
    (xs.foldr (optMerge (· + ·)) none).isSome = xs.any (·.isSome) := by
  induction xs with
  | nil => rfl
  | cons x xs ih =>
    simp only [List.foldr_cons, List.any_cons, ← ih]
    cases x <;> cases (List.foldr (optMerge fun x1 x2 => x1 + x2) none xs) <;> simp [optMerge]

/-- the positivity the array union needs -/
def PosSpecs (sc : Bool) (sps : List PSpec) : Prop :=
  sc = true → ∀ sp ∈ sps, ∀ i v, sp i = some v → 0 < v

theorem unionAll_agree {sc : Bool} {ms : List PL} {sps : List PSpec} (h : AgreeL sc ms sps) :
    AgreeP sc (unionAll ms) (fun i => (sps.map (fun sp => sp i)).foldr (optMerge (· + ·)) none) := by
  have hu := unionAll_spec (AgreeL.sorted h)
  refine ⟨hu.1, fun i => ?_⟩
  rw [hu.2 i]
  exact AgreeL.foldr (fun _ _ _ _ => R.optMerge) none i h

theorem unionAll_boostL_pos {P : Nat → Prop} {b : Rat} (hb : 0 < b) {ms : List PL}
    (h : ∀ m ∈ ms, ∀ e ∈ m, 0 < e.score ∧ P e.id) : ∀ e ∈ unionAll (ms.map (boostL b)), 0 < e.score ∧ P e.id := by
  refine unionAll_forall (P := fun e => 0 < e.score ∧ P e.id)
    (fun x y hx hy _ => ⟨add_pos_of_pos_of_nonneg hx.1 (Rat.le_of_lt hy.1), hx.2⟩) _ ?_
  intro m' hm' e he
  obtain ⟨m, hm, rfl⟩ := List.mem_map.mp hm'
  obtain ⟨e0, he0, rfl⟩ := List.mem_map.mp he
  exact ⟨Rat.mul_pos (h m hm e0 he0).1 hb, (h m hm e0 he0).2⟩

theorem orMany_agree {ctx : Ctx} {dc : Nat} {sh : Shape} {ms : List PL} {sps : List PSpec} {b : Rat}
    (h : AgreeL ctx.scored ms sps) (hv : sh.Valid ms.length) (hb : 0 < b) (hpos : PosSpecs ctx.scored sps) :
    AgreeP ctx.scored (orMany ctx dc sh ms b)
      (fun i => ((sps.map (fun sp => sp i)).foldr (optMerge (· + ·)) none).map (· * b)) := by
  unfold orMany
  split
  · exact boostL_agree b (foldShape_agree (mergeWith_opSpec _) add_monoidal (fun _ _ _ _ => R.optMerge) h hv)
  · split
    · -- array union, scored: it accumulates score * boost and keeps the positive cells, which is all of them
      rename_i hsc
      have hposall := unionAll_boostL_pos (P := fun _ => True) hb fun m hm e he =>
        have ⟨sp, hsp, ha⟩ := h.exists_of_mem m hm
        ⟨(hsc ▸ ha : AgreeP true m sp).pos (hpos hsc sp hsp) e he, trivial⟩
      rw [arrayParts_pos _ _ fun e he => (hposall e he).1]
      refine (unionAll_agree (AgreeL.map (boostL b) (fun sp i => (sp i).map (· * b))
        (fun m sp hm => boostL_agree b hm) h)).congr fun i => ?_
      rw [List.map_map, ← foldr_add_map_mul, List.map_map]
      rfl
    · rename_i hsc
      rw [Bool.not_eq_true] at hsc
      rw [hsc] at h ⊢
      -- unscored agreement only sees which documents are there
      have hc := constL_agree (sc := false) 1 (unionAll_agree h)
      exact ⟨hc.1, fun i => ⟨(hc.2 i).1.trans (by rw [Option.isSome_map, Option.isSome_map]), nofun⟩⟩

/-- the none / one / many split of `CompoundQuery.matcher`, for a compound whose specification `sp` is nowhere defined
    without clauses and the boosted `F`-fold of the clauses' specifications otherwise (for one clause that is the clause
    boosted, by `hF.idr`); of `many` only what it does to two or more lists is asked -/
theorem compoundL_agree {sc : Bool} {many : List PL → PL} {b : Rat} {F : Option Rat → Option Rat → Option Rat}
    {e : Option Rat} (hF : Monoidal F e) {sp : PSpec} :
    ∀ {ms : List PL} {sps : List PSpec}, AgreeL sc ms sps →
      (sps = [] → ∀ i, sp i = none) →
      (sps ≠ [] → ∀ i, sp i = ((sps.map (fun sp => sp i)).foldr F e).map (· * b)) →
      (2 ≤ ms.length → AgreeP sc (many ms) sp) → AgreeP sc (compoundL many b ms) sp
  | [], [], _, h0, _, _ => agreeP_nil sc (h0 rfl)
  | [m], [sp1], h, _, h1, _ =>
    (boostL_agree b h.1).congr fun i => by
      rw [h1 (List.cons_ne_nil _ _) i, List.map_cons, List.map_nil, List.foldr_cons, List.foldr_nil, hF.idr]
  | _ :: _ :: _, _, _, _, _, h2 => h2 (by simp)
  | [], _ :: _, h, _, _, _ => by cases h
  | [_], [], h, _, _, _ => by cases h
  | [_], _ :: _ :: _, h, _, _, _ => by cases h.2

theorem compoundL_tree_agree {sc : Bool} {op : PL → PL → PL} {F : Option Rat → Option Rat → Option Rat}
    {e : Option Rat} (hop : OpSpec op F) (hF : Monoidal F e)
    (hR : ∀ x y x' y', R sc x y → R sc x' y' → R sc (F x x') (F y y'))
    {ms : List PL} {sps : List PSpec} (h : AgreeL sc ms sps) {sh : Shape} (hv : 2 ≤ ms.length → sh.Valid ms.length)
    {b : Rat} {sp : PSpec} (h0 : sps = [] → ∀ i, sp i = none)
    (hsp : sps ≠ [] → ∀ i, sp i = ((sps.map (fun sp => sp i)).foldr F e).map (· * b)) :
    AgreeP sc (compoundL (fun ms => boostL b (foldShape op ms sh)) b ms) sp :=
  compoundL_agree hF h h0 hsp fun h2 =>
    (boostL_agree b (foldShape_agree hop hF hR h (hv h2))).congr fun i =>
      (hsp (fun hn => by rw [h.length, hn] at h2; cases h2) i).symm

theorem compoundL_orMany_agree {ctx : Ctx} {dc : Nat} {sh : Shape} {ms : List PL} {sps : List PSpec} {b : Rat}
    (h : AgreeL ctx.scored ms sps) (hv : 2 ≤ ms.length → sh.Valid ms.length) (hb : 0 < b)
    (hpos : PosSpecs ctx.scored sps) :
    AgreeP ctx.scored (compoundL (fun ms => orMany ctx dc sh ms b) b ms)
      (fun i => ((sps.map (fun sp => sp i)).foldr (optMerge (· + ·)) none).map (· * b)) :=
  compoundL_agree add_monoidal h (fun h0 i => by rw [h0]; rfl) (fun _ _ => rfl)
    fun h2 => orMany_agree h (hv h2) hb hpos

end WM.Compile
