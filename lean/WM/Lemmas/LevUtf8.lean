import WM.Lemmas.FindMatches
/-! UTF-8 byte order is code-point order, and the term-cursor walk over the byte-ordered term
dictionary is the walk over the code-point-ordered lexicon.

`W3FieldCursor.find` compares UTF-8 *bytes*; the automaton (`next_valid_string`) works on code
points.  The bridge is a property of the encoding alone: it is strictly monotone
(`utf8_lt_iff`), hence injective, hence "first key `≥` in byte order" is "first term `≥` in code
point order" (`cursor_enc` - stated for any strictly monotone encoding, `cursorFindBytes_eq` for
UTF-8).  What remains specific to UTF-8 is that the string handed to `cur.find` must be encodable,
i.e. free of surrogates: `NextValidSpec` guarantees it (the least accepted string *of real
characters*). -/
namespace WM.Lev

/-! ### Order of the encoded characters

An encoded character is a lead byte - a marker that announces the number of continuation bytes,
plus the high bits of the code point - followed by the remaining bits in groups of six. -/

/-- The least code point with `n` continuation bytes. -/
def firstCode : Nat → Nat
  | 0 => 0
  | 1 => 0x80
  | 2 => 0x800
  | _ => 0x10000

/-- The marker bits of a lead byte that announces `n` continuation bytes. -/
def leadMark : Nat → Nat
  | 0 => 0
  | 1 => 0xC0
  | 2 => 0xE0
  | _ => 0xF0

/-- `n` continuation bytes: the low `6 n` bits of `c`, most significant first. -/
def contBytes : Nat → Nat → List Nat
  | 0, _ => []
  | n + 1, c => contBytes n (c / 64) ++ [0x80 + c % 64]

/-- The layout, read once off the model's four branches: a code point in the range of `n`
    continuation bytes is encoded as a lead byte and `n` digits. -/
theorem utf8Char_eq (c : Nat) : ∃ n, n ≤ 3 ∧ firstCode n ≤ c ∧ (n < 3 → c < firstCode (n + 1)) ∧
    utf8Char c = (leadMark n + c / 64 ^ n) :: contBytes n c := by
  unfold utf8Char
  by_cases h1 : c < 0x80
  · exact ⟨0, by decide, Nat.zero_le c, fun _ => h1, by rw [if_pos h1]; simp [leadMark, contBytes]⟩
  · rw [if_neg h1]
    by_cases h2 : c < 0x800
    · exact ⟨1, by decide, Nat.le_of_not_lt h1, fun _ => h2, by rw [if_pos h2]; simp [leadMark, contBytes]⟩
    · rw [if_neg h2]
      by_cases h3 : c < 0x10000
      · exact ⟨2, by decide, Nat.le_of_not_lt h2, fun _ => h3, by rw [if_pos h3]; simp [leadMark, contBytes]⟩
      · exact ⟨3, by decide, Nat.le_of_not_lt h3, fun h => absurd h (Nat.lt_irrefl 3),
          by rw [if_neg h3]; simp [leadMark, contBytes, Nat.div_div_eq_div_mul]⟩

theorem firstCode_mono : ∀ n, n ≤ 3 → ∀ m, m < n → firstCode (m + 1) ≤ firstCode n := by decide
theorem leadMark_mono : ∀ n, n ≤ 3 → ∀ m, m < n → leadMark (m + 1) ≤ leadMark n := by decide

theorem leadByte_lt {c n : Nat} (hn : n < 3) (h : c < firstCode (n + 1)) :
    leadMark n + c / 64 ^ n < leadMark (n + 1) := by
  obtain _ | _ | _ | n := n
  · exact Nat.lt_trans (Nat.add_lt_add_left (Nat.div_lt_of_lt_mul (k := 0x80) h) 0) (by decide)
  · exact Nat.add_lt_add_left (Nat.div_lt_of_lt_mul (k := 32) h) 0xC0
  · exact Nat.add_lt_add_left (Nat.div_lt_of_lt_mul (k := 16) h) 0xE0
  · exact absurd hn (Nat.not_lt.mpr (Nat.le_add_left 3 n))

/-- Digits of fixed width, most significant first, are ordered like the numbers they spell. -/
theorem contBytes_append_lt (n : Nat) {a b : Nat} (h : a < b) (hhi : a / 64 ^ n = b / 64 ^ n)
    (x y : List Nat) : contBytes n a ++ x < contBytes n b ++ y := by
  induction n generalizing a b x y with
  | zero => rw [Nat.pow_zero, Nat.div_one, Nat.div_one] at hhi; omega
  | succ n ih =>
    rw [Nat.pow_succ', ← Nat.div_div_eq_div_mul, ← Nat.div_div_eq_div_mul] at hhi
    simp only [contBytes, List.append_assoc, List.cons_append, List.nil_append]
    rcases Nat.lt_or_eq_of_le (Nat.div_le_div_right (c := 64) (Nat.le_of_lt h)) with hlt | heq
    · exact ih hlt hhi _ _
    · rw [heq]
      exact List.append_left_lt (List.cons_lt_cons_iff.mpr (Or.inl (by omega)))

/-- The encoding of a smaller character is smaller *at a byte inside the character* (UTF-8 is
    prefix free and its lead bytes and continuation bytes are ordered like the code points), so
    whatever follows does not matter.  No range restriction is needed for the order. -/
theorem utf8Char_append_lt {a b : Nat} (h : a < b) (x y : List Nat) :
    utf8Char a ++ x < utf8Char b ++ y := by
  obtain ⟨n, hn, hna, han, ea⟩ := utf8Char_eq a
  obtain ⟨m, hm, hmb, hbm, eb⟩ := utf8Char_eq b
  rw [ea, eb, List.cons_append, List.cons_append, List.cons_lt_cons_iff]
  rcases Nat.lt_trichotomy n m with hnm | rfl | hmn
  · -- a shorter encoding: its lead byte lies below the marker of every longer one
    have hn3 := Nat.lt_of_lt_of_le hnm hm
    exact Or.inl (Nat.lt_of_lt_of_le (leadByte_lt hn3 (han hn3))
      (Nat.le_trans (leadMark_mono m hm n hnm) (Nat.le_add_right _ _)))
  · rcases Nat.lt_or_eq_of_le (Nat.div_le_div_right (c := 64 ^ n) (Nat.le_of_lt h)) with hd | hd
    · exact Or.inl (Nat.add_lt_add_left hd _)
    · exact Or.inr ⟨by rw [hd], contBytes_append_lt _ h hd x y⟩
  · -- a longer encoding for the smaller character: impossible, the ranges are in order
    exact absurd (Nat.lt_of_lt_of_le (hbm (Nat.lt_of_lt_of_le hmn hn))
      (Nat.le_trans (firstCode_mono n hn m hmn) hna)) (Nat.lt_asymm h)

theorem utf8_cons (c : Nat) (s : List Nat) : utf8 (c :: s) = utf8Char c ++ utf8 s := by
  simp [utf8]

theorem utf8_lt {s t : List Nat} (h : s < t) : utf8 s < utf8 t := by
  induction s generalizing t with
  | nil =>
    cases t with
    | nil => exact absurd h (List.lt_irrefl _)
    | cons b t =>
      obtain ⟨_, _, _, _, e⟩ := utf8Char_eq b
      rw [utf8_cons, e]
      exact List.nil_lt_cons _ _
  | cons a s ih =>
    cases t with
    | nil => exact absurd h (List.not_lt_nil _)
    | cons b t =>
      rw [utf8_cons, utf8_cons]
      rcases List.cons_lt_cons_iff.mp h with hab | ⟨rfl, hst⟩
      · exact utf8Char_append_lt hab _ _
      · exact List.append_left_lt (ih hst)

theorem utf8_lt_iff (s t : List Nat) : utf8 s < utf8 t ↔ s < t := by
  refine ⟨fun h => List.not_le.mp fun hle => ?_, utf8_lt⟩
  rcases List.le_iff_lt_or_eq.mp hle with h' | rfl
  · exact List.lt_asymm h (utf8_lt h')
  · exact List.lt_irrefl _ h

theorem utf8_le_iff (s t : List Nat) : utf8 s ≤ utf8 t ↔ s ≤ t := by
  rw [← List.not_lt, ← List.not_lt, utf8_lt_iff]

theorem utf8_injective {s t : List Nat} (h : utf8 s = utf8 t) : s = t := by
  apply List.le_antisymm
  · rw [← utf8_le_iff, h]; exact List.le_refl _
  · rw [← utf8_le_iff, h]; exact List.le_refl _

theorem cursor_enc (enc : List Nat → List Nat) (henc : ∀ s t, enc s < enc t ↔ s < t)
    (lex : List (List Nat)) (term : List Nat) :
    (lex.find? fun t => lexLe (enc term) (enc t)) = cursorFind lex term := by
  unfold cursorFind
  congr 1
  funext t
  rw [Bool.eq_iff_iff, lexLe_iff, lexLe_iff, ← List.not_lt, ← List.not_lt, henc]

theorem cursorFindBytes_eq (lex : List (List Nat)) {term : List Nat} (h : Valid term) :
    cursorFindBytes lex term = .ok (cursorFind lex term) := by
  unfold cursorFindBytes utf8Encode
  rw [if_pos (List.all_eq_true.mpr fun c hc => (scalar_iff c).mp (h c hc))]
  simp only
  rw [cursor_enc utf8 utf8_lt_iff]

/-- A surrogate cannot be looked up: this is why `find_next_edge` must not produce one. -/
theorem cursorFindBytes_surrogate (lex : List (List Nat)) :
    cursorFindBytes lex [97, 0xD800] = .error .encodeError := by
  simp [cursorFindBytes, utf8Encode, isScalar, maxCodePoint]

/-- The term dictionary: strictly ascending key bytes. -/
def SortedBytes (lex : List (List Nat)) : Prop := (lex.map utf8).Pairwise (· < ·)

theorem sortedBytes_iff (lex : List (List Nat)) : SortedBytes lex ↔ SortedLex lex := by
  unfold SortedBytes SortedLex
  rw [List.pairwise_map]
  constructor
  · intro h; exact h.imp fun hab => (utf8_lt_iff _ _).mp hab
  · intro h; exact h.imp fun hab => (utf8_lt_iff _ _).mpr hab

theorem findLoopBytes_eq (nv : List Nat → Except Err (Option (List Nat)))
    (hnv : ∀ s x, Valid s → nv s = .ok (some x) → Valid x) (lex : List (List Nat)) (hv : ∀ t, t ∈ lex → Valid t) :
    ∀ (fuel : Nat) (m : Option (List Nat)), (∀ x, m = some x → Valid x) →
      findLoopBytes nv lex fuel m = findLoop nv lex fuel m := by
  intro fuel
  induction fuel with
  | zero => intro m _; cases m <;> rfl
  | succ fuel ih =>
    intro m hm
    cases m with
    | none => rfl
    | some x =>
      rw [findLoopBytes, findLoop, cursorFindBytes_eq lex (hm x rfl)]
      cases hc : cursorFind lex x with
      | none => rfl
      | some term =>
        have hvt : Valid term := hv term (List.mem_of_find?_eq_some hc)
        by_cases heq : x = term
        · simp only [if_pos heq]
          cases hr : nv (term ++ [0]) with
          | error e => rfl
          | ok m' => simp only [ih m' fun y hy => hnv _ y (valid_snoc_zero hvt) (hy ▸ hr)]
        · simp only [if_neg heq]
          cases hr : nv term with
          | error e => rfl
          | ok m' => simp only [ih m' fun y hy => hnv _ y hvt (hy ▸ hr)]

theorem findMatchesBytes_eq (nv : List Nat → Except Err (Option (List Nat)))
    (hnv : ∀ s x, Valid s → nv s = .ok (some x) → Valid x) (lex : List (List Nat)) (hv : ∀ t, t ∈ lex → Valid t) :
    findMatchesBytes nv lex = findMatches nv lex := by
  unfold findMatchesBytes findMatches
  cases hh : lex.head? with
  | none => rfl
  | some t0 =>
    simp only
    cases hr : nv t0 with
    | error e => rfl
    | ok m =>
      exact findLoopBytes_eq nv hnv lex hv _ m
        fun y hy => hnv _ y (hv t0 (List.mem_of_mem_head? hh)) (hy ▸ hr)

end WM.Lev
