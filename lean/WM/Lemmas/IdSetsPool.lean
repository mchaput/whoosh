import WM.Lemmas.IdSetsGeneric
import WM.Spec.IdSetPool
/-! Pool programs (`WM.IdSets.Pool`) refine the specification `WM.Spec.IdSet.SPool`: one `Inner.*_spec` per
operation of a register, and `Refines` carried through reading and assigning registers. -/
namespace WM.IdSets
open WM.Spec.IdSet (binop SPool)

theorem Inner.asOther_items (s : Inner) : s.asOther.items = s.iter := by cases s <;> rfl

theorem Inner.bin_spec (a : Inner) (ha : a.Ok) (op : BinOp) (o : Other) :
    Yields (a.bin op o) fun r => r.Ok ∧ r.iter = binop op a.iter o.items := by
  cases a with
  | bits x =>
    cases op with
    | union => exact .ok ⟨trivial, iter_union x o⟩
    | inter => exact .ok ⟨trivial, iter_intersection x o⟩
    | diff => exact .ok ⟨trivial, iter_difference x o⟩
  | sorted d =>
    cases op with
    | union =>
      simp only [Inner.bin, sisUpdate_spec ha o]
      exact .ok ⟨WM.Spec.IdSet.sorted_union ha, rfl⟩
    | inter => exact .ok ⟨List.Pairwise.filter _ ha, filter_other d o⟩
    | diff => exact .ok ⟨List.Pairwise.filter _ ha, filter_not_other d o⟩

theorem Inner.upd_spec (a : Inner) (ha : a.Ok) (op : BinOp) (o : Other) :
    Yields (a.upd op o) fun r => r.Ok ∧ r.iter = binop op a.iter o.items := by
  cases a with
  | bits x =>
    cases op with
    | union => exact .ok ⟨trivial, iter_update x o⟩
    | inter => exact .ok ⟨trivial, iter_intersectionUpdate x o⟩
    | diff => exact .ok ⟨trivial, iter_differenceUpdate x o⟩
  | sorted d =>
    cases op with
    | union => exact Inner.bin_spec (.sorted d) ha .union o
    | inter => exact Inner.bin_spec (.sorted d) ha .inter o
    | diff => exact Inner.bin_spec (.sorted d) ha .diff o

theorem Inner.clear_spec (s : Inner) : s.clear.Ok ∧ s.clear.iter = [] := by
  cases s with
  | bits b => exact ⟨trivial, iter_clear b⟩
  | sorted d => exact ⟨List.Pairwise.nil, rfl⟩

/-- `invert` on a register: a `SortedIntSet` only when all members are below `size` (the generic
    `DocIdSet.invert_update` keeps larger members — recorded finding, see `sisInvertUpdate_exact`). -/
theorem Inner.invert_spec (s : Inner) (h : s.Ok) (size : Nat)
    (hdom : ∀ d, s = .sorted d → ∀ x ∈ d, x < size) :
    Yields (s.invert size) fun s' => s'.Ok ∧ s'.iter = WM.Spec.IdSet.invert size s.iter := by
  cases s with
  | bits b => exact (iter_invertUpdate b size).map fun _ hi => ⟨trivial, hi⟩
  | sorted d =>
    simp only [Inner.invert, sisInvertUpdate_of_lt h size (hdom d rfl)]
    exact .ok ⟨WM.Spec.IdSet.sorted_invert, rfl⟩

def Pool.Ok (p : Pool) : Prop := ∀ s ∈ p, s.Ok

/-- what a step needs beyond well-formed registers: `invert` on a `SortedIntSet` register only with
    all members below `size` (recorded finding otherwise), loaded sets well-formed. -/
def PoolOp.InDomain (p : Pool) : PoolOp → Prop
  | .invert _ a size => ∀ d, p[a]? = some (.sorted d) → ∀ x ∈ d, x < size
  | .invupd a size => ∀ d, p[a]? = some (.sorted d) → ∀ x ∈ d, x < size
  | .load _ x => x.Ok
  | _ => True

/-- model result vs specification result: both reject the program (a register that does not
    exist), or both succeed, the registers stay well-formed and their abstractions agree. -/
def Refines : Except Err Pool → Option SPool → Prop
  | .ok p', some sp' => Pool.Ok p' ∧ p'.map Inner.iter = sp'
  | .error .index, none => True
  | _, _ => False

theorem refines_assign_val (p : Pool) (hok : p.Ok) (dst : Nat) (x : Inner) (hx : x.Ok) :
    Refines (p.assign dst x) (SPool.assign (p.map Inner.iter) dst x.iter) := by
  unfold Pool.assign SPool.assign
  rw [List.length_map]
  by_cases h : dst < p.length
  · simp only [h, ↓reduceIte, Refines]
    refine ⟨?_, by rw [List.map_set]⟩
    intro s hs
    rcases List.mem_or_eq_of_mem_set hs with h1 | h1
    · exact hok s h1
    · exact h1 ▸ hx
  · simp only [h, ↓reduceIte, Refines]

theorem refines_reg {p : Pool} (hok : p.Ok) (a : Nat) {k : Inner → Except Err Pool}
    {k' : List Nat → Option SPool} (h : ∀ x, p[a]? = some x → x.Ok → Refines (k x) (k' x.iter)) :
    Refines (p.reg a >>= k) ((p.map Inner.iter)[a]? >>= k') := by
  unfold Pool.reg
  rw [List.getElem?_map]
  cases ha : p[a]? with
  | none => exact trivial
  | some x => exact h x ha (hok x (List.mem_of_getElem? ha))

theorem refines_assign {p : Pool} (hok : p.Ok) (dst : Nat) {f : Except Err Inner} {s : List Nat}
    (h : Yields f fun r => r.Ok ∧ r.iter = s) :
    Refines (f >>= p.assign dst) (SPool.assign (p.map Inner.iter) dst s) := by
  obtain ⟨r, rfl, hr, rfl⟩ := h
  exact refines_assign_val p hok dst r hr

theorem pool_step_refines (p : Pool) (hok : p.Ok) (op : PoolOp) (hd : op.InDomain p) :
    Refines (p.step op) (SPool.step (p.map Inner.iter) op) := by
  cases op with
  | bin o dst a b =>
    exact refines_reg hok a fun x _ hx => refines_reg hok b fun y _ _ => refines_assign hok dst
      (Inner.asOther_items y ▸ Inner.bin_spec x hx o y.asOther)
  | upd o a b =>
    exact refines_reg hok a fun x _ hx => refines_reg hok b fun y _ _ => refines_assign hok a
      (Inner.asOther_items y ▸ Inner.upd_spec x hx o y.asOther)
  | add a i =>
    exact refines_reg hok a fun x _ hx => refines_assign hok a
      ((Inner.add_spec x hx i).mono fun _ h => ⟨h.1, h.2.2⟩)
  | discard a i =>
    exact refines_reg hok a fun x _ hx => refines_assign hok a
      ((Inner.discard_spec x hx i).mono fun _ h => ⟨h.1, h.2.2⟩)
  | clear a =>
    exact refines_reg hok a fun x _ _ => (Inner.clear_spec x).2 ▸ refines_assign_val p hok a x.clear (Inner.clear_spec x).1
  | invert dst a size =>
    exact refines_reg hok a fun x ha hx => refines_assign hok dst
      (Inner.invert_spec x hx size fun d e => hd d (e ▸ ha))
  | invupd a size =>
    exact refines_reg hok a fun x ha hx => refines_assign hok a
      (Inner.invert_spec x hx size fun d e => hd d (e ▸ ha))
  | copy dst a => exact refines_reg hok a fun x _ hx => refines_assign_val p hok dst x hx
  | load dst x =>
    simp only [Pool.step, SPool.step]
    rw [WM.Spec.IdSet.ofList_sorted (Inner.Ok.sorted_iter hd)]
    exact refines_assign_val p hok dst x hd

/-- the domain condition along a whole run -/
def Pool.DomAll : Pool → List PoolOp → Prop
  | _, [] => True
  | p, op :: ops => op.InDomain p ∧ ∀ p', p.step op = .ok p' → Pool.DomAll p' ops

theorem pool_run_refines : ∀ (ops : List PoolOp) (p : Pool), p.Ok → p.DomAll ops →
    Refines (p.run ops) (SPool.run (p.map Inner.iter) ops)
  | [], p, hok, _ => ⟨hok, rfl⟩
  | op :: ops, p, hok, hd => by
    have hstep := pool_step_refines p hok op hd.1
    unfold Pool.run SPool.run
    cases hm : p.step op with
    | error e =>
      rw [hm] at hstep
      cases hs : SPool.step (p.map Inner.iter) op with
      | none => rw [hs] at hstep; simpa using hstep
      | some sp => rw [hs] at hstep; cases e <;> exact hstep.elim
    | ok p' =>
      rw [hm] at hstep
      cases hs : SPool.step (p.map Inner.iter) op with
      | none => rw [hs] at hstep; exact hstep.elim
      | some sp =>
        rw [hs] at hstep
        simp only
        rw [← hstep.2]
        exact pool_run_refines ops p' hstep.1 (hd.2 p' hm)

end WM.IdSets
