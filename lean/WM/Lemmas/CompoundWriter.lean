import WM.Lemmas.Compound
import WM.Spec.CompoundWriter
/-! The simulation between the streams of `CompoundWriter` and what each of them was given (C20). -/
namespace WM.C20
open WM.Compound

/-- a stream as the specification sees it: its name and the bytes it has received -/
def view (temp : Bytes) (p : String × SubStream) : String × Bytes := (p.1, content temp p.2)

/-- The writer stands for the specification state `s`: every stream is open with its blocks inside the temp file,
    the streams seen through `view` are `s`, and no name occurs twice. -/
structure Sim (w : Writer) (s : List (String × Bytes)) : Prop where
  good : ∀ p ∈ w.streams, Good w.temp p.2
  eq : w.streams.map (view w.temp) = s
  nodup : w.streams.Pairwise fun a b => a.1 ≠ b.1

theorem upd_fst {β} (name : String) (x : β) (p : String × β) :
    (if (p.1 == name) = true then (name, x) else p).1 = p.1 := by
  split
  · exact (beq_iff_eq.mp ‹_›).symm
  · rfl

/-- One stream changes while the temp file grows (`hp`).  `hnew` asks of the new state `ss'` of the stream called
    `name` that it is `Good` in the new temp file and holds `f` of what it held; the other streams read as before. -/
theorem Sim.update {w : Writer} {s : List (String × Bytes)} (h : Sim w s) {temp' : Bytes} (hp : w.temp <+: temp')
    (name : String) (ss' : SubStream) (f : String × Bytes → String × Bytes)
    (hnew : ∀ p ∈ w.streams, p.1 = name → Good temp' ss' ∧ (name, content temp' ss') = f (view w.temp p)) :
    Sim ⟨w.buffersize, temp', w.streams.map fun p => if p.1 == name then (name, ss') else p⟩
      (s.map fun q => if q.1 == name then f q else q) := by
  obtain ⟨hgood, rfl, hnd⟩ := h
  refine ⟨?_, ?_, hnd.map _ fun a b hab => by rwa [upd_fst, upd_fst]⟩
  · intro p hp'
    obtain ⟨a, ha, rfl⟩ := List.mem_map.mp hp'
    by_cases hn : (a.1 == name) = true
    · rw [if_pos hn]; exact (hnew a ha (beq_iff_eq.mp hn)).1
    · rw [if_neg hn]; exact (hgood a ha).mono hp
  · rw [List.map_map, List.map_map]
    apply List.map_congr_left
    intro a ha
    show view temp' (if (a.1 == name) = true then _ else _) = if (a.1 == name) = true then _ else _
    by_cases hn : (a.1 == name) = true
    · rw [if_pos hn, if_pos hn]; exact (hnew a ha (beq_iff_eq.mp hn)).2
    · rw [if_neg hn, if_neg hn]; exact congrArg (Prod.mk a.1) ((hgood a ha).content_eq hp)

theorem step_sim (w : Writer) (s : List (String × Bytes)) (op : Op) (h : Sim w s) :
    Sim (step w op) (specStep s op) := by
  cases op with
  | create name =>
    have hany : s.any (·.1 == name) = w.streams.any (·.1 == name) := by
      rw [← h.eq, List.any_map]; rfl
    simp only [step, specStep, Writer.createFile, hany]
    by_cases hex : w.streams.any (·.1 == name) = true
    · rw [if_pos hex, if_pos hex]
      exact h.update (List.prefix_refl _) name ⟨[], []⟩ (fun _ => (name, [])) fun _ _ _ => ⟨good_empty _, rfl⟩
    · rw [if_neg hex, if_neg hex]
      obtain ⟨hgood, rfl, hnd⟩ := h
      refine ⟨forall_mem_snoc hgood (good_empty _), List.map_append, ?_⟩
      refine List.pairwise_append.mpr ⟨hnd, List.pairwise_singleton _ _, fun a ha b hb hab => hex ?_⟩
      rw [List.mem_singleton.mp hb] at hab
      exact List.any_eq_true.mpr ⟨a, ha, beq_iff_eq.mpr hab⟩
  | write name data =>
    simp only [step, specStep, Writer.write]
    cases hfind : w.streams.find? (·.1 == name) with
    | none =>
      obtain ⟨hgood, rfl, hnd⟩ := h
      refine ⟨hgood, ?_, hnd⟩
      show _ = (w.streams.map (view w.temp)).map _
      rw [List.map_map]
      exact List.map_congr_left fun a ha =>
        (if_neg (show ¬ ((view w.temp a).1 == name) = true from List.find?_eq_none.mp hfind a ha)).symm
    | some found =>
      obtain ⟨nm, ss⟩ := found
      have hfmem := List.mem_of_find?_eq_some hfind
      obtain rfl : nm = name := by simpa using List.find?_some hfind
      have huniq : ∀ p ∈ w.streams, p.1 = nm → p = (nm, ss) := fun p hp hpn =>
        eq_of_pairwise_ne Prod.fst h.nodup hp hfmem hpn
      have hgss : Good w.temp ss := h.good _ hfmem
      dsimp only
      by_cases hflush : ((ss.buffer.length + data.length : Nat) : Int) ≥ w.buffersize
      · rw [if_pos hflush]
        refine h.update (List.append_assoc .. ▸ List.prefix_append ..) nm _ (fun q => (q.1, q.2 ++ data)) fun p hp hpn => ?_
        rw [huniq p hp hpn]
        exact ⟨(hgss.write_flush data).1, congrArg (Prod.mk nm) (hgss.write_flush data).2⟩
      · rw [if_neg hflush]
        refine h.update (List.prefix_refl _) nm _ (fun q => (q.1, q.2 ++ data)) fun p hp hpn => ?_
        rw [huniq p hp hpn]
        exact ⟨(hgss.write_buffer data).1, congrArg (Prod.mk nm) (hgss.write_buffer data).2⟩

end WM.C20
