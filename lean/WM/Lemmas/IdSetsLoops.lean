import WM.Lemmas.IdSetsBits
import WM.Lemmas.Yields
/-! `invert_update`, `__len__`, `__nonzero__`, and the byte-skipping loops of `BaseBitSet.after/before`. -/
namespace WM.IdSets

theorem contains_map_inv (bits : Bits) (j : Nat) :
    contains (bits.map fun b => (255 ^^^ b) &&& 255) j
      = (decide (j / 8 < bits.length) && !contains bits j) := by
  rw [contains_eq, contains_eq, List.getElem?_map]
  by_cases h : j / 8 < bits.length
  · rw [List.getElem?_eq_getElem h]
    have h8 : j % 8 < 8 := Nat.mod_lt j (by decide)
    simp [h, testBit_and_255 _ _ h8, Nat.testBit_xor, testBit_255 _ h8]
  · rw [List.getElem?_eq_none (Nat.le_of_not_lt h)]; simp [h]

theorem dropLast_append_eq_modify {α} (f : α → α) : ∀ (l : List α) (x : α), l.getLast? = some x →
    l.dropLast ++ [f x] = l.modify (l.length - 1) f
  | [a], x, h => by cases h; rfl
  | a :: b :: t, x, h => by
    rw [List.getLast?_cons_cons] at h
    rw [List.dropLast_cons_cons, List.cons_append, dropLast_append_eq_modify f (b :: t) x h]
    rfl

theorem zeroExtraBits_eq_modify {bits : Bits} {n : Nat} (hlen : bits.length = n / 8 + 1) :
    zeroExtraBits bits n = .ok (bits.modify (n / 8) (· &&& (2 ^ (n % 8) - 1))) := by
  unfold zeroExtraBits
  cases hl : bits.getLast? with
  | none => rw [List.getLast?_eq_none_iff] at hl; rw [hl] at hlen; cases hlen
  | some x =>
    simp only
    rw [hlen, Nat.add_sub_cancel, if_neg (Nat.not_lt.mpr (Nat.div_mul_le_self n 8)), Nat.mul_comm, ← Nat.mod_def,
      dropLast_append_eq_modify (· &&& (2 ^ (n % 8) - 1)) bits x hl, hlen, Nat.add_sub_cancel]

theorem mod_lt_mod_iff {j n : Nat} (h : n / 8 = j / 8) : j % 8 < n % 8 ↔ j < n := by
  rw [← Nat.add_lt_add_iff_left (k := 8 * (j / 8)), Nat.div_add_mod, ← h, Nat.div_add_mod]

theorem zeroExtraBits_spec {bits : Bits} {n : Nat} (hlen : bits.length = n / 8 + 1) :
    Yields (zeroExtraBits bits n) fun r => ∀ j, contains r j = (contains bits j && decide (j < n)) := by
  refine ⟨_, zeroExtraBits_eq_modify hlen, fun j => ?_⟩
  rw [contains_modify, contains_eq]
  cases hb : bits[j / 8]? with
  | none => rfl
  | some b =>
    have hj : j / 8 < n / 8 + 1 := hlen ▸ (List.getElem?_eq_some_iff.mp hb).1
    simp only
    by_cases h : n / 8 = j / 8
    · rw [if_pos h, Nat.testBit_and, Nat.testBit_two_pow_sub_one, decide_eq_decide.mpr (mod_lt_mod_iff h)]
    · rw [if_neg h, decide_eq_true (Nat.lt_of_div_lt_div (Nat.lt_of_le_of_ne (Nat.le_of_lt_succ hj) (Ne.symm h))),
        Bool.and_true]

theorem invertUpdate_spec (bits : Bits) (n : Nat) :
    Yields (invertUpdate bits n) fun r => ∀ j, contains r j = (decide (j < n) && !contains bits j) := by
  have hbytes := bytesForBits_eq n
  refine (zeroExtraBits_spec (by rw [List.length_map, length_resize, hbytes])).mono fun r hc j => ?_
  rw [hc, contains_map_inv, contains_resize, length_resize, hbytes]
  by_cases hj : j < n
  · rw [decide_eq_true hj, decide_eq_true (Nat.lt_succ_of_le (Nat.div_le_div_right (Nat.le_of_lt hj)))]; simp
  · rw [decide_eq_false hj]; simp

theorem iter_invertUpdate (bits : Bits) (n : Nat) :
    Yields (invertUpdate bits n) fun r => iter r = WM.Spec.IdSet.invert n (iter bits) := by
  refine (invertUpdate_spec bits n).mono fun r hc => iter_bits_eq WM.Spec.IdSet.sorted_invert fun x => ?_
  rw [WM.Spec.IdSet.mem_invert, hc, mem_iter]; simp

/-- The table of bit counts for `n`-bit numbers: the numbers with bit `n - 1` clear, then those with
    it set, which have one bit more. -/
def onesTable : Nat → List Nat
  | 0 => [0]
  | n + 1 => onesTable n ++ (onesTable n).map (· + 1)

theorem popTable_eq : popTable = onesTable 8 := by decide +kernel

theorem onesTable_eq : ∀ n,
    onesTable n = (List.range (2 ^ n)).map fun b => ((List.range n).filter (hasBit b)).length
  | 0 => rfl
  | n + 1 => by
    rw [onesTable, onesTable_eq n, Nat.pow_succ, Nat.mul_two, List.range_add (n := 2 ^ n), List.map_append,
      List.map_map, List.map_map]
    congr 1 <;> refine List.map_congr_left fun b hb => ?_
    · have hbit : hasBit b n = false := by rw [hasBit_eq_testBit, Nat.testBit_lt_two_pow (List.mem_range.mp hb)]
      simp [List.range_succ, List.filter_append, hbit]
    · have hlow : (List.range n).filter (hasBit (2 ^ n + b)) = (List.range n).filter (hasBit b) :=
        List.filter_congr fun k hk => by
          rw [hasBit_eq_testBit, hasBit_eq_testBit, Nat.testBit_two_pow_add_gt (List.mem_range.mp hk)]
      have hbit : hasBit (2 ^ n + b) n = true := by
        rw [hasBit_eq_testBit, Nat.testBit_two_pow_add_eq, Nat.testBit_lt_two_pow (List.mem_range.mp hb)]; rfl
      simp [List.range_succ, List.filter_append, hlow, hbit]

theorem length_iterByte (base b : Nat) (hb : b < 256) :
    popTable[b]? = some (iterByte base b).length := by
  rw [iterByte_eq, List.length_map, popTable_eq, onesTable_eq, List.getElem?_map, List.getElem?_range hb]
  rfl

theorem len_iterFrom : ∀ (base : Nat) (bs : Bits), (∀ b ∈ bs, b < 256) →
    len bs = .ok (iterFrom base bs).length
  | _, [], _ => rfl
  | base, b :: bs, h => by
    unfold len
    rw [length_iterByte base b (h b (by simp))]
    simp only
    rw [len_iterFrom (base + 8) bs (fun x hx => h x (List.mem_cons_of_mem _ hx))]
    simp [iterFrom, Except.map]

theorem len_spec (bits : Bits) (h : ∀ b ∈ bits, b < 256) : len bits = .ok (iter bits).length :=
  len_iterFrom 0 bits h

theorem contains_of_getElem? {bits : Bits} {k byte : Nat} (h : bits[k / 8]? = some byte) :
    contains bits k = hasBit byte (k % 8) := by
  rw [contains_eq, h, hasBit_eq_testBit]

theorem contains_eq_hasBit {bits : Bits} {b byte : Nat} (h : bits[b]? = some byte) {r : Nat} (hr : r < 8) :
    contains bits (8 * b + r) = hasBit byte r := by
  rw [contains_eq, Nat.mul_add_div (by decide), Nat.div_eq_of_lt hr, Nat.add_zero, Nat.mul_add_mod,
    Nat.mod_eq_of_lt hr, h, hasBit_eq_testBit]

theorem exists_testBit_of_byte {b : Nat} (hb : b < 256) (h0 : b ≠ 0) : ∃ k, k < 8 ∧ b.testBit k = true := by
  obtain ⟨k, hk⟩ := Nat.exists_testBit_of_ne_zero h0
  refine ⟨k, Nat.lt_of_not_le fun h8 => ?_, hk⟩
  rw [Nat.testBit_lt_two_pow (Nat.lt_of_lt_of_le hb (Nat.pow_le_pow_right (n := 2) (by decide) h8))] at hk
  cases hk

theorem nonzero_spec (bits : Bits) (h : ∀ b ∈ bits, b < 256) :
    nonzero bits = true ↔ iter bits ≠ [] := by
  unfold nonzero
  rw [List.any_eq_true]
  constructor
  · rintro ⟨b, hb, hne⟩
    obtain ⟨m, hm, rfl⟩ := List.getElem_of_mem hb
    obtain ⟨k, hk, hbit⟩ := exists_testBit_of_byte (h _ hb) (by simpa using hne)
    exact List.ne_nil_of_mem (mem_iter.mpr
      (by rw [contains_eq_hasBit (List.getElem?_eq_getElem hm) hk, hasBit_eq_testBit, hbit]))
  · intro hne
    obtain ⟨x, hx⟩ := List.exists_mem_of_ne_nil _ hne
    have hc := mem_iter.mp hx
    rw [contains_eq] at hc
    cases hb : bits[x / 8]? with
    | none => rw [hb] at hc; cases hc
    | some b =>
      rw [hb] at hc
      refine ⟨b, List.mem_of_getElem? hb, ?_⟩
      have : b ≠ 0 := fun h0 => by rw [h0] at hc; simp at hc
      simpa using this

/-! ### `after` / `before`

Both loops walk from `i` towards a member and keep `bucket = i / 8`, the byte `contains bits i` reads.  The answer is
read off `iter bits`: the first element `≥ i`, or the last one `< i + 1`; a stretch `[i, j)` without members does not
change it (`le_iff_of_gap`), be it a bit that is not set, a zero byte, or all that lies past the array. -/

theorem le_iff_of_gap {bits : Bits} {i j x : Nat} (hij : i ≤ j)
    (h : ∀ k, i ≤ k → k < j → contains bits k = false) (hx : x ∈ iter bits) : i ≤ x ↔ j ≤ x := by
  refine ⟨fun hi => Nat.le_of_not_lt fun hj => ?_, fun hj => Nat.le_trans hij hj⟩
  have hc := mem_iter.mp hx
  rw [h x hi hj] at hc
  cases hc

theorem find?_ge_skip {bits : Bits} {i j : Nat} (hij : i ≤ j)
    (h : ∀ k, i ≤ k → k < j → contains bits k = false) :
    (iter bits).find? (fun x => decide (i ≤ x)) = (iter bits).find? (fun x => decide (j ≤ x)) :=
  find?_congr fun _ hx => decide_eq_decide.mpr (le_iff_of_gap hij h hx)

theorem filter_lt_skip {bits : Bits} {i j : Nat} (hji : j ≤ i)
    (h : ∀ k, j ≤ k → k < i → contains bits k = false) :
    ((iter bits).filter fun x => decide (x < i)) = (iter bits).filter fun x => decide (x < j) :=
  List.filter_congr fun _ hx => by
    rw [decide_eq_decide, ← Nat.not_le, ← Nat.not_le, le_iff_of_gap hji h hx]

theorem getLast?_filter_lt_none {bits : Bits} {i : Nat} (h : ∀ k, k < i → contains bits k = false) :
    ((iter bits).filter fun x => decide (x < i)).getLast? = none := by
  rw [filter_lt_skip (Nat.zero_le i) fun k _ => h k]
  exact WM.Spec.IdSet.getLast?_filter_eq_none.mpr fun _ _ => rfl

theorem contains_false_of_size_le {bits : Bits} {k : Nat} (h : bits.length * 8 ≤ k) : contains bits k = false := by
  rw [contains_eq, List.getElem?_eq_none ((Nat.le_div_iff_mul_le (Nat.zero_lt_succ 7)).mpr h)]

theorem contains_false_of_not_hasBit {bits : Bits} {i byte : Nat} (hbyte : bits[i / 8]? = some byte)
    (hbit : ¬hasBit byte (i % 8) = true) : ∀ k, i ≤ k → k < i + 1 → contains bits k = false := by
  intro k h1 h2
  obtain rfl := Nat.le_antisymm h1 (Nat.le_of_lt_succ h2)
  rw [contains_of_getElem? hbyte]
  exact (Bool.not_eq_true _).mp hbit

theorem contains_false_of_byte_zero {bits : Bits} {b : Nat} (h : bits[b]? = some 0) :
    ∀ k, b * 8 ≤ k → k < (b + 1) * 8 → contains bits k = false := by
  intro k h1 h2
  rw [contains_eq, Nat.div_eq_of_lt_le h1 h2, h]
  exact Nat.zero_testBit _

theorem lt_succ_div_mul (i : Nat) : i < (i / 8 + 1) * 8 :=
  Nat.mul_comm 8 _ ▸ Nat.lt_mul_div_succ i (Nat.zero_lt_succ 7)

theorem succ_div_eq (i : Nat) : (i + 1) / 8 = if (i + 1) % 8 = 0 then i / 8 + 1 else i / 8 := by
  split
  · next h => exact Nat.succ_div_of_dvd (Nat.dvd_of_mod_eq_zero h)
  · next h => exact Nat.succ_div_of_not_dvd fun hd => h (Nat.mod_eq_zero_of_dvd hd)

theorem afterLoop_spec (bits : Bits) (i bucket : Nat) (hbk : i / 8 = bucket) :
    afterLoop bits (bits.length * 8) i bucket = .ok ((iter bits).find? fun x => decide (i ≤ x)) := by
  fun_induction afterLoop bits (bits.length * 8) i bucket with
  | case1 i bucket hlt hnone =>
    subst hbk
    exact absurd ((Nat.div_lt_iff_lt_mul (by decide)).mpr hlt) (Nat.not_lt.mpr (List.getElem?_eq_none_iff.mp hnone))
  | case2 i bucket hlt hzero ih =>
    subst hbk
    rw [ih (Nat.mul_div_cancel _ (by decide)), find?_ge_skip (i := i) (Nat.le_of_lt (lt_succ_div_mul i))]
    exact fun k h1 => contains_false_of_byte_zero hzero k (Nat.le_trans (Nat.div_mul_le_self i 8) h1)
  | case3 i bucket hlt byte hbyte h0 hbit =>
    subst hbk
    rw [WM.Spec.IdSet.find?_ge_of_mem (sorted_iter bits) (mem_iter.mpr ((contains_of_getElem? hbyte).trans hbit))]
  | case4 i bucket hlt byte hbyte h0 hbit ih =>
    subst hbk
    rw [find?_ge_skip (Nat.le_succ i) (contains_false_of_not_hasBit hbyte hbit)]
    exact ih (succ_div_eq i)
  | case5 i bucket hge =>
    rw [List.find?_eq_none.mpr]
    intro x hx hi
    have hc := mem_iter.mp hx
    rw [contains_false_of_size_le (Nat.le_trans (Nat.le_of_not_lt hge) (of_decide_eq_true hi))] at hc
    cases hc

theorem after_spec (bits : Bits) (i : Int) :
    after bits i = .ok (WM.Spec.IdSet.after (iter bits) i) := by
  unfold after WM.Spec.IdSet.after
  simp only
  split
  · next hge =>
    rw [List.find?_eq_none.mpr]
    intro x hx
    have := contains_lt (mem_iter.mp hx)
    simp only [gt_iff_lt, decide_eq_true_eq]; omega
  · rw [afterLoop_spec _ _ _ rfl]
    congr 1
    apply find?_congr
    intro x _
    rw [decide_eq_decide]
    split <;> omega

theorem beforeLoop_spec (bits : Bits) (i bucket : Nat) (hbk : i / 8 = bucket) (hlt : i < bits.length * 8) :
    beforeLoop bits i bucket = .ok ((iter bits).filter fun x => decide (x < i + 1)).getLast? := by
  fun_induction beforeLoop bits i bucket with
  | case1 i bucket hnone =>
    subst hbk
    exact absurd ((Nat.div_lt_iff_lt_mul (by decide)).mpr hlt) (Nat.not_lt.mpr (List.getElem?_eq_none_iff.mp hnone))
  | case2 i hzero =>
    rw [getLast?_filter_lt_none]
    exact fun k hk => contains_false_of_byte_zero hzero k (Nat.zero_le k) (Nat.lt_of_lt_of_le hk (hbk ▸ lt_succ_div_mul i))
  | case3 i bucket hb0 hzero ih =>
    obtain ⟨b, rfl⟩ := Nat.exists_eq_add_one_of_ne_zero hb0
    have e : (b + 1) * 8 = b * 8 + 7 + 1 := Nat.add_one_mul b 8
    have lo : b * 8 + 7 + 1 ≤ i := by rw [← e, ← hbk]; exact Nat.div_mul_le_self i 8
    rw [filter_lt_skip (Nat.le_succ_of_le lo) fun k h1 h2 =>
      contains_false_of_byte_zero hzero k (e ▸ h1) (Nat.lt_of_lt_of_le h2 (hbk ▸ lt_succ_div_mul i))]
    exact ih (Nat.div_eq_of_lt_le (Nat.le_add_right ..) (e ▸ Nat.lt_succ_self _))
      (Nat.lt_of_le_of_lt (Nat.le_of_lt lo) hlt)
  | case4 i bucket byte hbyte h0 hbit =>
    subst hbk
    rw [WM.Spec.IdSet.getLast?_filter_lt_succ_of_mem (sorted_iter bits)
      (mem_iter.mpr ((contains_of_getElem? hbyte).trans hbit))]
  | case5 bucket byte hbyte h0 hbit =>
    subst hbk
    rw [filter_lt_skip (Nat.le_succ 0) (contains_false_of_not_hasBit hbyte hbit),
      getLast?_filter_lt_none fun k hk => absurd hk (Nat.not_lt_zero k)]
  | case6 i byte h0 hbit hne h8 hbyte =>
    -- the branch the model reports as `index`: bucket 0 with `i` a positive multiple of 8, against `i / 8 = bucket`
    obtain ⟨j, rfl⟩ := Nat.exists_eq_add_one_of_ne_zero hne
    rw [succ_div_eq, if_pos h8] at hbk
    cases hbk
  | case7 i bucket byte hbyte h0 hbit hne h8 hb0 ih =>
    obtain ⟨j, rfl⟩ := Nat.exists_eq_add_one_of_ne_zero hne
    rw [filter_lt_skip (Nat.le_succ _) (contains_false_of_not_hasBit (hbk ▸ hbyte) hbit)]
    rw [succ_div_eq, if_pos h8] at hbk
    subst hbk
    exact ih rfl (Nat.lt_of_succ_lt hlt)
  | case8 i bucket byte hbyte h0 hbit hne h8 ih =>
    obtain ⟨j, rfl⟩ := Nat.exists_eq_add_one_of_ne_zero hne
    rw [filter_lt_skip (Nat.le_succ _) (contains_false_of_not_hasBit (hbk ▸ hbyte) hbit)]
    rw [succ_div_eq, if_neg h8] at hbk
    exact ih hbk (Nat.lt_of_succ_lt hlt)

theorem before_spec (bits : Bits) (i : Int) :
    before bits i = .ok (WM.Spec.IdSet.before (iter bits) i) := by
  unfold before WM.Spec.IdSet.before
  simp only
  by_cases hle : i ≤ 0
  · rw [if_pos hle, WM.Spec.IdSet.getLast?_filter_eq_none.mpr]
    intro x _
    simp only [decide_eq_false_iff_not]; omega
  · obtain ⟨n, rfl⟩ := Int.eq_succ_of_zero_lt (Int.not_le.mp hle)
    rw [if_neg hle]
    simp only [← Int.natCast_succ, Int.toNat_natCast, Int.ofNat_lt, ge_iff_le, Int.ofNat_le]
    split
    · next hge =>
      split
      · next hz => rw [getLast?_filter_lt_none fun k _ => contains_false_of_size_le (hz ▸ Nat.zero_le k)]
      · next hz =>
        obtain ⟨m, hm⟩ := Nat.exists_eq_add_one_of_ne_zero hz
        rw [hm, Nat.add_sub_cancel, beforeLoop_spec _ _ _ rfl (hm ▸ Nat.lt_succ_self m), ← hm,
          filter_lt_skip hge fun k hk _ => contains_false_of_size_le hk]
    · next hlt => exact beforeLoop_spec _ _ _ rfl (Nat.lt_of_succ_lt (Nat.lt_of_not_le hlt))

end WM.IdSets
