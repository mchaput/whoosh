import WM.Lemmas.CollectTop
import WM.Model.Compile
/-!
Glue between the search family (`WM.Compile`: what the per-segment matchers of a query enumerate) and
the collector family (`WM.Collect`: what `TopCollector` / `UnlimitedCollector` make of per-segment posting
streams): the matcher lists of a run *are* the collector's input.
-/
namespace WM.Compile
open WM.Search

/-- the per-segment matcher lists of a run (`Collector.run`: one matcher per leaf searcher, with its
    offset) as the collector family's input.  `flags k doc` = "the matcher entered a new block at this
    posting" and `sup k` = `matcher.supports_block_quality()` of the `k`-th segment are arbitrary. -/
def collectorSegs (ls : LeafScore) (so : ShapeOracle) (ctx : Ctx) (q : Query) (flags : Nat → Nat → Bool)
    (sup : Nat → Bool) : Nat → Nat → Index → List WM.Collect.Seg
  | _, _, [] => []
  | k, off, s :: rest =>
    ⟨off, sup k, (compile ls so s ctx q).map (fun e => WM.Collect.Posting.mk' e.id e.score (flags k e.id))⟩ ::
      collectorSegs ls so ctx q flags sup (k + 1) (off + s.size) rest

/-- a hit of the search family as a hit of the ranking specification (with the `final()` hook) -/
def toRank (useFinal : Bool) (final : Nat → Rat → Rat) (h : Hit) : WM.Rank.Hit :=
  ⟨h.id, if useFinal then final h.id h.score else h.score⟩

theorem collectorSegs_fresh (ls : LeafScore) (so : ShapeOracle) (ctx : Ctx) (q : Query) (flags : Nat → Nat → Bool)
    (sup : Nat → Bool) : ∀ (idx : Index) (k off : Nat), WM.Collect.Fresh (collectorSegs ls so ctx q flags sup k off idx)
  | [], _, _ => nofun
  | s :: rest, k, off =>
    List.forall_mem_cons.mpr ⟨fun p hp => by obtain ⟨e, _, rfl⟩ := List.mem_map.mp hp; rfl,
      collectorSegs_fresh ls so ctx q flags sup rest (k + 1) (off + s.size)⟩

theorem collectorSegs_flatMap {β : Type} (ls : LeafScore) (so : ShapeOracle) (ctx : Ctx) (q : Query)
    (flags : Nat → Nat → Bool) (sup : Nat → Bool) (φ : Nat → WM.Collect.Posting → β) (ψ : Hit → β)
    (h : ∀ off (e : Hit) fl, φ off (WM.Collect.Posting.mk' e.id e.score fl) = ψ ⟨e.id + off, e.score⟩) :
    ∀ (idx : Index) (k off : Nat),
      (collectorSegs ls so ctx q flags sup k off idx).flatMap (fun sg => sg.postings.map (φ sg.off)) =
        (runFrom ls so ctx q off idx).map ψ
  | [], _, _ => rfl
  | s :: rest, k, off => by
    rw [collectorSegs, List.flatMap_cons, collectorSegs_flatMap ls so ctx q flags sup φ ψ h rest, runFrom,
      List.map_append, shift, List.map_map, List.map_map]
    exact congrArg (· ++ _) (List.map_congr_left fun e _ => h off e _)

theorem collectorSegs_docs (ls : LeafScore) (so : ShapeOracle) (ctx : Ctx) (q : Query) (flags : Nat → Nat → Bool)
    (sup : Nat → Bool) (idx : Index) (k off : Nat) :
    WM.Collect.globalDocs (collectorSegs ls so ctx q flags sup k off idx) = (runFrom ls so ctx q off idx).map (·.id) :=
  collectorSegs_flatMap ls so ctx q flags sup (fun off p => off + p.doc) (·.id) (fun _ _ _ => Nat.add_comm _ _) idx k off

theorem collectorSegs_hits (ls : LeafScore) (so : ShapeOracle) (ctx : Ctx) (q : Query) (flags : Nat → Nat → Bool)
    (sup : Nat → Bool) (cfg : WM.Collect.Cfg) (final : Nat → Rat → Rat) (idx : Index) (k off : Nat) :
    WM.Collect.allHits cfg final (collectorSegs ls so ctx q flags sup k off idx) =
      (runFrom ls so ctx q off idx).map (toRank cfg.useFinal final) :=
  collectorSegs_flatMap ls so ctx q flags sup (WM.Collect.toHit cfg final) (toRank cfg.useFinal final)
    (fun off e _ => by simp only [WM.Collect.toHit, WM.Collect.Posting.mk', toRank, Nat.add_comm off]) idx k off

end WM.Compile
