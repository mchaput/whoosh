import WM.Model.MatcherReads
import WM.Lemmas.FaithfulTree
/-!
The reads `weight()` and `matching_terms()` (count) of a matcher tree are functions of the list position:
`opsR k s` (the operation table with `score` replaced by the read) moves exactly as `ops s` and is a faithful
cursor over `denR k s`, the list of `(id, read)` entries; a tree well formed in both senses stands on the same
document in `den s` and in `denR k s` (`same_head`).  The composite classes use the same functor theorems as for the
score; the two leaves read a function of the position (`LeafM.faithful_of`, `ListM.faithful_of`).
-/
namespace WM.Matcher

/- The cursor operations of every functor use the sub-matchers' cursor operations only: with the sub-tables written
   as `MoveEq.eq_with` gives them both sides unfold to the same term (`smartUnfolding false`: the fuel loops must unfold
   on a variable). -/
section Congr
set_option smartUnfolding false

variable {α β : Type}

theorem Union.moveEq {A' A : Ops α} {B' B : Ops β} (ha : MoveEq A' A) (hb : MoveEq B' B) :
    MoveEq (Union.ops A' B') (Union.ops A B) := by
  rw [ha.eq_with, hb.eq_with]; exact ⟨rfl, rfl, rfl, rfl, rfl, rfl⟩
theorem Inter.moveEq {A' A : Ops α} {B' B : Ops β} (ha : MoveEq A' A) (hb : MoveEq B' B) :
    MoveEq (Inter.ops A' B') (Inter.ops A B) := by
  rw [ha.eq_with, hb.eq_with]; exact ⟨rfl, rfl, rfl, rfl, rfl, rfl⟩
theorem AndNot.moveEq {A' A : Ops α} {B' B : Ops β} (ha : MoveEq A' A) (hb : MoveEq B' B) :
    MoveEq (AndNot.ops A' B') (AndNot.ops A B) := by
  rw [ha.eq_with, hb.eq_with]; exact ⟨rfl, rfl, rfl, rfl, rfl, rfl⟩
theorem AndMaybe.moveEq {A' A : Ops α} {B' B : Ops β} (ha : MoveEq A' A) (hb : MoveEq B' B) :
    MoveEq (AndMaybe.ops A' B') (AndMaybe.ops A B) := by
  rw [ha.eq_with, hb.eq_with]; exact ⟨rfl, rfl, rfl, rfl, rfl, rfl⟩
theorem Boost.moveEq {A' A : Ops α} (ha : MoveEq A' A) : MoveEq (Boost.ops A') (Boost.ops A) := by
  rw [ha.eq_with]; exact ⟨rfl, rfl, rfl, rfl, rfl, rfl⟩
theorem Filter.moveEq {A' A : Ops α} (ha : MoveEq A' A) : MoveEq (Filter.ops A') (Filter.ops A) := by
  rw [ha.eq_with]; exact ⟨rfl, rfl, rfl, rfl, rfl, rfl⟩
theorem Inverse.moveEq {A' A : Ops α} (ha : MoveEq A' A) : MoveEq (Inverse.ops A') (Inverse.ops A) := by
  rw [ha.eq_with]; exact ⟨rfl, rfl, rfl, rfl, rfl, rfl⟩
theorem Const.moveEq {A' A : Ops α} (ha : MoveEq A' A) : MoveEq (Const.ops A') (Const.ops A) := by
  rw [ha.eq_with]; exact ⟨rfl, rfl, rfl, rfl, rfl, rfl⟩
theorem Multi.moveEq {A' A : Ops α} (ha : MoveEq A' A) : MoveEq (Multi.ops A') (Multi.ops A) := by
  rw [ha.eq_with]; exact ⟨rfl, rfl, rfl, rfl, rfl, rfl⟩

end Congr

theorem tree_moveEq (k : Rd) : ∀ s : Shape, MoveEq (opsR k s) (ops s)
  | .null => ⟨rfl, rfl, rfl, rfl, rfl, rfl⟩
  | .list | .leaf => by cases k <;> exact ⟨rfl, rfl, rfl, rfl, rfl, rfl⟩
  | .union a b => Union.moveEq (tree_moveEq k a) (tree_moveEq k b)
  | .dismax a b => (Union.moveEq (tree_moveEq k a) (tree_moveEq k b)).trans (DisMax.moveEq_union _ _).symm
  | .inter a b => Inter.moveEq (tree_moveEq k a) (tree_moveEq k b)
  | .andNot a b => AndNot.moveEq (tree_moveEq k a) (tree_moveEq k b)
  | .andMaybe a b => AndMaybe.moveEq (tree_moveEq k a) (tree_moveEq k b)
  | .require a b => by
    have h := (Inter.moveEq (tree_moveEq k a) (tree_moveEq k b)).trans (Require.moveEq_inter _ _).symm
    cases k
    · exact (Require.moveEq_inter _ _).trans h
    · exact h
  | .boost c => by
    cases k
    · exact Boost.moveEq (tree_moveEq _ c)
    · exact (MoveEq.withScore _ _).trans (Boost.moveEq (tree_moveEq _ c))
  | .filter c => by
    cases k
    · exact Filter.moveEq (tree_moveEq _ c)
    · exact (MoveEq.withScore _ _).trans (Filter.moveEq (tree_moveEq _ c))
  | .inverse c => by
    cases k
    · exact Inverse.moveEq (tree_moveEq _ c)
    · exact (MoveEq.withScore _ _).trans (Inverse.moveEq (tree_moveEq _ c))
  | .const c => by
    cases k <;> exact (MoveEq.withScore _ _).trans (Const.moveEq (tree_moveEq _ c))
  | .multi c => Multi.moveEq (tree_moveEq k c)
  | .aunion c => MoveEq.withScore _ _

def LeafM.withSc (sc : Rat → Nat → Rat) (m : LeafM) : LeafM := { m with sc := sc }

theorem LeafM.faithfulR (k : Rd) :
    Faithful (LeafM.opsR k) (LeafM.denR k) (LeafM.fullR k) (fun m => LeafM.WF (LeafM.withSc k.sc m)) := by
  refine (LeafM.faithful_of (LeafM.opsR k) (fun _ => k.sc) (fun _ _ _ => rfl) ?_ ?_ _ (fun _ h => h)
    (fun _ _ _ _ h => h)).of_eq (fun m => LeafM.den_eq_rest (LeafM.withSc k.sc m)) (fun _ => rfl)
  · cases k <;> exact MoveEq.withScore _ _
  · intro m p ha hc
    cases k
    · show m.weight = _; simp [LeafM.weight, hc]; rfl
    · show m.nterms = _; simp [LeafM.nterms, ha]; rfl

theorem ListM.faithfulR (k : Rd) :
    Faithful (ListM.opsR k) (ListM.denR k) (ListM.fullR k) (fun m => ListM.WF (ListM.viewR k m)) := by
  cases k
  · exact ListM.faithful
  · refine ListM.faithful_of (ListM.opsR .terms) (fun m => m.ids.map fun _ => 1) (fun _ _ => rfl) (MoveEq.withScore _ _)
      (fun m r h => ?_) _ (fun _ h => h) (fun _ _ h => h)
    show (if m.isActive then Except.ok 1 else Except.ok 0) = _
    rw [List.getElem?_map] at h
    cases hi : m.ids[m.i]? with
    | none => rw [hi] at h; cases h
    | some x =>
      rw [hi] at h; cases h
      rw [if_pos (by simpa [ListM.isActive] using (List.getElem?_eq_some_iff.1 hi).1)]

section Wrappers
variable {α : Type} {A : Ops α} {dA fA : α → Den} {WA : α → Prop}

/-- matching terms of a boost wrapper: the child's -/
theorem Boost.faithfulT (FA : Faithful A dA fA WA) :
    Faithful (Boost.opsT A) (fun m => scale 1 (dA m.child)) (fun m => scale 1 (fA m.child)) (fun m => WA m.child) :=
  scoreMap_faithful FA (Boost.opsT A) (·.child) (fun m c => { m with child := c }) (fun _ r => r * 1)
    (fun _ _ => rfl) (fun _ _ => rfl) (fun _ => rfl) (fun _ => rfl)
    (fun m r h => by rw [Rat.mul_one]; exact h)
    (fun _ => rfl) (fun _ _ => rfl) (fun _ => rfl) (fun _ => rfl) _ (fun _ h => h) (fun _ _ _ h => h)

/-- `weight()` of a constant-score wrapper: the child's (times the inherited boost 1.0) -/
theorem Const.faithfulW (FA : Faithful A dA fA WA) :
    Faithful (Const.opsW A) (fun m => scale 1 (dA m.child)) (fun m => scale 1 (fA m.child)) (fun m => WA m.child) :=
  scoreMap_faithful FA (Const.opsW A) (·.child) (fun m c => { m with child := c }) (fun _ r => r * 1)
    (fun _ _ => rfl) (fun _ _ => rfl) (fun _ => rfl) (fun _ => rfl)
    (fun _ _ h => congrArg (· >>= fun w => pure (w * 1)) h)
    (fun _ => rfl) (fun _ _ => rfl) (fun _ => rfl) (fun _ => rfl) _ (fun _ h => h) (fun _ _ _ h => h)

/-- … its matching terms: the child's -/
theorem Const.faithfulT (FA : Faithful A dA fA WA) :
    Faithful (Const.opsT A) (fun m => scale 1 (dA m.child)) (fun m => scale 1 (fA m.child)) (fun m => WA m.child) :=
  scoreMap_faithful FA (Const.opsT A) (·.child) (fun m c => { m with child := c }) (fun _ r => r * 1)
    (fun _ _ => rfl) (fun _ _ => rfl) (fun _ => rfl) (fun _ => rfl)
    (fun m r h => by rw [Rat.mul_one]; exact h)
    (fun _ => rfl) (fun _ _ => rfl) (fun _ => rfl) (fun _ => rfl) _ (fun _ h => h) (fun _ _ _ h => h)

/-- matching terms of a `FilterMatcher`: the child's, on the documents that pass -/
theorem Filter.faithfulT (FA : Faithful A dA fA WA) :
    Faithful (Filter.opsT A) (fun m => scale 1 (keepIds m.ids m.exclude (dA m.child)))
      (fun m => scale 1 (keepIds m.ids m.exclude (fA m.child)))
      (fun m => WA m.child ∧ Filter.Passes dA m.ids m.exclude m.child) :=
  Filter.faithful_of FA (Filter.opsT A) (fun _ r => r * 1) (fun _ _ => rfl) (.withScore _ _)
    (fun m r h => by rw [Rat.mul_one]; exact h) _ (fun _ h => h) (fun _ _ _ h1 h2 => ⟨h1, h2⟩)

/-- matching terms of an `InverseMatcher`: none (its child is never on the document) -/
theorem Inverse.faithfulT (FA : Faithful A dA fA WA) :
    Faithful (Inverse.opsT A) (fun m => complement m.id m.limit m.missing (dA m.child) 0)
      (fun m => complement 0 m.limit m.missing (fA m.child) 0)
      (fun m => WA m.child ∧ Inverse.Stops dA m.limit m.missing m.child m.id) :=
  Inverse.faithful_of FA (Inverse.opsT A) (fun _ => 0) (fun _ _ _ => rfl) (.withScore _ _) (fun _ => rfl) _
    (fun _ h => h) (fun _ _ _ _ h1 h2 => ⟨h1, h2⟩)

end Wrappers

/-- well-formedness of a tree for a read: `WF` with the reads' lists in the alignment conditions -/
def WFR (k : Rd) : (s : Shape) → St s → Prop
  | .null, _ => True
  | .list, m => ListM.WF (ListM.viewR k m)
  | .leaf, m => LeafM.WF (LeafM.withSc k.sc m)
  | .union a b, m => WFR k a m.a ∧ WFR k b m.b
  | .dismax a b, m => WFR k a m.a ∧ WFR k b m.b
  | .inter a b, m => WFR k a m.a ∧ WFR k b m.b ∧ Inter.Aligned (denR k a) (denR k b) m
  | .andNot a b, m => WFR k a m.a ∧ WFR k b m.b ∧ AndNot.Ahead (denR k a) (denR k b) m
  | .andMaybe a b, m => WFR k a m.a ∧ WFR k b m.b ∧ AndMaybe.NotBehind (denR k a) (denR k b) m
  | .require a b, m => WFR k a m.a ∧ WFR k b m.b ∧ Inter.Aligned (denR k a) (denR k b) m
  | .boost c, m => WFR k c m.child
  | .filter c, m => WFR k c m.child ∧ Filter.Passes (denR k c) m.ids m.exclude m.child
  | .inverse c, m => WFR k c m.child ∧ Inverse.Stops (denR k c) m.limit m.missing m.child m.id
  | .const c, m => WFR k c m.child
  | .multi c, m => Multi.WF (opsR k c) (denR k c) (fullR k c) (WFR k c) m
  | .aunion _, _ => False

theorem tree_faithfulR (k : Rd) : ∀ s : Shape, Faithful (opsR k s) (denR k s) (fullR k s) (WFR k s)
  | .null => null_faithful
  | .list => ListM.faithfulR k
  | .leaf => LeafM.faithfulR k
  | .union a b => Union.faithful (tree_faithfulR k a) (tree_faithfulR k b)
  | .dismax a b => Union.faithful (tree_faithfulR k a) (tree_faithfulR k b)
  | .inter a b => Inter.faithful (tree_faithfulR k a) (tree_faithfulR k b)
  | .andNot a b => AndNot.faithful (tree_faithfulR k a) (tree_faithfulR k b)
  | .andMaybe a b => AndMaybe.faithful (tree_faithfulR k a) (tree_faithfulR k b)
  | .require a b => by
    cases k
    · exact Require.faithful (tree_faithfulR _ a) (tree_faithfulR _ b)
    · exact Inter.faithful (tree_faithfulR _ a) (tree_faithfulR _ b)
  | .boost c => by
    cases k
    · exact Boost.faithful (tree_faithfulR _ c)
    · exact Boost.faithfulT (tree_faithfulR _ c)
  | .filter c => by
    cases k
    · exact Filter.faithful (tree_faithfulR _ c)
    · exact Filter.faithfulT (tree_faithfulR _ c)
  | .inverse c => by
    cases k
    · exact Inverse.faithful (tree_faithfulR _ c)
    · exact Inverse.faithfulT (tree_faithfulR _ c)
  | .const c => by
    cases k
    · exact Const.faithfulW (tree_faithfulR _ c)
    · exact Const.faithfulT (tree_faithfulR _ c)
  | .multi c => Multi.faithful (tree_faithfulR k c)
  | .aunion _ => .of_false _ _ _

theorem tree_faithful_read (k : Rd) (s : Shape) :
    Faithful { ops s with score := read k s } (denR k s) (fullR k s) (WFR k s) := by
  have F := tree_faithfulR k s
  rw [(tree_moveEq k s).eq_with] at F
  exact ⟨F.asc, F.active, F.id, F.score, F.next, F.skipTo, F.reset⟩

theorem same_head (k : Rd) (s : Shape) (m : St s) (h : WF s m) (hr : WFR k s m) (x : Nat) :
    (∃ r L, den s m = (x, r) :: L) ↔ ∃ w L', denR k s m = (x, w) :: L' :=
  ((tree_faithful s).head_iff h x).trans ((tree_faithful_read k s).head_iff hr x).symm

theorem wfr_of_wf (k : Rd) : ∀ (s : Shape) (m : St s), plain s = true → WF s m → WFR k s m
  | .null, _, _, _ => trivial
  | .list, m, _, h => by
    cases k
    · exact h
    · exact ⟨h.1, List.length_map _⟩
  | .leaf, _, _, h => h
  | .union a b, m, hp, h | .dismax a b, m, hp, h =>
    have hp := Bool.and_eq_true_iff.1 hp
    ⟨wfr_of_wf k a m.a hp.1 h.1, wfr_of_wf k b m.b hp.2 h.2⟩
  | .inter a b, m, hp, h | .require a b, m, hp, h | .andNot a b, m, hp, h | .andMaybe a b, m, hp, h => by
    have hp := Bool.and_eq_true_iff.1 hp
    have wa := wfr_of_wf k a m.a hp.1 h.1
    have wb := wfr_of_wf k b m.b hp.2 h.2.1
    -- the position invariant speaks of the head ids only, and these are the same in `den` and `denR`
    refine ⟨wa, wb, fun x w La y v Lb h1 h2 => ?_⟩
    obtain ⟨r, La', g1⟩ := (same_head k a m.a h.1 wa x).2 ⟨w, La, h1⟩
    obtain ⟨s, Lb', g2⟩ := (same_head k b m.b h.2.1 wb y).2 ⟨v, Lb, h2⟩
    exact h.2.2 x r La' y s Lb' g1 g2
  | .boost c, m, hp, h | .const c, m, hp, h => wfr_of_wf k c m.child hp h
  | .filter c, m, hp, h => by
    have wc := wfr_of_wf k c m.child hp h.1
    refine ⟨wc, fun x r L h1 => ?_⟩
    obtain ⟨r', L', g1⟩ := (same_head k c m.child h.1 wc x).2 ⟨r, L, h1⟩
    exact h.2 x r' L' g1
  | .inverse c, m, hp, h => by
    have wc := wfr_of_wf k c m.child hp h.1
    refine ⟨wc, fun hlt => ⟨(h.2 hlt).1, fun x r L h1 => ?_⟩⟩
    obtain ⟨r', L', g1⟩ := (same_head k c m.child h.1 wc x).2 ⟨r, L, h1⟩
    exact (h.2 hlt).2 x r' L' g1
  -- not derived for `MultiMatcher`: `Multi.WF` speaks of all ids of the segments' lists (`sub`, `asc`), `same_head` of the
  -- first id only
  | .multi _, _, hp, _ | .aunion _, _, hp, _ => nomatch hp

end WM.Matcher
