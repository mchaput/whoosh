import WM.Lemmas.FaithfulUnion
import WM.Lemmas.Quality
/-! Quality contract of `UnionMatcher` and `DisjunctionMaxMatcher`. -/
namespace WM.Matcher

variable {α β : Type} {A : Ops α} {B : Ops β} {dA fA : α → Den} {dB fB : β → Den}
  {WQA W0A : α → Prop} {WQB W0B : β → Prop}

namespace Union

/-- `AdditiveBiMatcher.max_quality` (also `IntersectionMatcher`, `AndMaybeMatcher`) -/
theorem maxQuality_spec (QA : QFaithful A dA fA WQA W0A) (QB : QFaithful B dB fB WQB W0B) (m : Bin α β)
    (ha : W0A m.a) (hb : W0B m.b) :
    Yields (Union.maxQuality A B m) fun q => ∃ qa qb, q = qa + qb ∧ BoundedBy qa (dA m.a) ∧ BoundedBy qb (dB m.b) ∧
      0 ≤ qa ∧ 0 ≤ qb :=
  (QA.maxA m.a ha).bind fun qa ha => (QB.maxA m.b hb).bind fun qb hb => .ok ⟨qa, qb, rfl, ha.1, hb.1, ha.2, hb.2⟩

theorem blockQuality_spec (QA : QFaithful A dA fA WQA W0A) (QB : QFaithful B dB fB WQB W0B) (m : Bin α β)
    (ha : WQA m.a) (hb : WQB m.b) :
    Yields (Union.blockQuality A B m) fun q => ∃ qa qb, q = qa + qb ∧ HeadBoundedBy qa (dA m.a) ∧
      HeadBoundedBy qb (dB m.b) ∧ 0 ≤ qa ∧ 0 ≤ qb :=
  (QA.blockA m.a ha).bind fun qa ha => (QB.blockA m.b hb).bind fun qb hb => .ok ⟨qa, qb, rfl, ha.1, hb.1, ha.2, hb.2⟩

theorem qfaithful (QA : QFaithful A dA fA WQA W0A) (QB : QFaithful B dB fB WQB W0B) :
    QFaithful (Union.ops A B) (fun m => unionWith (· + ·) (dA m.a) (dB m.b))
      (fun m => unionWith (· + ·) (fA m.a) (fB m.b)) (fun m => WQA m.a ∧ WQB m.b) (fun m => W0A m.a ∧ W0B m.b) where
  toW0 m h := ⟨QA.toW0 _ h.1, QB.toW0 _ h.2⟩
  cur0 := Union.faithful QA.cur0 QB.cur0
  curQ := Union.faithful QA.curQ QB.curQ
  nn m h := nonNeg_unionWith _ (QA.nn _ h.1) (QB.nn _ h.2) fun _ _ => Rat.add_nonneg
  sup m h := Bool.and_eq_true_iff.2 ⟨QA.sup _ h.1, QB.sup _ h.2⟩
  max m h := (maxQuality_spec QA QB m h.1 h.2).mono fun _ ⟨_, _, e, ha2, hb2, ha3, hb3⟩ =>
    e ▸ ⟨bounded_unionAdd ha2 hb2 ha3 hb3, Rat.add_nonneg ha3 hb3⟩
  block m h := (blockQuality_spec QA QB m h.1 h.2).mono fun _ ⟨_, _, e, ha2, hb2, ha3, hb3⟩ =>
    e ▸ headBounded_unionWith _ ha2 hb2 (rat_le_add_of_nonneg_right Rat.le_refl hb3)
      (rat_le_add_of_nonneg_left Rat.le_refl ha3) fun _ _ => rat_add_le_add
  skipQ m q h hne := by
    show Yields (Union.skipToQuality A B m q) _
    unfold Union.skipToQuality
    have ascA := QA.curQ.asc _ h.1
    have ascB := QB.curQ.asc _ h.2
    by_cases ha0 : dA m.a = []
    · have hb0 : dB m.b ≠ [] := fun hb0 => hne (by simp only [ha0, hb0]; exact unionWith_nil_left _ _)
      simp only [(QA.curQ.inactive h.1).2 ha0, (QB.curQ.active _ h.2).2 hb0, Bool.false_or, Bool.not_true, Bool.not_false,
        Bool.false_eq_true, ↓reduceIte]
      refine (QB.skipQ m.b q h.2 hb0).bind ?_
      rintro ⟨b', k⟩ g
      refine .ok ⟨⟨h.1, g.1⟩, ?_, .bin (unionWith (· + ·)) (fun _ => rfl) (.refl _ _ _ _) g.2.2⟩
      simp only [ha0, unionWith_nil_left]; exact g.2.1
    · have hacta := (QA.curQ.active _ h.1).2 ha0
      by_cases hb0 : dB m.b = []
      · simp only [hacta, (QB.curQ.inactive h.2).2 hb0, Bool.or_false, Bool.not_true, Bool.not_false, Bool.false_eq_true,
          ↓reduceIte]
        refine (QA.skipQ m.a q h.1 ha0).bind ?_
        rintro ⟨a', k⟩ g
        refine .ok ⟨⟨g.1, h.2⟩, ?_, .bin (unionWith (· + ·)) (fun _ => rfl) g.2.2 (.refl _ _ _ _)⟩
        simp only [hb0, unionWith_nil_right]; exact g.2.1
      · -- a is skipped below `q - b.max_quality()`, then b below `q - a.max_quality()` (or `q` if a is exhausted)
        simp only [hacta, (QB.curQ.active _ h.2).2 hb0, Bool.or_self, Bool.not_true, Bool.false_eq_true, ↓reduceIte]
        refine (QB.max m.b (QB.toW0 _ h.2)).bind fun bmax hb => (QA.skipQ m.a (q - bmax) h.1 ha0).bind ?_
        rintro ⟨a', k1⟩ g
        have keeps : ∀ {amax : Rat} {b' : β}, WQB b' → BoundedBy amax (dA a') → 0 ≤ amax →
            Keeps (q - amax) (dB b') (dB m.b) →
            Keeps q (unionWith (· + ·) (dA a') (dB b')) (unionWith (· + ·) (dA m.a) (dB m.b)) := fun e2 ha2 ha0 e3 =>
          keeps_unionAdd ascA (QA.curQ.asc _ g.1) ascB (QB.curQ.asc _ e2) (QA.nn _ (QA.toW0 _ h.1))
            (QB.nn _ (QB.toW0 _ h.2)) hb.1 hb.2 ha2 ha0 g.2.1 e3
        refine .ite (fun _ => (QA.max a' (QA.toW0 _ g.1)).bind fun amax ha => (QB.skipQ m.b (q - amax) h.2 hb0).bind ?_)
          fun hi => (QB.skipQ m.b q h.2 hb0).bind ?_
        · rintro ⟨b', k2⟩ e
          exact .ok ⟨⟨g.1, e.1⟩, keeps e.1 ha.1 ha.2 e.2.1, .bin (unionWith (· + ·)) (fun _ => rfl) g.2.2 e.2.2⟩
        · rintro ⟨b', k2⟩ e
          have ha'0 := (QA.curQ.inactive g.1).1 (Bool.eq_false_iff.2 hi)
          exact .ok ⟨⟨g.1, e.1⟩,
            keeps (amax := 0) e.1 (by rw [ha'0]; exact fun e he => nomatch he) Rat.le_refl (by rw [rat_sub_zero]; exact e.2.1),
            .bin (unionWith (· + ·)) (fun _ => rfl) g.2.2 e.2.2⟩

end Union

namespace DisMax

theorem qfaithful (QA : QFaithful A dA fA WQA W0A) (QB : QFaithful B dB fB WQB W0B) :
    QFaithful (DisMax.ops A B) (fun m => unionWith max (dA m.a) (dB m.b))
      (fun m => unionWith max (fA m.a) (fB m.b)) (fun m => WQA m.a ∧ WQB m.b) (fun m => W0A m.a ∧ W0B m.b) where
  toW0 m h := ⟨QA.toW0 _ h.1, QB.toW0 _ h.2⟩
  cur0 := DisMax.faithful QA.cur0 QB.cur0
  curQ := DisMax.faithful QA.curQ QB.curQ
  nn m h := nonNeg_unionWith _ (QA.nn _ h.1) (QB.nn _ h.2) fun _ _ hs _ => rat_le_max_of_le_left hs
  sup m h := Bool.and_eq_true_iff.2 ⟨QA.sup _ h.1, QB.sup _ h.2⟩
  max m h := (QA.max m.a h.1).bind fun _ ha => (QB.max m.b h.2).bind fun _ hb =>
    .ok ⟨bounded_unionMax ha.1 hb.1, rat_le_max_of_le_left ha.2⟩
  block m h := (QA.block m.a h.1).bind fun _ ha => (QB.block m.b h.2).bind fun _ hb =>
    .ok (headBounded_unionWith _ ha hb (rat_le_max_of_le_left Rat.le_refl) (rat_le_max_of_le_right Rat.le_refl)
      fun _ _ => rat_max_le_max)
  skipQ m q h hne := by
    show Yields (DisMax.skipToQuality A B m q) _
    unfold DisMax.skipToQuality
    by_cases ha0 : dA m.a = []
    · have hb0 : dB m.b ≠ [] := fun hb0 => hne (by simp only [ha0, hb0]; exact unionWith_nil_left _ _)
      simp only [(QA.curQ.inactive h.1).2 ha0, Bool.not_false, ↓reduceIte]
      refine (QB.skipQ m.b q h.2 hb0).bind ?_
      rintro ⟨b', k⟩ g
      refine .ok ⟨⟨h.1, g.1⟩, ?_, .bin (unionWith max) (fun _ => rfl) (.refl _ _ _ _) g.2.2⟩
      simp only [ha0, unionWith_nil_left]; exact g.2.1
    · simp only [(QA.curQ.active _ h.1).2 ha0, Bool.not_true, Bool.false_eq_true, ↓reduceIte]
      by_cases hb0 : dB m.b = []
      · simp only [(QB.curQ.inactive h.2).2 hb0, Bool.not_false, ↓reduceIte]
        refine (QA.skipQ m.a q h.1 ha0).bind ?_
        rintro ⟨a', k⟩ g
        refine .ok ⟨⟨g.1, h.2⟩, ?_, .bin (unionWith max) (fun _ => rfl) g.2.2 (.refl _ _ _ _)⟩
        simp only [hb0, unionWith_nil_right]; exact g.2.1
      · simp only [(QB.curQ.active _ h.2).2 hb0, Bool.not_true, Bool.false_eq_true, ↓reduceIte]
        refine (QA.skipQ m.a q h.1 ha0).bind ?_
        rintro ⟨a', k1⟩ g
        refine (QB.skipQ m.b q h.2 hb0).bind ?_
        rintro ⟨b', k2⟩ e
        exact .ok ⟨⟨g.1, e.1⟩,
          keeps_unionMax (QA.curQ.asc _ h.1) (QA.curQ.asc _ g.1) (QB.curQ.asc _ h.2) (QB.curQ.asc _ e.1) g.2.1 e.2.1,
          .bin (unionWith max) (fun _ => rfl) g.2.2 e.2.2⟩

end DisMax
end WM.Matcher
