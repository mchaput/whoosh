import WM.Lemmas.CodecBasic
import WM.Lemmas.CodecAgg
/-! The writer in closed form: its state is a function (`wstate`) of the blocks written, the postings
they hold and the postings buffered, so `writeTerm` writes the chunks of `split blocklimit ps`, the last
one flagged (`writeTerm_spec`), or puts a short list into the term info (`writeTerm_inline`). -/
namespace WM.Codec

variable {ι μ : Type}

theorem bufOf_nil (c : Cfg ι μ) : bufOf c [] = {} := rfl

theorem Buf.add_bufOf (c : Cfg ι μ) (ch : List (Posting ι)) (p : Posting ι)
    (hv : c.ids.valid p.id = true) :
    Buf.add c (bufOf c ch) p = .ok (bufOf c (ch ++ [p])) := by
  unfold Buf.add
  simp only [hv, Bool.not_true, Bool.false_eq_true, if_false]
  congr 1
  simp only [bufOf, storedValues, minLen, maxLen, maxW, List.map_append, List.filter_append,
    List.foldl_append, List.map_cons, List.map_nil, List.foldl_cons, List.foldl_nil]
  congr 1
  by_cases h : p.value = [] <;> simp [h]

/-- `hok`: `add_block` does not fail on `min(int, None)`. -/
theorem addBlock_tiOf (c : Cfg ι μ) (done ch : List (Posting ι)) (hne : ch ≠ [])
    (hok : minLen done = none ∨ minLen ch ≠ none) :
    (tiOf c done).addBlock (bufOf c ch) = .ok (tiOf c (done ++ ch)) := by
  have hf := List.head?_eq_some_head hne
  have hl := List.getLast?_eq_some_getLast hne
  have happ : tiOf c (done ++ ch) =
      { weight := sumW c.f32 done + sumW c.f32 ch, df := done.length + ch.length
        minlength := Option.merge min (minLen done) (minLen ch)
        maxlength := max (maxLen done) (maxLen ch)
        maxweight := wStep (maxW c.f32 done) (maxW c.f32 ch)
        minid := (done.head?.map (·.id)).or (some (ch.head hne).id)
        maxid := some (ch.getLast hne).id } := by
    simp only [tiOf, sumW_append, List.length_append, minLen_append, maxLen_append, maxW_append,
      List.head?_append, List.getLast?_append, hf, hl, Option.map_or, Option.map_some, Option.some_or]
  rw [happ]
  unfold TermInfo.addBlock
  simp only [tiOf, bufOf, List.head?_map, List.getLast?_map, hf, hl, Option.map_some, List.length_map, sumW]
  rcases hok with h | h
  · rw [h]
    cases hm : minLen ch <;> cases done.head? <;> rfl
  · cases hm : minLen ch with
    | none => exact absurd hm h
    | some x => cases minLen done <;> cases done.head? <;> rfl

/-- With lengths all truthy or all falsy, `add_block` never meets `min(int, None)`. -/
theorem LengthsUniform.addBlock_ok {xs done r : List (Posting ι)} (h : LengthsUniform xs)
    (hd : ∀ p ∈ done, p ∈ xs) (hr : ∀ p ∈ r, p ∈ xs) (hne : r ≠ []) :
    minLen done = none ∨ minLen r ≠ none := by
  rcases h with h | h
  · obtain ⟨p, l, rfl⟩ := List.exists_cons_of_ne_nil hne
    refine Or.inr fun e => ?_
    have := (minLen_eq_none_iff _).mp e p (List.mem_cons_self ..)
    rw [h p (hr p (List.mem_cons_self ..))] at this
    cases this
  · exact Or.inl ((minLen_eq_none_iff done).mpr fun p hp => h p (hd p hp))

/-- Closed chunks and their (unflagged) block records, in order. -/
inductive BlocksOf (c : Cfg ι μ) : List (List (Posting ι)) → List (DiskBlock ι μ) → Prop
  | nil : BlocksOf c [] []
  | cons {ch chs b bs} : BlockOf c false ch b → BlocksOf c chs bs → BlocksOf c (ch :: chs) (b :: bs)

theorem BlocksOf.length_eq {c : Cfg ι μ} {chs bs} (h : BlocksOf c chs bs) : chs.length = bs.length := by
  induction h with
  | nil => rfl
  | cons _ _ ih => simp [ih]

theorem bufOf_ids_length (c : Cfg ι μ) (r : List (Posting ι)) : (bufOf c r).ids.length = r.length := by
  simp [bufOf]

/-- The writer state after `out` has been written for the postings `done` and `r` is buffered. -/
def wstate (c : Cfg ι μ) (out : List (DiskBlock ι μ)) (done r : List (Posting ι)) : WState ι μ :=
  { blockcount := out.length, buf := bufOf c r, terminfo := tiOf c done, out := out }

theorem writeBlock_wstate (c : Cfg ι μ) (out : List (DiskBlock ι μ)) (done r : List (Posting ι)) (last : Bool)
    (hne : r ≠ []) (hok : minLen done = none ∨ minLen r ≠ none) :
    ∃ b, BlockOf c last r b ∧
      writeBlock c (wstate c out done r) last = .ok (wstate c (out ++ [b]) (done ++ r) []) := by
  have hl := List.getLast?_eq_some_getLast hne
  refine ⟨_, ⟨_, hl, rfl⟩, ?_⟩
  unfold writeBlock
  simp only [wstate, addBlock_tiOf c done r hne hok]
  simp only [bufOf, List.getLast?_map, hl, Option.map_some, List.length_map, encodeBlock, List.length_append,
    List.length_singleton]
  rfl

theorem addPosting_room (c : Cfg ι μ) (out : List (DiskBlock ι μ)) (done r : List (Posting ι)) (q : Posting ι)
    (hroom : ¬ r.length ≥ c.blocklimit) (hv : c.ids.valid q.id = true) :
    addPosting c (wstate c out done r) q = .ok (wstate c out done (r ++ [q])) := by
  unfold addPosting
  simp only [wstate, bufOf_ids_length, if_neg hroom, Buf.add_bufOf c r q hv]

theorem addPosting_full (c : Cfg ι μ) (out : List (DiskBlock ι μ)) (done r : List (Posting ι)) (q : Posting ι)
    (hne : r ≠ []) (hfull : r.length ≥ c.blocklimit) (hok : minLen done = none ∨ minLen r ≠ none)
    (hv : c.ids.valid q.id = true) :
    ∃ b, BlockOf c false r b ∧
      addPosting c (wstate c out done r) q = .ok (wstate c (out ++ [b]) (done ++ r) [q]) := by
  obtain ⟨b, hb, hw⟩ := writeBlock_wstate c out done r false hne hok
  refine ⟨b, hb, ?_⟩
  unfold addPosting
  rw [show (wstate c out done r).buf.ids.length = r.length from bufOf_ids_length c r, if_pos hfull, hw]
  simp only [wstate, Buf.add_bufOf c [] q hv, List.nil_append]

/-- From the state that has written `out` for the postings `done` and buffers `r`: adding `qs` writes
    the chunks `splitAux` closes, unflagged, and leaves its remainder buffered. -/
theorem addAll_split (c : Cfg ι μ) (hbl : 1 ≤ c.blocklimit) (out : List (DiskBlock ι μ))
    (done r qs : List (Posting ι)) (hvalid : ∀ p ∈ qs, c.ids.valid p.id = true)
    (hu : LengthsUniform (done ++ (r ++ qs))) :
    ∃ bs, BlocksOf c (splitAux c.blocklimit r qs).1 bs ∧
      addAll c (wstate c out done r) qs =
        .ok (wstate c (out ++ bs) (done ++ (splitAux c.blocklimit r qs).1.flatten) (splitAux c.blocklimit r qs).2) := by
  fun_induction splitAux c.blocklimit r qs generalizing done out with
  | case1 r => exact ⟨[], .nil, by simp [addAll]⟩
  | case2 r q qs hge cs rem heq ih =>
    -- the buffer is full: it is written out unflagged, `q` starts the next chunk
    have hne : r ≠ [] := fun e => by rw [e] at hge; exact absurd hge (by simp; omega)
    obtain ⟨b, hb, hadd⟩ := addPosting_full c out done r q hne hge
      (hu.addBlock_ok (fun p hp => List.mem_append_left _ hp)
        (fun p hp => List.mem_append_right _ (List.mem_append_left _ hp)) hne) (hvalid q (List.mem_cons_self ..))
    obtain ⟨bs, hbs, h1⟩ := ih (out ++ [b]) (done ++ r) (fun p hp => hvalid p (List.mem_cons_of_mem _ hp))
      (by rw [List.append_assoc]; exact hu)
    rw [heq] at hbs h1
    exact ⟨b :: bs, .cons hb hbs, by
      simp only [addAll, hadd, h1, List.flatten_cons, List.append_assoc, List.singleton_append]⟩
  | case3 r q qs hge ih =>
    -- room in the buffer: `q` joins the open chunk
    obtain ⟨bs, hbs, h1⟩ := ih out done (fun p hp => hvalid p (List.mem_cons_of_mem _ hp))
      (by rw [List.append_assoc]; exact hu)
    exact ⟨bs, hbs, by simp only [addAll, addPosting_room c out done r q hge (hvalid q (List.mem_cons_self ..)), h1]⟩

theorem writeTerm_spec (c : Cfg ι μ) (hbl : 1 ≤ c.blocklimit) (ps : List (Posting ι)) (hne : ps ≠ [])
    (hni : c.inlinelimit ≤ ps.length ∨ c.blocklimit < ps.length)
    (hvalid : ∀ p ∈ ps, c.ids.valid p.id = true) (hu : LengthsUniform ps) :
    ∃ bs b, writeTerm c ps = .ok (bs ++ [b], { tiOf c ps with extent := some (bs.length + 1) }) ∧
      BlocksOf c (split c.blocklimit ps).1 bs ∧ BlockOf c true (split c.blocklimit ps).2 b := by
  obtain ⟨bs, hbs, h1⟩ : ∃ bs, BlocksOf c (split c.blocklimit ps).1 bs ∧
      addAll c {} ps = .ok (wstate c bs (split c.blocklimit ps).1.flatten (split c.blocklimit ps).2) :=
    addAll_split c hbl [] [] [] ps hvalid hu
  have hflat := split_flatten c.blocklimit ps
  obtain ⟨-, hremle, hremne⟩ := split_shape c.blocklimit hbl ps
  have hrem : (split c.blocklimit ps).2 ≠ [] := hremne hne
  -- the open chunk is written out flagged; the statistics are those of the whole list
  obtain ⟨b, hb, hw⟩ := writeBlock_wstate c bs _ _ true hrem
    (hu.addBlock_ok (fun p hp => hflat ▸ List.mem_append_left _ hp) (fun p hp => hflat ▸ List.mem_append_right _ hp) hrem)
  rw [hflat] at hw
  refine ⟨bs, b, ?_, hbs, hb⟩
  -- not the inline branch: a block has been written, or the list is not short enough
  have hcond : (bs.length == 0 && decide ((split c.blocklimit ps).2.length < c.inlinelimit)) = false := by
    by_cases hcs : (split c.blocklimit ps).1 = []
    · have hps : (split c.blocklimit ps).2 = ps := by rw [hcs] at hflat; exact hflat
      rw [hps] at hremle ⊢
      rcases hni with h | h
      · simp only [Bool.and_eq_false_imp]; intro _; simp; omega
      · omega
    · have : bs.length ≠ 0 := by
        rw [← hbs.length_eq]; exact fun e => hcs (List.eq_nil_of_length_eq_zero e)
      simp [this]
  have hnonempty : (!(bufOf c (split c.blocklimit ps).2).ids.isEmpty) = true := by
    cases hh : (split c.blocklimit ps).2 with
    | nil => exact absurd hh hrem
    | cons x l => rfl
  unfold writeTerm
  rw [h1]
  simp only
  unfold finishPostings
  simp only [wstate, bufOf_ids_length, hcond, Bool.false_eq_true, if_false, hnonempty, if_true] at hw ⊢
  simp only [hw, List.length_append, List.length_singleton]

theorem addAll_noflush (c : Cfg ι μ) (out : List (DiskBlock ι μ)) (done r qs : List (Posting ι))
    (hlen : r.length + qs.length ≤ c.blocklimit) (hvalid : ∀ p ∈ qs, c.ids.valid p.id = true) :
    addAll c (wstate c out done r) qs = .ok (wstate c out done (r ++ qs)) := by
  induction qs generalizing r with
  | nil => simp [addAll]
  | cons q qs ih =>
    rw [List.length_cons] at hlen
    simp only [addAll, addPosting_room c out done r q (by omega) (hvalid q (List.mem_cons_self ..))]
    rw [ih (r ++ [q]) (by rw [List.length_append, List.length_singleton]; omega)
      (fun p hp => hvalid p (List.mem_cons_of_mem _ hp)), List.append_assoc]
    rfl

theorem writeTerm_inline (c : Cfg ι μ) (ps : List (Posting ι)) (hne : ps ≠ [])
    (hin : ps.length < c.inlinelimit) (hle : ps.length ≤ c.blocklimit)
    (hvalid : ∀ p ∈ ps, c.ids.valid p.id = true) :
    writeTerm c ps = .ok ([], { tiOf c ps with
      inlined := some (ps.map (·.id), ps.map (fun p => c.f32 p.weight), storedValues ps) }) := by
  unfold writeTerm
  rw [show ({} : WState ι μ) = wstate c [] [] [] from rfl,
    addAll_noflush c [] [] [] ps (by simpa using hle) hvalid]
  rw [List.nil_append]
  simp only
  unfold finishPostings
  have hcond : ((wstate c [] [] ps).blockcount == 0 &&
      decide ((wstate c [] [] ps).buf.ids.length < c.inlinelimit)) = true := by
    simp [wstate, bufOf_ids_length, hin]
  rw [if_pos hcond]
  simp only [wstate, addBlock_tiOf c [] ps hne (Or.inl rfl)]
  rfl

end WM.Codec
