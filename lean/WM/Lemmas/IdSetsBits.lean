import WM.Model.IdSets
import WM.Lemmas.SpecIdSet
/-! Bit arrays.  A bytewise operation (`add`, `discard`, `_resize`, `_trim`, `_logic`, `clear`) gets a pointwise
equation (`contains_add`, `contains_discard`, `contains_resize`, …) and from it, by `iter_bits_eq`, its equation on
`iter` (`iter_add`, …; for `_trim` and `_resize` that step is taken in `bitset_trim` and `bitset_resize`); `wf_add`, `wf_discard` and
`wf_resize` say that bytes stay below 256, which `__len__` relies on.  An element loop (`for n in other:
self.add(n)` and the like) is the fold of `iter_add` / `iter_discard`, which the specification evaluates on
lists (`foldl_insert_eq_union`, `foldl_erase_eq_diff`, `foldl_erase_unless_self`). -/
namespace WM.IdSets
open WM.Spec.IdSet (Sorted)

theorem hasBit_eq_testBit (b k : Nat) : hasBit b k = b.testBit k := by
  unfold hasBit
  rw [Nat.one_shiftLeft]
  cases h : b.testBit k
  · have : b &&& 2 ^ k = 0 := by
      apply Nat.eq_of_testBit_eq
      intro j
      rw [Nat.testBit_and, Nat.testBit_two_pow, Nat.zero_testBit]
      by_cases hj : k = j
      · subst hj; simp [h]
      · simp [hj]
    simp [this]
  · have : (b &&& 2 ^ k).testBit k = true := by
      rw [Nat.testBit_and, Nat.testBit_two_pow_self, h]; rfl
    have hne : b &&& 2 ^ k ≠ 0 := by
      intro h0; rw [h0, Nat.zero_testBit] at this; cases this
    simp [hne]

theorem contains_eq (bits : Bits) (i : Nat) :
    contains bits i = match bits[i / 8]? with
      | some b => b.testBit (i % 8)
      | none => false := by
  unfold contains
  by_cases h : i / 8 ≥ bits.length
  · simp [h]
  · have h' : i / 8 < bits.length := by omega
    simp [h, List.getElem?_eq_getElem h', hasBit_eq_testBit]

theorem contains_nil (i : Nat) : contains [] i = false := by simp [contains]

theorem contains_byte_cons (b : Nat) (bs : Bits) (i : Nat) :
    contains (b :: bs) i = if i < 8 then b.testBit i else contains bs (i - 8) := by
  rw [contains_eq, contains_eq]
  by_cases h : i < 8
  · rw [if_pos h, Nat.div_eq_of_lt h, Nat.mod_eq_of_lt h]; rfl
  · obtain ⟨k, rfl⟩ : ∃ k, i = k + 8 := ⟨i - 8, by omega⟩
    rw [if_neg h, Nat.add_div_right _ (by decide), Nat.add_mod_right, Nat.add_sub_cancel]; rfl

theorem contains_lt {bits : Bits} {i : Nat} (h : contains bits i = true) : i < 8 * bits.length := by
  unfold contains at h
  by_cases hb : i / 8 ≥ bits.length
  · simp [hb] at h
  · omega

theorem iterByte_eq (base b : Nat) :
    iterByte base b = ((List.range 8).filter (hasBit b)).map (base + ·) := by
  rw [iterByte, ← List.filterMap_eq_map', ← List.filterMap_filter]

theorem iterFrom_eq : ∀ (base : Nat) (bs : Bits),
    iterFrom base bs = ((List.range (8 * bs.length)).filter (contains bs)).map (base + ·)
  | _, [] => rfl
  | base, b :: bs => by
    rw [iterFrom, iterByte_eq, iterFrom_eq, List.length_cons, Nat.mul_succ, Nat.add_comm (8 * bs.length) 8,
      List.range_add, List.filter_append, List.map_append, List.filter_map, List.map_map]
    have h1 : (List.range 8).filter (contains (b :: bs)) = (List.range 8).filter (hasBit b) :=
      List.filter_congr fun k hk => by rw [contains_byte_cons, if_pos (List.mem_range.mp hk), hasBit_eq_testBit]
    have h2 : (contains (b :: bs) ∘ fun x => 8 + x) = contains bs := funext fun k => by
      rw [Function.comp_apply, contains_byte_cons, if_neg (Nat.not_lt.mpr (Nat.le_add_right ..)),
        Nat.add_sub_cancel_left]
    rw [h1, h2]
    exact congrArg _ (List.map_congr_left fun k _ => Nat.add_assoc ..)

theorem iter_eq (bits : Bits) : iter bits = (List.range (8 * bits.length)).filter (contains bits) := by
  rw [iter, iterFrom_eq]
  exact (List.map_congr_left fun k _ => Nat.zero_add k).trans (List.map_id _)

theorem sorted_iter (bits : Bits) : Sorted (iter bits) := by
  rw [iter_eq]; exact List.Pairwise.filter _ List.pairwise_lt_range

theorem mem_iter {bits : Bits} {x : Nat} : x ∈ iter bits ↔ contains bits x = true := by
  rw [iter_eq, List.mem_filter, List.mem_range]
  exact ⟨fun h => h.2, fun h => ⟨contains_lt h, h⟩⟩

theorem iter_bits_eq {b : Bits} {s : List Nat} (hs : Sorted s) (h : ∀ x, x ∈ s ↔ contains b x = true) :
    iter b = s :=
  WM.Spec.IdSet.sorted_ext (sorted_iter b) hs (fun x => by rw [mem_iter, h])

theorem resize_eq (bits : Bits) (n : Nat) :
    resize bits n = (bits ++ List.replicate (bytesForBits n - bits.length) 0).take (bytesForBits n) := by
  unfold resize
  simp only
  split
  · next h => rw [List.take_of_length_le (by rw [List.length_append, List.length_replicate]; omega)]
  · split
    · next h1 h => rw [Nat.sub_eq_zero_of_le (Nat.le_of_lt h), List.replicate_zero, List.append_nil]
    · next h1 h2 =>
      rw [Nat.sub_eq_zero_of_le (Nat.le_of_not_lt h1), List.replicate_zero, List.append_nil,
        List.take_of_length_le (Nat.le_of_not_lt h2)]

theorem length_resize (bits : Bits) (n : Nat) : (resize bits n).length = bytesForBits n := by
  rw [resize_eq, List.length_take, List.length_append, List.length_replicate]; omega

theorem contains_resize (bits : Bits) (n j : Nat) :
    contains (resize bits n) j = (contains bits j && decide (j / 8 < bytesForBits n)) := by
  rw [contains_eq, contains_eq, resize_eq, List.getElem?_take]
  by_cases hj : j / 8 < bytesForBits n
  · rw [if_pos hj, decide_eq_true hj, Bool.and_true, List.getElem?_append]
    by_cases h : j / 8 < bits.length
    · rw [if_pos h]
    · rw [if_neg h, List.getElem?_eq_none (Nat.le_of_not_lt h), List.getElem?_replicate]
      by_cases hr : j / 8 - bits.length < bytesForBits n - bits.length
      · rw [if_pos hr]; exact Nat.zero_testBit _
      · rw [if_neg hr]
  · rw [if_neg hj, decide_eq_false hj, Bool.and_false]

theorem bytesForBits_eq (n : Nat) : bytesForBits n = n / 8 + 1 := Nat.add_div_right n (by decide)

theorem div_lt_bytesForBits_succ (i : Nat) : i / 8 < bytesForBits (i + 1) := by
  rw [bytesForBits_eq]; exact Nat.lt_succ_of_le (Nat.div_le_div_right (Nat.le_succ i))

theorem contains_resize_of_le {bits : Bits} {n : Nat} (h : bits.length ≤ bytesForBits n) (j : Nat) :
    contains (resize bits n) j = contains bits j := by
  rw [contains_resize]
  by_cases hc : contains bits j = true
  · rw [hc, decide_eq_true (Nat.lt_of_lt_of_le (Nat.div_lt_of_lt_mul (contains_lt hc)) h)]; rfl
  · rw [Bool.not_eq_true] at hc; rw [hc]; rfl

theorem testBit_255 (k : Nat) (hk : k < 8) : Nat.testBit 255 k = true := by
  rw [show (255 : Nat) = 2 ^ 8 - 1 from rfl, Nat.testBit_two_pow_sub_one]; exact decide_eq_true hk

theorem testBit_and_255 (x k : Nat) (hk : k < 8) : (x &&& 255).testBit k = x.testBit k := by
  rw [Nat.testBit_and, testBit_255 k hk, Bool.and_true]

theorem testBit_or_bit (b k j : Nat) :
    (b ||| 1 <<< k).testBit j = if k = j then true else b.testBit j := by
  rw [Nat.testBit_or, Nat.one_shiftLeft, Nat.testBit_two_pow]
  by_cases h : k = j <;> simp [h]

theorem testBit_andNot_bit (b k j : Nat) (hj : j < 8) :
    (andNot b (1 <<< k)).testBit j = if k = j then false else b.testBit j := by
  unfold andNot
  rw [Nat.testBit_and, Nat.testBit_xor, Nat.one_shiftLeft, Nat.testBit_two_pow, testBit_255 j hj]
  by_cases h : k = j <;> simp [h]

theorem contains_modify (bits : Bits) (f : Nat → Nat) (bucket j : Nat) :
    contains (bits.modify bucket f) j = match bits[j / 8]? with
      | some b => (if bucket = j / 8 then f b else b).testBit (j % 8)
      | none => false := by
  rw [contains_eq, List.getElem?_modify]
  cases bits[j / 8]? <;> simp

theorem contains_modify_bit (bits : Bits) (f : Nat → Nat) (v : Bool) (i j : Nat) (hlen : i / 8 < bits.length)
    (hf : ∀ b k, k < 8 → (f b).testBit k = if i % 8 = k then v else b.testBit k) :
    contains (bits.modify (i / 8) f) j = if j = i then v else contains bits j := by
  rw [contains_modify, contains_eq]
  by_cases hji : j = i
  · subst hji
    rw [if_pos rfl, List.getElem?_eq_getElem hlen]
    simp only [↓reduceIte]
    rw [hf _ _ (Nat.mod_lt _ (by decide)), if_pos rfl]
  · rw [if_neg hji]
    cases bits[j / 8]? with
    | none => rfl
    | some b =>
      simp only
      by_cases hb : i / 8 = j / 8
      · rw [if_pos hb, hf _ _ (Nat.mod_lt _ (by decide)), if_neg fun h8 => hji (Nat.ext_div_mod hb h8).symm]
      · rw [if_neg hb]

theorem contains_add (bits : Bits) (i j : Nat) :
    contains (add bits i) j = (decide (j = i) || contains bits j) := by
  have key : ∀ b : Bits, i / 8 < b.length →
      contains (b.modify (i / 8) (· ||| (1 <<< (i % 8)))) j = (decide (j = i) || contains b j) := by
    intro b hb
    rw [contains_modify_bit b _ true i j hb fun b k _ => testBit_or_bit b (i % 8) k]
    by_cases h : j = i <;> simp [h]
  unfold add
  simp only
  by_cases hge : i / 8 ≥ bits.length
  · rw [if_pos hge, key _ (by rw [length_resize]; exact div_lt_bytesForBits_succ i),
      contains_resize_of_le (Nat.le_trans hge (Nat.le_of_lt (div_lt_bytesForBits_succ i)))]
  · rw [if_neg hge]
    exact key _ (by omega)

theorem length_add_ge (bits : Bits) (i : Nat) : bits.length ≤ (add bits i).length := by
  unfold add
  simp only [List.length_modify]
  split
  · next h => rw [length_resize]; exact Nat.le_trans h (Nat.le_of_lt (div_lt_bytesForBits_succ i))
  · exact Nat.le_refl _

theorem contains_discard (bits : Bits) (i j : Nat) :
    contains (discard bits i) j = (contains bits j && !decide (j = i)) := by
  unfold discard
  simp only
  split
  · next hlt =>
    rw [contains_modify_bit bits _ false i j hlt
      fun b k hk => testBit_andNot_bit b (i % 8) k hk]
    by_cases h : j = i <;> simp [h]
  · next hge =>
    by_cases hji : j = i
    · subst hji
      rw [contains_eq, List.getElem?_eq_none (by omega)]; simp
    · simp [hji]

theorem length_discard (bits : Bits) (i : Nat) : (discard bits i).length = bits.length := by
  unfold discard; simp only; split <;> simp

theorem contains_trim (bits : Bits) (j : Nat) : contains (trim bits) j = contains bits j := by
  fun_induction trim bits generalizing j with
  | case1 => rfl
  | case2 bs h ih => rw [contains_byte_cons, ← ih, h, contains_nil, contains_nil, Nat.zero_testBit, ite_self]
  | case3 b bs h hb ih => rw [contains_byte_cons, contains_byte_cons, ← ih, h]
  | case4 b bs hne ih => rw [contains_byte_cons, contains_byte_cons, ih]

theorem trim_getLast (bits : Bits) : (trim bits).getLast? ≠ some 0 := by
  fun_induction trim bits with
  | case1 => nofun
  | case2 bs h ih => nofun
  | case3 b bs h hb ih => exact fun e => hb (Option.some.inj e)
  | case4 b bs hne ih =>
    obtain ⟨y, ys, e⟩ := List.exists_cons_of_ne_nil hne
    rw [e] at ih ⊢
    exact ih

theorem zipLongest_nil_right (op : Nat → Nat → Nat) : ∀ (a : Bits),
    zipLongest op a [] = a.map fun x => op x 0 &&& 255
  | [] => by simp [zipLongest]
  | x :: xs => by simp [zipLongest, zipLongest_nil_right op xs]

theorem trim_zeros : ∀ (n : Nat), trim (List.replicate n 0) = []
  | 0 => rfl
  | n + 1 => by simp [List.replicate_succ, trim, trim_zeros n]

theorem contains_logic (op : Nat → Nat → Nat) (f : Bool → Bool → Bool)
    (hff : f false false = false)
    (hop : ∀ x y k, k < 8 → (op x y).testBit k = f (x.testBit k) (y.testBit k))
    (a b : Bits) (j : Nat) : contains (logic op a b) j = f (contains a j) (contains b j) := by
  have byte : ∀ x y j, j < 8 → (op x y &&& 255).testBit j = f (x.testBit j) (y.testBit j) :=
    fun x y j h => by rw [testBit_and_255 _ _ h, hop _ _ _ h]
  rw [logic, contains_trim]
  induction a, b using zipLongest.induct generalizing j with
  | case1 => rw [zipLongest, contains_nil, hff]
  | case2 x xs ih | case3 x xs ih =>
    rw [zipLongest, contains_byte_cons, contains_byte_cons, contains_nil, ih, contains_nil]
    split
    · next h => rw [byte _ _ _ h, Nat.zero_testBit]
    · rfl
  | case4 x xs y ys ih =>
    rw [zipLongest, contains_byte_cons, contains_byte_cons, contains_byte_cons, ih]
    split
    · next h => rw [byte _ _ _ h]
    · rfl

theorem contains_logic_or (a b : Bits) (j : Nat) :
    contains (logic (· ||| ·) a b) j = (contains a j || contains b j) :=
  contains_logic _ (· || ·) rfl (fun x y k _ => Nat.testBit_or x y k) a b j

theorem contains_logic_and (a b : Bits) (j : Nat) :
    contains (logic (· &&& ·) a b) j = (contains a j && contains b j) :=
  contains_logic _ (· && ·) rfl (fun x y k _ => Nat.testBit_and x y k) a b j

theorem contains_logic_andNot (a b : Bits) (j : Nat) :
    contains (logic andNot a b) j = (contains a j && !contains b j) := by
  refine contains_logic _ (fun p q => p && !q) rfl ?_ a b j
  intro x y k hk
  unfold andNot
  rw [Nat.testBit_and, Nat.testBit_xor, testBit_255 k hk]
  simp

theorem contains_replicate_zero (n j : Nat) : contains (List.replicate n 0) j = false := by
  rw [contains_eq, List.getElem?_replicate]
  by_cases h : j / 8 < n <;> simp [h]

theorem contains_resizeToOther (bits : Bits) (o : Other) (j : Nat) :
    contains (resizeToOther bits o) j = contains bits j := by
  unfold resizeToOther
  split
  · split
    · rfl
    · simp only
      split
      · next h =>
        exact contains_resize_of_le (Nat.le_of_lt (Nat.lt_trans h (by rw [bytesForBits_eq]; exact Nat.lt_succ_self _))) j
      · rfl
  · rfl

theorem iter_contains (bits : Bits) (j : Nat) : (iter bits).contains j = contains bits j := by
  rw [Bool.eq_iff_iff, List.contains_iff_mem, mem_iter]

theorem other_items_contains (o : Other) (j : Nat) : o.items.contains j = o.contains j := by
  cases o with
  | bits b => exact iter_contains b j
  | list l s => rfl

theorem contains_clear (bits : Bits) (j : Nat) : contains (clear bits) j = false := by
  rw [contains_eq]
  unfold clear
  rw [List.getElem?_map]
  cases bits[j / 8]? <;> simp

theorem wf_resize (bits : Bits) (n : Nat) (h : ∀ x ∈ bits, x < 256) : ∀ x ∈ resize bits n, x < 256 := by
  intro x hx
  rw [resize_eq] at hx
  rcases List.mem_append.mp (List.mem_of_mem_take hx) with hx | hx
  · exact h x hx
  · rw [(List.mem_replicate.mp hx).2]; decide

theorem wf_modify (bits : Bits) (k : Nat) (f : Nat → Nat) (h : ∀ x ∈ bits, x < 256)
    (hf : ∀ b, b < 256 → f b < 256) : ∀ x ∈ bits.modify k f, x < 256 := by
  intro x hx
  rcases List.getElem_of_mem hx with ⟨m, hm, hget⟩
  rw [List.getElem_modify] at hget
  rw [List.length_modify] at hm
  split at hget
  · rw [← hget]; exact hf _ (h _ (List.getElem_mem hm))
  · rw [← hget]; exact h _ (List.getElem_mem hm)

theorem wf_add (bits : Bits) (i : Nat) (h : ∀ x ∈ bits, x < 256) : ∀ x ∈ add bits i, x < 256 := by
  unfold add
  simp only
  apply wf_modify
  · split
    · exact wf_resize _ _ h
    · exact h
  · intro b hb
    exact Nat.or_lt_two_pow (n := 8) hb
      (by rw [Nat.one_shiftLeft]; exact Nat.pow_lt_pow_right (by decide) (Nat.mod_lt _ (by decide)))

theorem wf_discard (bits : Bits) (i : Nat) (h : ∀ x ∈ bits, x < 256) : ∀ x ∈ discard bits i, x < 256 := by
  unfold discard
  simp only
  split
  · apply wf_modify _ _ _ h
    intro b hb
    unfold andNot
    exact Nat.lt_of_le_of_lt Nat.and_le_left hb
  · exact h

theorem iter_add (bits : Bits) (i : Nat) : iter (add bits i) = WM.Spec.IdSet.insert i (iter bits) :=
  iter_bits_eq (WM.Spec.IdSet.sorted_insert (sorted_iter bits)) fun x => by
    rw [WM.Spec.IdSet.mem_insert, contains_add, mem_iter]; simp

theorem iter_discard (bits : Bits) (i : Nat) : iter (discard bits i) = WM.Spec.IdSet.erase i (iter bits) :=
  iter_bits_eq (WM.Spec.IdSet.sorted_erase (sorted_iter bits)) fun x => by
    rw [WM.Spec.IdSet.mem_erase, contains_discard, mem_iter]; simp

theorem iter_logic_or (a b : Bits) : iter (logic (· ||| ·) a b) = WM.Spec.IdSet.union (iter a) (iter b) :=
  iter_bits_eq (WM.Spec.IdSet.sorted_union (sorted_iter a)) fun x => by
    rw [WM.Spec.IdSet.mem_union, contains_logic_or, mem_iter, mem_iter, Bool.or_eq_true]

theorem iter_logic_and (a b : Bits) : iter (logic (· &&& ·) a b) = WM.Spec.IdSet.inter (iter a) (iter b) :=
  iter_bits_eq (WM.Spec.IdSet.sorted_inter (sorted_iter a)) fun x => by
    rw [WM.Spec.IdSet.mem_inter, contains_logic_and, mem_iter, mem_iter, Bool.and_eq_true]

theorem iter_logic_andNot (a b : Bits) : iter (logic andNot a b) = WM.Spec.IdSet.diff (iter a) (iter b) :=
  iter_bits_eq (WM.Spec.IdSet.sorted_diff (sorted_iter a)) fun x => by
    rw [WM.Spec.IdSet.mem_diff, contains_logic_andNot, mem_iter, mem_iter, Bool.and_eq_true, Bool.not_eq_true',
      Bool.not_eq_true]

theorem iter_eq_nil {bits : Bits} (h : ∀ x, contains bits x = false) : iter bits = [] :=
  iter_bits_eq WM.Spec.IdSet.sorted_nil fun x => by rw [h]; simp

theorem iter_clear (bits : Bits) : iter (clear bits) = [] := iter_eq_nil (contains_clear bits)

theorem iter_foldl_add (l : List Nat) (bits : Bits) :
    iter (l.foldl add bits) = WM.Spec.IdSet.union (iter bits) l := by
  rw [← WM.Spec.IdSet.foldl_insert_eq_union l (sorted_iter bits)]
  exact (List.foldl_hom iter fun b n => (iter_add b n).symm).symm

theorem iter_foldl_discard (l : List Nat) (bits : Bits) :
    iter (l.foldl discard bits) = WM.Spec.IdSet.diff (iter bits) l := by
  rw [← WM.Spec.IdSet.foldl_erase_eq_diff]
  exact (List.foldl_hom iter fun b n => (iter_discard b n).symm).symm

theorem filter_other (s : List Nat) (o : Other) : s.filter o.contains = WM.Spec.IdSet.inter s o.items :=
  List.filter_congr fun x _ => (other_items_contains o x).symm

theorem filter_not_other (s : List Nat) (o : Other) :
    s.filter (fun n => !o.contains n) = WM.Spec.IdSet.diff s o.items :=
  List.filter_congr fun x _ => by rw [other_items_contains]

theorem iter_ofSource (source : List Nat) (sized : Bool) (size : Nat) :
    iter (ofSource source sized size) = WM.Spec.IdSet.ofList source := by
  unfold ofSource emptyOfSize
  simp only
  rw [iter_foldl_add, iter_eq_nil (contains_replicate_zero _)]
  rfl

theorem iter_update (bits : Bits) (o : Other) :
    iter (update bits o) = WM.Spec.IdSet.union (iter bits) o.items := by
  rw [update, iter_foldl_add,
    iter_bits_eq (sorted_iter bits) fun x => by rw [contains_resizeToOther, mem_iter]]

theorem iter_intersectionUpdate (bits : Bits) (o : Other) :
    iter (intersectionUpdate bits o) = WM.Spec.IdSet.inter (iter bits) o.items := by
  cases o with
  | bits b => exact iter_logic_and bits b
  | list l s =>
    rw [← filter_other, ← WM.Spec.IdSet.foldl_erase_unless_self]
    refine (List.foldl_hom iter fun b n => ?_).symm
    by_cases h : (Other.list l s).contains n = true
    · rw [if_pos h, if_pos h]
    · rw [if_neg h, if_neg h, iter_discard]

theorem iter_differenceUpdate (bits : Bits) (o : Other) :
    iter (differenceUpdate bits o) = WM.Spec.IdSet.diff (iter bits) o.items := by
  cases o with
  | bits b => exact iter_logic_andNot bits b
  | list l s => exact iter_foldl_discard _ bits

theorem iter_union (bits : Bits) (o : Other) :
    iter (union bits o) = WM.Spec.IdSet.union (iter bits) o.items := by
  cases o with
  | bits b => exact iter_logic_or bits b
  | list l s => exact iter_update bits _

/-- `BitSet(source=(n for n in self if p(n)))`: the members that pass, already in order. -/
theorem iter_ofSource_filter (bits : Bits) (p : Nat → Bool) :
    iter (ofSource ((iter bits).filter p) false 0) = (iter bits).filter p := by
  rw [iter_ofSource, WM.Spec.IdSet.ofList_sorted (List.Pairwise.filter _ (sorted_iter bits))]

theorem iter_intersection (bits : Bits) (o : Other) :
    iter (intersection bits o) = WM.Spec.IdSet.inter (iter bits) o.items := by
  cases o with
  | bits b => exact iter_logic_and bits b
  | list l s => exact (iter_ofSource_filter bits _).trans (filter_other _ _)

theorem iter_difference (bits : Bits) (o : Other) :
    iter (difference bits o) = WM.Spec.IdSet.diff (iter bits) o.items := by
  cases o with
  | bits b => exact iter_logic_andNot bits b
  | list l s => exact (iter_ofSource_filter bits _).trans (filter_not_other _ _)

end WM.IdSets
