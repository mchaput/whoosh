import WM.Lemmas.CodecDecode
/-! Reading inlined postings back through `ListMatcher`; value bytes admissible on both paths. -/
namespace WM.Codec

variable {ι μ : Type}

/-- Values admissible for the *inlined* path: as `ValuesOk`, and a value-less format (fixed size 0)
    really has empty values (which every shipped format of size 0 has). -/
def InlineValuesOk (fixedsize : Option Nat) (ps : List (Posting ι)) : Prop :=
  match fixedsize with
  | some 0 => ∀ p ∈ ps, p.value = []
  | other => ValuesOk other ps

/-- Per posting: value bytes that a block writer with fixed size `fs` admits on both paths. -/
def ValueOk (fs : Option Nat) (v : Bytes) : Prop :=
  match fs with
  | none => v ≠ []
  | some 0 => v = []
  | some (k + 1) => v.length = k + 1

theorem valuesOk_of_forall (fs : Option Nat) (ps : List (Posting ι))
    (h : ∀ p ∈ ps, ValueOk fs p.value) : ValuesOk fs ps ∧ InlineValuesOk fs ps := by
  cases fs with
  | none => exact ⟨h, h⟩
  | some k =>
    cases k with
    | zero => exact ⟨trivial, h⟩
    | succ k => exact ⟨h, h⟩

theorem inlinedReadFrom_eq (wf : Posting ι → Rat) (val : Posting ι → Bytes) (ws : List Rat)
    (vs : List Bytes) (i : Nat) (ps : List (Posting ι))
    (h : ∀ k p, ps[k]? = some p →
      inlinedWeight ws (i + k) = .ok (wf p) ∧ inlinedValue vs (i + k) = .ok (val p)) :
    inlinedReadFrom ws vs i (ps.map (·.id)) = .ok (ps.map fun p => (p.id, wf p, val p)) := by
  induction ps generalizing i with
  | nil => rfl
  | cons p ps ih =>
    obtain ⟨hw, hv⟩ := h 0 p rfl
    rw [Nat.add_zero] at hw hv
    have ih' := ih (i + 1) fun k q hk => by rw [Nat.add_right_comm]; exact h (k + 1) q hk
    simp only [List.map_cons, inlinedReadFrom, hw, hv, ih']

theorem inlinedRead_spec (c : Cfg ι μ) (ps : List (Posting ι))
    (hv : InlineValuesOk c.fixedsize ps) :
    inlinedRead (ps.map (·.id)) (ps.map fun p => c.f32 p.weight) (storedValues ps)
      = .ok (ps.map fun p => (p.id, c.f32 p.weight, p.value)) := by
  refine inlinedReadFrom_eq (fun p => c.f32 p.weight) (·.value) _ _ 0 ps fun k p hk => ?_
  rw [Nat.zero_add]
  have hne : ps ≠ [] := fun e => by rw [e] at hk; cases hk
  refine ⟨by simp [inlinedWeight, hne, hk], ?_⟩
  -- either every value is empty and none is stored, or every value is stored
  by_cases h0 : c.fixedsize = some 0
  · simp only [InlineValuesOk, h0] at hv
    have hsv : storedValues ps = [] :=
      List.filter_eq_nil_iff.mpr fun v hvm => by
        obtain ⟨q, hq, rfl⟩ := List.mem_map.mp hvm
        simp [hv q hq]
    simp [inlinedValue, hsv, hv p (List.mem_of_getElem? hk)]
  · have hall : ∀ q ∈ ps, q.value ≠ [] := by
      refine ValuesOk.ne_nil ?_ h0
      unfold InlineValuesOk at hv
      split at hv
      · next h => exact absurd h h0
      · exact hv
    simp [inlinedValue, storedValues_eq ps hall, hne, hk]

end WM.Codec
