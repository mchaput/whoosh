/-! Sorting by a Boolean linear order: the sorted permutation of a list is unique. -/
namespace WM

structure SortOrder {α : Type} (le : α → α → Bool) : Prop where
  trans : ∀ a b c, le a b = true → le b c = true → le a c = true
  total : ∀ a b, (le a b || le b a) = true
  antisymm : ∀ a b, le a b = true → le b a = true → a = b

namespace SortOrder
variable {α : Type} {le : α → α → Bool}

theorem of_not (h : SortOrder le) {a b : α} (hab : ¬ le a b = true) : le b a = true := by
  simpa [hab] using h.total a b

theorem flip (h : SortOrder le) : SortOrder (fun a b => le b a) :=
  ⟨fun a b c h1 h2 => h.trans c b a h2 h1, fun a b => h.total b a, fun a b h1 h2 => h.antisymm a b h2 h1⟩

theorem sorted (h : SortOrder le) (l : List α) : (l.mergeSort le).Pairwise (fun a b => le a b = true) :=
  List.pairwise_mergeSort h.trans h.total l

theorem mergeSort_eq (h : SortOrder le) {l s : List α} (hp : s.Perm l)
    (hs : s.Pairwise (fun a b => le a b = true)) : l.mergeSort le = s :=
  List.Perm.eq_of_pairwise (fun a b _ _ => h.antisymm a b) (h.sorted l) hs
    ((List.mergeSort_perm l le).trans hp.symm)

theorem mergeSort_congr (h : SortOrder le) {l l' : List α} (hp : l.Perm l') :
    l.mergeSort le = l'.mergeSort le :=
  h.mergeSort_eq ((List.mergeSort_perm l' le).trans hp.symm) (h.sorted l')

theorem mergeSort_filter (h : SortOrder le) (p : α → Bool) (l : List α) :
    (l.filter p).mergeSort le = (l.mergeSort le).filter p :=
  h.mergeSort_eq ((List.mergeSort_perm l le).filter p) ((h.sorted l).filter p)

/-- Sorting by the opposite order reverses the sorted list (no two different elements tie). -/
theorem mergeSort_flip (h : SortOrder le) (l : List α) :
    l.mergeSort (fun a b => le b a) = (l.mergeSort le).reverse :=
  h.flip.mergeSort_eq ((List.reverse_perm _).trans (List.mergeSort_perm l le))
    (List.pairwise_reverse.mpr (h.sorted l))

theorem pair_sublist (h : SortOrder le) {s : List α} (hs : s.Pairwise (fun a b => le a b = true)) {a b : α}
    (ha : a ∈ s) (hb : b ∈ s) (hab : le a b = true) (hne : a ≠ b) : [a, b].Sublist s := by
  obtain ⟨s, t, rfl⟩ := List.append_of_mem ha
  rcases List.mem_append.mp hb with hb | hb
  · exact absurd (h.antisymm a b hab ((List.pairwise_append.mp hs).2.2 b hb a List.mem_cons_self)) hne
  · exact ((List.singleton_sublist.mpr ((List.mem_cons.mp hb).resolve_left (Ne.symm hne))).cons_cons a).trans
      (List.sublist_append_right s _)

/-- `r`: at most `k` sorted winners; the losers, if any, come after all `k` of them. -/
theorem take_mergeSort_of_split (h : SortOrder le) (k : Nat) {l r losers : List α}
    (hperm : l.Perm (r ++ losers)) (hsorted : r.Pairwise (fun a b => le a b = true)) (hlen : r.length ≤ k)
    (hlos : ∀ x ∈ losers, r.length = k ∧ ∀ y ∈ r, le y x = true) :
    (l.mergeSort le).take k = r := by
  have hp2 : (losers.mergeSort le).Perm losers := List.mergeSort_perm losers le
  have heq : l.mergeSort le = r ++ losers.mergeSort le := by
    refine h.mergeSort_eq ((List.Perm.append_left r hp2).trans hperm.symm) ?_
    exact List.pairwise_append.mpr ⟨hsorted, h.sorted losers, fun a ha b hb => (hlos b (hp2.subset hb)).2 a ha⟩
  rw [heq]
  cases losers with
  | nil => simpa using List.take_of_length_le hlen
  | cons x xs => rw [← (hlos x (by simp)).1]; simp

end SortOrder
end WM
