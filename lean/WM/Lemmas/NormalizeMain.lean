import WM.Lemmas.NormalizeCompSat
/-! The main induction for `sat (normalize q) = sat q`. -/
namespace WM.Normalize
open WM.Sat WM.Clean

theorem normalizeList_isEmpty (qs : List Q) : (normalizeList qs).isEmpty = qs.isEmpty := by
  cases qs <;> rfl

/-- Hypothesis about the empty term: the tree has no exclusive open start where it matters
    (`WM.Clean.emptyOk`), or no document of the index holds the empty term. -/
def EOk (env : Env) (q : Q) : Prop := emptyOk q = true ∨ ∀ d ∈ env.index, d.NoEmpty
def EOkList (env : Env) (qs : List Q) : Prop := emptyOkList qs = true ∨ ∀ d ∈ env.index, d.NoEmpty

/-- A hypothesis "`a && b`, or else `N`" (`EOk`, `EOkList` and their `simplify` counterparts at an inner node)
    splits like the conjunction. -/
theorem or_of_and {a b : Bool} {N : Prop} (h : (a && b) = true ∨ N) : (a = true ∨ N) ∧ (b = true ∨ N) :=
  h.elim (fun h => have h := Bool.and_eq_true_iff.mp h; ⟨.inl h.1, .inl h.2⟩) fun n => ⟨.inr n, .inr n⟩

theorem EOk.range {env : Env} {f : Field} {lo hi : Option Text} {lx hx c : Bool} {b : Rat}
    (h : EOk env (.range f lo hi lx hx b c)) {d : Doc} (hd : d ∈ env.index) : ROk d ⟨f, lo, hi, lx, hx, b, c⟩ :=
  h.imp (Bool.not_eq_true' _).mp fun h => h d hd

theorem EOk.lok {env : Env} {k : CK} {qs : List Q} {b : Rat} (h : EOk env (.comp k qs b)) {d : Doc}
    (hd : d ∈ env.index) : LOk d (flatten k (normalizeList qs)) := by
  rcases (or_of_and h).2 with h | h
  · intro s hs r hr
    have := List.all_eq_true.mp h s hs
    simp only [rangeOk, hr] at this
    exact Or.inl ((Bool.not_eq_true' _).mp this)
  · exact LOk.of_noEmpty (h d hd) _

/-- `BinaryQuery.normalize` and its overrides drop a side only where `NullQuery` is neutral. -/
theorem binNormalize_sat (env : Env) (k : BK) (a b : Q) (d : Doc) (hd : d ∈ env.index) :
    sat env (binNormalize k a b) d = sat env (.bin k a b) d := by
  cases ha : a.isNull
  · cases hb : b.isNull
    · cases k <;> simp [binNormalize, ha, hb]
    · obtain rfl := Q.isNull_iff.mp hb
      cases k <;> simp only [binNormalize, ha, hb, sat, Bool.and_true, Bool.and_false, Bool.or_true,
        Bool.not_false, Bool.false_eq_true, ↓reduceIte]
      -- `Otherwise(a, NullQuery)`: a document of the index that `a` matches makes `a` match something
      split
      · rfl
      · rename_i hno
        simpa using List.any_eq_false.mp (by simpa using hno) d hd
  · obtain rfl := Q.isNull_iff.mp ha
    cases hb : b.isNull
    · cases k <;> simp [binNormalize, ha, hb, sat]
    · obtain rfl := Q.isNull_iff.mp hb
      cases k <;> simp [binNormalize, ha, sat]

mutual
theorem normalize_sat_aux (env : Env) (hidx : ∀ d ∈ env.index, d.BelowMax) :
    ∀ (q : Q), clean q = true → EOk env q → ∀ d ∈ env.index, sat env (normalize q) d = sat env q d
  | .wild f t b c => fun _ _ d _ => wildNormalize_sat env f t b c d
  | .range f lo hi lx hx b c => fun _ he d hd => rngNormalize_sat env _ d (hidx d hd) (he.range hd)
  | .phrase f ws s b => fun _ _ d _ => phraseNormalize_sat env f ws s b d
  | .comp k qs b => fun hc he d hd => by
    obtain ⟨hcl, hk⟩ := (Bool.and_eq_true _ _).mp hc
    simp only [Bool.and_eq_true, Bool.or_eq_true, bne_iff_ne, ne_eq] at hk
    show sat env (compNormalize k (normalizeList qs) b) d = _
    rw [compNormalize_sat env k _ b d (hidx d hd) (he.lok hd) (NormalList_normalizeList qs), sat_comp]
    · have h1 := normalizeList_sat_aux env hidx qs hcl (or_of_and he).1 d hd
      cases k <;> simp only [den, normalizeList_isEmpty, h1.1, h1.2]
    · intro hkand
      rcases hk with hk | hk
      · exact absurd hkand hk
      · exact ⟨hk.1.1, hk.1.2, hk.2⟩
  | .seq c qs s o b => fun hc _ d _ => by
    have hc : normalizeList qs = qs := beq_iff_eq.mp hc
    show sat env (.seq c (normalizeList qs) s o b) d = _
    rw [hc]
  | .not q b => fun hc he d hd => by
    obtain ⟨hc, hn⟩ := (Bool.and_eq_true _ _).mp hc
    show sat env (if (normalize q).isNull = true then .null else .not (normalize q) b) d = _
    rw [if_neg (by simpa using hn)]
    exact congrArg (!·) (normalize_sat_aux env hidx q hc he d hd)
  | .bin k a b => fun hc he d hd => by
    obtain ⟨hca, hcb⟩ := (Bool.and_eq_true _ _).mp hc
    show sat env (binNormalize k (normalize a) (normalize b)) d = _
    rw [binNormalize_sat env k _ _ d hd]
    exact sat_bin_congr env k a _ b _ (normalize_sat_aux env hidx a hca (or_of_and he).1)
      (normalize_sat_aux env hidx b hcb (or_of_and he).2) d hd
  | .null | .every _ _ | .term _ _ _ | .pre _ _ _ _ | .multi _ _ _ _ _ | .const _ _ | .opq _ _ => fun _ _ _ _ => rfl
theorem normalizeList_sat_aux (env : Env) (hidx : ∀ d ∈ env.index, d.BelowMax) :
    ∀ (qs : List Q), cleanList qs = true → EOkList env qs → ∀ d ∈ env.index,
      satAll env (normalizeList qs) d = satAll env qs d ∧ satAny env (normalizeList qs) d = satAny env qs d
  | [] => fun _ _ _ _ => ⟨rfl, rfl⟩
  | q :: qs => fun hc he d hd => by
    have hc := (Bool.and_eq_true _ _).mp hc
    have h1 := normalize_sat_aux env hidx q hc.1 (or_of_and he).1 d hd
    have h2 := normalizeList_sat_aux env hidx qs hc.2 (or_of_and he).2 d hd
    constructor
    · show (sat env (normalize q) d && satAll env (normalizeList qs) d) = _
      rw [h1, h2.1]; rfl
    · show (sat env (normalize q) d || satAny env (normalizeList qs) d) = _
      rw [h1, h2.2]; rfl
end

end WM.Normalize
