import WM.Model.CompoundBytes
import WM.Lemmas.Compound
import WM.Lemmas.StructFile
/-! The finished compound file as bytes. -/
namespace WM.Compound
open WM.StructFile WM.NumLists

/-- the back-patch of `write_dir` on any file with 12 bytes at `basepos`: they become `!q dirpos`, `!i len(pickles)` -/
theorem writeDir_eq (before hdr body pickled : Bytes) (hh : hdr.length = headerSize)
    (hpos : ((before ++ hdr ++ body).length : Int) < cap .q) (hlen : (pickled.length : Int) < cap .i) :
    writeDir (before ++ hdr ++ body) before.length pickled
      = .ok (before ++ encodeBE 8 (before ++ hdr ++ body).length ++ encodeBE 4 pickled.length ++ body ++ pickled) := by
  unfold writeDir
  dsimp only
  rw [pack_nat .q _ hpos, pack_nat .i _ hlen]
  refine congrArg Except.ok ?_
  rw [← hh, ← List.length_append]
  simp only [List.append_assoc]
  rw [List.take_left' rfl, ← List.append_assoc before hdr (body ++ pickled), List.drop_left' rfl]
  rfl

theorem assembleFile_eq (before : Bytes) (files : List (String × Bytes)) (pickled : Bytes)
    (hpos : ((assemble before files).2.2 : Int) < 2 ^ 63) (hlen : (pickled.length : Int) < 2 ^ 31) :
    assembleFile before files pickled = .ok (before ++ encodeBE 8 (assemble before files).2.2
      ++ encodeBE 4 pickled.length ++ (copyFiles (before.length + headerSize) files).1 ++ pickled) := by
  rw [assemble_dirpos] at hpos ⊢
  exact writeDir_eq before (List.replicate headerSize 0) _ pickled (List.length_replicate ..)
    (by rw [cap_q]; exact hpos) (by rw [cap_i]; exact hlen)

end WM.Compound
