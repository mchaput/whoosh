import WM.Spec.Parser
import WM.Lemmas.ParserBase
/-! The expected tree selects the documents the expression's reading selects, the query objects its
group nodes build select the documents the tree's reading selects, and the prefix `do_wildcards` makes
of a wildcard selects the terms the glob selects.

`query()` tells three kinds of group class apart (`GK.kinds`): `NOT` (one operand), the binary classes
(`4 ≤ lvl`, two operands) and the classes with any number of operands (`merging = true`).  What an infix
operator (`2 ≤ lvl`) makes of its left part and its next operand reads as `binEval`, whether `combineL`
pairs the two or appends the operand to a group of the operator's class. -/
namespace WM.Parser

/-- the three kinds of group class `query()` tells apart: `Wrapper`, `BinaryGroup`, `GroupNode` -/
theorem GK.kinds (k : GK) : k = .not ∨ (k.hasBoost = false ∧ 4 ≤ k.lvl) ∨ k.merging = true := by
  cases k <;> decide

theorem eval_group_and (v : Node → Bool) (ns : List Node) (b : Rat) :
    Node.eval v (.group .and ns b) = (ns.map (Node.eval v)).all id := by rw [Node.eval.eq_def]
theorem eval_group_or (v : Node → Bool) (ns : List Node) (b : Rat) :
    Node.eval v (.group .or ns b) = (ns.map (Node.eval v)).any id := by rw [Node.eval.eq_def]
theorem eval_group_not (v : Node → Bool) (n : Node) (b : Rat) :
    Node.eval v (.group .not [n] b) = !Node.eval v n := by rw [Node.eval.eq_def]

theorem eval_group_pair (v : Node → Bool) {g : GK} (hg : 2 ≤ g.lvl) (a c : Node) (b : Rat) :
    Node.eval v (.group g [a, c] b) = binEval g (Node.eval v a) (Node.eval v c) := by
  rw [Node.eval.eq_def]
  cases g with
  | and | or => simp [binEval]
  | andnot | andmaybe | require => rfl
  | _ => exact absurd hg (by decide)

theorem eval_group_snoc (v : Node → Bool) {g : GK} (hg : 2 ≤ g.lvl) (hm : g.merging = true)
    (ns : List Node) (m : Node) (b : Rat) :
    Node.eval v (.group g (ns ++ [m]) b) = binEval g (Node.eval v (.group g ns b)) (Node.eval v m) := by
  rw [Node.eval.eq_def v (.group g (ns ++ [m]) b), Node.eval.eq_def v (.group g ns b)]
  cases g with
  | and => simp [binEval, List.all_append]
  | or => simp [binEval, List.any_append]
  | andnot | andmaybe | require => cases hm
  | _ => exact absurd hg (by decide)

theorem eval_leaf (v : Node → Bool) {n : Node} (h : n.isLeaf = true) : Node.eval v n = v n := by
  rw [Node.eval]
  rintro k ns b rfl
  cases h

theorem eval_combineL (v : Node → Bool) {g : GK} (hg : 2 ≤ g.lvl) (a m : Node) :
    Node.eval v (combineL g a m) = binEval g (Node.eval v a) (Node.eval v m) := by
  obtain h | ⟨ns, b, hm, rfl, h⟩ := combineL_cases g a m
  · rw [h, eval_group_pair v hg]
  · rw [h, eval_group_snoc v hg hm]

theorem Expr.eval_atom (gk : GK) (v : Node → Bool) (n : Node) : (Expr.atom n).eval gk v = v n := by rw [Expr.eval.eq_def]
theorem Expr.eval_paren (gk : GK) (v : Node → Bool) (items : List Expr) :
    (Expr.paren items).eval gk v = evalSeq gk v items := by rw [Expr.eval.eq_def]; rfl
theorem Expr.eval_not (gk : GK) (v : Node → Bool) (e : Expr) : (Expr.not e).eval gk v = !e.eval gk v := by
  rw [Expr.eval.eq_def]
theorem Expr.eval_op_cons (gk : GK) (v : Node → Bool) (g : GK) (e : Expr) (es : List Expr) :
    (Expr.op g (e :: es)).eval gk v = (es.map (fun e => e.eval gk v)).foldl (binEval g) (e.eval gk v) := by
  rw [Expr.eval.eq_def]; rfl

theorem eval_group_seq {gk : GK} (hgk : gk = .and ∨ gk = .or) (v : Node → Bool) (items : List Expr)
    (h : ∀ e ∈ items, Node.eval v (e.out gk) = e.eval gk v) (b : Rat) :
    Node.eval v (.group gk (items.map (Expr.out gk)) b) = evalSeq gk v items := by
  have hm : (items.map (Expr.out gk)).map (Node.eval v) = items.map (fun e => e.eval gk v) := by
    rw [List.map_map]
    exact List.map_congr_left h
  rcases hgk with h1 | h1 <;> subst h1
  · rw [eval_group_and, hm]; rfl
  · rw [eval_group_or, hm]; rfl

theorem out_eval (gk : GK) (hgk : gk = .and ∨ gk = .or) (v : Node → Bool) (e : Expr) (h : e.wf = true) :
    Node.eval v (e.out gk) = e.eval gk v := by
  induction e, h using Expr.wf_ind with
  | atom n hn =>
    rw [out_atom, Expr.eval_atom]
    exact eval_leaf v hn
  | paren items _ _ ih =>
    rw [out_paren, Expr.eval_paren]
    exact eval_group_seq hgk v items ih 1
  | not e0 _ _ ih => rw [out_not, Expr.eval_not, eval_group_not, ih]
  | op g es hg hlen _ ih =>
    match es, hlen with
    | e1 :: es, _ =>
      rw [out_op_cons, Expr.eval_op_cons, List.foldl_map, List.foldl_map]
      exact List.foldl_rel (r := fun t b => Node.eval v t = b) (ih e1 (.head _)) fun e he t b h => by
        rw [eval_combineL v hg, h, ih e (.tail _ he)]

theorem evalSeq_stripParen (gk : GK) (v : Node → Bool) (items : List Expr) :
    evalSeq gk v (stripParen items) = evalSeq gk v items := by
  unfold stripParen
  split
  · next inner =>
    rw [← Expr.eval_paren]
    unfold evalSeq
    split <;> simp
  · rfl

theorem full_iff {k : GK} {ns : List Node} {b : Rat} :
    Node.full (.group k ns b) = true ↔ (match k with
     | .not => decide (ns.length = 1)
     | .andnot | .andmaybe | .require => decide (ns.length = 2)
     | _ => !ns.isEmpty) = true ∧ ∀ x ∈ ns, x.full = true := by
  rw [Node.full.eq_def]
  dsimp only
  rw [Bool.and_eq_true, all_map_id]
  exact Iff.rfl

theorem full_nongroup {n : Node} (h : n.isGroup = false) : n.full = n.isLeaf := by
  rw [Node.full.eq_def]
  cases n <;> first | rfl | cases h

theorem full_combineL {g : GK} (hg : 2 ≤ g.lvl) {a m : Node} (ha : a.full = true) (hm : m.full = true) :
    (combineL g a m).full = true := by
  obtain h | ⟨ns, b, hmg, rfl, h⟩ := combineL_cases g a m <;> rw [h]
  · refine full_iff.2 ⟨?_, List.forall_mem_cons.2 ⟨ha, List.forall_mem_singleton.2 hm⟩⟩
    cases g <;> first | rfl | exact absurd hg (by decide)
  · refine full_iff.2 ⟨?_, forall_mem_snoc (full_iff.1 ha).2 hm⟩
    cases g with
    | andnot | andmaybe | require | not => cases hmg
    | _ => simp

theorem out_full (gk : GK) (hgk : gk = .and ∨ gk = .or) (e : Expr) (h : e.wf = true) : (e.out gk).full = true := by
  induction e, h using Expr.wf_ind with
  | atom n hn => rw [out_atom, full_nongroup (isLeaf_props hn).2]; exact hn
  | paren items hne _ ih =>
    rw [out_paren]
    refine full_iff.2 ⟨?_, List.forall_mem_map.2 ih⟩
    rcases hgk with h1 | h1 <;> subst h1 <;> simpa using hne
  | not e0 _ _ ih =>
    rw [out_not]
    exact full_iff.2 ⟨rfl, List.forall_mem_singleton.2 ih⟩
  | op g es hg hlen _ ih =>
    match es, hlen with
    | e1 :: es, _ =>
      rw [out_op_cons, List.foldl_map]
      exact List.foldlRecOn (motive := fun t => Node.full t = true) es _ (ih e1 (.head _)) fun t ht e he =>
        full_combineL hg ht (ih e (.tail _ he))

theorem outSeq_full (gk : GK) (hgk : gk = .and ∨ gk = .or) (items : List Expr) (hne : items ≠ [])
    (hwf : ∀ e ∈ items, e.wf = true) : (outSeq gk items).full = true := by
  rw [outSeq, ← out_paren]
  exact out_full gk hgk _ (wf_paren_stripParen hne hwf)

theorem query_leaf (o : Node → LeafRes) {n : Node} (h : n.isLeaf = true) :
    query o n = match o n with
      | .none => .ok none
      | .q id tr => .ok (some (.leaf id tr))
      | .err e => .error e := by
  rw [query.eq_def]
  cases n with
  | text | range | every => rfl
  | _ => cases h

/-- `Wrapper.query` -/
theorem query_not (o : Node → LeafRes) (n0 : Node) (rest : List Node) (b : Rat) :
    query o (.group .not (n0 :: rest) b) = (query o n0).bind fun r =>
      match r with
      | some q => if q.truthy then .ok (some (.not q)) else .ok none
      | none => .ok none := by
  rw [query.eq_def]; rfl

/-- `BinaryGroup.query` (`4 ≤ lvl`: the classes ANDNOT, ANDMAYBE, REQUIRE build) -/
theorem query_binary (o : Node → LeafRes) {k : GK} (hk : 4 ≤ k.lvl) (ns : List Node) (b : Rat) :
    query o (.group k ns b) = match ns with
      | [] => .ok (some .null)
      | [a] => (query o a).bind fun qa =>
        match qa with
        | none => .ok (some .null)
        | some q => .ok (some q)
      | [a, c] => (query o a).bind fun qa => (query o c).bind fun qc =>
        match qa, qc with
        | none, none => .ok (some .null)
        | none, some q => .ok (some q)
        | some q, none => .ok (some q)
        | some q1, some q2 => .ok (some (.binary k q1 q2))
      | _ => .error .assertion := by
  rw [query.eq_def]
  cases k with
  | andnot | andmaybe | require => rfl
  | _ => exact absurd hk (by decide)

/-- `GroupNode.query` -/
theorem query_nary (o : Node → LeafRes) {k : GK} (hk : k.merging = true) (ns : List Node) (b : Rat) :
    query o (.group k ns b) =
      (ns.mapM (query o)).bind fun qs => .ok (some (.compound k (qs.filterMap id) b)) := by
  rw [query.eq_def]
  cases k with
  | andnot | andmaybe | require | not => cases hk
  | _ => rfl

theorem Q.eval_binary (w : Nat → Bool) {k : GK} (hk : 4 ≤ k.lvl) (q1 q2 : Q) :
    Q.eval w (.binary k q1 q2) = binEval k (Q.eval w q1) (Q.eval w q2) := by
  rw [Q.eval.eq_def]
  cases k with
  | andnot | andmaybe | require => rfl
  | _ => exact absurd hk (by decide)

theorem Q.eval_compound (v : Node → Bool) (w : Nat → Bool) {k : GK} (hk : k.merging = true)
    {qs : List Q} {ns : List Node} (hne : qs ≠ []) (h : qs.map (Q.eval w) = ns.map (Node.eval v)) (b : Rat) :
    Q.eval w (.compound k qs b) = Node.eval v (.group k ns b) := by
  rw [Node.eval.eq_def, Q.eval.eq_def]
  cases k with
  | and | ordered | seq => simp [← h, hne]
  | or | dismax => simp [← h]
  | _ => cases hk

theorem filterMap_map_some {α} (l : List α) : (l.map some).filterMap id = l := by
  rw [List.filterMap_map]; exact List.filterMap_some

/-- what `query` returns for a tree all of whose leaves yield a (truthy) query -/
def Good (o : Node → LeafRes) (v : Node → Bool) (w : Nat → Bool) (t : Node) : Prop :=
  ∃ q, query o t = .ok (some q) ∧ q.truthy = true ∧ Q.eval w q = Node.eval v t

variable {o : Node → LeafRes} {v : Node → Bool} {w : Nat → Bool}

theorem mapM_good {l : List Node} (h : ∀ x ∈ l, Good o v w x) :
    ∃ qs : List Q, l.mapM (query o) = .ok (qs.map some) ∧ qs.map (Q.eval w) = l.map (Node.eval v) := by
  induction l with
  | nil => exact ⟨[], rfl, rfl⟩
  | cons a t ih =>
    obtain ⟨q, hq, _, he⟩ := h a (.head _)
    obtain ⟨qs, hqs, hes⟩ := ih (fun x hx => h x (.tail _ hx))
    exact ⟨q :: qs, by rw [List.mapM_cons, hq, hqs]; rfl, by rw [List.map_cons, List.map_cons, he, hes]⟩

theorem good_leaf {n : Node} (hl : n.isLeaf = true) (ho : ∃ id, o n = .q id true ∧ w id = v n) :
    Good o v w n := by
  obtain ⟨id, hid, hw⟩ := ho
  refine ⟨.leaf id true, ?_, rfl, ?_⟩
  · rw [query_leaf o hl, hid]
  · rw [eval_leaf v hl, Q.eval]; exact hw

theorem good_not {n : Node} (h : Good o v w n) (b : Rat) : Good o v w (.group .not [n] b) := by
  obtain ⟨q, hq, ht, he⟩ := h
  refine ⟨.not q, ?_, rfl, ?_⟩
  · rw [query_not, hq, Except.bind]; simp only [ht, if_true]
  · rw [eval_group_not, ← he, Q.eval]

theorem good_pair {k : GK} (hk : 4 ≤ k.lvl) {a c : Node} (ha : Good o v w a) (hc : Good o v w c) (b : Rat) :
    Good o v w (.group k [a, c] b) := by
  obtain ⟨q1, hq1, _, he1⟩ := ha
  obtain ⟨q2, hq2, _, he2⟩ := hc
  refine ⟨.binary k q1 q2, ?_, rfl, ?_⟩
  · simp only [query_binary o hk, hq1, hq2]; rfl
  · rw [Q.eval_binary w hk, eval_group_pair v (Nat.le_trans (by decide) hk), he1, he2]

theorem good_nary {k : GK} (hk : k.merging = true) {ns : List Node} (hne : ns ≠ [])
    (h : ∀ x ∈ ns, Good o v w x) (b : Rat) : Good o v w (.group k ns b) := by
  obtain ⟨qs, hqs, hes⟩ := mapM_good h
  have hqne : qs ≠ [] := fun h0 => hne (List.map_eq_nil_iff.1 (by rw [← hes, h0]; rfl))
  refine ⟨.compound k qs b, ?_, by simpa [Q.truthy] using hqne, Q.eval_compound v w hk hqne hes b⟩
  rw [query_nary o hk, hqs, Except.bind, filterMap_map_some]

/-- If every leaf's query (`o`) selects under `w` what the leaf reads under `v`, every `full` tree is `Good`. -/
theorem query_meaning (o : Node → LeafRes) (v : Node → Bool) (w : Nat → Bool)
    (ho : ∀ n, n.isLeaf = true → ∃ id, o n = .q id true ∧ w id = v n) (t : Node) :
    t.full = true → Good o v w t := by
  induction t using Node.childrenInd with
  | leaf n hn =>
    intro hf
    rw [full_nongroup hn] at hf
    exact good_leaf hf (ho n hf)
  | group k ns b ih =>
    intro hf
    have hch : ∀ x ∈ ns, Good o v w x := fun x hx => ih x hx ((full_iff.1 hf).2 x hx)
    have hshape := (full_iff.1 hf).1
    cases k with
    | not =>
      obtain ⟨n0, rfl⟩ := List.length_eq_one_iff.1 (of_decide_eq_true hshape)
      exact good_not (hch n0 (.head _)) b
    | andnot | andmaybe | require =>
      obtain ⟨a, c, rfl⟩ := length_two (of_decide_eq_true hshape)
      exact good_pair (by decide) (hch a (.head _)) (hch c (.tail _ (.head _))) b
    | _ => exact good_nary rfl (by rintro rfl; cases hshape) hch b

theorem globMatch_star (s : List Nat) : globMatch [42] s = true := by
  induction s with
  | nil => rw [globMatch]; simp [globMatch]
  | cons c s ih => rw [globMatch]; simp [ih]

theorem globMatch_prefix (p : List Nat) (hp : ∀ c ∈ p, c ≠ 42 ∧ c ≠ 63) (s : List Nat) :
    globMatch (p ++ [42]) s = p.isPrefixOf s := by
  induction p generalizing s with
  | nil => simp [globMatch_star]
  | cons c p ih =>
    have hc := hp c (by simp)
    have ihp := ih (fun x hx => hp x (by simp [hx]))
    cases s with
    | nil => rw [List.cons_append, globMatch]; simp [hc.1]
    | cons d s =>
      rw [List.cons_append, globMatch]
      simp only [hc.1, if_false, hc.2, decide_false, Bool.false_or, ihp, List.isPrefixOf]
      by_cases h : c = d <;> simp [h]

theorem toPrefix_prefix {t p : Str} {f f' : Option Str} {b b' : Rat}
    (h : toPrefix (.text .wild t f b) = .text .prefix p f' b') : t = p ++ [42] ∧ ∀ c ∈ p, c ≠ 42 ∧ c ≠ 63 := by
  simp only [toPrefix] at h
  split at h
  · next hcond =>
    split at h
    · next hidx =>
      injection h with _ hp _ _
      subst hp
      rcases List.eq_nil_or_concat t with rfl | ⟨p, c, rfl⟩
      · simp at hcond
      · rw [List.concat_eq_append] at hidx hcond ⊢
        rw [List.idxOf_append, List.length_append, List.length_singleton, Nat.add_sub_cancel] at hidx
        rw [List.dropLast_concat]
        -- a star inside `p` would be found before the end
        have h42 : 42 ∉ p := fun hm => by
          rw [if_pos hm] at hidx
          exact Nat.ne_of_lt (List.idxOf_lt_length_iff.2 hm) hidx
        rw [if_neg h42] at hidx
        have hc : 42 ∈ [c] := List.idxOf_lt_length_iff.1 (by rw [List.length_singleton]; omega)
        have h63 : 63 ∉ p := fun hm => by simp [qmarks, hm] at hcond
        exact ⟨by rw [List.mem_singleton.1 hc], fun x hx => ⟨fun e => h42 (e ▸ hx), fun e => h63 (e ▸ hx)⟩⟩
    · injection h with hk; cases hk
  · injection h with hk; cases hk

end WM.Parser
