import WM.Model.HashBytes
import WM.Lemmas.NumLists
/-! `struct` round trips of `StructFile`, and reading a number that stands at an offset (`WM.NumLists.At`). -/
namespace WM.StructFile
open WM.IdSets (Err)
open WM.NumLists

theorem pack_ok {tc : TC} {n : Int} {bs : Bytes} (h : pack tc n = .ok bs) :
    tc.fits n = true ∧ bs = encodeBE tc.size (toUnsigned tc.size n) := by
  unfold pack at h
  split at h
  · exact ⟨‹_›, (Except.ok.inj h).symm⟩
  · cases h

theorem unpack_pack {tc : TC} {n : Int} {bs : Bytes} (h : pack tc n = .ok bs) : unpack tc bs = .ok n := by
  obtain ⟨hf, rfl⟩ := pack_ok h
  unfold unpack
  rw [length_encodeBE, if_pos rfl, decodeBE_encodeBE _ _ (toUnsigned_lt tc.size n)]
  exact congrArg _ (value_roundtrip tc n hf)

theorem length_pack {tc : TC} {n : Int} {bs : Bytes} (h : pack tc n = .ok bs) : bs.length = tc.size := by
  obtain ⟨_, rfl⟩ := pack_ok h
  exact length_encodeBE _ _

theorem unpack2_pack2 {t1 t2 : TC} {a b : Int} {bs : Bytes} (h : pack2 t1 t2 a b = .ok bs) :
    unpack2 t1 t2 bs = .ok (a, b) := by
  unfold pack2 at h
  cases hx : pack t1 a with
  | error e => rw [hx] at h; cases h
  | ok x =>
    cases hy : pack t2 b with
    | error e => rw [hx, hy] at h; cases h
    | ok y =>
      rw [hx, hy] at h
      cases h
      have lx := length_pack hx
      have ly := length_pack hy
      unfold unpack2
      rw [List.length_append, lx, ly, if_pos rfl]
      rw [← lx, List.take_left', List.drop_left', unpack_pack hx, unpack_pack hy]
      · rfl
      · rfl
      · rfl

theorem pack_nat (tc : TC) (a : Nat) (h : (a : Int) < cap tc) : pack tc a = .ok (encodeBE tc.size a) := by
  have hu : toUnsigned tc.size (a : Int) = a :=
    Int.ofNat_inj.mp (toUnsigned_of_nonneg tc.size a (Int.natCast_nonneg a) (Int.lt_of_lt_of_le h (cap_le tc)))
  unfold pack; rw [if_pos (fits_natCast tc a h), hu]

theorem pack2_nat (t1 t2 : TC) (a b : Nat) (ha : (a : Int) < cap t1) (hb : (b : Int) < cap t2) :
    pack2 t1 t2 a b = .ok (encodeBE t1.size a ++ encodeBE t2.size b) := by
  unfold pack2; rw [pack_nat t1 a ha, pack_nat t2 b hb]; rfl

theorem asNat_nat (a : Nat) : asNat (a : Int) = .ok a := by
  unfold asNat; rw [if_neg (by omega)]; simp

/-- a successful step of a `do` block in `Except`; chained with `Eq.trans` it walks through a reader
    without rewriting inside the rest of the block -/
theorem bind_ok {α β} {x : Except Err α} {a : α} (f : α → Except Err β) (h : x = .ok a) : (x >>= f) = f a := by
  rw [h]; rfl

theorem _root_.WM.NumLists.At.get_eq {file x : Bytes} {pos n : Nat} (h : At file pos x) (hn : x.length = n) :
    get file pos n = x := h.slice_eq hn

theorem unpack_enc (tc : TC) (a : Nat) (ha : (a : Int) < cap tc) : unpack tc (encodeBE tc.size a) = .ok (a : Int) :=
  unpack_pack (pack_nat tc a ha)

theorem unpack2N_enc {file : Bytes} {pos : Nat} (t1 t2 : TC) (a b : Nat)
    (h : At file pos (encodeBE t1.size a ++ encodeBE t2.size b)) (ha : (a : Int) < cap t1) (hb : (b : Int) < cap t2) :
    unpack2N t1 t2 (get file pos (t1.size + t2.size)) = .ok (a, b) := by
  unfold unpack2N
  rw [h.get_eq (by rw [List.length_append, length_encodeBE, length_encodeBE]),
    unpack2_pack2 (pack2_nat t1 t2 a b ha hb)]
  simp only [bind, Except.bind, asNat_nat]

theorem getNum_enc {file : Bytes} (tc : TC) (pos a : Nat) (h : At file pos (encodeBE tc.size a))
    (ha : (a : Int) < cap tc) : getNum tc file pos = .ok (a : Int) := by
  unfold getNum
  rw [h.get_eq (length_encodeBE _ _), unpack_enc tc a ha]

theorem getNat_enc {file : Bytes} (tc : TC) (pos a : Nat) (h : At file pos (encodeBE tc.size a))
    (ha : (a : Int) < cap tc) : getNat tc file pos = .ok a := by
  unfold getNat
  rw [getNum_enc tc pos a h ha]
  simp only [bind, Except.bind, asNat_nat]

end WM.StructFile
