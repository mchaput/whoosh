import WM.Lemmas.ComboDen
import WM.Lemmas.Faithful
/-! `ArrayUnionMatcher` over faithful sub-matchers with positive scores is a faithful cursor over the boosted union
of their lists (below `doccount`); its own `all_ids()` yields exactly the remaining ids (`allIds_spec`).

A state means the rest of the buffered part followed by `tail`, the union of what the sub-matchers still hold.  Moving the
sub-matchers to `t` (`_read_part`, `skip_to`) is `tail' = dropBelow t tail` (`tail_drained`); the cells `_read_part` fills
are the scores of `tail` in the part, so that part and new tail are the old tail (`part_split`, `readPart_spec`). -/
namespace WM.Matcher

/-- `a[x - off] += v` on the cells -/
theorem addAt_spec {a : List Rat} {off x : Nat} (v : Rat) (ho : off ≤ x) (h : x - off < a.length) :
    Yields (addAt a (x - off) v) fun a' => a'.length = a.length ∧
      ∀ d, off ≤ d → cellAt a' off d = if d = x then cellAt a off d + v else cellAt a off d := by
  rw [addAt, List.getElem?_eq_getElem h]
  refine .ok ⟨List.length_set, fun d hd => ?_⟩
  unfold cellAt
  by_cases hdx : d = x
  · simp [hdx, h]
  · rw [if_neg hdx, List.getElem?_set_ne (by omega)]

namespace AUnion
variable {α : Type} {A : Ops α} {dA fA : α → Den} {WA : α → Prop}

def scaled (boost : Rat) (d : α → Den) (subs : List α) : List Den := subs.map fun s => scale boost (d s)

/-- what is held beyond the buffered part -/
def tail (d : α → Den) (m : AUnion α) : Den := below m.doccount (sumDens (scaled m.boost d m.subs))

theorem den_eq (d : α → Den) (m : AUnion α) : den d m = bufDen m.a m.offset m.docnum m.limit ++ tail d m := rfl

/-- how a sub-matcher comes out of `_read_part` with part end `limit`, or of `skip_to(limit)` -/
def Drained (dA fA : α → Den) (WA : α → Prop) (limit : Nat) (s s' : α) : Prop :=
  WA s' ∧ dA s' = dropBelow limit (dA s) ∧ fA s' = fA s

-- `beyond`, `dpos`: what the sub-matchers still hold lies past the buffered part and has positive scores (a cell is occupied
-- iff it is positive); `fpos` says the latter of the complete lists, which `reset` returns to.  `beyond` bounds by the part
-- end `limit` only, and an exhausted matcher may stand past it (`skip_to` sets `docnum := doccount`): `done` is what makes its
-- list empty (`den_nil_of_done`).
/-- invariant of every state, also of the states in the middle of `skip_to_quality` -/
structure Core (dA fA : α → Den) (WA : α → Prop) (m : AUnion α) : Prop where
  alen : m.a.length = m.partsize
  ppos : 0 < m.partsize
  bpos : 0 < m.boost
  lim : m.limit = min (m.offset + m.partsize) m.doccount
  off : m.offset ≤ m.docnum
  child : ∀ s ∈ m.subs, WA s
  beyond : ∀ s ∈ m.subs, ∀ p ∈ dA s, m.limit ≤ p.1
  dpos : ∀ s ∈ m.subs, ∀ p ∈ dA s, 0 < p.2
  fpos : ∀ s ∈ m.subs, ∀ p ∈ fA s, 0 < p.2
  done : m.doccount ≤ m.docnum → ∀ s ∈ m.subs, ∀ p ∈ dA s, m.doccount ≤ p.1

/-- well-formedness: moreover an active matcher stands on a buffered document -/
structure WF (dA fA : α → Den) (WA : α → Prop) (m : AUnion α) : Prop extends Core dA fA WA m where
  cur : m.docnum < m.doccount → m.docnum < m.limit ∧ 0 < cellAt m.a m.offset m.docnum

theorem Core.mono {WB : α → Prop} (hw : ∀ a, WA a → WB a) {m : AUnion α} (h : Core dA fA WA m) : Core dA fA WB m :=
  ⟨h.alen, h.ppos, h.bpos, h.lim, h.off, fun s hs => hw _ (h.child s hs), h.beyond, h.dpos, h.fpos, h.done⟩

theorem WF.mono {WB : α → Prop} (hw : ∀ a, WA a → WB a) {m : AUnion α} (h : WF dA fA WA m) : WF dA fA WB m :=
  ⟨h.toCore.mono hw, h.cur⟩

theorem forall_tail {m : AUnion α} {P : Nat × Rat → Prop} (hadd : ∀ x s t, P (x, s) → P (x, t) → P (x, s + t))
    (h : ∀ s ∈ m.subs, ∀ p ∈ dA s, P (p.1, p.2 * m.boost)) : ∀ b ∈ tail dA m, P b :=
  fun b hb => forall_sumDens hadd (fun D hD p hp => by
    obtain ⟨s, hs, rfl⟩ := List.mem_map.1 hD
    obtain ⟨q, hq, rfl⟩ := mem_scale.1 hp
    exact h s hs q hq) b (mem_below.1 hb).1

theorem tail_pos {m : AUnion α} (hb : 0 < m.boost) (hdp : ∀ s ∈ m.subs, ∀ p ∈ dA s, 0 < p.2) : ∀ p ∈ tail dA m, 0 < p.2 :=
  forall_tail (fun _ s _ hs ht => Std.lt_trans hs (by rw [← Rat.add_lt_add_left (c := s), Rat.add_zero] at ht; exact ht))
    fun s hs p hp => Rat.mul_pos (hdp s hs p hp) hb

theorem tail_ge_of {m : AUnion α} {k : Nat} (hk : ∀ s ∈ m.subs, ∀ p ∈ dA s, k ≤ p.1) : ∀ b ∈ tail dA m, k ≤ b.1 :=
  forall_tail (fun _ _ _ h _ => h) hk

/-- the scan of `_find_next` stops on the first buffered document from `d` on, or at the end of the part -/
theorem scan_spec (a : List Rat) (off lim : Nat) (hlen : lim - off ≤ a.length) (n : Nat) : ∀ d, lim - d ≤ n → off ≤ d → d ≤ lim →
    Yields (scan a off lim n d) fun d' => d ≤ d' ∧ d' ≤ lim ∧ (d' < lim → 0 < cellAt a off d') ∧
      bufDen a off d lim = bufDen a off d' lim := by
  induction n with
  | zero =>
    -- `scan` is given `lim - d` rounds: none left means `d = lim`, where the `while` has ended on `d` (no divergence)
    exact fun d hn _ hd => .ok ⟨Nat.le_refl _, hd, fun h => absurd (Nat.sub_pos_of_lt h) (Nat.not_lt_of_le hn), rfl⟩
  | succ n ih =>
    intro d hn ho hd
    unfold scan
    refine .ite (fun hlt => ?_) fun hlt => .ok ⟨Nat.le_refl _, hd, fun h => absurd h hlt, rfl⟩
    rw [getElem?_cellAt (Nat.lt_of_lt_of_le (Nat.sub_lt_sub_right ho hlt) hlen)]
    refine .ite (fun hv => .ok ⟨Nat.le_refl _, hd, fun _ => hv, rfl⟩) fun hv => ?_
    refine (ih (d + 1) (Nat.le_of_lt_succ (Nat.lt_of_lt_of_le (Nat.sub_lt_sub_left hlt (Nat.lt_succ_self d)) hn))
      (Nat.le_succ_of_le ho) hlt).mono ?_
    rintro d' ⟨e2, e3, e4, e5⟩
    exact ⟨Nat.le_of_succ_le e2, e3, e4, by rw [bufDen_step a off hlt, if_neg hv]; exact e5⟩

theorem Core.limit_le {m : AUnion α} (h : Core dA fA WA m) : m.limit ≤ m.doccount := by
  rw [h.lim]; exact Nat.min_le_right _ _

theorem Core.len_ok {m : AUnion α} (h : Core dA fA WA m) : m.limit - m.offset ≤ m.a.length := by
  rw [h.lim, h.alen]; have := Nat.min_le_left (m.offset + m.partsize) m.doccount; omega

theorem Core.withDocnum {m : AUnion α} (h : Core dA fA WA m) {d : Nat} (ho : m.offset ≤ d) (hl : d ≤ m.limit) :
    Core dA fA WA { m with docnum := d } :=
  ⟨h.alen, h.ppos, h.bpos, h.lim, ho, h.child, h.beyond, h.dpos, h.fpos, fun hdn s hs p hp =>
    Nat.le_trans (Nat.le_trans hdn hl) (h.beyond s hs p hp)⟩

theorem advances {m m' : AUnion α} (hlt : m.docnum < m.doccount) (hd : m.docnum < m'.docnum) (hc : m'.doccount = m.doccount)
    (hf : full fA m' = full fA m) : Advances (ops A) (den dA) (full fA) m m' :=
  .of_lt (by show m'.doccount - m'.docnum < m.doccount - m.docnum; omega) hf

theorem tail_nil_of {m : AUnion α} (hk : ∀ s ∈ m.subs, ∀ p ∈ dA s, m.doccount ≤ p.1) : tail dA m = [] :=
  List.eq_nil_iff_forall_not_mem.2 fun b hb => by
    have := tail_ge_of hk b hb
    have := (mem_below.1 hb).2
    omega

theorem den_head {m : AUnion α} (h : WF dA fA WA m) (ha : m.docnum < m.doccount) :
    den dA m = (m.docnum, cellAt m.a m.offset m.docnum) :: (bufDen m.a m.offset (m.docnum + 1) m.limit ++ tail dA m) := by
  obtain ⟨h1, h2⟩ := h.cur ha
  rw [den_eq, bufDen_step _ _ h1, if_pos h2]; rfl

theorem den_nil_of_done {m : AUnion α} (h : Core dA fA WA m) (hd : m.doccount ≤ m.docnum) : den dA m = [] := by
  rw [den_eq, tail_nil_of (h.done hd), bufDen_eq_nil_of_ge _ _ (by have := h.limit_le; omega)]; rfl

section Main
variable (FA : Faithful A dA fA WA)
include FA

/-- the inner loop of `_read_part` for one sub-matcher -/
theorem drainSub_spec (boost : Rat) (offset limit n : Nat) : ∀ (s : α) (a : List Rat),
    WA s → A.rem s < n → limit ≤ offset + a.length → (∀ p ∈ dA s, offset ≤ p.1) →
    Yields (drainSub A boost offset limit n s a) fun (s', a') => Drained dA fA WA limit s s' ∧ a'.length = a.length ∧
      ∀ d, offset ≤ d → d < limit → cellAt a' offset d = cellAt a offset d + (lookup (scale boost (dA s)) d).getD 0 := by
  induction n with
  | zero => exact fun _ _ _ hn => absurd hn (Nat.not_lt_zero _)
  | succ n ih =>
    intro s a hw hn hl hge
    rw [drainSub]
    rcases FA.head hw with ⟨hd, hi⟩ | ⟨x, r, L, hd, ha, hid, hsc⟩
    · rw [hi]
      exact .ok ⟨⟨hw, by rw [hd]; rfl, rfl⟩, rfl, fun d _ _ => by rw [hd]; exact (Rat.add_zero _).symm⟩
    · have hasc : Asc ((x, r) :: L) := hd ▸ FA.asc s hw
      rw [ha, hid, hd]
      show Yields (if x < limit then _ else _) _
      refine .ite (fun hx => ?_) fun hx =>
        .ok ⟨⟨hw, by rw [hd, dropBelow_of_le_head (by omega)], rfl⟩, rfl, fun d _ hdl => ?_⟩
      · rw [hsc]
        have hxo : offset ≤ x := hge (x, r) (by rw [hd]; exact List.mem_cons_self)
        refine (addAt_spec (a := a) (r * boost) hxo (by omega)).bind ?_
        rintro a1 ⟨e2, e3⟩
        refine (FA.next_step hw hd).bind fun s1 st => ?_
        refine (ih s1 a1 st.wf (by have := st.rem_lt hd; omega) (by rw [e2]; exact hl)
          (fun p hp => hge p (by rw [hd]; exact List.mem_cons_of_mem _ (st.den_eq ▸ hp)))).mono ?_
        rintro ⟨s', a'⟩ ⟨k2, k3, k4⟩
        refine ⟨⟨k2.1, by rw [k2.2.1, st.den_eq, hd, dropBelow_cons, if_pos hx], k2.2.2.trans st.adv.full_eq⟩, k3.trans e2,
          fun d hdo hdl => ?_⟩
        rw [k4 d hdo hdl, e3 d hdo, st.den_eq, lookup_scale, lookup_scale]
        by_cases hdx : d = x
        · rw [hdx, if_pos rfl, lookup_head, lookup_eq_none_of_forall_lt hasc.head_lt]
          exact Rat.add_zero _
        · rw [if_neg hdx, lookup_tail_of_ne (Ne.symm hdx)]
      · rw [lookup_scale, lookup_eq_none_of_lt_head hasc (by omega)]; exact (Rat.add_zero _).symm

theorem drainAll_spec (boost : Rat) (offset limit : Nat) (subs : List α) : ∀ (a : List Rat),
    (∀ s ∈ subs, WA s) → limit ≤ offset + a.length → (∀ s ∈ subs, ∀ p ∈ dA s, offset ≤ p.1) →
    Yields (drainAll A boost offset limit subs a) fun (subs', a') =>
      All2 (Drained dA fA WA limit) subs subs' ∧ a'.length = a.length ∧
      ∀ d, offset ≤ d → d < limit → cellAt a' offset d = cellAt a offset d + (sumAt (scaled boost dA subs) d).getD 0 := by
  induction subs with
  | nil => exact fun a _ _ _ => .ok ⟨All2.nil, rfl, fun d _ _ => (Rat.add_zero _).symm⟩
  | cons s ss ih =>
    intro a hw hl hge
    unfold drainAll
    refine (drainSub_spec FA boost offset limit (A.rem s + 1) s a (hw s List.mem_cons_self) (Nat.lt_succ_self _) hl
      (hge s List.mem_cons_self)).bind ?_
    rintro ⟨s', a1⟩ ⟨e2, e3, e4⟩
    refine (ih a1 (fun x hx => hw x (List.mem_cons_of_mem _ hx)) (by rw [e3]; exact hl)
      (fun x hx => hge x (List.mem_cons_of_mem _ hx))).bind ?_
    rintro ⟨ss', a2⟩ ⟨k2, k3, k4⟩
    refine .ok ⟨All2.cons e2 k2, k3.trans e3, fun d hdo hdl => ?_⟩
    rw [k4 d hdo hdl, e4 d hdo hdl, Rat.add_assoc, ← optUnion_getD]; rfl

/-- the fold of `_min_id`, read with the default `dc` -/
theorem minIdOf_spec (dc : Nat) (subs : List α) : ∀ (acc : Option Nat), (∀ s ∈ subs, WA s) →
    Yields (minIdOf A subs acc) fun r => (∀ y, acc = some y → r.getD dc ≤ y) ∧
      (∀ s ∈ subs, ∀ p ∈ dA s, r.getD dc ≤ p.1) ∧
      (r.getD dc = acc.getD dc ∨ ∃ s ∈ subs, ∃ r0 L, dA s = (r.getD dc, r0) :: L) := by
  induction subs with
  | nil => exact fun acc _ => .ok ⟨fun y hy => hy ▸ Nat.le_refl _, fun _ hs => (nomatch hs), .inl rfl⟩
  | cons s ss ih =>
    intro acc hw
    have hw' : ∀ x ∈ ss, WA x := fun x hx => hw x (List.mem_cons_of_mem _ hx)
    have hws := hw s List.mem_cons_self
    unfold minIdOf
    rcases FA.head hws with ⟨hd, hi⟩ | ⟨x, r0, L, hd, ha, hid, -⟩
    · rw [hi]
      refine (ih acc hw').mono ?_
      rintro r ⟨e2, e3, e4⟩
      refine ⟨e2, fun s' hs' p hp => ?_, e4.imp_right fun ⟨s', hs', h1⟩ => ⟨s', List.mem_cons_of_mem _ hs', h1⟩⟩
      rcases List.mem_cons.1 hs' with rfl | hs'
      · rw [hd] at hp; cases hp
      · exact e3 s' hs' p hp
    · rw [ha, hid]
      refine (ih (some (match acc with | some y => min y x | none => x)) hw').mono ?_
      rintro r ⟨e2, e3, e4⟩
      have hle := e2 _ rfl
      refine ⟨fun y hy => ?_, fun s' hs' p hp => ?_, ?_⟩
      · subst hy
        exact Nat.le_trans hle (Nat.min_le_left _ _)
      · rcases List.mem_cons.1 hs' with rfl | hs'
        · have hxp : x ≤ p.1 := (hd ▸ FA.asc s' hws).head_le rfl p (hd ▸ hp)
          cases acc with
          | none => exact Nat.le_trans hle hxp
          | some y => exact Nat.le_trans hle (Nat.le_trans (Nat.min_le_right _ _) hxp)
        · exact e3 s' hs' p hp
      · rcases e4 with h1 | ⟨s', hs', h1⟩
        · rw [h1]
          cases acc with
          | none => exact .inr ⟨s, List.mem_cons_self, r0, L, hd⟩
          | some y =>
            show min y x = y ∨ ∃ s' ∈ s :: ss, ∃ r0 L, dA s' = (min y x, r0) :: L
            rcases Nat.le_total y x with hyx | hxy
            · exact .inl (Nat.min_eq_left hyx)
            · exact .inr ⟨s, List.mem_cons_self, r0, L, by rw [Nat.min_eq_right hxy]; exact hd⟩
        · exact .inr ⟨s', List.mem_cons_of_mem _ hs', h1⟩

theorem minId_spec (subs : List α) (dc : Nat) (hw : ∀ s ∈ subs, WA s) :
    Yields (minId A subs dc) fun x => (∀ s ∈ subs, ∀ p ∈ dA s, x ≤ p.1) ∧
      ((∃ s ∈ subs, ∃ r0 L, dA s = (x, r0) :: L) ∨ x = dc) :=
  (minIdOf_spec FA dc subs none hw).bind fun _ e => .ok ⟨e.2.1, e.2.2.symm⟩

theorem asc_scaled (boost : Rat) {subs : List α} (hw : ∀ s ∈ subs, WA s) : ∀ D ∈ scaled boost dA subs, Asc D := by
  intro D hD
  obtain ⟨s, hs, rfl⟩ := List.mem_map.1 hD
  exact asc_scale _ (FA.asc s (hw s hs))

theorem sumAt_drained (boost : Rat) (limit : Nat) {subs subs' : List α} (hw : ∀ s ∈ subs, WA s)
    (h : All2 (Drained dA fA WA limit) subs subs') (d : Nat) :
    sumAt (scaled boost dA subs') d = if d < limit then none else sumAt (scaled boost dA subs) d := by
  induction h with
  | nil => simp [scaled, sumAt]
  | @cons s s' l l' hr _ ih =>
    have ih := ih fun x hx => hw x (List.mem_cons_of_mem _ hx)
    simp only [scaled, List.map_cons, sumAt] at ih ⊢
    rw [ih, lookup_scale, lookup_scale, hr.2.1, lookup_dropBelow (FA.asc s (hw s List.mem_cons_self))]
    by_cases hd : d < limit
    · simp [hd, optUnion]
    · simp [hd]

theorem drained_facts {t : Nat} {subs subs' : List α} (h : All2 (Drained dA fA WA t) subs subs')
    (hw : ∀ s ∈ subs, WA s) (hdp : ∀ s ∈ subs, ∀ p ∈ dA s, 0 < p.2) (hfp : ∀ s ∈ subs, ∀ p ∈ fA s, 0 < p.2) :
    (∀ s' ∈ subs', WA s') ∧ (∀ s' ∈ subs', ∀ p ∈ dA s', t ≤ p.1) ∧ (∀ s' ∈ subs', ∀ p ∈ dA s', 0 < p.2) ∧
      (∀ s' ∈ subs', ∀ p ∈ fA s', 0 < p.2) ∧ ∀ b, scaled b fA subs' = scaled b fA subs := by
  refine ⟨fun s' hs' => ?_, fun s' hs' p hp => ?_, fun s' hs' p hp => ?_, fun s' hs' p hp => ?_, fun b => ?_⟩
  · obtain ⟨s, -, hr⟩ := h.mem_right hs'; exact hr.1
  · obtain ⟨s, hs, hr⟩ := h.mem_right hs'
    exact mem_dropBelow_ge (FA.asc s (hw s hs)) (hr.2.1 ▸ hp)
  · obtain ⟨s, hs, hr⟩ := h.mem_right hs'
    exact hdp s hs p ((List.dropWhile_sublist _).subset (hr.2.1 ▸ hp))
  · obtain ⟨s, hs, hr⟩ := h.mem_right hs'
    exact hfp s hs p (hr.2.2 ▸ hp)
  · exact (h.map_eq _ _ fun a b hr => by rw [hr.2.2]).symm

theorem asc_tail {m : AUnion α} (hw : ∀ s ∈ m.subs, WA s) : Asc (tail dA m) :=
  asc_below _ (asc_sumDens (asc_scaled FA m.boost hw))

theorem lookup_tail {m : AUnion α} (hw : ∀ s ∈ m.subs, WA s) (d : Nat) :
    lookup (tail dA m) d = if d < m.doccount then sumAt (scaled m.boost dA m.subs) d else none := by
  have hS := asc_scaled FA m.boost hw
  rw [tail, lookup_below, lookup_sumDens hS]

theorem tail_drained {m : AUnion α} {t : Nat} {subs' : List α} (hw : ∀ s ∈ m.subs, WA s)
    (h : All2 (Drained dA fA WA t) m.subs subs') : tail dA { m with subs := subs' } = dropBelow t (tail dA m) := by
  have hw' : ∀ s' ∈ subs', WA s' := fun s' hs' => by
    obtain ⟨s, -, hr⟩ := h.mem_right hs'; exact hr.1
  refine den_ext (asc_tail FA hw') (asc_dropBelow _ (asc_tail FA hw)) fun d => ?_
  rw [lookup_dropBelow (asc_tail FA hw), lookup_tail FA hw', lookup_tail FA hw]
  show (if d < m.doccount then sumAt (scaled m.boost dA subs') d else none) = _
  rw [sumAt_drained FA m.boost t hw h]
  by_cases h1 : d < m.doccount <;> by_cases h2 : d < t <;> simp [h1, h2]

/-- `m'` is `m` with the part that starts at `x` read -/
structure PartRead (dA fA : α → Den) (WA : α → Prop) (m : AUnion α) (x : Nat) (m' : AUnion α) : Prop where
  core : Core dA fA WA m'
  docnum_eq : m'.docnum = x
  offset_eq : m'.offset = x
  doccount_eq : m'.doccount = m.doccount
  limit_eq : m'.limit = min (x + m.partsize) m.doccount
  /-- new part and new tail together are the old tail -/
  den_eq : den dA m' = tail dA m
  full_eq : full fA m' = full fA m
  /-- a sub-matcher that stood on `x` has left a score in the first cell -/
  cell_pos : (∃ s ∈ m.subs, ∃ r0 L, dA s = (x, r0) :: L) → x < m.doccount → 0 < cellAt m'.a x x

/-- `_read_part()` from a position `x` at or below everything the sub-matchers hold -/
theorem readPart_spec (m : AUnion α) (x : Nat) (hps : 0 < m.partsize) (hb : 0 < m.boost) (hw : ∀ s ∈ m.subs, WA s)
    (hdp : ∀ s ∈ m.subs, ∀ p ∈ dA s, 0 < p.2) (hfp : ∀ s ∈ m.subs, ∀ p ∈ fA s, 0 < p.2)
    (hlow : ∀ s ∈ m.subs, ∀ p ∈ dA s, x ≤ p.1) :
    Yields (readPart A { m with docnum := x }) (PartRead dA fA WA m x) := by
  refine (drainAll_spec FA m.boost x (min (x + m.partsize) m.doccount) m.subs (List.replicate m.partsize 0) hw
    (by rw [List.length_replicate]; exact Nat.min_le_left _ _) hlow).bind ?_
  rintro ⟨subs', a'⟩ ⟨e2, e3, e4⟩
  obtain ⟨hw', hge', hdp', hfp', hfull⟩ := drained_facts FA e2 hw hdp hfp
  have hcell : ∀ d, x ≤ d → d < min (x + m.partsize) m.doccount → cellAt a' x d = (lookup (tail dA m) d).getD 0 := by
    intro d h1 h2
    rw [e4 d h1 h2, cellAt_replicate, lookup_tail FA hw, if_pos (Nat.lt_of_lt_of_le h2 (Nat.min_le_right _ _))]
    exact Rat.zero_add _
  refine .ok ⟨⟨e3.trans List.length_replicate, hps, hb, rfl, Nat.le_refl _, hw', hge', hdp', hfp',
      fun (hdone : m.doccount ≤ x) s' hs' p hp =>
        Nat.le_trans (Nat.le_min.2 ⟨Nat.le_trans hdone (Nat.le_add_right _ _), Nat.le_refl _⟩) (hge' s' hs' p hp)⟩,
    rfl, rfl, rfl, rfl, ?_, congrArg (fun S => below m.doccount (sumDens S)) (hfull m.boost), ?_⟩
  · show bufDen a' x x _ ++ tail dA { m with subs := subs' } = _
    rw [tail_drained FA hw e2]
    exact part_split (asc_tail FA hw) (tail_pos hb hdp) (tail_ge_of hlow) hcell
  · rintro ⟨s, hs, r0, L, hd⟩ hlt
    show 0 < cellAt a' x x
    rw [hcell x (Nat.le_refl _) (by omega)]
    cases h : lookup (tail dA m) x with
    | some r => exact tail_pos hb hdp _ (lookup_some_mem h)
    | none =>
      -- the sub-matcher standing on `x` contributes
      rw [lookup_tail FA hw, if_pos hlt] at h
      exact absurd h (sumAt_ne_none (List.mem_map.2 ⟨s, hs, rfl⟩) (by rw [lookup_scale, hd, lookup_head]; rfl))

/-- `_min_id()` then `_read_part()`: how `_find_next`, `skip_to`, `reset` and the constructor fill the buffer.  The new
    position is at or above any bound `k ≤ doccount` of what the sub-matchers hold. -/
theorem refill_spec (m : AUnion α) (hps : 0 < m.partsize) (hb : 0 < m.boost) (hw : ∀ s ∈ m.subs, WA s)
    (hdp : ∀ s ∈ m.subs, ∀ p ∈ dA s, 0 < p.2) (hfp : ∀ s ∈ m.subs, ∀ p ∈ fA s, 0 < p.2) :
    Yields (do let x ← minId A m.subs m.doccount; readPart A { m with docnum := x }) fun m' => WF dA fA WA m' ∧
      m'.doccount = m.doccount ∧ den dA m' = tail dA m ∧ full fA m' = full fA m ∧
      ∀ k, (∀ s ∈ m.subs, ∀ p ∈ dA s, k ≤ p.1) → k ≤ m.doccount → k ≤ m'.docnum := by
  refine (minId_spec FA m.subs m.doccount hw).bind ?_
  rintro x ⟨x2, x3⟩
  refine (readPart_spec FA m x hps hb hw hdp hfp x2).mono fun m' r =>
    ⟨⟨r.core, fun hl => ?_⟩, r.doccount_eq, r.den_eq, r.full_eq, fun k hk hkd => ?_⟩
  · rw [r.docnum_eq, r.doccount_eq] at hl
    rcases x3 with hx | hx
    · rw [r.docnum_eq, r.offset_eq, r.limit_eq]
      exact ⟨Nat.lt_min.2 ⟨Nat.lt_add_of_pos_right hps, hl⟩, r.cell_pos hx hl⟩
    · exact absurd (hx ▸ hl) (Nat.lt_irrefl _)
  · rw [r.docnum_eq]
    rcases x3 with ⟨s, hs, r0, L, hd⟩ | hx
    · exact hk s hs (x, r0) (by rw [hd]; exact List.mem_cons_self)
    · exact hx ▸ hkd

theorem asc_den {m : AUnion α} (h : Core dA fA WA m) : Asc (den dA m) :=
  asc_bufDen_append _ _ _ (asc_tail FA h.child) (tail_ge_of h.beyond)

theorem findNext_spec (m : AUnion α) (h : Core dA fA WA m) (hd : m.docnum ≤ m.limit) :
    Yields (findNext A m) fun m' => WF dA fA WA m' ∧ den dA m' = den dA m ∧ full fA m' = full fA m ∧
      m.docnum ≤ m'.docnum ∧ m'.doccount = m.doccount := by
  unfold findNext
  refine (scan_spec m.a m.offset m.limit h.len_ok (m.limit - m.docnum) m.docnum (Nat.le_refl _) h.off hd).bind ?_
  rintro d' ⟨e2, e3, e4, e5⟩
  refine .ite (fun hl => ?_) fun hl => ?_
  · -- nothing left in the part: the next part starts at the smallest id still held
    rw [beq_iff_eq] at hl
    refine (refill_spec FA m h.ppos h.bpos h.child h.dpos h.fpos).mono ?_
    rintro m' ⟨r2, r5, r8, r9, rk⟩
    refine ⟨r2, ?_, r9, Nat.le_trans hd (rk _ h.beyond h.limit_le), r5⟩
    rw [r8, den_eq, e5, hl, bufDen_eq_nil_of_ge _ _ (Nat.le_refl _)]; rfl
  · rw [beq_iff_eq] at hl
    have hlt : d' < m.limit := by omega
    refine .ok ⟨⟨h.withDocnum (Nat.le_trans h.off e2) e3, fun _ => ⟨hlt, e4 hlt⟩⟩, ?_, rfl, e2, rfl⟩
    show bufDen m.a m.offset d' m.limit ++ tail dA m = _
    rw [den_eq, e5]

theorem skipAll_spec (t : Nat) (subs : List α) (hw : ∀ s ∈ subs, WA s) :
    Yields (skipAll A t subs) (All2 (Drained dA fA WA t) subs) := by
  induction subs with
  | nil => exact .ok All2.nil
  | cons s ss ih =>
    unfold skipAll
    refine (FA.skipToA_step t (hw s List.mem_cons_self)).bind fun s' st => ?_
    exact (ih fun x hx => hw x (List.mem_cons_of_mem _ hx)).bind fun ss' e2 =>
      .ok (All2.cons ⟨st.wf, st.den_eq, st.adv.full_eq⟩ e2)

theorem resetAll_spec (subs : List α) (hw : ∀ s ∈ subs, WA s) :
    Yields (resetAll A subs) (All2 (fun s s' => WA s' ∧ dA s' = fA s ∧ fA s' = fA s) subs) := by
  induction subs with
  | nil => exact .ok All2.nil
  | cons s ss ih =>
    unfold resetAll
    refine Yields.bind (FA.reset s (hw s List.mem_cons_self)) fun s' c => ?_
    exact (ih fun x hx => hw x (List.mem_cons_of_mem _ hx)).bind fun ss' e2 => .ok (All2.cons c e2)

theorem faithful : Faithful (ops A) (den dA) (full fA) (WF dA fA WA) :=
  .of_state (fun m h => asc_den FA h.toCore)
    (fun m h => by
      show (_ ∧ decide (m.docnum < m.doccount) = false) ∨
        ∃ x r L, _ ∧ decide (m.docnum < m.doccount) = true ∧ Except.ok m.docnum = _ ∧ score m = _ ∧ _
      rcases Nat.lt_or_ge m.docnum m.doccount with hlt | hge
      · obtain ⟨c1, -⟩ := h.cur hlt
        refine .inr ⟨_, _, _, den_head h hlt, decide_eq_true hlt, rfl, ?_, ?_, fun t => ?_⟩
        · have hi : m.docnum - m.offset < m.a.length := by
            have := h.len_ok; have := h.off; omega
          unfold score
          rw [getElem?_cellAt hi]
        · refine (findNext_spec FA { m with docnum := m.docnum + 1 } (h.toCore.withDocnum (Nat.le_succ_of_le h.off) c1)
            c1).mono ?_
          rintro m' ⟨e2, e3, e4, e5, e6⟩
          exact ⟨e2, e3, advances hlt e5 e6 e4⟩
        show Yields (skipTo A m t) _
        unfold skipTo
        refine .ite (fun h1 => .ok ⟨h, ?_, .refl _ _ _ _⟩) fun h1 => .ite (fun h2 => ?_) fun h2 => ?_
        · rw [den_head h hlt, dropBelow_of_le_head h1]
        · -- inside the buffered part: the buffered documents below `t` go, the rest stays
          refine (findNext_spec FA { m with docnum := t } (h.toCore.withDocnum (by have := h.off; omega) (Nat.le_of_lt h2))
            (Nat.le_of_lt h2)).mono ?_
          rintro m' ⟨e2, e3, e4, e5, e6⟩
          refine ⟨e2, ?_, advances hlt (Nat.lt_of_lt_of_le (Nat.lt_of_not_le h1) e5) e6 e4⟩
          rw [e3]
          show bufDen m.a m.offset t m.limit ++ tail dA m = dropBelow t (den dA m)
          rw [den_eq, dropBelow_append_of_ge fun b hb => Nat.le_trans (Nat.le_of_lt h2) (tail_ge_of h.beyond b hb),
            dropBelow_bufDen _ _ _ (by omega)]
        · -- beyond it: the sub-matchers skip, a new part is read if one of them still holds something
          refine (skipAll_spec FA t m.subs h.child).bind fun subs' s2 => ?_
          obtain ⟨hw', hge', hdp', hfp', hfull⟩ := drained_facts FA s2 h.child h.dpos h.fpos
          have htarget : tail dA { m with subs := subs' } = dropBelow t (den dA m) := by
            rw [tail_drained FA h.child s2, den_eq,
              dropBelow_append_of_lt fun p hp => by have := (mem_bufDen.1 hp).2.1; omega]
          have hfull' : full fA { m with subs := subs' } = full fA m :=
            congrArg (fun S => below m.doccount (sumDens S)) (hfull m.boost)
          refine .ite (fun hany => ?_) fun hany => ?_
          · refine (refill_spec FA { m with subs := subs' } h.ppos h.bpos hw' hdp' hfp').mono ?_
            rintro m' ⟨r2, r5, r8, r9, rk⟩
            exact ⟨r2, r8.trans htarget, advances hlt
              (rk (m.docnum + 1) (fun s hs p hp => Nat.le_trans (by omega) (hge' s hs p hp)) hlt) r5 (r9.trans hfull')⟩
          · have hemp : ∀ k, ∀ s' ∈ subs', ∀ p ∈ dA s', k ≤ p.1 := fun k s' hs' p hp => by
              rw [(FA.inactive (hw' s' hs')).1 (Bool.eq_false_iff.2 fun hx => hany (List.any_eq_true.2 ⟨s', hs', hx⟩))] at hp
              cases hp
            refine .ok ⟨⟨⟨h.alen, h.ppos, h.bpos, h.lim, Nat.le_trans h.off (Nat.le_of_lt hlt), hw', hemp _, hdp', hfp',
              fun _ => hemp _⟩, fun hl => absurd hl (Nat.lt_irrefl _)⟩, ?_, advances hlt hlt rfl hfull'⟩
            rw [← htarget, den_eq, bufDen_eq_nil_of_ge _ _ h.limit_le]; rfl
      · exact .inl ⟨den_nil_of_done h.toCore hge, decide_eq_false (Nat.not_lt.2 hge)⟩)
    (fun m h => by
      show Yields (reset A m) _
      unfold reset
      refine (resetAll_spec FA m.subs h.child).bind fun subs' s2 => ?_
      have hmem : ∀ s' ∈ subs', ∃ s ∈ m.subs, WA s' ∧ dA s' = fA s ∧ fA s' = fA s := fun s' hs' => s2.mem_right hs'
      have hw' : ∀ s' ∈ subs', WA s' := fun s' hs' => by obtain ⟨s, -, hr⟩ := hmem s' hs'; exact hr.1
      have hdp' : ∀ s' ∈ subs', ∀ p ∈ dA s', 0 < p.2 := fun s' hs' p hp => by
        obtain ⟨s, hs, hr⟩ := hmem s' hs'
        rw [hr.2.1] at hp; exact h.fpos s hs p hp
      have hfp' : ∀ s' ∈ subs', ∀ p ∈ fA s', 0 < p.2 := fun s' hs' p hp => by
        obtain ⟨s, hs, hr⟩ := hmem s' hs'
        rw [hr.2.2] at hp; exact h.fpos s hs p hp
      have hfull : scaled m.boost fA subs' = scaled m.boost fA m.subs :=
        (s2.map_eq _ _ fun a b hr => by rw [hr.2.2]).symm
      have hden : scaled m.boost dA subs' = scaled m.boost fA m.subs :=
        (s2.map_eq (fun s => scale m.boost (fA s)) (fun s => scale m.boost (dA s)) fun a b hr => by rw [hr.2.1]).symm
      refine (refill_spec FA { m with subs := subs' } h.ppos h.bpos hw' hdp' hfp').mono ?_
      rintro m' ⟨r2, -, r8, r9, -⟩
      exact ⟨r2, r8.trans (congrArg (fun S => below m.doccount (sumDens S)) hden),
        r9.trans (congrArg (fun S => below m.doccount (sumDens S)) hfull)⟩)

/-- `ArrayUnionMatcher.all_ids`: the buffered documents, part after part, are exactly the remaining ids -/
theorem allIdsLoop_spec (n : Nat) : ∀ (m : AUnion α) (d : Nat) (acc : List Nat), Core dA fA WA m → m.offset ≤ d → d ≤ m.limit →
    (d < m.doccount → d < m.limit) → m.doccount - d < n →
    allIdsLoop A n m d acc = .ok (acc.reverse ++ (bufDen m.a m.offset d m.limit ++ tail dA m).map (·.1)) := by
  induction n with
  | zero => exact fun _ _ _ _ _ _ _ hn => absurd hn (Nat.not_lt_zero _)
  | succ n ih =>
    intro m d acc h ho hdl hl hn
    unfold allIdsLoop
    by_cases hd : d < m.doccount
    · have hlt := hl hd
      have hn' : m.doccount - (d + 1) < n :=
        Nat.lt_of_lt_of_le (Nat.sub_lt_sub_left hd (Nat.lt_succ_self d)) (Nat.le_of_lt_succ hn)
      rw [if_pos hd, getElem?_cellAt (Nat.lt_of_lt_of_le (Nat.sub_lt_sub_right ho hlt) h.len_ok)]
      -- what this cell contributes
      have hstep : (if 0 < cellAt m.a m.offset d then d :: acc else acc).reverse ++
            (bufDen m.a m.offset (d + 1) m.limit ++ tail dA m).map (·.1) =
          acc.reverse ++ (bufDen m.a m.offset d m.limit ++ tail dA m).map (·.1) := by
        rw [bufDen_step _ _ hlt]
        by_cases hv : 0 < cellAt m.a m.offset d <;> simp [hv]
      show (if (d + 1 == m.limit) = true then _ else _) = _
      by_cases hend : d + 1 = m.limit
      · rw [if_pos (by simp [hend])]
        obtain ⟨m1, r1, r⟩ := readPart_spec FA m (d + 1) h.ppos h.bpos h.child h.dpos h.fpos
          (fun s hs p hp => hend ▸ h.beyond s hs p hp)
        rw [r1]
        show allIdsLoop A n m1 (d + 1) _ = _
        rw [ih m1 (d + 1) _ r.core (Nat.le_of_eq r.offset_eq) (r.limit_eq ▸ Nat.le_min.2 ⟨Nat.le_add_right _ _, hd⟩)
          (fun hh => r.limit_eq ▸ Nat.lt_min.2 ⟨Nat.lt_add_of_pos_right h.ppos, r.doccount_eq ▸ hh⟩)
          (r.doccount_eq ▸ hn')]
        -- the new part and the new tail are the old tail
        have hsplit := r.den_eq
        rw [den_eq, r.docnum_eq] at hsplit
        rw [hsplit, ← hstep, hend, bufDen_eq_nil_of_ge _ _ (Nat.le_refl _)]; rfl
      · rw [if_neg (by simp [hend])]
        rw [ih m (d + 1) _ h (Nat.le_succ_of_le ho) hlt (fun _ => Nat.lt_of_le_of_ne hlt hend) hn', hstep]
    · have hge : m.limit ≤ d := Nat.le_trans h.limit_le (Nat.le_of_not_lt hd)
      rw [if_neg hd, bufDen_eq_nil_of_ge _ _ hge,
        tail_nil_of fun s hs p hp => Nat.le_trans (Nat.le_trans (Nat.le_of_not_lt hd) hdl) (h.beyond s hs p hp)]
      simp
      rfl

theorem allIds_spec (m : AUnion α) (h : WF dA fA WA m) : allIds A m = .ok ((den dA m).map (·.1)) := by
  unfold allIds
  rcases Nat.lt_or_ge m.docnum m.doccount with hlt | hge
  · rw [allIdsLoop_spec FA _ m m.docnum [] h.toCore h.off (Nat.le_of_lt (h.cur hlt).1) (fun _ => (h.cur hlt).1) (by omega)]
    rfl
  · rw [den_nil_of_done h.toCore hge]
    have : m.doccount - m.docnum + 1 = 0 + 1 := by omega
    rw [this]
    unfold allIdsLoop
    rw [if_neg (by omega)]
    rfl

end Main

end AUnion

end WM.Matcher