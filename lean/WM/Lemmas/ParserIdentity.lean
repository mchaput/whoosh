import WM.Lemmas.ParserKinds
import WM.Lemmas.ParserGroups
/-! Filters of the default pipeline that find nothing to do are the identity; the nodes `do_groups`
makes of a well-formed expression without wildcard atoms give them nothing to do (`lin_quiet`). -/
namespace WM.Parser

theorem map_id_of {α} (f : α → α) (l : List α) (h : ∀ x ∈ l, f x = x) : l.map f = l :=
  (List.map_congr_left h).trans (List.map_id' l)

theorem cleanBoostL_id (prev : Option Node) (ns : List Node) (h : ∀ n ∈ ns, n.isBst = false) :
    cleanBoostL prev ns = ns := by
  induction ns generalizing prev with
  | nil => rfl
  | cons n rest ih =>
    rw [List.forall_mem_cons] at h
    rw [cleanBoostL, ih _ h.2]
    intro o b he
    rw [he] at h
    exact nomatch h.1

theorem cleanBoost_id (n : Node) (h : n.allNodes (fun x => !x.isBst) = true) : cleanBoost n = n := by
  cases n with
  | group k ns b =>
    rw [cleanBoost, cleanBoostL_id none ns fun x hx => by simpa using allNodes_self ((allNodes_group_iff.1 h).2 x hx)]
  | _ => rfl

theorem foldl_eq_append {α} (f : List α → α → List α) (ns : List α)
    (h : ∀ acc x, x ∈ ns → f acc x = acc ++ [x]) (acc : List α) : ns.foldl f acc = acc ++ ns := by
  induction ns generalizing acc with
  | nil => simp
  | cons x rest ih =>
    rw [List.foldl_cons, h acc x List.mem_cons_self, ih (fun acc y hy => h acc y (List.mem_cons_of_mem _ hy))]
    simp

theorem doBoostStep_notBst (acc : List Node) {n : Node} (h : n.isBst = false) : doBoostStep acc n = acc ++ [n] := by
  unfold doBoostStep
  split
  · cases h
  · rfl

theorem doBoost_id (n : Node) (hn : n.allNodes (fun x => !x.isBst) = true) : doBoost n = n := by
  induction n, hn using Node.allNodes_ind with
  | leaf n h => exact doBoost_nongroup h
  | group k ns b _ hns ih =>
    rw [doBoost]
    congr 1
    refine (foldl_eq_append _ ns (fun acc x hx => ?_) []).trans (List.nil_append ns)
    split
    · rw [ih _ hx]
    · exact doBoostStep_notBst acc (by simpa using allNodes_self (hns x hx))

theorem rmWs_id (n : Node) (hn : n.allNodes (fun x => !x.isWs) = true) : rmWs n = n := by
  induction n, hn using Node.allNodes_ind with
  | leaf n h => exact rmWs_nongroup h
  | group k ns b _ hns ih =>
    rw [rmWs_group, List.filter_eq_self.2 (fun x hx => allNodes_self (hns x hx)), map_id_of _ _ ih]

/-- the second `remove_whitespace` of the default plug-in set (the constructor adds `WhitespacePlugin`
    twice) changes nothing -/
theorem rmWs_idem (n : Node) : rmWs (rmWs n) = rmWs n := by
  cases hg : n.isGroup
  · rw [rmWs_nongroup hg, rmWs_nongroup hg]
  · obtain ⟨k, ns, b, rfl⟩ := isGroup_iff.1 hg
    exact rmWs_id _ (rmWs_elim rfl)

def Node.isWild : Node → Bool
  | .text .wild .. => true
  | _ => false

theorem wildStep_notWild (group : List Node) (i : Nat) (hi : i < group.length) (h : group[i].isWild = false) :
    wildStep group i = .ok (group, i + 1) := by
  unfold wildStep
  rw [pyGet_ok_nat hi]
  generalize group[i] = x at h
  split
  · next heq => cases heq
  · next heq => cases heq; rw [Node.isWild] at h; cases h
  · rfl

theorem wildLoop_id (group : List Node) (i : Nat) (h : ∀ x ∈ group, x.isWild = false) :
    wildLoop group i = .ok group := by
  fun_induction wildLoop group i with
  | case1 group i hi e hs => rw [wildStep_notWild group i hi (h _ (List.getElem_mem hi))] at hs; cases hs
  | case2 group i hi g1 i1 hs ih =>
    rw [wildStep_notWild group i hi (h _ (List.getElem_mem hi))] at hs
    cases hs
    exact ih h
  | case3 group i hi => rfl

theorem toPrefix_notWild {n : Node} (h : n.isWild = false) : toPrefix n = n := by
  unfold toPrefix
  split
  · cases h
  · rfl

theorem doWildcards_id (n : Node) (hn : n.allNodes (fun x => !x.isWild) = true) : doWildcards n = .ok n := by
  induction n, hn using Node.allNodes_ind with
  | leaf n h => exact doWildcards_nongroup h
  | group k ns b _ hns ih =>
    have hnw : ∀ x ∈ ns, x.isWild = false := fun x hx => by simpa using allNodes_self (hns x hx)
    have hm : ns.mapM doWildcards = .ok (ns.map id) := mapM_eq_map ih
    rw [doWildcards]
    simp only [hm, List.map_id, bind, Except.bind, wildLoop_id ns 0 hnw, pure, Except.pure]
    rw [map_id_of _ _ (fun x hx => toPrefix_notWild (hnw x hx))]

theorem fnRev_id (l : List Node) (h : ∀ x ∈ l, x.isFname = false) : fnRev l = l := by
  fun_induction fnRev l with
  | case1 => rfl
  | case2 node => rw [fnToWord_not_fname (h node (List.mem_singleton.2 rfl))]
  | case3 node name o prevs hws ih => exact nomatch h (.fname name o) (List.mem_cons_of_mem _ List.mem_cons_self)
  | case4 node name o prevs hws ih => exact nomatch h (.fname name o) (List.mem_cons_of_mem _ List.mem_cons_self)
  | case5 node p prevs hp ih =>
    rw [List.forall_mem_cons] at h
    rw [fnToWord_not_fname h.1, ih h.2]

theorem doFieldnames_id (c : Cfg) (n : Node) (hn : n.allNodes (fun x => !x.isFname) = true) :
    doFieldnames c n = .ok n := by
  induction n, hn using Node.allNodes_ind with
  | leaf n h => exact doFieldnames_nongroup c h
  | group k ns b _ hns ih =>
    have hnf : ∀ x ∈ ns, x.isFname = false := fun x hx => by simpa using allNodes_self (hns x hx)
    rw [doFieldnames_group, map_id_of (fieldsOut c) _ (fun x hx => okOr_of_eq (ih x hx)),
      stage1_id c ns (fun _ _ x hx name o he => nomatch he ▸ hnf x hx)]
    unfold fieldsScan
    rw [fnRev_id _ (fun x hx => hnf x (List.mem_reverse.1 hx)), List.reverse_reverse]

/-- every atom of the expression satisfies `p` -/
def Expr.allAtoms (p : Node → Bool) : Expr → Bool
  | .atom n => p n
  | .paren items => (items.map (fun e => e.allAtoms p)).all id
  | .not e => e.allAtoms p
  | .op _ es => (es.map (fun e => e.allAtoms p)).all id
termination_by e => e.size
decreasing_by
  all_goals simp_wf
  all_goals simp only [Expr.size]
  all_goals first
    | omega
    | (rename_i h; have := Expr.size_mem h; omega)

def quiet (x : Node) : Bool := !x.isBst && !x.isFname && !x.isWild

theorem linSeq_quiet (gk : GK) (items : List Expr)
    (h : ∀ e ∈ items, ∀ x ∈ e.lin gk [.ws] 0, x.allNodes quiet = true) :
    ∀ x ∈ linSeq gk [.ws] 0 items, x.allNodes quiet = true :=
  forall_mem_joinWith (List.forall_mem_singleton.2 rfl) h

theorem lin_quiet (gk : GK) (e : Expr) (h : e.wf = true) : e.allAtoms (fun x => !x.isWild) = true →
    ∀ x ∈ e.lin gk [.ws] 0, x.allNodes quiet = true := by
  induction e, h using Expr.wf_ind with
  | atom n hw =>
    intro hp
    rw [Expr.allAtoms, Bool.not_eq_true'] at hp
    rw [Expr.lin, List.forall_mem_singleton, allNodes_nongroup (isLeaf_props hw).2]
    cases n <;> first | (cases hw; done) | simp [quiet, Node.isBst, Node.isFname, hp]
  | paren items _ _ ih =>
    intro hp
    rw [Expr.allAtoms, all_map_id] at hp
    rw [lin_paren, List.forall_mem_singleton, allNodes_group_iff]
    exact ⟨rfl, linSeq_quiet gk items (fun c hc => ih c hc (hp c hc))⟩
  | not e0 _ _ ih =>
    intro hp
    rw [Expr.allAtoms] at hp
    rw [lin_not]
    exact List.forall_mem_cons.2 ⟨rfl, List.forall_mem_cons.2 ⟨rfl, ih hp⟩⟩
  | op g es hg _ _ ih =>
    intro hp
    rw [Expr.allAtoms, all_map_id] at hp
    rw [lin_op gk _ (Nat.lt_of_lt_of_le Nat.zero_lt_two hg)]
    exact forall_mem_joinWith (List.forall_mem_cons.2 ⟨rfl, List.forall_mem_cons.2 ⟨rfl, List.forall_mem_singleton.2 rfl⟩⟩)
      fun c hc => ih c hc (hp c hc)

end WM.Parser
