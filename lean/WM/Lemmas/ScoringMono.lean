import WM.Lemmas.QualityLeaf
import WM.Model.MatcherScoring
/-! Monotonicity of the shipped weight/length scorers that claim quality support (C12 `bm25_mono` etc.), and of
`CoordMatcher`'s coordinated score with the threshold conversion of its `skip_to_quality`/`replace`
(`_child_quality`), over `Rat`. -/
namespace WM.Matcher

theorem div_le_div_of_cross {a b c d : Rat} (hb : 0 < b) (hd : 0 < d) (h : a * d ≤ c * b) : a / b ≤ c / d := by
  apply Rat.not_lt.1
  intro hlt
  rw [Rat.div_lt_iff hd] at hlt
  have h2 := Rat.mul_lt_mul_of_pos_right hlt hb
  have h3 : a / b * d * b = a * d := by
    rw [Rat.mul_assoc, Rat.mul_comm d b, ← Rat.mul_assoc, Rat.div_mul_cancel (Rat.ne_of_gt hb)]
  rw [h3] at h2
  exact absurd h (Rat.not_le.2 h2)

theorem freq_mono : Monotone2 freqScore := fun _ _ _ _ _ h _ => h

theorem tfidf_mono {idf : Rat} (h : 0 ≤ idf) : Monotone2 (tfidfScore idf) :=
  fun _ _ _ _ _ hw _ => Rat.mul_le_mul_of_nonneg_right hw h

theorem freq_nonneg {w : Rat} (l : Nat) (h : 0 ≤ w) : 0 ≤ freqScore w l := h
theorem tfidf_nonneg {idf w : Rat} (l : Nat) (hi : 0 ≤ idf) (h : 0 ≤ w) : 0 ≤ tfidfScore idf w l := Rat.mul_nonneg h hi

/-- the length-dependent part of the BM25 denominator -/
def bmC (avgfl B K1 : Rat) (fl : Nat) : Rat := K1 * ((1 - B) + B * (fl : Rat) / avgfl)

theorem bmC_nonneg {avgfl B K1 : Rat} (havg : 0 < avgfl) (hB0 : 0 ≤ B) (hB1 : B ≤ 1) (hK : 0 ≤ K1) (fl : Nat) :
    0 ≤ bmC avgfl B K1 fl := by
  unfold bmC
  apply Rat.mul_nonneg hK
  have h1 : 0 ≤ 1 - B := by grind
  have h2 : 0 ≤ B * (fl : Rat) / avgfl := div_nonneg' (Rat.mul_nonneg hB0 Rat.natCast_nonneg) (Rat.le_of_lt havg)
  exact Rat.add_nonneg h1 h2

theorem bmC_mono {avgfl B K1 : Rat} (havg : 0 < avgfl) (hB0 : 0 ≤ B) (hK : 0 ≤ K1) {l l' : Nat} (h : l' ≤ l) :
    bmC avgfl B K1 l' ≤ bmC avgfl B K1 l := by
  unfold bmC
  apply Rat.mul_le_mul_of_nonneg_left _ hK
  apply Rat.add_le_add_left.2
  rw [Rat.div_def, Rat.div_def]
  apply Rat.mul_le_mul_of_nonneg_right _ (Rat.le_of_lt (Rat.inv_pos.2 havg))
  exact Rat.mul_le_mul_of_nonneg_left (Rat.natCast_le_natCast.2 h) hB0

/-- the saturating part `t·k / (t + c)` of BM25 (`t` the term weight, `c` = `bmC`) grows with `t` and shrinks with `c` -/
theorem sat_mono {t t' c c' k : Rat} (ht : 0 ≤ t) (htt : t ≤ t') (hc' : 0 ≤ c') (hcc : c' ≤ c) (hk : 0 ≤ k) :
    (t * k) / (t + c) ≤ (t' * k) / (t' + c') := by
  have ht' : 0 ≤ t' := Rat.le_trans ht htt
  by_cases h0 : t = 0
  · subst h0
    rw [Rat.zero_mul, Rat.div_def, Rat.zero_mul]
    exact div_nonneg' (Rat.mul_nonneg ht' hk) (Rat.add_nonneg ht' hc')
  · have htpos : 0 < t := Rat.lt_of_le_of_ne ht (Ne.symm h0)
    apply div_le_div_of_cross (Std.lt_of_lt_of_le htpos (rat_le_add_of_nonneg_right Rat.le_refl (Rat.le_trans hc' hcc)))
      (Std.lt_of_lt_of_le (Std.lt_of_lt_of_le htpos htt) (rat_le_add_of_nonneg_right Rat.le_refl hc'))
    -- t*k*(t'+c') ≤ t'*k*(t+c)  ⇐  t*c' ≤ t'*c
    rw [Rat.mul_assoc t, Rat.mul_comm k, ← Rat.mul_assoc t, Rat.mul_assoc t', Rat.mul_comm k, ← Rat.mul_assoc t', Rat.mul_add,
      Rat.mul_add, Rat.mul_comm t' t]
    exact Rat.mul_le_mul_of_nonneg_right (Rat.add_le_add_left.2 (Rat.le_trans
      (Rat.mul_le_mul_of_nonneg_right htt hc') (Rat.mul_le_mul_of_nonneg_left hcc ht'))) hk

theorem bm25_mono {idf avgfl B K1 : Rat} (hidf : 0 ≤ idf) (havg : 0 < avgfl) (hB0 : 0 ≤ B) (hB1 : B ≤ 1)
    (hK : 0 ≤ K1) : Monotone2 (bm25 idf avgfl B K1) := by
  intro w w' l l' hw hww hll
  show idf * (w * (K1 + 1) / (w + bmC avgfl B K1 l)) ≤ idf * (w' * (K1 + 1) / (w' + bmC avgfl B K1 l'))
  apply Rat.mul_le_mul_of_nonneg_left _ hidf
  exact sat_mono hw hww (bmC_nonneg havg hB0 hB1 hK l') (bmC_mono havg hB0 hK hll) (by grind)

theorem bm25_nonneg {idf avgfl B K1 : Rat} (hidf : 0 ≤ idf) (havg : 0 < avgfl) (hB0 : 0 ≤ B) (hB1 : B ≤ 1)
    (hK : 0 ≤ K1) {w : Rat} (l : Nat) (hw : 0 ≤ w) : 0 ≤ bm25 idf avgfl B K1 w l := by
  show 0 ≤ idf * (w * (K1 + 1) / (w + bmC avgfl B K1 l))
  apply Rat.mul_nonneg hidf
  exact div_nonneg' (Rat.mul_nonneg hw (by grind)) (Rat.add_nonneg hw (bmC_nonneg havg hB0 hB1 hK l))

/-- `CoordMatcher._sqr(score, matching)` for `termcount = T`, `scale = c`
    (`(score + (matching - 1) / (T - c) ** 2) * ((T - 1) / T)`) -/
def coordSqr (T c s k : Rat) : Rat := (s + (k - 1) / ((T - c) * (T - c))) * ((T - 1) / T)

/-- `CoordMatcher._child_quality(quality)`: `quality * T / (T - 1) - (T - 1) / (T - c) ** 2` -/
def coordChild (T c q : Rat) : Rat := q * T / (T - 1) - (T - 1) / ((T - c) * (T - c))

theorem sq_pos_of_ne {x : Rat} (h : x ≠ 0) : 0 < x * x := by
  by_cases h1 : x < 0
  · have : 0 < -x := by grind
    have := Rat.mul_pos this this
    grind
  · have : 0 < x := by grind
    exact Rat.mul_pos this this

theorem coordSqr_mono {T c s S k : Rat} (hT : 1 ≤ T) (hc : T ≠ c) (hs : s ≤ S) (hk : k ≤ T) :
    coordSqr T c s k ≤ coordSqr T c S T := by
  unfold coordSqr
  have hd : 0 < (T - c) * (T - c) := sq_pos_of_ne (by grind)
  have hE : 0 ≤ (T - 1) / T := div_nonneg' (by grind) (by grind)
  apply Rat.mul_le_mul_of_nonneg_right _ hE
  have : (k - 1) / ((T - c) * (T - c)) ≤ (T - 1) / ((T - c) * (T - c)) := by
    rw [Rat.div_def, Rat.div_def]
    exact Rat.mul_le_mul_of_nonneg_right (by grind) (Rat.le_of_lt (Rat.inv_pos.2 hd))
  exact rat_add_le_add hs this

theorem coordSqr_child {T c q : Rat} (hT : 1 < T) : coordSqr T c (coordChild T c q) T = q := by
  unfold coordSqr coordChild
  have h1 : T - 1 ≠ 0 := by grind
  have h2 : T ≠ 0 := by grind
  rw [Rat.sub_add_cancel, Rat.div_def, Rat.div_def, Rat.mul_assoc, ← Rat.mul_assoc ((T - 1)⁻¹), Rat.inv_mul_cancel _ h1, Rat.one_mul,
    Rat.mul_assoc, Rat.mul_inv_cancel _ h2, Rat.mul_one]

theorem coord_threshold {T c q s k : Rat} (hT : 1 < T) (hc : T ≠ c) (hk : k ≤ T) (hs : s ≤ coordChild T c q) :
    coordSqr T c s k ≤ q := by
  have := coordSqr_mono (Rat.le_of_lt hT) hc hs hk
  rwa [coordSqr_child hT] at this

end WM.Matcher
