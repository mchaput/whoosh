import WM.Model.ColumnsBlock
/-! `CompressedBlockColumn`: the blocks the writer emits are ordered and disjoint (`CbOrdered`). -/
namespace WM.Columns

def CbOrdered (bs : List CBlock) : Prop :=
  (∀ b ∈ bs, b.first ≤ b.last) ∧ bs.Pairwise (fun a b => a.last < b.first)

theorem CbOrdered.nil : CbOrdered [] := ⟨by simp, List.Pairwise.nil⟩

theorem CbOrdered.snoc (bs : List CBlock) (b : CBlock) (h : CbOrdered bs) (hb : b.first ≤ b.last)
    (hlt : ∀ x ∈ bs, x.last < b.first) : CbOrdered (bs ++ [b]) := by
  refine ⟨List.forall_mem_append.2 ⟨h.1, List.forall_mem_singleton.2 hb⟩, ?_⟩
  rw [List.pairwise_append]
  refine ⟨h.2, List.pairwise_singleton _ _, fun x hx y hy => ?_⟩
  rw [List.mem_singleton.mp hy]
  exact hlt x hx

/-- The blocks written are ordered, and the pending block (`startdoc` to `lastdoc`, if any) lies
    after them. -/
def CBW.Inv (w : CBW) : Prop :=
  CbOrdered w.out ∧ ∀ s, w.startdoc = some s → s ≤ w.lastdoc ∧ ∀ b ∈ w.out, b.last < s

/-- Every document number seen so far, written or pending, is below `n`: what an add for document `n`
    needs in order to keep `Inv`. -/
def CBW.Below (w : CBW) (n : Nat) : Prop :=
  (∀ b ∈ w.out, b.last < n) ∧ ∀ s, w.startdoc = some s → w.lastdoc < n

theorem CBW.add_inv (blocksize : Nat) (w : CBW) (a : Nat × Bytes) (hi : w.Inv) (hb : w.Below a.1) :
    (w.add blocksize a).Inv ∧ ∀ n, a.1 < n → (w.add blocksize a).Below n := by
  -- the pending block, with `a` in it, starts no later than `a` and after every written block
  have hsd : w.startdoc.getD a.1 ≤ a.1 := by
    cases hs : w.startdoc with
    | none => exact Nat.le_refl _
    | some s => exact Nat.le_of_lt (Nat.lt_of_le_of_lt (hi.2 s hs).1 (hb.2 s hs))
  have hout : ∀ b ∈ w.out, b.last < w.startdoc.getD a.1 := by
    intro b hbm
    cases hs : w.startdoc with
    | none => exact hb.1 b hbm
    | some s => exact (hi.2 s hs).2 b hbm
  unfold CBW.add
  simp only
  split
  · refine ⟨⟨CbOrdered.snoc _ _ hi.1 hsd hout, nofun⟩, fun n hn => ⟨fun b hbm => ?_, nofun⟩⟩
    rcases List.mem_append.mp hbm with hbm | hbm
    · exact Nat.lt_trans (hb.1 b hbm) hn
    · rw [List.mem_singleton.mp hbm]; exact hn
  · refine ⟨⟨hi.1, fun s hs => ?_⟩, fun n hn => ⟨fun b hbm => Nat.lt_trans (hb.1 b hbm) hn, fun _ _ => hn⟩⟩
    cases hs
    exact ⟨hsd, hout⟩

theorem CBW.addAll_inv (blocksize : Nat) (adds : List (Nat × Bytes)) (w : CBW) (hi : w.Inv)
    (hb : ∀ a ∈ adds, w.Below a.1) (hs : adds.Pairwise (fun x y => x.1 < y.1)) :
    (adds.foldl (CBW.add blocksize) w).Inv := by
  induction adds generalizing w with
  | nil => exact hi
  | cons a rest ih =>
    have := CBW.add_inv blocksize w a hi (hb a (by simp))
    simp only [List.foldl_cons]
    apply ih _ this.1
    · intro a' ha'
      exact this.2 a'.1 ((List.pairwise_cons.mp hs).1 a' ha')
    · exact (List.pairwise_cons.mp hs).2

theorem cbWrite_ordered (blocksize : Nat) (adds : List (Nat × Bytes))
    (hs : adds.Pairwise (fun x y => x.1 < y.1)) : CbOrdered (cbWrite blocksize adds) := by
  have hinv := CBW.addAll_inv blocksize adds {} ⟨CbOrdered.nil, nofun⟩ (fun _ _ => ⟨nofun, nofun⟩) hs
  unfold cbWrite
  simp only
  split
  · rename_i hsome
    obtain ⟨s, hs'⟩ := Option.isSome_iff_exists.mp hsome
    rw [CBW.emit, hs']
    exact CbOrdered.snoc _ _ hinv.1 (hinv.2 s hs').1 (hinv.2 s hs').2
  · exact hinv.1

end WM.Columns
