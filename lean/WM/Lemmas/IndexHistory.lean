import WM.Lemmas.IndexTerm
/-! The per-call lemmas assembled into runs, sessions and histories (`step_sim` … `history_sim`); runs of
`add_document` calls in closed form. -/
namespace WM.Index
open WM.Dict

/-- Side conditions of the refinement, per call (evaluated in the state the call is made in):
    `update_document` must be unambiguous (at most one live committed document per unique term of
    the new document — `first_id` deletes only one); a field that is added must not occur in live
    documents (field names are not reused after `remove_field`). -/
def OpOK (w : Writer) (ss : Sess) : Op → Prop
  | .update d => Unambiguous ss d
  | .addField f _ => ∀ q ∈ liveGlobal w.segs 0, q.1.hasField f = false
  | _ => True

theorem step_sim (w : Writer) (ss : Sess) (hwf : w.WF) (h : SRel w ss) (op : Op) (hok : OpOK w ss op) :
    SRel (w.step op).1 (ss.step (w.specOp op)) ∧ (w.step op).1.WF := by
  refine ⟨?_, step_wf w hwf op⟩
  cases op with
  | add d => exact h.step_add d
  | update d => exact h.step_update hwf d hok
  | delDoc n => exact h.step_delDoc n
  | undelDoc n => exact h.step_undelDoc (fun s hs => (hwf.segs s hs).delNodup) n
  | delBy q => exact h.step_delBy hwf q
  | addField f u => exact h.step_addField f u hok
  | removeField f => exact h.step_removeField f

def RunOK : Writer → Sess → List Op → Prop
  | _, _, [] => True
  | w, ss, o :: r => OpOK w ss o ∧ RunOK (w.step o).1 (ss.step (w.specOp o)) r

theorem run_sim (w : Writer) (ss : Sess) (hwf : w.WF) (h : SRel w ss) (ops : List Op) (hok : RunOK w ss ops) :
    SRel (w.run ops) (ss.run (w.specOps ops)) ∧ (w.run ops).WF := by
  induction ops generalizing w ss with
  | nil => exact ⟨h, hwf⟩
  | cons o r ih =>
    obtain ⟨h1, h2⟩ := step_sim w ss hwf h o hok.1
    exact ih _ _ h2 h1 hok.2

/-- committed states: same schema, same documents up to order -/
structure Rel (t : Toc) (sp : State) : Prop where
  schema : sp.schema = t.schema
  docs : t.content.Perm sp.docs

theorem open_srel (t : Toc) (sp : State) (h : Rel t sp) : SRel t.writer sp.open_ where
  schema := h.schema
  committed := h.docs
  fresh := rfl
  fits := by simp [Toc.writer]
  notAdded := fun _ => rfl

theorem Rel.docs_fit {t : Toc} {sp : State} (h : Rel t sp) : ∀ d ∈ sp.docs, d.fits sp.schema = true :=
  fun d hd => h.schema ▸ contentOf_fits t.schema t.segs d (h.docs.mem_iff.mpr hd)

inductive EndRel : Ending → SEnd → Prop
  | commit (plan : Plan) (h : PlanOK plan) : EndRel (.commit plan) .commit
  | clear : EndRel (.commit planClear) .commitClear
  | cancel : EndRel .cancel .cancel

theorem session_sim (t : Toc) (sp : State) (hwf : t.WF) (h : Rel t sp) (ops : List Op) (e : Ending) (se : SEnd)
    (he : EndRel e se) (hok : RunOK t.writer sp.open_ ops) :
    Yields (t.session ops e) fun t' => t'.WF ∧ Rel t' (sp.session (t.writer.specOps ops) se) := by
  obtain ⟨hr, hw⟩ := run_sim t.writer sp.open_ (Toc.writer_wf t hwf) (open_srel t sp h) ops hok
  cases he with
  | cancel => exact .ok ⟨hwf, h⟩
  | commit plan hplan =>
    obtain ⟨t', h1, wf'⟩ := Writer.commitPlan_ok _ plan hw (hplan.sub _)
    refine ⟨t', h1, wf', ⟨(hr.schema.trans (Writer.commitPlan_schema h1).symm), ?_⟩⟩
    simp only [State.session, Sess.commit, hr.fresh]
    exact (Writer.commitPlan_content_perm hplan h1 hr.fits hr.notAdded).trans (hr.committed.append_right _)
  | clear =>
    obtain ⟨t', h1, wf'⟩ := Writer.commitPlan_ok _ planClear hw (fun s hs => by simp [planClear] at hs)
    obtain ⟨c1, c3⟩ := Writer.commitPlan_content h1 hr.fits hr.notAdded
    refine ⟨t', h1, wf', ⟨by simp [State.session, Sess.commitClear, hr.schema, c1], ?_⟩⟩
    rw [c3]
    simp [State.session, Sess.commitClear, hr.fresh, planClear, contentOf]

/-- Model and specification through any number of successive writers. -/
def lockstep : Toc → State → List (List Op × Ending × SEnd) → Except Err (Toc × State)
  | t, sp, [] => .ok (t, sp)
  | t, sp, (ops, e, se) :: r =>
    (t.session ops e).bind fun t' => lockstep t' (sp.session (t.writer.specOps ops) se) r

def HistOK : Toc → State → List (List Op × Ending × SEnd) → Prop
  | _, _, [] => True
  | t, sp, (ops, e, se) :: r =>
    EndRel e se ∧ RunOK t.writer sp.open_ ops ∧
      ∀ t', t.session ops e = .ok t' → HistOK t' (sp.session (t.writer.specOps ops) se) r

theorem lockstep_fst (t : Toc) (sp : State) (h : List (List Op × Ending × SEnd)) :
    (lockstep t sp h).map (·.1) = t.history (h.map (fun x => (x.1, x.2.1))) := by
  induction h generalizing t sp with
  | nil => rfl
  | cons x r ih =>
    obtain ⟨ops, e, se⟩ := x
    simp only [lockstep, Toc.history, List.map_cons]
    cases t.session ops e with
    | error er => rfl
    | ok t' => exact ih t' _

theorem history_sim (t : Toc) (sp : State) (hwf : t.WF) (h : Rel t sp) (hist : List (List Op × Ending × SEnd))
    (hok : HistOK t sp hist) :
    Yields (lockstep t sp hist) fun (t', sp') => t'.WF ∧ Rel t' sp' := by
  induction hist generalizing t sp with
  | nil => exact .ok ⟨hwf, h⟩
  | cons x r ih =>
    obtain ⟨ops, e, se⟩ := x
    obtain ⟨he, hrun, hrest⟩ := hok
    obtain ⟨t1, h1, wf1, rel1⟩ := session_sim t sp hwf h ops e se he hrun
    simp only [lockstep, h1, Except.bind]
    exact ih t1 _ wf1 rel1 (hrest t1 h1)

theorem Writer.run_adds (w : Writer) (docs : List DocRec) :
    w.run (docs.map .add) =
      { w with ndocs := w.ndocs ++ docs.filter (·.fits w.schema)
               pool := w.pool ++ allPostings (docs.filter (·.fits w.schema)) w.ndocs.length
               added := w.added || docs.any (·.fits w.schema) } := by
  induction docs generalizing w with
  | nil => simp [Writer.run, allPostings]
  | cons d r ih =>
    rw [List.map_cons, Writer.run, Writer.step_add_eq, ih]
    cases hd : d.fits w.schema <;> simp [hd, allPostings, List.zipIdx_cons]

theorem Writer.run_adds_of_fits (w : Writer) (docs : List DocRec) (h : ∀ d ∈ docs, d.fits w.schema = true) :
    w.run (docs.map .add) =
      { w with ndocs := w.ndocs ++ docs
               pool := w.pool ++ allPostings docs w.ndocs.length
               added := w.added || !docs.isEmpty } := by
  rw [Writer.run_adds, List.filter_eq_self.mpr h]
  cases docs with
  | nil => rfl
  | cons d r => simp [h d List.mem_cons_self]

theorem Writer.foldlM_addDocument (w : Writer) (docs : List DocRec) (h : ∀ d ∈ docs, d.fits w.schema = true) :
    docs.foldlM (fun w d => w.addDocument d) w = .ok (w.run (docs.map .add)) := by
  induction docs generalizing w with
  | nil => rfl
  | cons d r ih =>
    have hd := h d List.mem_cons_self
    rw [List.map_cons, Writer.run, Writer.step_add_eq, if_pos hd]
    simp only [List.foldlM_cons, Writer.addDocument, hd, Bool.not_true, Bool.false_eq_true, if_false, bind, Except.bind]
    exact ih { w with ndocs := w.ndocs ++ [d], pool := w.pool ++ docPostings d w.ndocs.length, added := true }
      (fun x hx => h x (List.mem_cons_of_mem _ hx))

theorem Writer.specOps_adds (w : Writer) (docs : List DocRec) :
    w.specOps (docs.map .add) = docs.map (fun d => if d.fits w.schema then .add d else .skip) := by
  induction docs generalizing w with
  | nil => rfl
  | cons d r ih =>
    rw [List.map_cons, Writer.specOps, ih, Writer.step_add_eq]
    cases hd : d.fits w.schema <;> rfl

theorem Writer.specOps_adds_of_fits (w : Writer) (docs : List DocRec) (h : ∀ d ∈ docs, d.fits w.schema = true) :
    w.specOps (docs.map .add) = docs.map .add := by
  rw [Writer.specOps_adds]
  exact List.map_congr_left (fun d hd => if_pos (h d hd))

theorem RunOK_adds (w : Writer) (ss : Sess) (docs : List DocRec) : RunOK w ss (docs.map .add) := by
  induction docs generalizing w ss with
  | nil => trivial
  | cons d r ih => exact ⟨trivial, ih _ _⟩

end WM.Index
