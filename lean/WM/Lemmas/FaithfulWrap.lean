import WM.Lemmas.Faithful
/-! `WrappingMatcher` (boost), `ConstantScoreWrapperMatcher` and `FilterMatcher` are faithful cursors. -/
namespace WM.Matcher

section ScoreMap
variable {α τ : Type} {A : Ops α} {dA fA : α → Den} {WA : α → Prop}

/-- A wrapper that forwards every cursor operation to its child and only rewrites the score, under any invariant `W`
    that implies the child's and survives a change of the child. -/
theorem scoreMap_faithful (FA : Faithful A dA fA WA) (O : Ops τ) (child : τ → α) (set : τ → α → τ)
    (g : τ → Rat → Rat)
    (hchild : ∀ m c, child (set m c) = c) (hg : ∀ m c, g (set m c) = g m)
    (hact : ∀ m, O.isActive m = A.isActive (child m)) (hid : ∀ m, O.id m = A.id (child m))
    (hscore : ∀ m r, A.score (child m) = .ok r → O.score m = .ok (g m r))
    (hnext : ∀ m, O.next m = do let c ← A.next (child m); pure (set m c))
    (hskip : ∀ m t, O.skipTo m t = do let c ← A.skipTo (child m) t; pure (set m c))
    (hreset : ∀ m, O.reset m = do let c ← A.reset (child m); pure (set m c))
    (hrem : ∀ m, O.rem m = A.rem (child m))
    (W : τ → Prop) (hW : ∀ m, W m → WA (child m)) (hset : ∀ m c, W m → WA c → W (set m c)) :
    Faithful O (fun m => (dA (child m)).map fun p => (p.1, g m p.2))
      (fun m => (fA (child m)).map fun p => (p.1, g m p.2)) W :=
  -- the child's step, seen from the wrapper
  have lift : ∀ {m c L}, W m → Step A dA fA WA (child m) c L →
      Step O (fun m => (dA (child m)).map fun p => (p.1, g m p.2)) (fun m => (fA (child m)).map fun p => (p.1, g m p.2)) W
        m (set m c) (L.map fun p => (p.1, g m p.2)) := fun {m c L} h st =>
    ⟨hset m c h st.wf, by simp only [hchild, hg, st.den_eq],
      ((hchild m c).symm ▸ st.adv).wrap hrem (fun e => by simp only [hg, e]) (fun e => by simp only [hg, e])⟩
  .of_state (fun m h => asc_map_key _ (FA.asc _ (hW m h)))
    (fun m h => by
      rw [hact, hid]
      rcases FA.head (hW m h) with ⟨hc, ha⟩ | ⟨x, r, L, hc, ha, hid', hsc⟩
      · exact .inl ⟨by rw [hc]; rfl, ha⟩
      · refine .inr ⟨x, g m r, _, by rw [hc]; rfl, ha, hid', hscore m r hsc, ?_, fun t => ?_⟩
        · rw [hnext]
          exact (FA.next_step (hW m h) hc).bind fun c st => .ok (lift h st)
        · rw [hskip, dropBelow_map_key (fun p => g m p.2)]
          exact (FA.skipTo_step t (hW m h) (by rw [hc]; exact List.cons_ne_nil _ _)).bind fun c st => .ok (lift h st))
    (fun m h => by
      rw [hreset]
      exact Yields.bind (FA.reset _ (hW m h)) fun c hc =>
        .ok ⟨hset m c h hc.1, by simp only [hchild, hg, hc.2.1], by simp only [hchild, hg, hc.2.2]⟩)

end ScoreMap

theorem Boost.faithful_inv {α : Type} {A : Ops α} {dA fA : α → Den} {WA : α → Prop} (FA : Faithful A dA fA WA)
    (W : Boost α → Prop) (hW : ∀ m, W m → WA m.child) (hset : ∀ (m : Boost α) c, W m → WA c → W { m with child := c }) :
    Faithful (Boost.ops A) (fun m => scale m.boost (dA m.child)) (fun m => scale m.boost (fA m.child)) W :=
  scoreMap_faithful FA (Boost.ops A) (·.child) (fun m c => { m with child := c }) (fun m r => r * m.boost)
    (fun _ _ => rfl) (fun _ _ => rfl) (fun _ => rfl) (fun _ => rfl)
    (fun m _ h => congrArg (· >>= fun s => pure (s * m.boost)) h)
    (fun _ => rfl) (fun _ _ => rfl) (fun _ => rfl) (fun _ => rfl) W hW hset

/-- `WrappingMatcher(child, boost)` -/
theorem Boost.faithful {α : Type} {A : Ops α} {dA fA : α → Den} {WA : α → Prop} (FA : Faithful A dA fA WA) :
    Faithful (Boost.ops A) (fun m => scale m.boost (dA m.child)) (fun m => scale m.boost (fA m.child))
      (fun m => WA m.child) :=
  Boost.faithful_inv FA _ (fun _ h => h) (fun _ _ _ h => h)

theorem Const.faithful_inv {α : Type} {A : Ops α} {dA fA : α → Den} {WA : α → Prop} (FA : Faithful A dA fA WA)
    (W : Const α → Prop) (hW : ∀ m, W m → WA m.child) (hset : ∀ (m : Const α) c, W m → WA c → W { m with child := c }) :
    Faithful (Const.ops A) (fun m => constScore m.score (dA m.child)) (fun m => constScore m.score (fA m.child)) W :=
  scoreMap_faithful FA (Const.ops A) (·.child) (fun m c => { m with child := c }) (fun m _ => m.score)
    (fun _ _ => rfl) (fun _ _ => rfl) (fun _ => rfl) (fun _ => rfl) (fun _ _ _ => rfl)
    (fun _ => rfl) (fun _ _ => rfl) (fun _ => rfl) (fun _ => rfl) W hW hset

/-- `ConstantScoreWrapperMatcher(child, score)` -/
theorem Const.faithful {α : Type} {A : Ops α} {dA fA : α → Den} {WA : α → Prop} (FA : Faithful A dA fA WA) :
    Faithful (Const.ops A) (fun m => constScore m.score (dA m.child)) (fun m => constScore m.score (fA m.child))
      (fun m => WA m.child) :=
  Const.faithful_inv FA _ (fun _ h => h) (fun _ _ _ h => h)

/-- `FilterMatcher._find_next` passes over exactly the ids that `keepIds` drops -/
theorem rejects_eq (S : List Nat) (excl : Bool) (x : Nat) : (S.contains x != excl) = !Filter.rejects S excl x := by
  unfold Filter.rejects; cases S.contains x <;> cases excl <;> rfl

namespace Filter
variable {α : Type} {A : Ops α} {dA fA : α → Den} {WA : α → Prop}

/-- the child, when active, sits on an id that passes the filter -/
def Passes (dA : α → Den) (ids : List Nat) (excl : Bool) (c : α) : Prop :=
  ∀ x r L, dA c = (x, r) :: L → rejects ids excl x = false

theorem findLoop_spec (FA : Faithful A dA fA WA) (ids : List Nat) (excl : Bool) :
    ∀ (fuel : Nat) (c : α), WA c → A.rem c < fuel →
      Yields (findLoop A ids excl fuel c) fun c' => WA c' ∧ Passes dA ids excl c' ∧
        keepIds ids excl (dA c') = keepIds ids excl (dA c) ∧ Advances A dA fA c c' := by
  intro fuel
  induction fuel with
  | zero => intro c _ h; omega
  | succ n ih =>
    intro c wc hfuel
    unfold findLoop
    rcases FA.head wc with ⟨h0, hina⟩ | ⟨x, r, L, hc, hact, hid, -⟩
    · rw [hina]; exact .ok ⟨wc, (fun x r L h => by rw [h0] at h; cases h), rfl, .refl _ _ _ _⟩
    · rw [hact, hid]
      show Yields (if rejects ids excl x = true then _ else _) _
      cases hrej : rejects ids excl x with
      | false => exact .ok ⟨wc, (fun x' r' L' h => by rw [hc] at h; cases h; exact hrej), rfl, .refl _ _ _ _⟩
      | true =>
        rw [if_pos rfl]
        refine (FA.next_step wc hc).bind fun c1 h2 => ?_
        refine (ih c1 h2.wf (by have := h2.rem_lt hc; omega)).mono fun c' g => ⟨g.1, g.2.1, ?_, h2.adv.trans g.2.2.2⟩
        rw [g.2.2.1, h2.den_eq, hc, keepIds_cons, rejects_eq, hrej]; rfl

theorem findNext_spec (FA : Faithful A dA fA WA) (m : Filter α) (wc : WA m.child) :
    ∃ c', findNext A m = .ok { m with child := c' } ∧ WA c' ∧ Passes dA m.ids m.exclude c' ∧
      keepIds m.ids m.exclude (dA c') = keepIds m.ids m.exclude (dA m.child) ∧ Advances A dA fA m.child c' := by
  obtain ⟨c', g1, g⟩ := findLoop_spec FA m.ids m.exclude (A.rem m.child + 1) m.child wc (Nat.lt_succ_self _)
  exact ⟨c', by unfold findNext; rw [g1]; rfl, g⟩

theorem head (m : Filter α) (hp : Passes dA m.ids m.exclude m.child)
    {x : Nat} {r : Rat} {L : Den} (hc : dA m.child = (x, r) :: L) :
    scale m.boost (keepIds m.ids m.exclude (dA m.child)) =
      (x, r * m.boost) :: scale m.boost (keepIds m.ids m.exclude L) := by
  rw [hc, keepIds_cons, rejects_eq, hp x r L hc]; rfl

/-- a child call `call` (`next` or `skip_to`, known to make a `Step`) followed by `_find_next()`: the step of the filter -/
theorem findNext_step (FA : Faithful A dA fA WA) {O : Ops (Filter α)} (g : Filter α → Rat → Rat)
    (hg : ∀ (m : Filter α) c, g { m with child := c } = g m) (hrem : O.rem = (Filter.ops A).rem)
    {W : Filter α → Prop} (hset : ∀ (m : Filter α) c, W m → WA c → Passes dA m.ids m.exclude c → W { m with child := c })
    (m : Filter α) (hm : W m) {call : R α} {L : Den} (hcall : Yields call (Step A dA fA WA m.child · L)) :
    Yields (do let c ← call; findNext A { m with child := c })
      (Step O (fun m => (keepIds m.ids m.exclude (dA m.child)).map fun p => (p.1, g m p.2))
        (fun m => (keepIds m.ids m.exclude (fA m.child)).map fun p => (p.1, g m p.2))
        W m · ((keepIds m.ids m.exclude L).map fun p => (p.1, g m p.2))) := by
  refine hcall.bind fun c1 h => ?_
  obtain ⟨c', g1, g2, g3, g4, g5⟩ := findNext_spec FA { m with child := c1 } h.wf
  exact ⟨_, g1, hset m c' hm g2 g3, by simp only [hg]; rw [← h.den_eq]; exact congrArg _ g4,
    (h.adv.trans g5).wrap (c := (·.child)) (fun m => by rw [hrem]; rfl) (fun e => by simp only [hg, e])
      (fun e => by simp only [hg, e])⟩

/-- any table with the cursor of `FilterMatcher` that reads `g m` of the child's score (`g`: the boost; nothing for the
    matching terms) is faithful over the filtered list rescored by `g m`, under any invariant `W` that implies the filter's
    and survives a change of the child -/
theorem faithful_of (FA : Faithful A dA fA WA) (O : Ops (Filter α)) (g : Filter α → Rat → Rat)
    (hg : ∀ (m : Filter α) c, g { m with child := c } = g m) (hm : MoveEq O (Filter.ops A))
    (hscore : ∀ m r, A.score m.child = .ok r → O.score m = .ok (g m r))
    (W : Filter α → Prop) (hW : ∀ m, W m → WA m.child ∧ Passes dA m.ids m.exclude m.child)
    (hset : ∀ (m : Filter α) c, W m → WA c → Passes dA m.ids m.exclude c → W { m with child := c }) :
    Faithful O (fun m => (keepIds m.ids m.exclude (dA m.child)).map fun p => (p.1, g m p.2))
      (fun m => (keepIds m.ids m.exclude (fA m.child)).map fun p => (p.1, g m p.2)) W := by
  obtain ⟨hact, hid, hnext, hskip, hreset, hrem⟩ := hm
  exact .of_state (fun m h => asc_map_key _ (asc_keepIds _ _ (FA.asc _ (hW m h).1)))
    (fun m h => by
      rw [hact, hid]
      rcases FA.head (hW m h).1 with ⟨h0, h1⟩ | ⟨x, r, L, hc, h3, h4, h5⟩
      · exact .inl ⟨by rw [h0]; rfl, h1⟩
      · refine .inr ⟨x, g m r, (keepIds m.ids m.exclude L).map fun p => (p.1, g m p.2),
          by rw [hc, keepIds_cons, rejects_eq, (hW m h).2 x r L hc]; rfl, h3, h4, hscore m r h5, ?_, fun t => ?_⟩
        · rw [hnext]; exact findNext_step FA g hg hrem hset m h (FA.next_step (hW m h).1 hc)
        · rw [hskip, dropBelow_map_key (fun p => g m p.2), ← keepIds_dropBelow _ _ (FA.asc _ (hW m h).1)]
          exact findNext_step FA g hg hrem hset m h
            (FA.skipTo_step t (hW m h).1 (by rw [hc]; exact List.cons_ne_nil _ _)))
    (fun m h => by
      rw [hreset]
      refine Yields.bind (FA.reset _ (hW m h).1) fun c1 h1 => ?_
      obtain ⟨c', g1, g2, g3, g4, g5⟩ := findNext_spec FA { m with child := c1 } h1.1
      exact ⟨_, g1, hset m c' h g2 g3, by simp only [hg]; rw [← h1.2.1]; exact congrArg _ g4,
        by simp only [hg]; rw [← h1.2.2, ← g5.full_eq]⟩)

theorem faithful_inv (FA : Faithful A dA fA WA) (W : Filter α → Prop)
    (hW : ∀ m, W m → WA m.child ∧ Passes dA m.ids m.exclude m.child)
    (hset : ∀ (m : Filter α) c, W m → WA c → Passes dA m.ids m.exclude c → W { m with child := c }) :
    Faithful (Filter.ops A) (fun m => scale m.boost (keepIds m.ids m.exclude (dA m.child)))
      (fun m => scale m.boost (keepIds m.ids m.exclude (fA m.child))) W :=
  faithful_of FA _ (fun m r => r * m.boost) (fun _ _ => rfl) (.refl _)
    (fun m _ h => congrArg (· >>= fun s => pure (s * m.boost)) h) W hW hset

/-- `FilterMatcher` -/
theorem faithful (FA : Faithful A dA fA WA) :
    Faithful (Filter.ops A) (fun m => scale m.boost (keepIds m.ids m.exclude (dA m.child)))
      (fun m => scale m.boost (keepIds m.ids m.exclude (fA m.child)))
      (fun m => WA m.child ∧ Passes dA m.ids m.exclude m.child) :=
  faithful_inv FA _ (fun _ h => h) (fun _ _ _ h1 h2 => ⟨h1, h2⟩)

theorem init_spec (FA : Faithful A dA fA WA) (c : α) (ids : List Nat) (excl : Bool) (boost : Rat) (wc : WA c) :
    Yields (Filter.init A c ids excl boost) fun m' => (WA m'.child ∧ Passes dA m'.ids m'.exclude m'.child) ∧
      scale m'.boost (keepIds m'.ids m'.exclude (dA m'.child)) = scale boost (keepIds ids excl (dA c)) := by
  obtain ⟨c', g1, g2, g3, g4, -⟩ := findNext_spec FA ⟨c, ids, excl, boost⟩ wc
  exact ⟨_, g1, ⟨g2, g3⟩, congrArg _ g4⟩

end Filter
end WM.Matcher
