import WM.Lemmas.IndexHistory
/-! One live document per key under the key discipline. -/
namespace WM.Index
open WM.Dict

/-- at most one document carries key term `(f, t)`, for every key term -/
def KeyInv (K : Nat → Nat → Bool) (docs : List DocRec) : Prop :=
  ∀ f t, K f t = true → (docs.filter (fun d => d.hasTerm f t)).length ≤ 1

/-- the unique terms `update_document` looks up for `d` are key terms, and `d` carries no other key term -/
def DocKeyWF (K : Nat → Nat → Bool) (sc : Schema) (d : DocRec) : Prop :=
  (∀ ft ∈ uniqTerms sc d, K ft.1 ft.2 = true) ∧
  (∀ f t, K f t = true → d.hasTerm f t = true → (f, t) ∈ uniqTerms sc d)

/-- The key discipline on the calls of one session (`W` = key terms written so far by this
    writer): keyed documents are written with `update_document`, each key at most once per writer;
    `add_document` is used for documents without key terms. -/
def Disc (K : Nat → Nat → Bool) (sc : Schema) : List (Nat × Nat) → List SOp → Prop
  | _, [] => True
  | W, .add d :: r => (∀ f t, K f t = true → d.hasTerm f t = false) ∧ Disc K sc W r
  | W, .update d :: r => DocKeyWF K sc d ∧ (∀ ft ∈ uniqTerms sc d, ft ∉ W) ∧ Disc K sc (W ++ uniqTerms sc d) r
  | W, .deleteWhere _ :: r => Disc K sc W r
  | W, .erase _ :: r => Disc K sc W r
  | W, .skip :: r => Disc K sc W r
  | _, _ :: _ => False

/-- What `Disc` maintains along a session (`disc_step`): one carrier per key term among committed and
    pending documents, and every key term of a pending document is recorded in `W` — so the next
    `update_document` on that key, which would not see the pending carrier, is excluded by `Disc`. -/
structure KJ (K : Nat → Nat → Bool) (sc : Schema) (ss : Sess) (W : List (Nat × Nat)) : Prop where
  schema : ss.schema = sc
  inv : KeyInv K (ss.committed ++ ss.fresh)
  written : ∀ d ∈ ss.fresh, ∀ f t, K f t = true → d.hasTerm f t = true → (f, t) ∈ W

theorem KeyInv.perm {K : Nat → Nat → Bool} {a b : List DocRec} (h : a.Perm b) (hi : KeyInv K a) : KeyInv K b := by
  intro f t hk
  rw [← (h.filter _).length_eq]; exact hi f t hk

theorem KeyInv.sublist {K : Nat → Nat → Bool} {a b : List DocRec} (h : a.Sublist b) (hi : KeyInv K b) : KeyInv K a := by
  intro f t hk
  exact Nat.le_trans (h.filter _).length_le (hi f t hk)

theorem KeyInv.append_singleton {K : Nat → Nat → Bool} {l : List DocRec} {d : DocRec} (hi : KeyInv K l)
    (h : ∀ f t, K f t = true → d.hasTerm f t = true → ∀ x ∈ l, x.hasTerm f t = false) : KeyInv K (l ++ [d]) := by
  intro f t hk
  rw [List.filter_append, List.length_append]
  cases hd : d.hasTerm f t with
  | true =>
    rw [filter_length_zero _ l (h f t hk hd), Nat.zero_add]
    exact List.length_filter_le _ [d]
  | false =>
    rw [filter_length_zero _ [d] (fun x hx => List.mem_singleton.mp hx ▸ hd), Nat.add_zero]
    exact hi f t hk

theorem KJ.unambiguous {K : Nat → Nat → Bool} {sc : Schema} {ss : Sess} {W : List (Nat × Nat)} (hj : KJ K sc ss W)
    {d : DocRec} (hwf : DocKeyWF K sc d) : Unambiguous ss d := by
  intro ft hft
  rw [hj.schema] at hft
  have := hj.inv ft.1 ft.2 (hwf.1 ft hft)
  rw [List.filter_append, List.length_append] at this
  omega

theorem disc_step (K : Nat → Nat → Bool) (sc : Schema) (ss : Sess) (W : List (Nat × Nat)) (op : SOp) (r : List SOp)
    (hj : KJ K sc ss W) (hd : Disc K sc W (op :: r)) : ∃ W', KJ K sc (ss.step op) W' ∧ Disc K sc W' r := by
  cases op with
  | add d =>
    refine ⟨W, ⟨hj.schema, ?_, ?_⟩, hd.2⟩
    · rw [Sess.step, Sess.add, ← List.append_assoc]
      exact hj.inv.append_singleton (fun f t hk ht => by rw [hd.1 f t hk] at ht; cases ht)
    · intro x hx f t hk ht
      rcases List.mem_append.mp hx with hx | hx
      · exact hj.written x hx f t hk ht
      · rw [List.mem_singleton.mp hx, hd.1 f t hk] at ht; cases ht
  | update d =>
    obtain ⟨hwf, hnew, hrest⟩ := hd
    refine ⟨W ++ uniqTerms sc d, ⟨hj.schema, ?_, ?_⟩, hrest⟩
    · rw [Sess.step, Sess.update, Sess.add, Sess.deleteWhere, hj.schema, ← List.append_assoc]
      refine (hj.inv.sublist (List.Sublist.append List.filter_sublist (List.Sublist.refl _))).append_singleton ?_
      -- a key term of `d` is one of its unique terms: the committed carriers were deleted, the fresh
      -- documents were written by this writer, which has not written this key before
      intro f t hk ht x hx
      have hmem := hwf.2 f t hk ht
      cases hxt : x.hasTerm f t with
      | false => rfl
      | true =>
        rcases List.mem_append.mp hx with hx | hx
        · have hx2 := (List.mem_filter.mp hx).2
          rw [show sharesUnique (uniqTerms sc d) x = true from List.any_eq_true.mpr ⟨(f, t), hmem, hxt⟩] at hx2
          cases hx2
        · exact absurd (hj.written x hx f t hk hxt) (hnew (f, t) hmem)
    · intro x hx f t hk ht
      rcases List.mem_append.mp hx with hx | hx
      · exact List.mem_append_left _ (hj.written x hx f t hk ht)
      · exact List.mem_append_right _ (hwf.2 f t hk (List.mem_singleton.mp hx ▸ ht))
  | deleteWhere p =>
    exact ⟨W, ⟨hj.schema, hj.inv.sublist (List.Sublist.append List.filter_sublist (List.Sublist.refl _)), hj.written⟩, hd⟩
  | erase d =>
    exact ⟨W, ⟨hj.schema, hj.inv.sublist (List.Sublist.append List.erase_sublist (List.Sublist.refl _)), hj.written⟩, hd⟩
  | skip => exact ⟨W, hj, hd⟩
  | _ => exact hd.elim

/-- the calls the key discipline is about -/
def Op.plain : Op → Bool
  | .add _ | .update _ | .delDoc _ | .delBy _ => true
  | _ => false

theorem disc_run (K : Nat → Nat → Bool) (sc : Schema) (w : Writer) (ss : Sess) (hwf : w.WF) (h : SRel w ss)
    (ops : List Op) (W : List (Nat × Nat)) (hj : KJ K sc ss W) (hp : ∀ op ∈ ops, op.plain = true)
    (hfit : ∀ d, Op.update d ∈ ops → d.fits sc = true) (hd : Disc K sc W (w.specOps ops)) :
    RunOK w ss ops ∧ ∃ W', KJ K sc (ss.run (w.specOps ops)) W' := by
  induction ops generalizing w ss W with
  | nil => exact ⟨trivial, W, hj⟩
  | cons o r ih =>
    simp only [Writer.specOps] at hd ⊢
    -- the discipline makes the call admissible (`OpOK`), so the simulation step applies
    obtain ⟨W', hj', hd'⟩ := disc_step K sc ss W (w.specOp o) _ hj hd
    have hpo := hp o (by simp)
    have hok : OpOK w ss o := by
      cases o with
      | update d =>
        have hf : d.fits w.schema = true := by rw [← h.schema, hj.schema]; exact hfit d (by simp)
        rw [Writer.specOp, if_pos hf] at hd
        exact hj.unambiguous hd.1
      | add _ | delDoc _ | delBy _ => trivial
      | undelDoc _ | addField _ _ | removeField _ => cases hpo
    obtain ⟨h1, wf1⟩ := step_sim w ss hwf h o hok
    obtain ⟨hr, W'', hj''⟩ := ih (w.step o).1 (ss.step (w.specOp o)) wf1 h1 W' hj'
      (fun op hop => hp op (by simp [hop])) (fun d hd => hfit d (by simp [hd])) hd'
    refine ⟨⟨hok, hr⟩, W'', ?_⟩
    simpa [Sess.run] using hj''

/-- `Disc` for every session of a history; each writer starts with nothing written (`W = []`). -/
def HistDisc (K : Nat → Nat → Bool) : Toc → State → List (List Op × Ending × SEnd) → Prop
  | _, _, [] => True
  | t, sp, (ops, e, se) :: r =>
    EndRel e se ∧ (∀ op ∈ ops, op.plain = true) ∧ (∀ d, Op.update d ∈ ops → d.fits sp.schema = true) ∧
      Disc K sp.schema [] (t.writer.specOps ops) ∧
      ∀ t', t.session ops e = .ok t' → HistDisc K t' (sp.session (t.writer.specOps ops) se) r

theorem history_unique (K : Nat → Nat → Bool) (t : Toc) (sp : State) (hwf : t.WF) (h : Rel t sp)
    (hinv : KeyInv K sp.docs) (hist : List (List Op × Ending × SEnd)) (hd : HistDisc K t sp hist) :
    HistOK t sp hist ∧ Yields (lockstep t sp hist) fun (t', sp') => t'.WF ∧ Rel t' sp' ∧ KeyInv K sp'.docs ∧
      sp'.schema = sp.schema := by
  induction hist generalizing t sp with
  | nil => exact ⟨trivial, .ok ⟨hwf, h, hinv, rfl⟩⟩
  | cons x r ih =>
    obtain ⟨ops, e, se⟩ := x
    obtain ⟨he, hp, hfit, hdisc, hrest⟩ := hd
    have hj0 : KJ K sp.schema sp.open_ [] := ⟨rfl, by simpa [State.open_] using hinv, by simp [State.open_]⟩
    obtain ⟨hrun, W', hj⟩ := disc_run K sp.schema t.writer sp.open_ (Toc.writer_wf t hwf) (open_srel t sp h) ops [] hj0
      hp hfit hdisc
    obtain ⟨t1, h1, wf1, rel1⟩ := session_sim t sp hwf h ops e se he hrun
    obtain ⟨hinv1, hsch1⟩ : KeyInv K (sp.session (t.writer.specOps ops) se).docs ∧
        (sp.session (t.writer.specOps ops) se).schema = sp.schema := by
      cases se with
      | commit => exact ⟨hj.inv, hj.schema⟩
      | commitClear => exact ⟨hj.inv.sublist (List.sublist_append_right _ _), hj.schema⟩
      | cancel => exact ⟨hinv, rfl⟩
    obtain ⟨hok, hrec⟩ := ih t1 _ wf1 rel1 hinv1 (hrest t1 h1)
    refine ⟨⟨he, hrun, ?_⟩, ?_⟩
    · intro t1' h1'
      rw [h1] at h1'; cases h1'
      exact hok
    · simp only [lockstep, h1, Except.bind]
      refine hrec.mono ?_
      rintro ⟨t', sp'⟩ ⟨wf', rel', inv', hs'⟩
      exact ⟨wf', rel', inv', hs'.trans hsch1⟩

end WM.Index
