import WM.Lemmas.FSReader
/-! A reader machine scheduled against writer events (C03).  No name is ever re-bound, so all
moments of a schedule agree on the inode of a name (`Moments.agree`); the invariant of a reader
machine therefore speaks only of the moment it read the TOC, writer events cannot disturb it, and
only the machine's own steps have to keep it (`sched_inv`).  Here: `ix.reader()`. -/
namespace WM.FS

theorem wevents_append (a b : List MStep) : wevents (a ++ b) = wevents a ++ wevents b := by
  induction a with
  | nil => rfl
  | cons m ms ih => cases m <;> simp [wevents, ih]

theorem wevents_take_prefix (ms : List MStep) (k : Nat) :
    ∃ j, wevents (ms.take k) = (wevents ms).take j := by
  refine ⟨(wevents (ms.take k)).length, ?_⟩
  conv => rhs; rw [← List.take_append_drop k ms, wevents_append]
  simp

theorem reach_fsAt {fs0 : FS} {ms : List MStep} (hfr : freshNames fs0 (wevents ms) = true) {j k : Nat}
    (hjk : j ≤ k) : Reach (fsAt fs0 ms j) (fsAt fs0 ms k) := by
  obtain ⟨d, rfl⟩ := Nat.exists_eq_add_of_le hjk
  rw [← List.take_append_drop (j + d) ms, List.take_add, wevents_append, wevents_append,
    freshNames_append, freshNames_append, Bool.and_eq_true, Bool.and_eq_true] at hfr
  exact ⟨_, by rw [fsAt, fsAt, List.take_add, wevents_append, run_append], hfr.1.2⟩

/-- `g` is the merged step function of a machine whose own step is `f` (`mstep`, `xmstep`, `smstep`
    of the model, for which both equations hold by `rfl`). -/
theorem sched_inv {σ : Type} (g : FS × σ → MStep → FS × σ) (f : FS → σ → σ)
    (hgw : ∀ s e, g s (.w e) = (step s.1 e, s.2)) (hgr : ∀ s, g s .r = (s.1, f s.1 s.2))
    (I : σ → Prop) (fs0 : FS) (st0 : σ) (ms : List MStep)
    (hr : ∀ k, k ≤ ms.length → ∀ st, I st → I (f (fsAt fs0 ms k) st)) (h0 : I st0) :
    I (ms.foldl g (fs0, st0)).2 := by
  -- the moments of the rest of the schedule, counted from the directory after its first step,
  -- are the later moments of the whole
  induction ms generalizing fs0 st0 with
  | nil => exact h0
  | cons a ms ih =>
    have hr' := fun k hk => hr (k + 1) (Nat.succ_le_succ hk)
    cases a with
    | w e =>
      rw [List.foldl_cons, hgw]
      exact ih (step fs0 e) st0 hr' h0
    | r =>
      rw [List.foldl_cons, hgr]
      exact ih fs0 (f fs0 st0) hr' (hr 0 (Nat.zero_le _) st0 h0)

/-- What the reader machines need of the directories `D 0`, …, `D n` they take their steps in
    (the moments of a schedule of fresh-name events: `moments_fsAt`): the newest TOC of each is
    readable, and a name bound in two of them is bound to the same inode. -/
structure Moments (ix : Name) (D : Nat → FS) (n : Nat) : Prop where
  readable : ∀ {k}, k ≤ n → LatestReadable ix (D k)
  agree : ∀ {j k f i}, (D j).dir f = some i → ((D k).dir f).isSome → (D k).dir f = some i

theorem moments_fsAt {ix : Name} {fs0 : FS} {ms : List MStep} (hwf : WF fs0)
    (hfr : freshNames fs0 (wevents ms) = true)
    (hlr : ∀ k, k ≤ ms.length → LatestReadable ix (fsAt fs0 ms k)) :
    Moments ix (fsAt fs0 ms) ms.length where
  readable := hlr _
  agree {j k f i} hj hk := by
    -- names are never re-bound: whichever of the two moments comes first, a name bound then
    -- and still (or again) bound later has kept its inode
    rcases Nat.le_total j k with h | h
    · obtain ⟨i', hi'⟩ := Option.isSome_iff_exists.1 hk
      rw [hi', ← (reach_fsAt hfr h).dir_stable
        ((run_wf hwf _).support f (Option.isSome_iff_exists.2 ⟨i, hj⟩)) hi', hj]
    · exact (reach_fsAt hfr h).dir_stable ((run_wf hwf _).support f hk) hj

/-- Opening `files` one at a time, `todo` still to go: the handles taken so far, followed by
    those of `todo` as it is bound at `fsj`, are what an atomic open at `fsj` takes. -/
def Opening (fsj : FS) (files todo : List Name) (got : List (Name × Nat)) : Prop :=
  (∀ f ∈ todo, (fsj.dir f).isSome) ∧
    got ++ (todo.filterMap fun f => (fsj.dir f).map fun i => (f, i))
      = files.filterMap fun f => (fsj.dir f).map fun i => (f, i)

theorem Opening.init {fsj : FS} {files : List Name} (h : ∀ f ∈ files, (fsj.dir f).isSome) :
    Opening fsj files files [] :=
  ⟨h, rfl⟩

theorem Opening.next {ix : Name} {D : Nat → FS} {n j k : Nat} {files todo : List Name}
    {got : List (Name × Nat)} {f : Name} {i : Nat} (h : Opening (D j) files (f :: todo) got)
    (hM : Moments ix D n) (hd : (D k).dir f = some i) :
    Opening (D j) files todo (got ++ [(f, i)]) := by
  refine ⟨fun g hg => h.1 g (List.mem_cons_of_mem _ hg), ?_⟩
  rw [← h.2, List.filterMap_cons, hM.agree hd (h.1 f List.mem_cons_self), List.append_assoc]
  rfl

/-- The reader's invariant: while it is opening files for the TOC `t` it read at the moment
    `D j`, what it has pinned so far is what an atomic open at `D j` would have pinned. -/
def RInv (D : Nat → FS) (n : Nat) (eager : Name → Bool) (ix : Name) : ROpen → Prop
  | .start _ => True
  | .failed _ => True
  | .opening _ t todo got =>
    ∃ j, j ≤ n ∧ readToc ix (D j) = .ok t ∧ Opening (D j) (needed eager t) todo got
  | .done t got => ∃ j, j ≤ n ∧ readToc ix (D j) = .ok t ∧ got = pinned eager (D j) t

theorem rinv_rstep {D : Nat → FS} {n : Nat} {eager : Name → Bool} {ix : Name} (hM : Moments ix D n)
    {k : Nat} (hk : k ≤ n) {ro : ROpen} (h : RInv D n eager ix ro) :
    RInv D n eager ix (rstep eager ix (D k) ro) := by
  cases ro with
  | start m =>
    simp only [rstep]
    cases hr : readToc ix (D k) with
    | ok t =>
      refine ⟨k, hk, hr, .init fun f hf => ?_⟩
      obtain ⟨s, hs, hf⟩ := List.mem_flatMap.1 hf
      exact bound_of_readable (hM.readable hk t hr) s hs f (List.mem_filter.1 hf).1
    | error e =>
      cases e with
      | ioError => simp only; split <;> trivial
      | emptyIndex => trivial
      | badToc => trivial
  | failed e => exact h
  | done t got => exact h
  | opening m t todo got =>
    obtain ⟨j, hj, htoc, hop⟩ := h
    cases todo with
    | nil => exact ⟨j, hj, htoc, (List.append_nil got).symm.trans hop.2⟩
    | cons f rest =>
      simp only [rstep]
      cases hd : (D k).dir f with
      | none => simp only; split <;> trivial
      | some i => exact ⟨j, hj, htoc, hop.next hM hd⟩

theorem pinned_eq (eager : Name → Bool) (fs : FS) (t : Toc) :
    pinned eager fs t = (freshReader eager fs t).leaves.flatMap (·.handles) := by
  rw [freshReader_leaves, List.flatMap_map]
  unfold pinned needed
  induction t.segs with
  | nil => rfl
  | cons s rest ih => simp only [List.flatMap_cons, List.filterMap_append, ih, freshSeg]

/-- **Linearizability of `ix.reader()`.**  Writers issue fresh-name storage events, the reader's
    steps (read the TOC, open one file, retry on a missing file) are interleaved with them in
    any way, and at every moment the newest TOC is readable.  If the reader's open completes, it
    holds exactly the handles an atomic open would have taken at the moment it read the TOC. -/
theorem open_linearizable (eager : Name → Bool) (ix : Name) (fs0 : FS) (n : Nat) (ms : List MStep)
    (hwf : WF fs0) (hfr : freshNames fs0 (wevents ms) = true)
    (hlr : ∀ k, k ≤ ms.length → LatestReadable ix (fsAt fs0 ms k))
    (t : Toc) (got : List (Name × Nat))
    (hdone : (mrun eager ix (fs0, .start n) ms).2 = .done t got) :
    ∃ k, k ≤ ms.length ∧ readToc ix (fsAt fs0 ms k) = .ok t ∧
      readable (fsAt fs0 ms k) t = true ∧ got = pinned eager (fsAt fs0 ms k) t := by
  have h := sched_inv (mstep eager ix) (rstep eager ix) (fun _ _ => rfl) (fun _ => rfl)
    (RInv (fsAt fs0 ms) ms.length eager ix) fs0 (.start n) ms
    (fun _ hk _ h => rinv_rstep (moments_fsAt hwf hfr hlr) hk h) trivial
  rw [mrun] at hdone
  rw [hdone] at h
  obtain ⟨k, hk, htoc, hgot⟩ := h
  exact ⟨k, hk, htoc, hlr k hk t htoc, hgot⟩

end WM.FS
