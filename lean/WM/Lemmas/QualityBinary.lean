import WM.Lemmas.FaithfulInter
import WM.Lemmas.FaithfulAndNot
import WM.Lemmas.FaithfulAndMaybe
import WM.Lemmas.QualityUnion
/-! Quality contract of `AndNotMatcher`, `RequireMatcher`, `AndMaybeMatcher`.  The second operand of the first two is
never scored and never asked for a quality: of it only the cursor contract under `W0` is used. -/
namespace WM.Matcher

variable {α β : Type} {A : Ops α} {B : Ops β} {dA fA : α → Den} {dB fB : β → Den}
  {WQA W0A : α → Prop} {WQB W0B : β → Prop}

namespace AndNot

theorem qfaithful (QA : QFaithful A dA fA WQA W0A) (QB : QFaithful B dB fB WQB W0B) :
    QFaithful (AndNot.ops A B) (fun m => diff (dA m.a) (dB m.b)) (fun m => diff (fA m.a) (fB m.b))
      (fun m => WQA m.a ∧ W0B m.b ∧ Ahead dA dB m) (fun m => W0A m.a ∧ W0B m.b ∧ Ahead dA dB m) where
  toW0 m h := ⟨QA.toW0 _ h.1, h.2.1, h.2.2⟩
  cur0 := AndNot.faithful QA.cur0 QB.cur0
  curQ := AndNot.faithful QA.curQ QB.cur0
  nn m h := nonNeg_subset (diff_subset _ _) (QA.nn _ h.1)
  sup m h := QA.sup _ h.1
  max m h := (QA.max m.a h.1).mono fun _ hq => ⟨bounded_subset (diff_subset _ _) hq.1, hq.2⟩
  block m h := by
    obtain ⟨q, h1, h2⟩ := QA.block m.a h.1
    refine ⟨q, h1, ?_⟩
    intro x r L hd
    rcases QA.curQ.head h.1 with ⟨ha, -⟩ | ⟨x', r', La, ha, -⟩
    · rw [ha, diff_nil_left] at hd; cases hd
    · rw [head QB.cur0 m h.2.1 h.2.2 ha] at hd; cases hd; exact h2 _ _ _ ha
  skipQ m q h hne := by
    have hda : dA m.a ≠ [] := by intro ha; apply hne; simp only [ha, diff_nil_left]
    refine (QA.skipQ m.a q h.1 hda).bind ?_
    rintro ⟨a', k⟩ g
    obtain ⟨m', e1, e2⟩ := findNext_spec QA.curQ QB.cur0 ⟨a', m.b⟩ g.1 h.2.1
    refine ⟨(m', k), by simp only [e1]; rfl, ⟨e2.wa, e2.wb, e2.inv⟩, ?_,
      .bin diff (fun _ => rfl) (g.2.2.trans e2.a) e2.b⟩
    rw [e2.den_eq]
    exact keeps_diff_left (QA.curQ.asc _ h.1) (QA.curQ.asc _ g.1) g.2.1

end AndNot

namespace Require

theorem qfaithful (QA : QFaithful A dA fA WQA W0A) (QB : QFaithful B dB fB WQB W0B) :
    QFaithful (Require.ops A B) (fun m => interWith (fun s _ => s) (dA m.a) (dB m.b))
      (fun m => interWith (fun s _ => s) (fA m.a) (fB m.b))
      (fun m => WQA m.a ∧ W0B m.b ∧ Inter.Aligned dA dB m) (fun m => W0A m.a ∧ W0B m.b ∧ Inter.Aligned dA dB m) where
  toW0 m h := ⟨QA.toW0 _ h.1, h.2.1, h.2.2⟩
  cur0 := Require.faithful QA.cur0 QB.cur0
  curQ := Require.faithful QA.curQ QB.cur0
  nn m h := nonNeg_interWith _ (QA.nn _ h.1) (QB.nn _ h.2.1) (fun a _ ha _ => ha)
  sup m h := QA.sup _ h.1
  max m h := (QA.max m.a h.1).mono fun _ hq => ⟨bounded_interFst hq.1, hq.2⟩
  block m h := by
    obtain ⟨q, h1, h2⟩ := QA.block m.a h.1
    refine ⟨q, h1, ?_⟩
    intro x r L hd
    rcases Inter.head (fun s _ => s) QA.curQ m h.1 h.2.2 with ⟨e1, -⟩ | ⟨x', ra, rb, La, Lb, e3, e1, e2⟩
    · rw [e1] at hd; cases hd
    · rw [e3] at hd; cases hd; exact h2 _ _ _ e1
  skipQ m q h hne := by
    have hda : dA m.a ≠ [] := by intro ha; apply hne; simp only [ha]; exact interWith_nil_left _ _
    refine (QA.skipQ m.a q h.1 hda).bind ?_
    rintro ⟨a', k⟩ g
    refine (Inter.findFirst_spec (fun s _ => s) QA.curQ QB.cur0 ⟨a', m.b⟩ g.1 h.2.1).bind fun m' e2 =>
      .ok ⟨⟨e2.wa, e2.wb, e2.inv⟩, ?_, .bin (interWith fun s _ => s) (fun _ => rfl) (g.2.2.trans e2.a) e2.b⟩
    rw [e2.den_eq]
    exact keeps_interFst_left (QA.curQ.asc _ h.1) (QA.curQ.asc _ g.1) g.2.1

end Require

namespace AndMaybe

theorem qfaithful (QA : QFaithful A dA fA WQA W0A) (QB : QFaithful B dB fB WQB W0B) :
    QFaithful (AndMaybe.ops A B) (fun m => leftJoin (dA m.a) (dB m.b)) (fun m => leftJoin (fA m.a) (fB m.b))
      (fun m => WQA m.a ∧ WQB m.b ∧ NotBehind dA dB m) (fun m => W0A m.a ∧ W0B m.b ∧ NotBehind dA dB m) where
  toW0 m h := ⟨QA.toW0 _ h.1, QB.toW0 _ h.2.1, h.2.2⟩
  cur0 := AndMaybe.faithful QA.cur0 QB.cur0
  curQ := AndMaybe.faithful QA.curQ QB.curQ
  nn m h := nonNeg_leftJoin (QA.nn _ h.1) (QB.nn _ h.2.1)
  sup m h := Bool.and_eq_true_iff.2 ⟨QA.sup _ h.1, QB.sup _ h.2.1⟩
  max m h := (Union.maxQuality_spec QA QB m h.1 h.2.1).mono fun _ ⟨_, _, e, ha2, hb2, ha3, hb3⟩ =>
    e ▸ ⟨bounded_leftJoin ha2 hb2 hb3, Rat.add_nonneg ha3 hb3⟩
  block m h := by
    refine (Union.blockQuality_spec QA QB m h.1 h.2.1).mono ?_
    rintro _ ⟨qa, qb, rfl, ha2, hb2, -, hb3⟩ x r L hd
    cases ha : dA m.a with
    | nil => rw [ha, leftJoin_nil_left] at hd; cases hd
    | cons p La =>
      rw [head QB.curQ m h.2.1 h.2.2 ha] at hd
      cases hd
      have hra := ha2 _ _ _ ha
      split
      · next hb =>
        split
        · exact rat_add_le_add hra (hb2 _ _ _ hb)
        · exact rat_le_add_of_nonneg_right hra hb3
      · exact rat_le_add_of_nonneg_right hra hb3
  skipQ m q h hne := by
    show Yields (AndMaybe.skipToQuality A B m q) _
    unfold AndMaybe.skipToQuality
    have hda : dA m.a ≠ [] := by intro ha; apply hne; simp only [ha, leftJoin_nil_left]
    have ascA := QA.curQ.asc _ h.1
    simp only [(QA.curQ.active _ h.1).2 hda, Bool.not_true, Bool.false_eq_true, ↓reduceIte]
    refine .ite (fun hi => (QA.skipQ m.a q h.1 hda).bind ?_) fun hi => ?_
    · rintro ⟨a', k⟩ g
      have hb0 := (QB.curQ.inactive h.2.1).1 ((Bool.not_eq_true' _).mp hi)
      refine .ok ⟨⟨g.1, h.2.1, headRel_of_nil_right hb0⟩, ?_, .bin leftJoin (fun _ => rfl) g.2.2 (.refl _ _ _ _)⟩
      simp only [hb0, leftJoin_nil_right]; exact g.2.1
    -- a is skipped below `q - b.max_quality()`, then b below `q - a.max_quality()` and moved up to a
    have hb0 : dB m.b ≠ [] := (QB.curQ.active _ h.2.1).1 (by simpa using hi)
    refine (QB.max m.b (QB.toW0 _ h.2.1)).bind fun bmax hb => (QA.skipQ m.a (q - bmax) h.1 hda).bind ?_
    rintro ⟨a', k1⟩ g
    have ascA' := QA.curQ.asc _ g.1
    have K1 : Keeps q (leftJoin (dA a') (dB m.b)) (leftJoin (dA m.a) (dB m.b)) :=
      keeps_leftJoin_left ascA ascA' hb.1 hb.2 g.2.1
    refine .ite (fun hi' => ?_) fun hi' => .ok ⟨⟨g.1, h.2.1, headRel_of_nil_left
      ((QA.curQ.inactive g.1).1 (Bool.eq_false_iff.2 hi'))⟩, K1, .bin leftJoin (fun _ => rfl) g.2.2 (.refl _ _ _ _)⟩
    refine (QA.max a' (QA.toW0 _ g.1)).bind fun amax ha => (QB.skipQ m.b (q - amax) h.2.1 hb0).bind ?_
    rintro ⟨b', k2⟩ e
    have K2 : Keeps q (leftJoin (dA a') (dB b')) (leftJoin (dA a') (dB m.b)) :=
      keeps_leftJoin_right ascA' (QB.curQ.asc _ h.2.1) (QB.curQ.asc _ e.1) (QB.nn _ (QB.toW0 _ h.2.1)) ha.1 e.2.1
    refine .ite (fun hj => ?_) fun hj => .ok ⟨⟨g.1, e.1, headRel_of_nil_right
      ((QB.curQ.inactive e.1).1 (Bool.eq_false_iff.2 hj))⟩, K2.trans K1, .bin leftJoin (fun _ => rfl) g.2.2 e.2.2⟩
    obtain ⟨⟨x, r⟩, La, ha'⟩ := List.exists_cons_of_ne_nil ((QA.curQ.active _ g.1).1 hi')
    rw [QA.curQ.id _ _ _ _ g.1 ha']
    exact (catchUp QA.curQ QB.curQ a' b' g.1 e.1 ha' ((QB.curQ.active _ e.1).1 hj)).bind fun b'' c =>
      .ok ⟨⟨g.1, c.wb, c.inv⟩, (Keeps.of_eq c.den_eq).trans (K2.trans K1),
        .bin leftJoin (fun _ => rfl) g.2.2 (e.2.2.trans c.b)⟩

end AndMaybe
end WM.Matcher
