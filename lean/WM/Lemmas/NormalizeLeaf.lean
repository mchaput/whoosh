import WM.Lemmas.NormalizeRange
/-! What the multi-term leaves match, term by term (`sat_pre`, `sat_wild`, `sat_range_ROk`), and that the leaf
    rewrites (`Wildcard.normalize`, `Phrase.normalize`, `TermRange.normalize`) preserve it. -/
namespace WM.Normalize
open WM.Sat

theorem parseGlob_cons_plain (br : Text → Option ((Nat → Bool) × Nat)) (c : Nat) (rest : Text)
    (h1 : c ≠ starC) (h2 : c ≠ qmarkC) (h3 : c ≠ lbrC) :
    parseGlob br (c :: rest) = .lit c :: parseGlob br rest := by
  rw [parseGlob]
  simp [h1, h2, h3]

theorem parseGlob_star (br : Text → Option ((Nat → Bool) × Nat)) : parseGlob br [starC] = [.star] := by
  rw [parseGlob]
  simp only [↓reduceIte]
  rw [parseGlob]

theorem parseGlob_lits (br : Text → Option ((Nat → Bool) × Nat)) (p rest : Text)
    (h1 : p.contains starC = false) (h2 : p.contains qmarkC = false) (h3 : p.contains lbrC = false) :
    parseGlob br (p ++ rest) = p.map .lit ++ parseGlob br rest := by
  induction p with
  | nil => rfl
  | cons c p ih =>
    simp only [List.contains_cons, Bool.or_eq_false_iff, beq_eq_false_iff_ne, ne_eq] at h1 h2 h3
    rw [List.cons_append, parseGlob_cons_plain br c _ (Ne.symm h1.1) (Ne.symm h2.1) (Ne.symm h3.1),
      ih h1.2 h2.2 h3.2]
    rfl

theorem gmatch_lits (p x : Text) : gmatch (p.map .lit) x = (x == p) := by
  induction p generalizing x with
  | nil => cases x <;> rfl
  | cons c rest ih =>
    cases x with
    | nil => rfl
    | cons y ys => exact congrArg (y == c && ·) (ih ys)

theorem gmatch_star (x : Text) : gmatch [.star] x = true := by
  simp only [gmatch, List.any_eq_true, List.mem_range]
  exact ⟨x.length, by omega, by simp⟩

theorem gmatch_lits_star (p x : Text) : gmatch (p.map .lit ++ [.star]) x = p.isPrefixOf x := by
  induction p generalizing x with
  | nil => exact gmatch_star x
  | cons c rest ih =>
    cases x with
    | nil => rfl
    | cons y ys =>
      simp only [List.map_cons, List.cons_append, gmatch, ih ys, List.isPrefixOf_cons_cons]
      rw [Bool.beq_comm]

theorem split_last_star (t : Text) (hl : t.getLast? = some starC) (hi : t.idxOf starC = t.length - 1) :
    ∃ p, t = p ++ [starC] ∧ p.contains starC = false := by
  obtain ⟨p, hp⟩ := List.getLast?_eq_some_iff.mp hl
  refine ⟨p, hp, ?_⟩
  rw [Bool.eq_false_iff]
  intro hc
  have hmem : starC ∈ p := by simpa using hc
  have hlt : t.idxOf starC < p.length := by
    rw [hp, List.idxOf_append, if_pos hmem]
    exact List.idxOf_lt_length_of_mem hmem
  rw [hi, hp] at hlt
  simp at hlt

/-- `Prefix("")` is compiled as `Every(fieldname)`, which is what the empty prefix matches anyway. -/
theorem sat_pre (env : Env) (f : Field) (t : Text) (b : Rat) (c : Bool) (d : Doc) :
    sat env (.pre f t b c) d = (d.toks f).any fun x => t.isPrefixOf x := by
  simp only [sat]
  split
  · rename_i ht
    subst ht
    rw [hasField_any d f]
    simp
  · rfl

/-- Likewise `Wildcard("*")`. -/
theorem sat_wild (env : Env) (f : Field) (t : Text) (b : Rat) (c : Bool) (d : Doc) :
    sat env (.wild f t b c) d = (d.toks f).any fun x => gmatch (parseGlob env.bracket t) x := by
  simp only [sat]
  split
  · rename_i ht
    subst ht
    rw [hasField_any d f, parseGlob_star]
    simp [gmatch_star]
  · rfl

theorem wildNormalize_sat (env : Env) (f : Field) (t : Text) (b : Rat) (c : Bool) (d : Doc) :
    sat env (wildNormalize f t b c) d = sat env (.wild f t b c) d := by
  fun_cases wildNormalize f t b c
  · rename_i hstar
    rw [beq_iff_eq.mp hstar]
    simp [sat]
  · rfl
  · -- no metacharacter: the term itself
    rename_i _ hbr hpl
    simp only [Bool.not_eq_true, Bool.and_eq_true, Bool.not_eq_true'] at hbr hpl
    have hg : parseGlob env.bracket t = t.map .lit := by
      simpa [parseGlob] using parseGlob_lits env.bracket t [] hpl.1 hpl.2 hbr
    rw [sat_wild, hg]
    simp only [gmatch_lits, sat, List.contains_eq_any_beq]
    exact any_congr fun x _ => Bool.beq_comm
  · -- a single `*`, at the end: a prefix
    rename_i _ hbr _ hpre
    simp only [Bool.and_eq_true, Bool.not_eq_true', Bool.not_eq_true, beq_iff_eq] at hbr hpre
    obtain ⟨p, rfl, hnostar⟩ := split_last_star t hpre.1.2 hpre.2
    simp only [List.contains_append, Bool.or_eq_false_iff] at hbr hpre
    simp only [sat_pre, sat_wild, List.dropLast_concat, parseGlob_lits env.bracket p _ hnostar hpre.1.1.1 hbr.1,
      parseGlob_star, gmatch_lits_star]
  · rfl

theorem phraseNormalize_sat (env : Env) (f : Field) (ws : List Text) (slop : Nat) (b : Rat) (d : Doc) :
    sat env (phraseNormalize f ws slop b) d = sat env (.phrase f ws slop b) d := by
  unfold phraseNormalize
  split
  · simp [sat, phraseMatch]
  · rename_i w
    simp only [sat, phraseMatch, chainFrom, Bool.and_true]
    rw [Bool.eq_iff_iff]
    simp only [List.contains_eq_mem, decide_eq_true_eq, List.any_eq_true, List.mem_range, beq_iff_eq]
    constructor
    · intro hm
      obtain ⟨i, hi, rfl⟩ := List.mem_iff_getElem.mp hm
      exact ⟨i, hi, by simp [hi]⟩
    · rintro ⟨i, hi, he⟩
      exact List.mem_of_getElem? he
  · rfl

theorem pt_lt_iff (x y : Text) : pt x ≤ pt y ↔ x ≤ y := by
  show Cmp.le (pt x) (pt y) = true ↔ x ≤ y
  simp only [Cmp.le, pt, Bnd.lt, Int.le_refl, decide_true, Bool.and_true, Bool.or_eq_true,
    decide_eq_true_eq, beq_iff_eq, Bnd.val.injEq]
  exact List.le_iff_lt_or_eq.symm

theorem cmpStart_none_le (lx : Bool) (x : Text) : cmpStart none lx ≤ pt x := by
  show Cmp.le _ _ = true
  simp [cmpStart, pt, Cmp.le, Bnd.lt]

theorem cmpStart_incl_le (t x : Text) : cmpStart (some t) false ≤ pt x ↔ t ≤ x := pt_lt_iff t x

theorem cmpStart_excl_le (t x : Text) : cmpStart (some t) true ≤ pt x ↔ t < x := by
  show Cmp.le _ _ = true ↔ _
  simp [cmpStart, pt, Cmp.le, Bnd.lt]

theorem le_cmpEnd_none (hx : Bool) (x : Text) : pt x ≤ cmpEnd none hx := by
  show Cmp.le _ _ = true
  simp [cmpEnd, pt, Cmp.le, Bnd.lt]

theorem le_cmpEnd_incl (t x : Text) : pt x ≤ cmpEnd (some t) false ↔ x ≤ t := pt_lt_iff x t

theorem le_cmpEnd_excl (t x : Text) : pt x ≤ cmpEnd (some t) true ↔ x < t := by
  show Cmp.le _ _ = true ↔ _
  simp [cmpEnd, pt, Cmp.le, Bnd.lt]

/-- The quirk of `TermRange._btexts` never fires on `r` and `d` (`ROk`). -/
theorem inRangeQ_of_ROk {d : Doc} {r : Rng} (he : ROk d r) {x : Text} (hx : x ∈ d.toks r.f) :
    inRangeQ r.lo r.hi r.lox r.hix x = inRange r.lo r.hi r.lox r.hix x := by
  have : (r.lo == none && r.lox && x == []) = false := by
    rw [Bool.eq_false_iff]
    intro h
    simp only [Bool.and_eq_true, beq_iff_eq] at h
    rcases he with he | he
    · simp [Rng.openExcl, h.1.1, h.1.2] at he
    · exact he r.f x hx h.2
  rw [inRangeQ, this, Bool.not_false, Bool.and_true]

theorem sat_range_ROk (env : Env) (r : Rng) (d : Doc) (he : ROk d r) :
    sat env r.toQ d = (d.toks r.f).any fun x => decide (r.mem x) := by
  simp only [Rng.toQ, sat]
  refine any_congr fun x hx => (inRangeQ_of_ROk he hx).trans ?_
  rw [Bool.eq_iff_iff, decide_eq_true_iff]
  exact inRange_iff ..

theorem rngNormalize_sat (env : Env) (r : Rng) (d : Doc) (hp : d.BelowMax) (he : ROk d r) :
    sat env r.normalize d = sat env r.toQ d := by
  rw [sat_range_ROk env r d he]
  obtain ⟨f, lo, hi, lx, hx, b, c⟩ := r
  fun_cases Rng.normalize _ <;> dsimp only at *
  · -- the whole field: every term of the document lies in the range
    rename_i h
    simp only [Bool.and_eq_true, Bool.or_eq_true, beq_iff_eq] at h
    refine (hasField_any d f).trans (any_congr fun x hxm => (decide_eq_true (And.intro ?_ ?_)).symm)
    · rcases h.1 with rfl | rfl
      · exact cmpStart_none_le _ _
      · cases lx
        · exact (cmpStart_incl_le _ _).mpr (List.nil_le x)
        · -- `{"" TO`: the empty term is excluded, and by `ROk` not there
          have hne : x ≠ [] := he.resolve_left (by simp [Rng.openExcl]) f x hxm
          refine (cmpStart_excl_le _ _).mpr ?_
          cases x with
          | nil => exact absurd rfl hne
          | cons y ys => exact List.nil_lt_cons y ys
    · rcases h.2 with rfl | rfl
      · exact le_cmpEnd_none _ _
      · cases hx
        · exact (le_cmpEnd_incl _ _).mpr (List.le_of_lt (hp f x hxm))
        · exact (le_cmpEnd_excl _ _).mpr (hp f x hxm)
  · -- start == end, exclusive on one side: no term is both above and below `t`
    rename_i h1 h2 hex
    obtain rfl := beq_iff_eq.mp h2
    cases lo with
    | none => simp at h1
    | some t =>
      refine (List.any_eq_false.mpr fun x _ => ?_).symm
      rw [decide_eq_true_iff]
      cases lx <;> cases hx <;>
        simp only [Rng.mem, cmpStart_incl_le, cmpStart_excl_le, le_cmpEnd_incl, le_cmpEnd_excl, not_and]
      · simp at hex
      · exact fun h1 h2 => List.lt_irrefl _ (List.lt_of_le_of_lt h1 h2)
      · exact fun h1 h2 => h2 h1
      · exact fun h1 h2 => List.lt_irrefl _ (List.lt_trans h1 h2)
  · -- start == end, inclusive: exactly the term `t`
    rename_i h1 h2 hex t hlo
    obtain rfl := beq_iff_eq.mp h2
    simp only [Bool.or_eq_true, not_or, Bool.not_eq_true] at hex
    obtain ⟨rfl, rfl⟩ := hex
    subst hlo
    simp only [sat, List.contains_eq_any_beq]
    refine any_congr fun x _ => ?_
    rw [Bool.eq_iff_iff, decide_eq_true_iff, Rng.mem, cmpStart_incl_le, le_cmpEnd_incl, beq_iff_eq]
    exact ⟨fun e => e ▸ ⟨List.le_refl _, List.le_refl _⟩, fun h => (List.le_antisymm h.2 h.1).symm⟩
  · rename_i h1 h2 hex hlo
    obtain rfl := beq_iff_eq.mp h2
    subst hlo
    simp at h1
  · exact sat_range_ROk env ⟨f, lo, hi, lx, hx, b, true⟩ d he

end WM.Normalize
