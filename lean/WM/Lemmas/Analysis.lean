import WM.Model.Analysis
import WM.Lemmas.Basics
/-!
What C17 needs of each component of the analysis model: the scanners and the tokens made of their
spans, the per-token text filters, the stop filter, what the formats record of a token, `DelimitedAttributeFilter`,
the n-gram components, slices and `format_fragment`; and `OffsetInv`, the invariant of the offset results, with what
the tokenizer and `DelimitedAttributeFilter` do to it.

Then, in namespace `WM.C17`, the filter classes in which C17 is stated, with one step lemma per class: offsets
(`inv_step`), positions (`pos_step`), token texts across the two modes (`textwise_mono`).  `List.foldl_rel` lifts a
step along a chain of filters (`inv_chain`, `textsSub_pipeline`).
-/
namespace WM.Analysis

theorem runLen_le (p : CChar → Bool) (cs : List CChar) : runLen p cs ≤ cs.length := by
  induction cs with
  | nil => exact Nat.le_refl 0
  | cons c rest ih =>
    rw [runLen]
    split
    · exact Nat.add_comm .. ▸ Nat.succ_le_succ ih
    · exact Nat.zero_le _

theorem dotRuns_le (cs : List CChar) : dotRuns cs ≤ cs.length := by
  fun_induction dotRuns cs with
  | case1 c rest hc m hm ih =>
    -- `1 + m + dotRuns (rest.drop m) ≤ 1 + (m + (rest.length - m))`
    rw [List.length_drop] at ih
    rw [List.length_cons, ← Nat.add_sub_cancel' (runLen_le (·.word) rest), Nat.add_comm _ 1, Nat.add_assoc]
    exact Nat.add_le_add_left (Nat.add_le_add_left ih m) 1
  | case2 | case3 | case4 => exact Nat.zero_le _

theorem matchLen_le (p : Pat) (cs : List CChar) : matchLen p cs ≤ cs.length := by
  cases p with
  | default =>
    rw [matchLen]
    split
    · have := dotRuns_le (cs.drop (runLen (·.word) cs))
      rw [List.length_drop] at this
      exact Nat.add_sub_cancel' (runLen_le (·.word) cs) ▸ Nat.add_le_add_left this _
    · exact Nat.zero_le _
  | space | comma | nonspace => exact runLen_le _ cs

theorem scan_spans (p : Pat) (cs : List CChar) (off : Nat) :
    (∀ s ∈ scan p cs off, off ≤ s.1 ∧ s.1 < s.2 ∧ s.2 ≤ off + cs.length) ∧
    List.Pairwise (fun x y => x.2 ≤ y.1) (scan p cs off) := by
  fun_induction scan p cs off with
  | case1 => exact ⟨fun _ h => (nomatch h), .nil⟩
  | case2 off c rest n hn ih =>
    have hm : n ≤ (c :: rest).length := matchLen_le p (c :: rest)
    rw [List.length_drop, Nat.add_assoc, Nat.add_sub_cancel' hm] at ih
    refine ⟨fun s hs => ?_, .cons (fun y hy => (ih.1 y hy).1) ih.2⟩
    rcases List.mem_cons.1 hs with rfl | hs
    · exact ⟨Nat.le_refl _, Nat.lt_add_of_pos_right hn, Nat.add_le_add_left hm _⟩
    · exact ⟨Nat.le_trans (Nat.le_add_right ..) (ih.1 s hs).1, (ih.1 s hs).2⟩
  | case3 off c rest n hn ih =>
    rw [Nat.add_assoc, Nat.add_comm 1] at ih
    exact ⟨fun s hs => ⟨Nat.le_trans (Nat.le_add_right ..) (ih.1 s hs).1, (ih.1 s hs).2⟩, ih.2⟩

theorem spansToTokens_range (text : List CChar) (spans : List (Nat × Nat)) (p : Nat) :
    (spansToTokens text spans p).map (fun t => (t.startchar, t.endchar)) = spans := by
  induction spans generalizing p with
  | nil => rfl
  | cons s rest ih => simp only [spansToTokens, List.map_cons, ih]

theorem spansToTokens_pos (text : List CChar) (spans : List (Nat × Nat)) (p : Nat) :
    (spansToTokens text spans p).map (·.pos) = List.range' p spans.length := by
  induction spans generalizing p with
  | nil => rfl
  | cons s rest ih => simp only [spansToTokens, List.map_cons, ih, List.length_cons, List.range'_succ]

theorem spansToTokens_text {text : List CChar} {spans : List (Nat × Nat)} {p : Nat} {t : Token}
    (h : t ∈ spansToTokens text spans p) : t.text = (slice text t.startchar t.endchar).map (·.code) := by
  induction spans generalizing p with
  | nil => cases h
  | cons s rest ih =>
    rcases List.mem_cons.1 h with rfl | h
    · rfl
    · exact ih h

/-- the invariant the offset results carry through a chain of filters: `P` is what the chain so far guarantees of a
    token's character range (`s < e ≤ len` behind a tokenizer, `s ≤ e ≤ len` behind `DelimitedAttributeFilter`), `g`
    the text transformation of the filters so far, so that a token's text is `g` of its slice of the source -/
structure OffsetInv (P : Nat → Nat → Prop) (text : List CChar) (g : Str → Str) (ts : List Token) : Prop where
  spans : List.Pairwise (fun a b : Token => a.endchar ≤ b.startchar) ts
  tok : ∀ t ∈ ts, P t.startchar t.endchar ∧ t.text = g ((slice text t.startchar t.endchar).map (·.code))

theorem inv_tokenizer (p : Pat) (text : List CChar) :
    OffsetInv (fun s e => s < e ∧ e ≤ text.length) text id (regexTokenizer p text) := by
  have hs := scan_spans p text 0
  have hr := spansToTokens_range text (scan p text 0) 0
  constructor
  · exact List.pairwise_map.1 (hr ▸ hs.2)
  · intro t ht
    have := hs.1 _ (hr ▸ List.mem_map_of_mem (f := fun t : Token => (t.startchar, t.endchar)) ht)
    exact ⟨⟨this.2.1, Nat.zero_add text.length ▸ this.2.2⟩, spansToTokens_text ht⟩

/-- `lowercase tb` and `strip tb` are `mapText (·.flatMap tb.lower)` and `mapText (stripStr tb)` by
    definition, so this covers them -/
theorem mapText_map {α} (fn : Str → Str) (v : Str → Nat → Nat → α) (ts : List Token) :
    (mapText fn ts).map (fun t => v t.text t.startchar t.endchar)
      = ts.map fun t => v (fn t.text) t.startchar t.endchar :=
  List.map_map

/-- the texts whose tokens the stop filter emits -/
def StopCfg.passes (c : StopCfg) (w : Str) : Bool := c.keeps w || !c.removestops

/-- The stop filter emits the tokens whose text passes, in order; to a view of the tokens that does
    not look at `stopped`, nor at `pos` if the filter renumbers, it is a `filter`. -/
theorem stopFilter_map {α} (c : StopCfg) (v : Token → α)
    (hs : ∀ t s, v { t with stopped := s } = v t)
    (hp : c.renumber = true → ∀ t p, v { t with pos := p } = v t) (ts : List Token) (pos : Option Nat) :
    (stopFilter c ts pos).map v = (ts.filter fun t => c.passes t.text).map v := by
  have emit {t t' : Token} {out rest : List Token} (ht : v t' = v t) (hk : c.passes t.text = true)
      (ih : out.map v = (rest.filter fun t => c.passes t.text).map v) :
      (t' :: out).map v = ((t :: rest).filter fun t => c.passes t.text).map v := by
    rw [List.filter_cons_of_pos (p := fun t : Token => c.passes t.text) hk, List.map_cons, List.map_cons, ht, ih]
  have keep {w : Str} (h : c.keeps w = true) : c.passes w = true := by rw [StopCfg.passes, h]; rfl
  -- the cases of the definition: kept (renumbering, first or later; not renumbering), stopped
  -- (emitted or dropped)
  fun_induction stopFilter c ts pos with
  | case1 => rfl
  | case2 t rest hk hr ih => exact emit (hs t false) (keep hk) ih
  | case3 t rest hk hr p ih => exact emit ((hs { t with pos := p + 1 } false).trans (hp hr t (p + 1))) (keep hk) ih
  | case4 t rest pos hk hr ih => exact emit (hs t false) (keep hk) ih
  | case5 t rest pos hk hrs ih => exact emit (hs t true) (by rw [StopCfg.passes, hrs]; exact Bool.or_true _) ih
  | case6 t rest pos hk hrs ih =>
    rw [List.filter_cons_of_neg (p := fun t : Token => c.passes t.text) (by simpa [StopCfg.passes, hk] using hrs)]
    exact ih

theorem stopFilter_renumbered (c : StopCfg) (hrs : c.removestops = true) (hr : c.renumber = true)
    (ts : List Token) (pos : Option Nat) :
    List.Pairwise (fun a b : Token => a.pos < b.pos) (stopFilter c ts pos) ∧
    ∀ p, pos = some p → ∀ x ∈ stopFilter c ts pos, p < x.pos := by
  fun_induction stopFilter c ts pos with
  | case1 => exact ⟨.nil, fun _ _ _ h => nomatch h⟩
  | case2 t rest hk _ ih => exact ⟨.cons (ih.2 _ rfl) ih.1, fun _ h => nomatch h⟩
  | case3 t rest hk _ p ih =>
    refine ⟨.cons (ih.2 _ rfl) ih.1, fun q hq x hx => ?_⟩
    cases hq
    rcases List.mem_cons.1 hx with rfl | hx
    · exact Nat.lt_succ_self p
    · exact Nat.lt_trans (Nat.lt_succ_self p) (ih.2 _ rfl x hx)
  | case4 t rest pos hk hr' ih => exact absurd hr hr'
  | case5 t rest pos hk hrs' ih => rw [hrs] at hrs'; cases hrs'
  | case6 t rest pos hk hrs' ih => exact ih

theorem stopFilter_pos (c : StopCfg) (hrs : c.removestops = true) (ts : List Token)
    (h : List.Pairwise (fun a b : Token => a.pos < b.pos) ts) :
    List.Pairwise (fun a b : Token => a.pos < b.pos) (stopFilter c ts none) := by
  cases hr : c.renumber with
  | true => exact (stopFilter_renumbered c hrs hr ts none).1
  | false =>
    have : List.Pairwise (· < ·) ((stopFilter c ts none).map (·.pos)) := by
      rw [stopFilter_map c _ (fun _ _ => rfl) fun h => absurd (hr ▸ h) Bool.false_ne_true]
      exact List.pairwise_map.2 (h.filter _)
    exact List.pairwise_map.1 this

theorem pairwise_pos_map {f : Token → Token} {ts : List Token}
    (hts : List.Pairwise (fun a b : Token => a.pos < b.pos) ts) (hf : ∀ t, (f t).pos = t.pos) :
    List.Pairwise (fun a b : Token => a.pos < b.pos) (ts.map f) :=
  List.pairwise_map.2 (hts.imp fun {a b} hab => by rw [hf a, hf b]; exact hab)

theorem analyze_append (tb : Tables) (tk : Tokenizer) (fs gs : List Filter) (mode : Mode) (text : List CChar) :
    analyze tb tk (fs ++ gs) mode text = gs.foldl (fun ts f => runFilter tb mode f ts) (analyze tb tk fs mode text) := by
  simp [analyze, List.foldl_append]

theorem mem_positionsOf {ts : List Token} {t : Token} (h : t ∈ ts) : t.pos ∈ positionsOf ts t.text :=
  List.mem_map_of_mem (List.mem_filter.2 ⟨h, decide_eq_true rfl⟩)

theorem findSub_spec {sub s : Str} {p : Nat} (h : findSub sub s = some p) :
    p ≤ s.length ∧ sub.isPrefixOf (s.drop p) = true := by
  fun_induction findSub sub s generalizing p with
  | case1 hs => cases h; exact ⟨Nat.le_refl 0, by rw [hs]; rfl⟩
  | case2 => cases h
  | case3 c rest hpre => cases h; exact ⟨Nat.zero_le _, hpre⟩
  | case4 c rest hpre ih =>
    obtain ⟨q, hq, rfl⟩ := Option.map_eq_some_iff.1 h
    exact ⟨Nat.succ_le_succ (ih hq).1, (ih hq).2⟩

/-- what `find` returns is an occurrence: the delimiter is a prefix of the text from there on -/
theorem findSub_occurs (sub s : Str) (p : Nat) (h : findSub sub s = some p) : sub.isPrefixOf (s.drop p) = true :=
  (findSub_spec h).2

theorem delimited_spec (delim : Str) : ∃ cut : Token → Token, (∀ ts, delimited delim ts = ts.map cut) ∧
    ∀ t, ∃ n ≤ t.text.length, (cut t).startchar = t.startchar ∧
      (cut t).endchar = t.endchar - (t.text.length - n) ∧ (cut t).text = t.text.take n := by
  refine ⟨_, fun _ => rfl, fun t => ?_⟩
  split
  · next p hp => exact ⟨p, (findSub_spec hp).1, rfl, rfl, rfl⟩
  · exact ⟨_, Nat.le_refl _, rfl, by rw [Nat.sub_self, Nat.sub_zero], List.take_length.symm⟩

theorem mem_pyRange {a b x : Nat} : x ∈ pyRange a b ↔ a ≤ x ∧ x < b := by
  simp only [pyRange, List.mem_map, List.mem_range]
  exact ⟨fun ⟨y, hy, e⟩ => e ▸ ⟨Nat.le_add_left a y, Nat.add_lt_of_lt_sub hy⟩,
    fun h => ⟨x - a, Nat.sub_lt_sub_right h.1 h.2, Nat.sub_add_cancel h.1⟩⟩

theorem mem_windows {α} (F : Nat → Nat → α) {min max len size start : Nat}
    (h1 : min ≤ size) (h2 : size ≤ max) (h3 : start + size ≤ len) :
    F start size ∈ (pyRange 0 (len - min + 1)).flatMap fun start =>
      (pyRange min (max + 1)).filterMap fun size => if start + size > len then none else some (F start size) :=
  have hs : start ≤ len - min := Nat.le_sub_of_add_le (Nat.le_trans (Nat.add_le_add_left h1 start) h3)
  List.mem_flatMap.2 ⟨start, mem_pyRange.2 ⟨Nat.zero_le _, Nat.lt_succ_of_le hs⟩,
    List.mem_filterMap.2 ⟨size, mem_pyRange.2 ⟨h1, Nat.lt_succ_of_le h2⟩, if_neg (Nat.not_lt.2 h3)⟩⟩

theorem ngramsOf_query_subset (min max : Nat) (at_ : At) (hmm : min ≤ max) (t g : Token)
    (hg : g ∈ ngramsOf min max at_ .query t) : ∃ g' ∈ ngramsOf min max at_ .index t, g'.text = g.text := by
  unfold ngramsOf at hg ⊢
  by_cases hl : t.text.length < min
  · rw [if_pos hl] at hg; cases hg
  rw [if_neg hl] at hg ⊢
  have h1 : min ≤ Nat.min max t.text.length := Nat.le_min.2 ⟨hmm, Nat.le_of_not_lt hl⟩
  have h2 : Nat.min max t.text.length ≤ max := Nat.min_le_left ..
  have h3 : Nat.min max t.text.length ≤ t.text.length := Nat.min_le_right ..
  generalize Nat.min max t.text.length = size at hg h1 h2 h3 ⊢
  cases at_ with
  | start =>
    cases List.mem_singleton.1 hg
    exact ⟨_, List.mem_map.2 ⟨size, mem_pyRange.2 ⟨h1, Nat.lt_succ_self _⟩, rfl⟩, rfl⟩
  | «end» =>
    cases List.mem_singleton.1 hg
    exact ⟨_, List.mem_map.2 ⟨t.text.length - size,
      mem_pyRange.2 ⟨Nat.sub_le_sub_left h2 _, Nat.lt_succ_of_le (Nat.sub_le_sub_left h1 _)⟩, rfl⟩, rfl⟩
  | all =>
    obtain ⟨start, hs, rfl⟩ := List.mem_map.1 hg
    have hs : start + size ≤ t.text.length :=
      Nat.add_le_of_le_sub h3 (Nat.le_of_lt_succ (mem_pyRange.1 hs).2)
    exact ⟨_, mem_windows (fun start size => ({ t with text := slice t.text start (start + size),
                                                        startchar := t.startchar + start,
                                                        endchar := t.startchar + start + size } : Token))
      h1 h2 hs, rfl⟩

theorem ngramTokenizer_query_subset (min max : Nat) (text : List CChar) (g : Token)
    (hg : g ∈ ngramTokenizer min max .query text) : g ∈ ngramTokenizer min max .index text := by
  simp only [ngramTokenizer] at hg ⊢
  have h2 : Nat.min max (text.map (·.code)).length ≤ max := Nat.min_le_left ..
  have h3 : Nat.min max (text.map (·.code)).length ≤ (text.map (·.code)).length := Nat.min_le_right ..
  generalize Nat.min max (text.map (·.code)).length = size at hg h2 h3
  split at hg
  · cases hg
  · next h1 =>
    obtain ⟨start, hs, rfl⟩ := List.mem_map.1 hg
    exact mem_windows (fun start size => (⟨slice _ start (start + size), start, start, start + size, false⟩ : Token))
      (Nat.le_of_not_lt h1) h2 (Nat.add_le_of_le_sub h3 (Nat.le_of_lt_succ (mem_pyRange.1 hs).2))

theorem slice_append_slice {α} (l : List α) {a b c : Nat} (hab : a ≤ b) (hbc : b ≤ c) :
    slice l a b ++ slice l b c = slice l a c :=
  take_drop_append l hab hbc

theorem slice_empty {α} (l : List α) {a b : Nat} (h : b ≤ a) : slice l a b = [] := by
  rw [slice, Nat.sub_eq_zero_of_le h, List.take_zero]

theorem take_slice {α} (l : List α) {a n c : Nat} (h : a + n ≤ c) : (slice l a c).take n = slice l a (a + n) := by
  rw [slice, List.take_take, Nat.min_eq_left (Nat.le_sub_of_add_le' h), slice, Nat.add_sub_cancel_left]

theorem length_slice {α} (l : List α) {a b : Nat} (h : b ≤ l.length) : (slice l a b).length = b - a := by
  rw [slice, List.length_take, List.length_drop, Nat.min_eq_left (Nat.sub_le_sub_right h a)]

/-- the step of `DelimitedAttributeFilter` right behind the tokenizer: the shortened text is the
    source text of the shortened character range, which may be left empty (`"::x"`) -/
theorem inv_delimited (d : Str) {text : List CChar} {ts : List Token}
    (h : OffsetInv (fun s e => s < e ∧ e ≤ text.length) text id ts) :
    OffsetInv (fun s e => s ≤ e ∧ e ≤ text.length) text id (delimited d ts) := by
  obtain ⟨cut, hmap, cut_eq⟩ := delimited_spec d
  rw [hmap]
  constructor
  · refine List.pairwise_map.2 (h.spans.imp fun {a b} hab => ?_)
    obtain ⟨_, _, _, ea, _⟩ := cut_eq a
    obtain ⟨_, _, eb, _⟩ := cut_eq b
    rw [ea, eb]
    exact Nat.le_trans (Nat.sub_le ..) hab
  · intro x hx
    obtain ⟨t, ht, rfl⟩ := List.mem_map.1 hx
    obtain ⟨⟨h1, h2⟩, h3⟩ := h.tok t ht
    have h3 : t.text = (slice text t.startchar t.endchar).map (·.code) := h3
    have hlen : t.endchar = t.startchar + t.text.length := by
      rw [h3, List.length_map, length_slice text h2, Nat.add_sub_cancel' (Nat.le_of_lt h1)]
    obtain ⟨n, hn, es, ee, et⟩ := cut_eq t
    have hle : t.startchar + n ≤ t.endchar := hlen ▸ Nat.add_le_add_left hn _
    rw [es, ee, et, hlen, Nat.add_sub_assoc (Nat.sub_le ..), Nat.sub_sub_self hn, h3, ← List.map_take,
      take_slice text hle]
    exact ⟨⟨Nat.le_add_right .., Nat.le_trans hle h2⟩, rfl⟩

theorem stripMarkup_append (a b : List Piece) : stripMarkup (a ++ b) = stripMarkup a ++ stripMarkup b := by
  induction a with
  | nil => rfl
  | cons p t ih => cases p <;> simp only [List.cons_append, stripMarkup, ih, List.append_assoc]

theorem formatLoop_strip (text : Str) (ms : List (Nat × Nat)) (index : Nat) (h : ∀ m ∈ ms, m.1 ≤ m.2) :
    index ≤ (formatLoop text ms index).2 ∧
    stripMarkup (formatLoop text ms index).1 = slice text index (formatLoop text ms index).2 := by
  fun_induction formatLoop text ms index with
  | case1 index => exact ⟨Nat.le_refl _, (slice_empty text (Nat.le_refl _)).symm⟩
  | case2 s e rest index hs ih => exact ih fun m hm => h m (List.mem_cons_of_mem _ hm)
  | case3 s e rest index hs out last heq ih =>
    have hse : s ≤ e := h (s, e) List.mem_cons_self
    rw [heq] at ih
    obtain ⟨hle, hst⟩ := ih fun m hm => h m (List.mem_cons_of_mem _ hm)
    have hidx : index ≤ s := Nat.le_of_not_lt hs
    refine ⟨Nat.le_trans hidx (Nat.le_trans hse hle), ?_⟩
    show stripMarkup (_ ++ Piece.marked (slice text s e) :: out) = slice text index last
    -- the plain piece, when there is one, is `text[index:s]`; when there is none, that slice is empty
    rw [stripMarkup_append, stripMarkup, hst, slice_append_slice text hse hle,
      ← slice_append_slice text hidx (Nat.le_trans hse hle)]
    congr 1
    by_cases hlt : index < s
    · rw [if_pos hlt]; exact List.append_nil _
    · rw [if_neg hlt]; exact (slice_empty text (Nat.le_of_not_lt hlt)).symm

theorem formatLoop_marked (text : Str) (ms : List (Nat × Nat)) (index : Nat) (s : Str)
    (h : Piece.marked s ∈ (formatLoop text ms index).1) : ∃ m ∈ ms, s = slice text m.1 m.2 := by
  fun_induction formatLoop text ms index with
  | case1 => cases h
  | case2 a b rest index ha ih => exact let ⟨m, hm, hs⟩ := ih h; ⟨m, List.mem_cons_of_mem _ hm, hs⟩
  | case3 a b rest index ha out last heq ih =>
    rw [heq] at ih
    rcases List.mem_append.1 h with h | h
    · by_cases hi : index < a
      · rw [if_pos hi] at h; cases List.mem_singleton.1 h
      · rw [if_neg hi] at h; cases h
    · rcases List.mem_cons.1 h with h | h
      · exact ⟨(a, b), List.mem_cons_self, Piece.marked.inj h⟩
      · exact let ⟨m, hm, hs⟩ := ih h; ⟨m, List.mem_cons_of_mem _ hm, hs⟩

end WM.Analysis

namespace WM.C17
open WM.Analysis

/-- filters that keep "one token per match of the tokenizer" -/
def Filter.wordwise : Filter → Bool
  | .lowercase | .strip | .pass | .stop _ | .mapText _ => true
  | _ => false

/-- filters that keep strictly increasing positions: those that handle the tokens one by one, and a stop
    filter that drops the stopped tokens (`removestops=True`, the setting used for indexing and for
    query-time analysis); Stem, DelimitedAttribute and Multi are here and not in `wordwise` -/
def Filter.dropsStops : Filter → Bool
  | .lowercase | .strip | .pass | .mapText _ | .stem .. | .delimited _ => true
  | .stop c => c.removestops
  | .multi a b => Filter.dropsStops a && Filter.dropsStops b
  | _ => false

/-- what a filter does to the text of a token it lets through -/
def stepText (tb : Tables) : Filter → Str → Str
  | .lowercase => fun s => s.flatMap tb.lower
  | .strip => stripStr tb
  | .mapText fn => fn
  | _ => id

/-- the text transformation of a whole chain -/
def textFun (tb : Tables) (fs : List Filter) : Str → Str :=
  fs.foldl (fun g f => stepText tb f ∘ g) id

/-- the texts whose tokens a filter lets through -/
def passes : Filter → Str → Bool
  | .stop c => c.passes
  | _ => fun _ => true

/-- A word-wise filter drops tokens by their text alone, rewrites the text of the others by
    `stepText` and leaves their character ranges alone: any view of the tokens through text and range
    sees a `filter` followed by a `map`. -/
theorem wordwise_map {α} (tb : Tables) (mode : Mode) {f : Filter} (hf : Filter.wordwise f = true)
    (v : Str → Nat → Nat → α) (ts : List Token) :
    (runFilter tb mode f ts).map (fun t => v t.text t.startchar t.endchar)
      = (ts.filter fun t => passes f t.text).map fun t => v (stepText tb f t.text) t.startchar t.endchar := by
  have all (f : Filter) (h : passes f = fun _ => true) : (ts.filter fun t => passes f t.text) = ts := by
    rw [h]; exact List.filter_eq_self.2 fun _ _ => rfl
  cases f with
  | lowercase => rw [all _ rfl]; exact mapText_map (·.flatMap tb.lower) v ts
  | strip => rw [all _ rfl]; exact mapText_map (stripStr tb) v ts
  | mapText fn => rw [all _ rfl]; exact mapText_map fn v ts
  | pass => rw [all _ rfl]; rfl
  | stop c => exact stopFilter_map c _ (fun _ _ => rfl) (fun _ _ _ => rfl) ts none
  | ngram | biword | stem | multi | delimited => cases hf

theorem inv_step {P : Nat → Nat → Prop} (tb : Tables) (mode : Mode) {text : List CChar} {g : Str → Str} {f : Filter}
    (hf : Filter.wordwise f = true) {ts : List Token} (h : OffsetInv P text g ts) :
    OffsetInv P text (stepText tb f ∘ g) (runFilter tb mode f ts) := by
  constructor
  · have : List.Pairwise (fun a b : Nat × Nat => a.2 ≤ b.1)
        ((runFilter tb mode f ts).map fun t => (t.startchar, t.endchar)) := by
      rw [wordwise_map tb mode hf fun _ s e => (s, e)]
      exact List.pairwise_map.2 (h.spans.filter _)
    exact List.pairwise_map.1 this
  · intro x hx
    have := List.mem_map_of_mem (f := fun t : Token => (t.text, t.startchar, t.endchar)) hx
    rw [wordwise_map tb mode hf fun w s e => (w, s, e)] at this
    obtain ⟨y, hy, e⟩ := List.mem_map.1 this
    obtain ⟨hP, ht⟩ := h.tok y (List.mem_filter.1 hy).1
    simp only [Prod.mk.injEq] at e
    rw [← e.1, ← e.2.1, ← e.2.2]
    exact ⟨hP, congrArg _ ht⟩

theorem inv_chain {P : Nat → Nat → Prop} (tb : Tables) (mode : Mode) {text : List CChar} {fs : List Filter}
    (hfs : ∀ f ∈ fs, Filter.wordwise f = true) {ts : List Token} (h : OffsetInv P text id ts) :
    OffsetInv P text (textFun tb fs) (fs.foldl (fun ts f => runFilter tb mode f ts) ts) :=
  List.foldl_rel (r := OffsetInv P text) h fun f hf _ _ h => inv_step tb mode (hfs f hf) h

theorem pos_step (tb : Tables) (mode : Mode) {f : Filter} (hf : Filter.dropsStops f = true) {ts : List Token}
    (h : List.Pairwise (fun a b : Token => a.pos < b.pos) ts) :
    List.Pairwise (fun a b : Token => a.pos < b.pos) (runFilter tb mode f ts) := by
  induction f generalizing ts with
  | lowercase | strip | mapText _ => exact pairwise_pos_map h fun _ => by rfl
  | pass => exact h
  | stop c => exact stopFilter_pos c hf ts h
  | stem | delimited => exact pairwise_pos_map h fun t => by split <;> rfl
  | multi a b iha ihb =>
    have hf : (Filter.dropsStops a && Filter.dropsStops b) = true := hf
    rw [Bool.and_eq_true] at hf
    cases ts with
    | nil => exact .nil
    | cons t rest =>
      cases mode
      · exact iha hf.1 h
      · exact ihb hf.2 h
  | ngram | biword => cases hf

/-- components whose output does not depend on the `mode` -/
def Filter.modeFree : Filter → Bool
  | .ngram .. => false
  | .multi .. => false
  | _ => true

def Tokenizer.modeFree : Tokenizer → Bool
  | .ngram .. => false
  | _ => true

theorem runTokenizer_mode {tk : Tokenizer} (h : Tokenizer.modeFree tk = true) (m m' : Mode) (text : List CChar) :
    runTokenizer tk m text = runTokenizer tk m' text := by
  cases tk with
  | ngram => cases h
  | _ => rfl

theorem runFilter_mode (tb : Tables) {f : Filter} (h : Filter.modeFree f = true) (m m' : Mode) (ts : List Token) :
    runFilter tb m f ts = runFilter tb m' f ts := by
  cases f with
  | ngram | multi => cases h
  | _ => rfl

def TextsSub (A B : List Token) : Prop := ∀ a ∈ A, ∃ b ∈ B, b.text = a.text

/-- filters that preserve `TextsSub`: per-token text maps, and the stop filter (its verdict depends
    on the text alone) -/
def Filter.textwise : Filter → Bool
  | .lowercase | .strip | .pass | .mapText _ | .stop _ => true
  | _ => false

theorem textsSub_iff {A B : List Token} : TextsSub A B ↔ A.map (·.text) ⊆ B.map (·.text) :=
  ⟨fun h _ hw => let ⟨a, ha, e⟩ := List.mem_map.1 hw; e ▸ List.mem_map.2 (h a ha),
   fun h _ ha => List.mem_map.1 (h (List.mem_map_of_mem ha))⟩

theorem Filter.textwise_eq (f : Filter) : Filter.textwise f = Filter.wordwise f := by
  cases f <;> rfl

theorem wordwise_texts (tb : Tables) (mode : Mode) {f : Filter} (hf : Filter.wordwise f = true) (ts : List Token) :
    (runFilter tb mode f ts).map (·.text) = ((ts.map (·.text)).filter (passes f)).map (stepText tb f) := by
  rw [List.filter_map, List.map_map]
  exact wordwise_map tb mode hf (fun w _ _ => w) ts

theorem textwise_mono (tb : Tables) (m1 m2 : Mode) {f : Filter} (hf : Filter.textwise f = true)
    {A B : List Token} (h : TextsSub A B) : TextsSub (runFilter tb m1 f A) (runFilter tb m2 f B) := by
  have hf : Filter.wordwise f = true := Filter.textwise_eq f ▸ hf
  rw [textsSub_iff, wordwise_texts tb m1 hf, wordwise_texts tb m2 hf]
  exact List.map_subset _ (List.filter_subset _ (textsSub_iff.1 h))

theorem textsSub_pipeline (tb : Tables) (tk : Tokenizer) (pre post : List Filter) (f : Filter) (text : List CChar)
    (hpre : analyze tb tk pre .query text = analyze tb tk pre .index text)
    (hf : ∀ ts, TextsSub (runFilter tb .query f ts) (runFilter tb .index f ts))
    (hpost : ∀ f ∈ post, Filter.textwise f = true) :
    TextsSub (analyze tb tk (pre ++ f :: post) .query text) (analyze tb tk (pre ++ f :: post) .index text) := by
  rw [analyze_append, analyze_append, hpre, List.foldl_cons, List.foldl_cons]
  exact List.foldl_rel (r := TextsSub) (hf _) fun g hg _ _ h => textwise_mono tb .query .index (hpost g hg) h

theorem ngramFilter_textsSub (min max : Nat) (hmm : min ≤ max) (at_ : At) (ts : List Token) :
    TextsSub (ngramFilter min max at_ .query ts) (ngramFilter min max at_ .index ts) := by
  intro g hg
  obtain ⟨t, ht, hgt⟩ := List.mem_flatMap.1 hg
  obtain ⟨g', hg', he⟩ := ngramsOf_query_subset min max at_ hmm t g hgt
  exact ⟨g', List.mem_flatMap.2 ⟨t, ht, hg'⟩, he⟩

end WM.C17
