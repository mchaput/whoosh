import WM.Model.Lev
/-! Generic facts about the NFA model: state sets up to equality of frozensets (`SEq`), `expand` is
the epsilon closure, what `next_state` and `is_final` do to a state set, runs. -/
namespace WM.Lev

def SEq (A B : SSet) : Prop := ∀ s, s ∈ A ↔ s ∈ B

theorem SEq.refl (A : SSet) : SEq A A := fun _ => Iff.rfl
theorem SEq.symm {A B : SSet} (h : SEq A B) : SEq B A := fun s => (h s).symm
theorem SEq.trans {A B C : SSet} (h1 : SEq A B) (h2 : SEq B C) : SEq A C := fun s => (h1 s).trans (h2 s)

theorem setEq_iff (A B : SSet) : setEq A B = true ↔ SEq A B := by
  simp only [setEq, subset, Bool.and_eq_true, List.all_eq_true, List.contains_iff_mem, SEq]
  constructor
  · rintro ⟨h1, h2⟩ s; exact ⟨h1 s, h2 s⟩
  · intro h; exact ⟨fun s => (h s).mp, fun s => (h s).mpr⟩

namespace NFA

/-- Invariant of the `_expand` loop: the frontier is part of the accumulated set and every
    accumulated state that is no longer on the frontier has all its epsilon successors in. -/
structure ExpandInv (n : NFA) (frontier acc : SSet) : Prop where
  sub : ∀ s, s ∈ frontier → s ∈ acc
  done : ∀ s, s ∈ acc → s ∉ frontier → ∀ t, t ∈ n.dests s .eps → t ∈ acc

/-- `P` is any property of the start set that epsilon arcs preserve: it then holds on the whole
    closure (`expand_induction`); the two closure facts take `True`. -/
theorem expandLoop_spec (n : NFA) (P : St → Prop)
    (hP : ∀ s t, P s → t ∈ n.dests s .eps → P t) :
    ∀ (frontier acc : SSet), ExpandInv n frontier acc → (∀ s, s ∈ acc → P s) →
      (∀ s, s ∈ acc → s ∈ n.expandLoop frontier acc) ∧
      (∀ s, s ∈ n.expandLoop frontier acc → ∀ t, t ∈ n.dests s .eps → t ∈ n.expandLoop frontier acc) ∧
      (∀ s, s ∈ n.expandLoop frontier acc → P s) := by
  intro frontier acc
  induction frontier, acc using expandLoop.induct (n := n) with
  | case1 acc =>
    intro inv hacc
    rw [expandLoop]
    exact ⟨fun s h => h, fun s hs t ht => inv.done s hs (by simp) t ht, hacc⟩
  | case2 acc s rest new ih =>
    intro inv hacc
    rw [expandLoop]
    have hnew : ∀ t, t ∈ new ↔ t ∈ n.dests s .eps ∧ t ∉ acc := by
      intro t
      simp only [new, List.mem_eraseDups, List.mem_filter, Bool.not_eq_eq_eq_not, Bool.not_true,
        List.contains_eq_mem, decide_eq_false_iff_not]
    have hs : s ∈ acc := inv.sub s (by simp)
    have inv' : ExpandInv n (rest ++ new) (acc ++ new) := by
      constructor
      · intro x hx
        rcases List.mem_append.mp hx with h | h
        · exact List.mem_append.mpr (Or.inl (inv.sub x (by simp [h])))
        · exact List.mem_append.mpr (Or.inr h)
      · intro x hx hnf t ht
        have hx1 : x ∉ rest := fun h => hnf (List.mem_append.mpr (Or.inl h))
        have hx2 : x ∉ new := fun h => hnf (List.mem_append.mpr (Or.inr h))
        have hxa : x ∈ acc := by
          rcases List.mem_append.mp hx with h | h
          · exact h
          · exact absurd h hx2
        by_cases hxs : x = s
        · subst hxs
          by_cases hta : t ∈ acc
          · exact List.mem_append.mpr (Or.inl hta)
          · exact List.mem_append.mpr (Or.inr ((hnew t).mpr ⟨ht, hta⟩))
        · have : x ∉ s :: rest := by
            simp only [List.mem_cons, not_or]; exact ⟨hxs, hx1⟩
          exact List.mem_append.mpr (Or.inl (inv.done x hxa this t ht))
    have hacc' : ∀ x, x ∈ acc ++ new → P x := by
      intro x hx
      rcases List.mem_append.mp hx with h | h
      · exact hacc x h
      · exact hP s x (hacc s hs) ((hnew x).mp h).1
    obtain ⟨h1, h2, h3⟩ := ih inv' hacc'
    exact ⟨fun x hx => h1 x (List.mem_append.mpr (Or.inl hx)), h2, h3⟩

theorem expandInv_init (n : NFA) (X : SSet) : ExpandInv n X X :=
  ⟨fun _ h => h, fun _ h hn => absurd h hn⟩

theorem subset_expand {n : NFA} {X : SSet} {s : St} (h : s ∈ X) : s ∈ n.expand X :=
  (expandLoop_spec n (fun _ => True) (fun _ _ _ _ => trivial) X X (expandInv_init n X)
    (fun _ _ => trivial)).1 s h

theorem expand_closed {n : NFA} {X : SSet} {s t : St} (hs : s ∈ n.expand X)
    (ht : (s, Label.eps, t) ∈ n.trans) : t ∈ n.expand X :=
  (expandLoop_spec n (fun _ => True) (fun _ _ _ _ => trivial) X X (expandInv_init n X)
    (fun _ _ => trivial)).2.1 s hs t (mem_dests.mpr ht)

theorem expand_induction (n : NFA) (X : SSet) (P : St → Prop) (h0 : ∀ s, s ∈ X → P s)
    (hstep : ∀ s t, P s → (s, Label.eps, t) ∈ n.trans → P t) : ∀ s, s ∈ n.expand X → P s :=
  (expandLoop_spec n P (fun s t hp ht => hstep s t hp (mem_dests.mp ht)) X X (expandInv_init n X)
    h0).2.2

theorem mem_move {n : NFA} {S : SSet} {l : Label} {t : St} :
    t ∈ (S.flatMap fun s => n.dests s l ++ n.dests s .any).eraseDups ↔
      ∃ s, s ∈ S ∧ ((s, l, t) ∈ n.trans ∨ (s, Label.any, t) ∈ n.trans) := by
  simp only [List.mem_eraseDups, List.mem_flatMap, List.mem_append, mem_dests]

theorem mem_nextState {n : NFA} {S : SSet} {l : Label} {s t : St} (hs : s ∈ S)
    (h : (s, l, t) ∈ n.trans ∨ (s, Label.any, t) ∈ n.trans) : t ∈ n.nextState S l :=
  subset_expand (mem_move.mpr ⟨s, hs, h⟩)

theorem nextState_closed {n : NFA} {S : SSet} {l : Label} {s t : St} (hs : s ∈ n.nextState S l)
    (h : (s, Label.eps, t) ∈ n.trans) : t ∈ n.nextState S l :=
  expand_closed hs h

theorem nextState_induction (n : NFA) (S : SSet) (l : Label) (P : St → Prop)
    (hmove : ∀ s t, s ∈ S → ((s, l, t) ∈ n.trans ∨ (s, Label.any, t) ∈ n.trans) → P t)
    (heps : ∀ s t, P s → (s, Label.eps, t) ∈ n.trans → P t) : ∀ t, t ∈ n.nextState S l → P t :=
  expand_induction n _ P
    (fun t ht => let ⟨s, hs, h⟩ := mem_move.mp ht; hmove s t hs h) heps

theorem nextState_mono (n : NFA) {S S' : SSet} (l : Label) (h : ∀ s, s ∈ S → s ∈ S') :
    ∀ t, t ∈ n.nextState S l → t ∈ n.nextState S' l :=
  nextState_induction n S l _ (fun s _ hs harc => mem_nextState (h s hs) harc)
    fun _ _ hs harc => nextState_closed hs harc

theorem nextState_congr (n : NFA) {S S' : SSet} (l : Label) (h : SEq S S') :
    SEq (n.nextState S l) (n.nextState S' l) :=
  fun t => ⟨nextState_mono n l (fun s => (h s).mp) t, nextState_mono n l (fun s => (h s).mpr) t⟩

theorem isFinal_iff (n : NFA) (S : SSet) : n.isFinal S = true ↔ ∃ s, s ∈ S ∧ s ∈ n.finals := by
  simp only [isFinal, List.any_eq_true, List.contains_iff_mem]

theorem isFinal_congr (n : NFA) {S S' : SSet} (h : SEq S S') : n.isFinal S = n.isFinal S' := by
  rw [Bool.eq_iff_iff, isFinal_iff, isFinal_iff]
  constructor
  · rintro ⟨s, hs, hf⟩; exact ⟨s, (h s).mp hs, hf⟩
  · rintro ⟨s, hs, hf⟩; exact ⟨s, (h s).mpr hs, hf⟩

theorem mem_getLabels (n : NFA) (S : SSet) (l : Label) :
    l ∈ n.getLabels S ↔ ∃ a t, (a, l, t) ∈ n.trans ∧ a ∈ S := by
  simp only [getLabels, List.mem_eraseDups, List.mem_filterMap]
  constructor
  · rintro ⟨⟨a, l', t⟩, hm, h⟩
    split at h
    · next hc =>
      simp only [Option.some.injEq] at h
      subst h
      exact ⟨a, t, hm, by simpa using hc⟩
    · cases h
  · rintro ⟨a, t, hm, ha⟩
    exact ⟨(a, l, t), hm, by simp [ha]⟩

theorem nextState_seq_any (n : NFA) (S : SSet) (l : Label) (h : ∀ s t, s ∈ S → (s, l, t) ∉ n.trans) :
    SEq (n.nextState S l) (n.nextState S .any) := fun t =>
  ⟨nextState_induction n S l _
      (fun s t hs harc => harc.elim (fun h1 => absurd h1 (h s t hs)) fun h1 => mem_nextState hs (Or.inl h1))
      (fun _ _ hs harc => nextState_closed hs harc) t,
   nextState_induction n S .any _ (fun _ _ hs harc => mem_nextState hs (Or.inr (harc.elim id id)))
      (fun _ _ hs harc => nextState_closed hs harc) t⟩

theorem nextState_empty (n : NFA) (S : SSet) (l : Label) (h : ∀ s t, s ∈ S → (s, l, t) ∉ n.trans)
    (hany : ∀ s t, s ∈ S → (s, Label.any, t) ∉ n.trans) : ∀ t, t ∉ n.nextState S l := fun t ht =>
  nextState_induction n S l (fun _ => False) (fun s t hs harc => harc.elim (h s t hs) (hany s t hs))
    (fun _ _ hf _ => hf) t ht

theorem arc_of_mem_nextState {n : NFA} {S : SSet} {l : Label} :
    ∀ t, t ∈ n.nextState S l → ∃ s l', (s, l', t) ∈ n.trans :=
  nextState_induction n S l _ (fun s _ _ harc => harc.elim (fun h => ⟨s, _, h⟩) fun h => ⟨s, _, h⟩)
    fun s _ _ harc => ⟨s, _, harc⟩

/-- The state set after reading `u`. -/
def run (n : NFA) (u : List Nat) : SSet := u.foldl (fun s c => n.nextState s (.chr c)) n.start

theorem run_nil (n : NFA) : n.run [] = n.start := rfl

theorem run_snoc (n : NFA) (u : List Nat) (c : Nat) :
    n.run (u ++ [c]) = n.nextState (n.run u) (.chr c) := by
  simp [run, List.foldl_append]

theorem accept_eq (n : NFA) (u : List Nat) : n.accept u = n.isFinal (n.run u) := rfl

theorem run_induction (n : NFA) (P : List Nat → SSet → Prop) (h0 : P [] n.start)
    (hstep : ∀ u c S, P u S → P (u ++ [c]) (n.nextState S (.chr c))) (u : List Nat) : P u (n.run u) := by
  suffices h : ∀ (u u0 : List Nat) (S0 : SSet), P u0 S0 →
      P (u0 ++ u) (u.foldl (fun S c => n.nextState S (.chr c)) S0) by
    simpa [run] using h u [] n.start h0
  intro u
  induction u with
  | nil => intro u0 S0 h; simpa using h
  | cons c u ih =>
    intro u0 S0 h
    simpa using ih (u0 ++ [c]) _ (hstep u0 c S0 h)

theorem run_closed {n : NFA} {u : List Nat} {s t : St} (hs : s ∈ n.run u)
    (h : (s, Label.eps, t) ∈ n.trans) : t ∈ n.run u :=
  run_induction n (fun _ S => ∀ s t, s ∈ S → (s, Label.eps, t) ∈ n.trans → t ∈ S)
    (fun _ _ => expand_closed) (fun _ _ _ _ _ _ => expand_closed) u s t hs h

theorem mem_run_snoc {n : NFA} {u : List Nat} {c : Nat} {s t : St} (hs : s ∈ n.run u)
    (h : (s, Label.chr c, t) ∈ n.trans ∨ (s, Label.any, t) ∈ n.trans) : t ∈ n.run (u ++ [c]) :=
  run_snoc n u c ▸ mem_nextState hs h

theorem isFinal_foldl_empty (n : NFA) (u : List Nat) (S : SSet) (h : ∀ s, s ∉ S) :
    n.isFinal (u.foldl (fun s c => n.nextState s (.chr c)) S) = false := by
  induction u generalizing S with
  | nil => exact Bool.eq_false_iff.mpr fun hf => let ⟨s, hs, _⟩ := (isFinal_iff n S).mp hf; h s hs
  | cons c u ih => exact ih _ (nextState_empty n S _ (fun s _ hs => absurd hs (h s)) fun s _ hs => absurd hs (h s))

end NFA
end WM.Lev
