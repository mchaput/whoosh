import WM.Spec.Codec
/-! Basic lemmas for C10: delta coding, `chunks`, `zip3`, the splitting rule `splitAux`, induction from
the right end of a list, `flatMap_toList`; the laws of an id kind (`IdKind.Lawful`, `LeLtTrans`) with their
instances for document numbers and term bytes. -/
namespace WM.Codec

variable {ι μ : Type}

theorem deltaDecodeAux_encodeAux (base : Int) (ns : List Int) :
    deltaDecodeAux base (deltaEncodeAux base ns) = ns := by
  induction ns generalizing base with
  | nil => rfl
  | cons n ns ih =>
    simp only [deltaEncodeAux, deltaDecodeAux]
    rw [Int.add_comm, Int.sub_add_cancel, ih]

theorem deltaDecode_encode (ns : List Int) : deltaDecode (deltaEncode ns) = ns :=
  deltaDecodeAux_encodeAux 0 ns

/-- An id kind whose `_read_ids` undoes `_mini_ids`. -/
def IdKind.Lawful (k : IdKind ι μ) : Prop := ∀ l, k.unmini (k.mini l) = l

theorem docIds_lawful : docIds.Lawful := deltaDecode_encode
theorem termIds_lawful : termIds.Lawful := fun _ => rfl

/-- `a ≤ b < c → a < c` for the id order. -/
def IdKind.LeLtTrans (k : IdKind ι μ) : Prop :=
  ∀ a b c, k.lt b a = false → k.lt b c = true → k.lt a c = true

theorem docIds_leLtTrans : docIds.LeLtTrans := fun a b c h1 h2 => by
  simp only [docIds, decide_eq_false_iff_not, decide_eq_true_eq] at *; omega

theorem docIds_lt_irrefl (x : Int) : docIds.lt x x = false := by simp [docIds]

theorem termIds_leLtTrans : termIds.LeLtTrans := fun a b c h1 h2 => by
  simp only [termIds, decide_eq_false_iff_not, decide_eq_true_eq] at *
  exact Std.lt_of_le_of_lt (String.not_lt.mp h1) h2

theorem termIds_lt_irrefl (x : String) : termIds.lt x x = false := by simp [termIds, String.lt_irrefl]

theorem chunks_flatten (k : Nat) (vs : List Bytes) (hk : 0 < k) (h : ∀ v ∈ vs, v.length = k) :
    chunks k vs.flatten = vs := by
  induction vs with
  | nil => rw [chunks]; simp
  | cons v vs ih =>
    have hv : v.length = k := h v (by simp)
    have hne : v ≠ [] := by intro e; subst e; simp at hv; omega
    rw [chunks]
    have : ¬ (k = 0 ∨ (v :: vs).flatten = []) := by
      intro hh
      rcases hh with hh | hh
      · omega
      · simp at hh; exact hne hh.1
    rw [dif_neg this]
    simp only [List.flatten_cons]
    rw [List.take_left' hv, List.drop_left' hv, ih (fun x hx => h x (by simp [hx]))]

theorem zip3_eq_zip (is : List ι) (ws : List Rat) (vs : List (Option Bytes)) :
    zip3 is ws vs = (is.zip (ws.zip vs)).map fun x => ⟨x.1, x.2.1, x.2.2⟩ := by
  induction is generalizing ws vs with
  | nil => rfl
  | cons i is ih =>
    cases ws with
    | nil => rfl
    | cons w ws =>
      cases vs with
      | nil => rfl
      | cons v vs => simp only [zip3, ih, List.zip_cons_cons, List.map_cons]

theorem splitAux_flatten {α : Type} (bl : Nat) (qs r : List α) :
    (splitAux bl r qs).1.flatten ++ (splitAux bl r qs).2 = r ++ qs := by
  fun_induction splitAux bl r qs with
  | case1 r => simp
  | case2 r q qs h cs rem heq ih =>
    rw [heq] at ih
    show r ++ cs.flatten ++ rem = r ++ ([q] ++ qs)
    rw [List.append_assoc, ih]
  | case3 r q qs h ih => rw [ih, List.append_assoc]; rfl

theorem splitAux_shape {α : Type} (bl : Nat) (hbl : 1 ≤ bl) (qs r : List α) (hr : r.length ≤ bl) :
    (∀ ch ∈ (splitAux bl r qs).1, ch.length = bl) ∧ (splitAux bl r qs).2.length ≤ bl ∧
      ((r ≠ [] ∨ qs ≠ []) → (splitAux bl r qs).2 ≠ []) := by
  fun_induction splitAux bl r qs with
  | case1 r => simp [hr]
  | case2 r q qs h cs rem heq ih =>
    rw [heq] at ih
    obtain ⟨h1, h2, h3⟩ := ih hbl
    refine ⟨fun ch hch => ?_, h2, fun _ => h3 (Or.inl (List.cons_ne_nil _ _))⟩
    rcases List.mem_cons.mp hch with rfl | hch
    · omega
    · exact h1 ch hch
  | case3 r q qs h ih =>
    obtain ⟨h1, h2, h3⟩ := ih (by rw [List.length_append, List.length_singleton]; omega)
    exact ⟨h1, h2, fun _ => h3 (Or.inl (by simp))⟩

theorem split_flatten {α : Type} (bl : Nat) (ps : List α) :
    (split bl ps).1.flatten ++ (split bl ps).2 = ps := by
  simpa [split] using splitAux_flatten bl ps []

theorem split_shape {α : Type} (bl : Nat) (hbl : 1 ≤ bl) (ps : List α) :
    (∀ ch ∈ (split bl ps).1, ch.length = bl) ∧ (split bl ps).2.length ≤ bl ∧
      (ps ≠ [] → (split bl ps).2 ≠ []) := by
  have := splitAux_shape bl hbl ps [] (by simp)
  exact ⟨this.1, this.2.1, fun h => this.2.2 (Or.inr h)⟩

theorem split_mem {α : Type} (bl : Nat) (ps : List α) :
    (∀ ch ∈ (split bl ps).1, ∀ p ∈ ch, p ∈ ps) ∧ (∀ p ∈ (split bl ps).2, p ∈ ps) := by
  have := split_flatten bl ps
  constructor
  · intro ch hch p hp
    rw [← this]
    exact List.mem_append_left _ (List.mem_flatten.mpr ⟨ch, hch, hp⟩)
  · intro p hp
    rw [← this]
    exact List.mem_append_right _ hp

theorem snoc_induction {α : Type} {P : List α → Prop} (nil : P [])
    (snoc : ∀ l a, P l → P (l ++ [a])) (l : List α) : P l := by
  rw [← List.reverse_reverse l]
  induction l.reverse with
  | nil => exact nil
  | cons a l ih => rw [List.reverse_cons]; exact snoc _ _ ih

theorem flatMap_toList {α β : Type} (l : List α) (f : α → Option β) :
    l.flatMap (fun a => (f a).toList) = l.filterMap f := by
  induction l with
  | nil => rfl
  | cons a l ih =>
    simp only [List.flatMap_cons, List.filterMap_cons, ih]
    cases f a <;> rfl

end WM.Codec
