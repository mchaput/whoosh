import WM.Model.Columns
import WM.Lemmas.IdSetsBits
/-! `BitColumn` keeps an `idsets.BitSet`: its writer and reader are `BitSet.add` and
`BaseBitSet.__contains__` of the id-set model, so the column inherits `contains_add`. -/
namespace WM.Columns

theorem bitAdd_eq_add (bits : Bytes) (i : Nat) : bitAdd bits i = WM.IdSets.add bits i := by
  unfold bitAdd WM.IdSets.add
  simp only [List.modify_eq_set]
  by_cases h : i / 8 ≥ bits.length
  · have hlt : WM.IdSets.bytesForBits (i + 1) > bits.length :=
      Nat.lt_of_le_of_lt h (WM.IdSets.div_lt_bytesForBits_succ i)
    rw [if_pos h, if_pos h, WM.IdSets.resize, if_pos hlt]
    rfl
  · rw [if_neg h, if_neg h]; rfl

theorem bitGet_eq_contains (bits : Bytes) (flag i : Nat) :
    bitGet (bits ++ [flag]) i = WM.IdSets.contains bits i := by
  simp only [bitGet, WM.IdSets.contains, WM.IdSets.hasBit, List.length_append, List.length_singleton,
    Nat.add_sub_cancel, List.take_left']
  split
  · rfl
  · rename_i h; rw [List.getElem?_eq_getElem (Nat.lt_of_not_le h)]; rfl

theorem contains_foldl_bitAdd (adds : List (Nat × Bool)) (bits : Bytes) (j : Nat) :
    WM.IdSets.contains (adds.foldl (fun bs p => if p.2 then bitAdd bs p.1 else bs) bits) j
      = (WM.IdSets.contains bits j || adds.any (fun p => p.1 == j && p.2)) := by
  induction adds generalizing bits with
  | nil => simp
  | cons p rest ih =>
    obtain ⟨d, v⟩ := p
    rw [List.foldl_cons, List.any_cons, ih]
    cases v with
    | true =>
      simp only [if_true, bitAdd_eq_add, WM.IdSets.contains_add, Bool.and_true, ← Bool.or_assoc]
      rw [show decide (j = d) = (d == j) from decide_eq_decide.mpr eq_comm, Bool.or_comm (d == j)]
    | false => simp

end WM.Columns
