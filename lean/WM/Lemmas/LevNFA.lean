import WM.Lemmas.NFA
import WM.Lemmas.Edit
/-! The Levenshtein NFA of `automata/lev.py` accepts exactly the strings that share the required
prefix with the term and are within Levenshtein distance `k` of it.  One direction is an invariant
of the run: a state `(i, e)` reached on `u` has `lev (term.take i) u ≤ e` (`Sound`).  The other is
about paths: every edit script is a path of the automaton (`script_path`), so the optimal one leads
to `(i, lev (term.take i) u)`.  The two do not meet in an equation for the state set: with `k = 1`
the state `(0, 1)` is not reached on the empty input, and `(1, 1)` is reached on `u = term = [c]`
(the substitution arc reads any character) although no script has cost 1. -/
namespace WM.Lev
open WM.Edit WM.Lev.NFA

/-- The arcs of `levenshtein_automaton(term, k, prefix)`, `p` being the length of the required
    prefix (`prefix` clamped to the length of the term). -/
inductive Arc (term : List Nat) (k p : Nat) : St → Label → St → Prop
  /-- inside the required prefix only the term's own character is read -/
  | pre {i} (hi : i < term.length) : i < p → Arc term k p (i, 0) (.chr term[i]) (i + 1, 0)
  /-- the correct character -/
  | hit {i e} (hi : i < term.length) : p ≤ i → e ≤ k → Arc term k p (i, e) (.chr term[i]) (i + 1, e)
  /-- an extra input character -/
  | extra {i e} : i ≤ term.length → p ≤ i → e < k → Arc term k p (i, e) .any (i, e + 1)
  /-- a term character is skipped -/
  | skip {i e} : i < term.length → p ≤ i → e < k → Arc term k p (i, e) .eps (i + 1, e + 1)
  /-- substitution -/
  | subst {i e} : i < term.length → p ≤ i → e < k → Arc term k p (i, e) .any (i + 1, e + 1)

theorem mem_levTrans {term : List Nat} {k p0 : Nat} {s t : St} {l : Label} :
    (s, l, t) ∈ (levenshteinAutomaton term k p0).trans ↔ Arc term k (min p0 term.length) s l t := by
  -- membership in `pre ++ main ++ fin` as a formula: (an arc inside the prefix ∨ one of the four
  -- arcs out of `(i, e)` behind it) ∨ an arc of the last column, each with its index and error count
  simp only [levenshteinAutomaton, List.mem_append, List.mem_flatMap, Prod.exists,
    List.mem_zipIdx_iff_getElem?, List.mem_range, List.mem_ite_nil_right, List.mem_cons,
    List.not_mem_nil, or_false, Prod.mk.injEq]
  constructor
  · rintro ((⟨c, i, hc, hlt, rfl, rfl, rfl⟩ | ⟨c, i, hc, hle, e, he, h⟩) | ⟨e, _, hek, rfl, rfl, rfl⟩)
    · obtain ⟨hi, rfl⟩ := List.getElem?_eq_some_iff.mp hc
      exact .pre hi hlt
    · obtain ⟨hi, rfl⟩ := List.getElem?_eq_some_iff.mp hc
      rcases h with ⟨rfl, rfl, rfl⟩ | ⟨hek, ⟨rfl, rfl, rfl⟩ | ⟨rfl, rfl, rfl⟩ | ⟨rfl, rfl, rfl⟩⟩
      · exact .hit hi hle (Nat.le_of_lt_succ he)
      · exact .extra (Nat.le_of_lt hi) hle hek
      · exact .skip hi hle hek
      · exact .subst hi hle hek
    · exact .extra (Nat.le_refl _) (Nat.min_le_right _ _) hek
  · intro h
    cases h with
    | pre hi hlt => exact Or.inl (Or.inl ⟨_, _, List.getElem?_eq_getElem hi, hlt, rfl, rfl, rfl⟩)
    | hit hi hle hek =>
      exact Or.inl (Or.inr ⟨_, _, List.getElem?_eq_getElem hi, hle, _, Nat.lt_succ_of_le hek,
        Or.inl ⟨rfl, rfl, rfl⟩⟩)
    | @extra i e hi hle hek =>
      rcases Nat.lt_or_eq_of_le hi with hi | rfl
      · exact Or.inl (Or.inr ⟨_, _, List.getElem?_eq_getElem hi, hle, _, Nat.lt_succ_of_lt hek,
          Or.inr ⟨hek, Or.inl ⟨rfl, rfl, rfl⟩⟩⟩)
      · exact Or.inr ⟨e, Nat.lt_succ_of_lt hek, hek, rfl, rfl, rfl⟩
    | skip hi hle hek =>
      exact Or.inl (Or.inr ⟨_, _, List.getElem?_eq_getElem hi, hle, _, Nat.lt_succ_of_lt hek,
        Or.inr ⟨hek, Or.inr (Or.inl ⟨rfl, rfl, rfl⟩)⟩⟩)
    | subst hi hle hek =>
      exact Or.inl (Or.inr ⟨_, _, List.getElem?_eq_getElem hi, hle, _, Nat.lt_succ_of_lt hek,
        Or.inr ⟨hek, Or.inr (Or.inr ⟨rfl, rfl, rfl⟩)⟩⟩)

/-- `n` is the Levenshtein automaton of `term` for at most `k` errors behind a required prefix of
    length `p`. -/
structure IsLev (n : NFA) (term : List Nat) (k p : Nat) : Prop where
  arc : ∀ {s l t}, (s, l, t) ∈ n.trans ↔ Arc term k p s l t
  initial : n.initial = (0, 0)
  finals : ∀ {s : St}, s ∈ n.finals ↔ s.1 = term.length ∧ s.2 ≤ k
  prefix_le : p ≤ term.length

theorem isLev (term : List Nat) (k p0 : Nat) :
    IsLev (levenshteinAutomaton term k p0) term k (min p0 term.length) where
  arc := mem_levTrans
  initial := rfl
  finals := by
    intro s
    simp only [levenshteinAutomaton, List.mem_map, List.mem_range]
    constructor
    · rintro ⟨e, he, rfl⟩; exact ⟨rfl, by omega⟩
    · rintro ⟨h1, h2⟩; exact ⟨s.2, by omega, by rw [← h1]⟩
  prefix_le := Nat.min_le_right _ _

theorem IsLev.start_mem {n : NFA} {term : List Nat} {k p : Nat} (h : IsLev n term k p) :
    ((0, 0) : St) ∈ n.start :=
  subset_expand (by rw [h.initial]; exact List.mem_singleton.mpr rfl)

/-- What a reachable state means: inside the required prefix the input read so far *is* the
    prefix of the term; behind it the input starts with the required prefix and the errors used
    are at least the Levenshtein distance between the consumed part of the term and the input. -/
def Sound (term : List Nat) (k p : Nat) (u : List Nat) : St → Prop
  | (i, e) => e ≤ k ∧ i ≤ term.length ∧
    ((i < p ∧ e = 0 ∧ u = term.take i) ∨ (p ≤ i ∧ term.take p <+: u ∧ lev (term.take i) u ≤ e))

theorem Sound.behind {term : List Nat} {k p i e : Nat} {u : List Nat} (h : Sound term k p u (i, e))
    (hp : p ≤ i) : term.take p <+: u ∧ lev (term.take i) u ≤ e := by
  obtain ⟨_, _, ⟨hlt, _⟩ | ⟨_, h⟩⟩ := h
  · exact absurd hlt (Nat.not_lt.mpr hp)
  · exact h

theorem sound_eps {term : List Nat} {k p : Nat} {u : List Nat} {s t : St} (hs : Sound term k p u s)
    (h : Arc term k p s .eps t) : Sound term k p u t := by
  cases h with
  | skip hi hp he =>
    obtain ⟨hpre, hd⟩ := hs.behind hp
    refine ⟨he, hi, Or.inr ⟨Nat.le_succ_of_le hp, hpre, ?_⟩⟩
    rw [List.take_succ_eq_append_getElem hi]
    exact Nat.le_trans (ed_snoc_left_le false ..) (Nat.succ_le_succ hd)

theorem sound_move {term : List Nat} {k p : Nat} {u : List Nat} {c : Nat} {s t : St}
    (hs : Sound term k p u s) (h : Arc term k p s (.chr c) t ∨ Arc term k p s .any t) :
    Sound term k p (u ++ [c]) t := by
  rcases h with h | h
  · cases h with
    | @pre i hi hlt =>
      obtain ⟨_, _, ⟨_, _, hu⟩ | ⟨hp, _⟩⟩ := hs
      · refine ⟨Nat.zero_le _, hi, ?_⟩
        rw [hu, ← List.take_succ_eq_append_getElem hi]
        rcases Nat.lt_or_eq_of_le hlt with hlast | hlast
        · exact Or.inl ⟨hlast, rfl, rfl⟩
        · exact Or.inr ⟨Nat.le_of_eq hlast.symm, hlast ▸ List.prefix_refl _, Nat.le_of_eq (ed_self false _)⟩
      · exact absurd hlt (Nat.not_lt.mpr hp)
    | @hit i e hi hp he =>
      obtain ⟨hpre, hd⟩ := hs.behind hp
      refine ⟨he, hi, Or.inr ⟨Nat.le_succ_of_le hp, hpre.trans (List.prefix_append ..), ?_⟩⟩
      rw [List.take_succ_eq_append_getElem hi]
      have := ed_snoc_snoc_le false term[i] term[i] (term.take i) u
      rw [neq_self] at this
      exact Nat.le_trans this hd
  · cases h with
    | extra hi hp he =>
      obtain ⟨hpre, hd⟩ := hs.behind hp
      exact ⟨he, hi, Or.inr ⟨hp, hpre.trans (List.prefix_append ..),
        Nat.le_trans (ed_snoc_right_le false ..) (Nat.succ_le_succ hd)⟩⟩
    | @subst i e hi hp he =>
      obtain ⟨hpre, hd⟩ := hs.behind hp
      refine ⟨he, hi, Or.inr ⟨Nat.le_succ_of_le hp, hpre.trans (List.prefix_append ..), ?_⟩⟩
      rw [List.take_succ_eq_append_getElem hi]
      exact Nat.le_trans (ed_snoc_snoc_le false ..)
        (Nat.add_le_add hd (neq_le_one ..))

theorem sound_initial (term : List Nat) (k p : Nat) : Sound term k p [] (0, 0) := by
  refine ⟨Nat.zero_le _, Nat.zero_le _, ?_⟩
  rcases Nat.eq_zero_or_pos p with rfl | h
  · exact Or.inr ⟨Nat.le_refl _, List.prefix_refl _, Nat.le_of_eq (ed_self false [])⟩
  · exact Or.inl ⟨h, rfl, rfl⟩

theorem sound_run {n : NFA} {term : List Nat} {k p : Nat} (h : IsLev n term k p) (u : List Nat) :
    ∀ s, s ∈ n.run u → Sound term k p u s := by
  refine run_induction n (fun u S => ∀ s, s ∈ S → Sound term k p u s) ?_ ?_ u
  · refine expand_induction n _ _ ?_ fun s t hs ht => sound_eps hs (h.arc.mp ht)
    intro s hs
    cases (List.mem_singleton.mp hs).trans h.initial
    exact sound_initial term k p
  · intro u c S hS
    exact nextState_induction n S _ _ (fun s t hs ht => sound_move (hS s hs) (ht.imp h.arc.mp h.arc.mp))
      fun s t hs ht => sound_eps hs (h.arc.mp ht)

theorem drop_cons_prefix {term a : List Nat} {x j : Nat} (h : x :: a <+: term.drop j) :
    ∃ hj : j < term.length, term[j] = x ∧ a <+: term.drop (j + 1) := by
  obtain ⟨r, hr⟩ := h
  have hx : term[j]? = some x := (List.head?_drop ..).symm.trans (congrArg List.head? hr.symm)
  obtain ⟨hj, hx⟩ := List.getElem?_eq_some_iff.mp hx
  exact ⟨hj, hx, r, (congrArg List.tail hr).trans (List.tail_drop ..)⟩

/-- A script of cost `m` that turns the characters `a` of the term from position `j` on (behind the
    required prefix) into `b` leads, on input `b`, from `(j, e)` to `(j + a.length, e + m)`: a
    deletion is the epsilon arc, an insertion the arc that stays in its column, a substitution the
    diagonal arc that the two characters allow (counted on the term; the Python comments name the
    first two from the input's side, the other way round).  The target is named `(i, e')` so that a step is
    arithmetic on two equations and not under `∈`. -/
theorem script_path {n : NFA} {term : List Nat} {k p : Nat} (h : IsLev n term k p) {i e' : Nat}
    (hlen : i ≤ term.length) (hk : e' ≤ k) {a b : List Nat} {m : Nat} (hs : Script false a b m)
    {v : List Nat} {j e : Nat} (hp : p ≤ j) (ha : a <+: term.drop j) (hi : j + a.length = i)
    (he : e + m = e') (hv : (j, e) ∈ n.run v) : (i, e') ∈ n.run (v ++ b) := by
  induction hs generalizing v j e with
  | nil =>
    cases hi; cases he
    rwa [List.append_nil]
  | del x _ ih =>
    obtain ⟨hj, rfl, ha'⟩ := drop_cons_prefix ha
    exact ih (Nat.le_succ_of_le hp) ha' ((Nat.succ_add_eq_add_succ ..).trans hi)
      ((Nat.succ_add_eq_add_succ ..).trans he)
      (run_closed hv (h.arc.mpr (.skip hj hp (Nat.lt_of_add_right_lt (he ▸ hk)))))
  | ins y _ ih =>
    rw [List.append_cons]
    exact ih hp ha hi ((Nat.succ_add_eq_add_succ ..).trans he) (mem_run_snoc hv (Or.inr (h.arc.mpr
      (.extra (Nat.le_trans (Nat.le_add_right ..) (hi ▸ hlen)) hp (Nat.lt_of_add_right_lt (he ▸ hk))))))
  | sub x y _ ih =>
    obtain ⟨hj, rfl, ha'⟩ := drop_cons_prefix ha
    rw [List.append_cons]
    have hi' := (Nat.succ_add_eq_add_succ ..).trans hi
    by_cases hx : term[j] = y
    · subst hx
      rw [neq_self] at he
      exact ih (Nat.le_succ_of_le hp) ha' hi' he (mem_run_snoc hv (Or.inl (h.arc.mpr
        (.hit hj hp (Nat.le_trans (Nat.le_add_right ..) (he ▸ hk))))))
    · rw [neq, if_neg hx] at he
      exact ih (Nat.le_succ_of_le hp) ha' hi' ((Nat.succ_add_eq_add_succ ..).trans he)
        (mem_run_snoc hv (Or.inr (h.arc.mpr (.subst hj hp (Nat.lt_of_add_right_lt (he ▸ hk))))))
  | swap _ _ ht => cases ht

theorem prefix_run {n : NFA} {term : List Nat} {k p : Nat} (h : IsLev n term k p) :
    ∀ i, i ≤ p → (i, 0) ∈ n.run (term.take i)
  | 0, _ => h.start_mem
  | i + 1, hi => by
    have hlt : i < term.length := Nat.lt_of_lt_of_le hi h.prefix_le
    rw [List.take_succ_eq_append_getElem hlt]
    exact mem_run_snoc (prefix_run h i (Nat.le_of_succ_le hi)) (Or.inl (h.arc.mpr (.pre hlt hi)))

/-- What must be reachable on input `u`. -/
def Complete (term : List Nat) (k p : Nat) (u : List Nat) (S : SSet) : Prop :=
  (∀ i, i < p → u = term.take i → (i, 0) ∈ S) ∧
  (∀ i, p ≤ i → i ≤ term.length → term.take p <+: u → lev (term.take i) u ≤ k →
     (i, lev (term.take i) u) ∈ S)

theorem complete_run {n : NFA} {term : List Nat} {k p : Nat} (h : IsLev n term k p) (u : List Nat) :
    Complete term k p u (n.run u) := by
  constructor
  · rintro i hi rfl
    exact prefix_run h i (Nat.le_of_lt hi)
  · rintro i hpi hi ⟨r, rfl⟩ hd
    obtain ⟨d, rfl⟩ := Nat.exists_eq_add_of_le hpi
    -- behind the common prefix `term.take p` an optimal script for the rest is followed from `(p, 0)`
    rw [lev, List.take_add, ed_append_left_same] at hd ⊢
    exact script_path h hi hd (script_ed false _ r) (Nat.le_refl _) (List.take_prefix ..)
      (congrArg _ (List.length_take_of_le (by rw [List.length_drop]; exact Nat.le_sub_of_add_le' hi)))
      (Nat.zero_add _) (prefix_run h p (Nat.le_refl _))

theorem IsLev.accept_iff {n : NFA} {term : List Nat} {k p : Nat} (h : IsLev n term k p) (u : List Nat) :
    n.accept u = true ↔ (term.take p <+: u ∧ lev term u ≤ k) := by
  rw [accept_eq, isFinal_iff]
  constructor
  · rintro ⟨⟨i, e⟩, hs, hf⟩
    obtain ⟨rfl, he⟩ := h.finals.mp hf
    obtain ⟨hpre, hd⟩ := (sound_run h u _ hs).behind h.prefix_le
    rw [List.take_length] at hd
    exact ⟨hpre, Nat.le_trans hd he⟩
  · rintro ⟨hpre, hd⟩
    have hc := (complete_run h u).2 term.length h.prefix_le (Nat.le_refl _) hpre
      (by rw [List.take_length]; exact hd)
    rw [List.take_length] at hc
    exact ⟨_, hc, h.finals.mpr ⟨rfl, hd⟩⟩

theorem nfa_accept_eq (word : List Nat) (k p : Nat) (t : List Nat) :
    (levenshteinAutomaton word k p).accept t = (sharePrefix p t word && decide (lev t word ≤ k)) := by
  rw [Bool.eq_iff_iff, (isLev word k p).accept_iff, ← List.take_eq_take_min, Bool.and_eq_true,
    decide_eq_true_eq, sharePrefix, List.isPrefixOf_iff_prefix,
    show lev t word = lev word t from ed_symm false t word]

end WM.Lev
