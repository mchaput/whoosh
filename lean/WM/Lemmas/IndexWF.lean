import WM.Lemmas.IndexPost
import WM.Lemmas.IndexCommit
import WM.Lemmas.Yields
/-! Well-formedness of segments / writers / TOCs and its preservation by every call. -/
namespace WM.Index
open WM.Dict

/-- What every segment written by the model satisfies: the deleted set is a set of valid numbers,
    the term index holds exactly the postings of the per-document data, sorted. -/
structure Seg.WF (s : Seg) : Prop where
  delNodup : s.deleted.Nodup
  delRange : ∀ n ∈ s.deleted, n < s.docCountAll
  posts : s.posts.Perm (allPostings s.docs)
  sorted : s.posts.Pairwise (fun a b => Posting.le a b = true)

structure Writer.WF (w : Writer) : Prop where
  segs : ∀ s ∈ w.segs, s.WF
  pool : w.pool.Perm (allPostings w.ndocs)

def Toc.WF (t : Toc) : Prop := ∀ s ∈ t.segs, s.WF

theorem Toc.writer_wf (t : Toc) (h : t.WF) : t.writer.WF :=
  ⟨h, by simp [Toc.writer, allPostings]⟩

theorem Seg.deleteDocument_wf (s : Seg) (l : Nat) (b : Bool) (h : s.WF) (hl : l < s.docCountAll) :
    (s.deleteDocument l b).WF := by
  refine ⟨?_, fun n hn => ?_, by rw [Seg.deleteDocument_posts, Seg.deleteDocument_docs]; exact h.posts,
          by rw [Seg.deleteDocument_posts]; exact h.sorted⟩
  · unfold Seg.deleteDocument
    split
    · split
      · exact h.delNodup
      · next hc =>
        exact (List.perm_append_singleton l _).nodup_iff.mpr
          (List.nodup_cons.mpr ⟨fun hm => hc (List.contains_iff_mem.mpr hm), h.delNodup⟩)
    · exact h.delNodup.erase _
  · have hd : (s.deleteDocument l b).isDeleted n = true := List.contains_iff_mem.mpr hn
    rw [Seg.isDeleted_deleteDocument s l n b (fun _ => h.delNodup)] at hd
    rw [Seg.deleteDocument_count]
    split at hd
    · next he => exact he ▸ hl
    · exact h.delRange n (List.contains_iff_mem.mp hd)

theorem Writer.deleteAt_wf {w : Writer} (hwf : w.WF) (n : Nat) (b : Bool) (h : n < docCountAllSegs w.segs) :
    ({ w with segs := deleteAt w.segs n b } : Writer).WF := by
  refine ⟨fun s hs => ?_, hwf.pool⟩
  rcases mem_deleteAt _ _ _ h _ hs with hs | ⟨a, ha, l, hl, rfl⟩
  · exact hwf.segs s hs
  · exact Seg.deleteDocument_wf _ _ _ (hwf.segs a ha) hl

theorem Writer.deleteDocument_wf {w w' : Writer} {n : Nat} {b : Bool} (hwf : w.WF)
    (h : w.deleteDocument n b = .ok w') : w'.WF := by
  rw [Writer.deleteDocument_eq] at h
  split at h
  · next hn => cases h; exact Writer.deleteAt_wf hwf n b hn
  · cases h

theorem Writer.deleteMany_wf {w w' : Writer} {ns : List Nat} (hwf : w.WF)
    (h : w.deleteMany ns = .ok w') : w'.WF := by
  induction ns generalizing w with
  | nil =>
    cases h
    exact hwf
  | cons n r ih =>
    rw [Writer.deleteMany, List.foldlM_cons, Writer.deleteDocument_eq] at h
    split at h
    · next hn => exact ih (Writer.deleteAt_wf hwf n true hn) h
    · cases h

theorem Writer.add_wf {w : Writer} (hwf : w.WF) (d : DocRec) :
    ({ w with ndocs := w.ndocs ++ [d], pool := w.pool ++ docPostings d w.ndocs.length, added := true } : Writer).WF := by
  refine ⟨hwf.segs, ?_⟩
  show (w.pool ++ docPostings d w.ndocs.length).Perm (allPostings (w.ndocs ++ [d]))
  rw [allPostings_append, allPostings_singleton, Nat.zero_add]
  exact hwf.pool.append_right _

theorem Writer.addReader_ok (w : Writer) (s : Seg) (hwf : w.WF) (hs : s.WF) :
    Yields (w.addReader s) Writer.WF := by
  obtain ⟨h1, h2⟩ := livePosts_renumber w.schema s w.ndocs.length hs.posts
  generalize (s.livePosts w.schema).map _ = ps at h1 h2
  unfold Writer.addReader
  simp only [h1]
  refine .ok ⟨hwf.segs, ?_⟩
  show (w.pool ++ ps).Perm (allPostings (w.ndocs ++ s.liveDocs.map (restrict w.schema)))
  rw [allPostings_append, Nat.zero_add]
  exact hwf.pool.append h2

theorem Writer.addReaders_ok (w : Writer) (ss : List Seg) (hwf : w.WF) (hs : ∀ s ∈ ss, s.WF) :
    Yields (w.addReaders ss) Writer.WF := by
  induction ss generalizing w with
  | nil => exact .ok hwf
  | cons s r ih =>
    rw [Writer.addReaders, List.foldlM_cons]
    exact (Writer.addReader_ok w s hwf (hs s (by simp))).bind fun w1 wf1 => ih w1 wf1 fun x hx => hs x (by simp [hx])

theorem Writer.finalizeSegment_wf (w : Writer) (hwf : w.WF) : w.finalizeSegment.WF where
  delNodup := by simp [Writer.finalizeSegment]
  delRange := by simp [Writer.finalizeSegment]
  posts := (List.mergeSort_perm _ _).trans hwf.pool
  sorted := Posting.sortOrder.sorted _

theorem Writer.commitPlan_ok (w : Writer) (plan : Plan) (hwf : w.WF)
    (hsub : ∀ s, s ∈ (plan w.segs).1 ∨ s ∈ (plan w.segs).2 → s ∈ w.segs) :
    Yields (w.commitPlan plan) Toc.WF := by
  refine (Writer.addReaders_ok w (plan w.segs).1 hwf fun s hs => hwf.segs s (hsub s (Or.inl hs))).map
    fun w1 wf1 s hs => ?_
  simp only at hs
  split at hs
  · rcases List.mem_append.mp hs with hs | hs
    · exact hwf.segs s (hsub s (Or.inr hs))
    · exact List.mem_singleton.mp hs ▸ Writer.finalizeSegment_wf w1 wf1
  · exact hwf.segs s (hsub s (Or.inr hs))

theorem step_wf (w : Writer) (hwf : w.WF) (op : Op) : (w.step op).1.WF := by
  have hadd : ∀ (w : Writer), w.WF → ∀ d, (w.step (.add d)).1.WF := by
    intro w hwf d
    rw [Writer.step_add_eq]
    split
    · exact Writer.add_wf hwf d
    · exact hwf
  cases op with
  | add d => exact hadd w hwf d
  | update d =>
    rw [Writer.step_update_eq]
    split
    · next w1 h1 => exact hadd w1 (Writer.deleteMany_wf hwf h1) d
    · exact hwf
  | delDoc n =>
    rw [Writer.step_delDoc_eq]
    split
    · next hn => exact Writer.deleteAt_wf hwf n true hn
    · exact hwf
  | undelDoc n =>
    rw [Writer.step_undelDoc_eq]
    split
    · next hn => exact Writer.deleteAt_wf hwf n false hn
    · exact hwf
  | delBy q =>
    rw [Writer.step_delBy_eq]
    split
    · next w' h1 => exact Writer.deleteMany_wf hwf h1
    · exact hwf
  | addField f u =>
    rw [Writer.step_addField_eq]
    split
    · exact ⟨hwf.segs, hwf.pool⟩
    · exact hwf
  | removeField f =>
    rw [Writer.step_removeField_eq]
    split
    · exact ⟨hwf.segs, hwf.pool⟩
    · exact hwf

end WM.Index
