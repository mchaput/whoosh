import WM.Lemmas.NumericField
import WM.Lemmas.SearchSpec
/-!
Glue between the numeric family (C13: `NumericRange._compile_query` yields `Term`/`TermRange` sub-queries over
the tier terms `NUMERIC.index` writes) and the search family (C01: what an `Or` of such sub-queries under
`ConstantScoreQuery` answers): the compiled query as a query of `WM.Search`, whose `sat` is C13's `matchesDoc` on
the document's terms.
-/
namespace WM.Compile
open WM.Search

/-- a sub-query of `_compile_query` as a query: `Term(fieldname, bytes)` resp.
    `TermRange(fieldname, startbytes, endbytes)` (inclusive; `constantscore=True` is `TermRange`'s default) -/
def subQuery (f : String) : WM.Numeric.Sub → Query
  | .term t => .term f t 1
  | .range lo hi => .multi f (.range (some lo) (some hi) false false) 1 true

/-- `NumericRange(f, start, end, …, boost, constantscore=True)._compile_query`: no range → `NullQuery`, one →
    the bare sub-query, several → `Or(subqueries, boost)`; then `ConstantScoreQuery(q, boost)` -/
def compiledRange (f : String) (subs : List WM.Numeric.Sub) (b : Rat) : Query :=
  match subs with
  | [] => .null
  | [sub] => .constScore (subQuery f sub) b
  | _ => .constScore (.or (subs.map (subQuery f)) b) b

theorem bytesLe_eq : ∀ a b : List Nat, WM.Search.bytesLe a b = WM.Numeric.bytesLe a b
  | [], b => by cases b <;> rfl
  | _ :: _, [] => rfl
  | x :: as, y :: bs => by
    have ih := bytesLe_eq as bs
    simp only [WM.Search.bytesLe] at ih
    simp only [WM.Search.bytesLe, WM.Search.bytesLt, WM.Numeric.bytesLe, ← ih]
    rcases Nat.lt_trichotomy x y with h | rfl | h
    · simp [h, Nat.lt_asymm h, Nat.ne_of_gt h]
    · simp
    · simp [h, Nat.lt_asymm h, Nat.ne_of_gt h]

theorem sat_subQuery (f : String) (sub : WM.Numeric.Sub) (d : Doc) :
    sat (subQuery f sub) d = (d.terms f).any (fun t => sub.selects t) := by
  cases sub with
  | term u => exact List.contains_eq_any_beq
  | range lo hi =>
    simp only [subQuery, sat, WM.Numeric.Sub.selects]
    congr 1
    funext t
    simp only [TermPred.test, Bool.false_eq_true, if_false, bytesLe_eq]

theorem satAny_subQueries (f : String) (d : Doc) : ∀ subs : List WM.Numeric.Sub,
    satAny (subs.map (subQuery f)) d = WM.Numeric.matchesDoc subs (d.terms f)
  | [] => rfl
  | sub :: subs => by
    simp only [List.map_cons, satAny, satAny_subQueries f d subs, sat_subQuery, WM.Numeric.matchesDoc, List.any_cons]

theorem sat_compiledRange (f : String) (subs : List WM.Numeric.Sub) (b : Rat) (d : Doc) :
    sat (compiledRange f subs b) d = WM.Numeric.matchesDoc subs (d.terms f) := by
  match subs with
  | [] => rfl
  | [sub] => simp [compiledRange, sat, sat_subQuery, WM.Numeric.matchesDoc]
  | s1 :: s2 :: rest => simp only [compiledRange, sat]; exact satAny_subQueries f d (s1 :: s2 :: rest)

/-- **An integer NUMERIC field indexed faithfully.**  The document's field `f` holds the integer values `xs`
    (in the field's domain) and its terms are exactly the tier terms `NUMERIC.index` writes for them. -/
def IntFieldDoc (w step : Nat) (signed : Bool) (f : String) (d : Doc) : Prop :=
  ∃ (xs : List Int) (ts : List (List Nat)), (∀ x ∈ xs, WM.Numeric.inDomain (8 * w) signed x) ∧
    d.nums f = xs.map (fun x : Int => (x : Rat)) ∧
    WM.Numeric.indexTermsList w step (xs.map fun x => (WM.Numeric.toSortableInt (8 * w) signed x).toNat) = .ok ts ∧
    ∀ t, t ∈ d.terms f ↔ t ∈ ts

theorem inRange_int (start end_ : Option Int) (sx ex : Bool) (x : Int) :
    inRange (start.map (fun a : Int => (a : Rat))) (end_.map (fun a : Int => (a : Rat))) sx ex (x : Rat) =
      WM.NumericSpec.inInterval WM.NumericSpec.intLt start end_ sx ex x := by
  unfold inRange WM.NumericSpec.inInterval WM.NumericSpec.intLt
  congr 1
  · cases start with
    | none => rfl
    | some a => cases sx <;> simp [Rat.intCast_le_intCast, Rat.intCast_lt_intCast, ← Int.not_lt]
  · cases end_ with
    | none => rfl
    | some a => cases ex <;> simp [Rat.intCast_le_intCast, Rat.intCast_lt_intCast, ← Int.not_lt]

theorem posQ_compiledRange (f : String) (subs : List WM.Numeric.Sub) {b : Rat} (hb : 0 < b) :
    PosQ (compiledRange f subs b) := by
  have hsub : ∀ sub : WM.Numeric.Sub, PosQ (subQuery f sub) := by
    intro sub; cases sub <;> simp only [subQuery, PosQ] <;> decide +kernel
  have hsubs : ∀ l : List WM.Numeric.Sub, PosQs (l.map (subQuery f)) := by
    intro l
    induction l with
    | nil => trivial
    | cons a l ih => exact ⟨hsub a, ih⟩
  match subs with
  | [] => trivial
  | [sub] => exact ⟨hb, hsub sub⟩
  | s1 :: s2 :: rest => exact ⟨hb, hb, hsubs (s1 :: s2 :: rest)⟩

theorem ok_of_toOption {ε α : Type} {x : Except ε α} {a : α} (h : x.toOption = some a) : x = .ok a :=
  WM.ok_of_toOption h

end WM.Compile
