import WM.Model.NormalizeExc
import WM.Lemmas.NormalizeStable
/-! `normalize()` never raises: the exception-monad mirror `normalizeE` always returns `.ok`, and
    what it returns is `normalize`. -/
namespace WM.Normalize

theorem absorbE_eq (intersect : Bool) (q : Rng) (rest : List Q) :
    absorbE intersect q rest = .ok (absorb intersect q rest) := by
  fun_induction absorb intersect q rest with
  | case1 q rest h =>
    unfold absorbE
    split
    · rfl
    · next h' => cases h.symm.trans h'
  | case2 q rest r rest' h ih =>
    unfold absorbE
    split
    · next h' => cases h.symm.trans h'
    · next h' =>
      cases h.symm.trans h'
      -- the popped range overlaps `q`, and `overlaps` has compared the field names
      have hf := Rng.overlaps_field (popOverlap_some h).1
      simp only [Rng.mergeE, hf, ↓reduceIte]
      exact ih

theorem mergeLoopE_eq (intersect : Bool) (ef : List (Option Field)) (l : List Q) :
    mergeLoopE intersect ef l = .ok (mergeLoop intersect ef l) := by
  fun_induction mergeLoop intersect ef l with
  | case1 ef => simp [mergeLoopE]
  | case2 ef q rest h ih =>
    unfold mergeLoopE
    simp only [h, ↓reduceIte]
    exact ih
  | case3 ef q rest h r hr p q' ef' res ih =>
    unfold mergeLoopE
    simp only [h, Bool.false_eq_true, ↓reduceIte, hr]
    split
    · next he => cases (absorbE_eq intersect r rest).symm.trans he
    · next p2 hp2 =>
      cases (absorbE_eq intersect r rest).symm.trans hp2
      simp only [p, q', ef', res] at ih ⊢
      split
      · next he => cases he.symm.trans ih
      · next he =>
        cases he.symm.trans ih
        rfl
  | case4 ef q rest h hr ef' res ih =>
    unfold mergeLoopE
    simp only [h, Bool.false_eq_true, ↓reduceIte, hr]
    simp only [ef', res] at ih ⊢
    split
    · next he => cases he.symm.trans ih
    · next he =>
      cases he.symm.trans ih
      rfl

theorem compTailE_eq (k : CK) (subs : List Q) (boost : Rat) :
    compTailE k subs boost = .ok (compTail k subs boost) := by
  simp only [compTailE, mergeLoopE_eq, compTail]

theorem compNormalizeE_eq (k : CK) (subs : List Q) (boost : Rat) :
    compNormalizeE k subs boost = .ok (compNormalize k subs boost) := by
  simp only [compNormalizeE, compNormalize, compTailE_eq, apply_ite Except.ok]

mutual
theorem normalizeE_eq : ∀ (q : Q), normalizeE q = .ok (normalize q)
  | .comp k qs b => by
    simp only [normalizeE, normalizeListE_eq qs, compNormalizeE_eq]; rfl
  | .seq c qs s o b => by
    simp only [normalizeE, normalizeListE_eq qs]; rfl
  | .not q b => by
    simp only [normalizeE, normalizeE_eq q]; rfl
  | .bin k a b => by
    simp only [normalizeE, normalizeE_eq a, normalizeE_eq b]; rfl
  | .null | .every _ _ | .term _ _ _ | .pre _ _ _ _ | .wild _ _ _ _ | .multi _ _ _ _ _ | .range _ _ _ _ _ _ _
  | .phrase _ _ _ _ | .const _ _ | .opq _ _ => rfl
theorem normalizeListE_eq : ∀ (qs : List Q), normalizeListE qs = .ok (normalizeList qs)
  | [] => rfl
  | q :: qs => by
    simp only [normalizeListE, normalizeE_eq q, normalizeListE_eq qs]; rfl
end

end WM.Normalize
