import WM.Lemmas.ReplaceInter
/-! `UnionMatcher.replace` (its head, which sheds an exhausted operand, also serves `DisjunctionMaxMatcher.replace`),
`MultiMatcher.replace` (sub-matchers that cannot reach the threshold are passed over), `DisjunctionMaxMatcher.replace`,
`AndNotMatcher.replace`, `AndMaybeMatcher.replace`, the assembly `replace_spec_of` and its two instances: `W0 Unit01`
(C12 `replace_keeps_partial`) and `WF` (C11 `replace0`: no assumption on scores or boosts). -/
namespace WM.Matcher

theorem bool_or_false {a b : Bool} (h : ¬ (a || b) = true) : a = false ∧ b = false := by
  cases a <;> cases b <;> simp_all

section
variable {W : (s : Shape) → St s → Prop} (I : TreeInv W)
include I
variable {sa sb : Shape} {ra : St sa → Rat → Repl} {rb : St sb → Rat → Repl}

theorem unionHead_spec (f : Rat → Rat → Rat) (hra : ReplSpec W sa ra) (hrb : ReplSpec W sb rb) {s : Shape} {m : St s}
    {a : St sa} {b : St sb} {q : Rat} (hQ : q = 0 ∨ Scored W) (wa : W sa a) (wb : W sb b)
    (hd : den s m = unionWith f (den sa a) (den sb b)) {x : Repl} (hx : Yields x (ReplOK W s m q)) :
    Yields (if !((ops sa).isActive a || (ops sb).isActive b) then nullRepl
      else if !(ops sa).isActive a then changed (rb b q)
      else if !(ops sb).isActive b then changed (ra a q) else x) (ReplOK W s m q) := by
  refine .ite (fun h => ?_) fun _ => .ite (fun h => ?_) fun _ => .ite (fun h => ?_) fun _ => hx
  · rw [Bool.not_or, Bool.and_eq_true] at h
    exact null_spec I (.of_eq (by rw [hd, I.den_nil wa h.1, I.den_nil wb h.2, unionWith_nil_left]))
  · exact changed_spec (hrb b q hQ wb) (.of_eq (by rw [hd, I.den_nil wa h, unionWith_nil_left]))
  · exact changed_spec (hra a q hQ wa) (.of_eq (by rw [hd, I.den_nil wb h, unionWith_nil_right]))

theorem unionMain_spec (hra : ReplSpec W sa ra) (hrb : ReplSpec W sb rb) :
    ReplSpec W (.union sa sb) (unionMain sa sb ra rb) := by
  intro m q hQ h
  obtain ⟨wa, wb⟩ := I.union.1 h
  refine unionHead_spec I (· + ·) hra hrb hQ wa wb rfl ((slack_spec hQ wb).bind fun qa ha => ?_)
  refine (hra m.a qa (ha.thr hQ) wa).bind ?_
  rintro ⟨ca, a'⟩ oa
  refine (slack_spec hQ oa.inv).bind fun qb hb => (hrb m.b qb (hb.thr hQ) wb).bind ?_
  rintro ⟨cb, b'⟩ ob
  exact rebuild_spec (mk := pure (mkUnion a' b')) h (.ok ⟨I.union.2 ⟨oa.inv, ob.inv⟩, rfl⟩)
    (kept_additive I (unionWith (· + ·)) @keeps_unionAdd hQ wa wb oa ob ha hb)

theorem unionReplace_spec (hra : ReplSpec W sa ra) (hrb : ReplSpec W sb rb) :
    ReplSpec W (.union sa sb) (unionReplace sa sb ra rb) := by
  intro m q hQ h
  obtain ⟨wa, wb⟩ := I.union.1 h
  have ascA := I.asc wa
  have ascB := I.asc wb
  refine .ite (fun hc => ?_) fun _ => unionMain_spec I hra hrb m q hQ h
  rw [Bool.and_eq_true, Bool.and_eq_true] at hc
  obtain ⟨hq, hS⟩ := scored_of hQ hc.1.1
  refine (hS.max wa).bind fun amax ha => (hS.max wb).bind fun bmax hb => .ite (fun hboth => ?_) fun _ =>
    .ite (fun hlowa => ?_) fun _ => .ite (fun hlowb => ?_) fun _ => unionMain_spec I hra hrb m q hQ h
  · -- neither side reaches the threshold alone: the intersection, itself replaced
    rw [Bool.and_eq_true, decide_eq_true_eq, decide_eq_true_eq] at hboth
    refine .bind (Inter.init_spec (· + ·) (I.faithful sa) (I.faithful sb) m.a m.b wa wb) fun i g => ?_
    refine changed_spec (interReplace_spec I hra hrb i q hQ (I.inter.2 g.1)) (.of_ne hq ?_)
    show Keeps q (interWith (· + ·) (den sa i.a) (den sb i.b)) _
    rw [g.2]
    exact keeps_inter_of_union ascA ascB ha.1 hb.1 hboth.1 hboth.2
  · exact built_spec (mkAndMaybe_spec I wb wa)
      (.of_ne hq (keeps_leftJoin_of_union' ascA ascB ha.1 hlowa))
  · exact built_spec (mkAndMaybe_spec I wa wb)
      (.of_ne hq (keeps_leftJoin_of_union ascA ascB hb.1 hlowb))


theorem multi_replLoop_spec (hS : Scored W) (sc : Shape) (q : Rat) : ∀ (n : Nat) (m : Multi (St sc)) (ch : Bool),
    W (.multi sc) m → m.segs.length - m.cur < n →
    Yields (Multi.replLoop (ops sc) q n m ch) fun out => W (.multi sc) out.1 ∧
      Keeps q (Multi.den (den sc) out.1) (Multi.den (den sc) m) ∧ (out.2 = false → ch = false ∧ out.1 = m) := by
  intro n
  induction n with
  | zero => exact fun _ _ _ hn => absurd hn (Nat.not_lt_zero _)
  | succ n ih =>
    intro m ch h hn
    unfold Multi.replLoop
    cases hs : m.segs[m.cur]? with
    | none => exact .ok ⟨h, .refl _ _, fun e => ⟨e, rfl⟩⟩
    | some s =>
      have h' := I.multi.1 h
      refine (hS.max (h'.child s (List.mem_of_getElem? hs))).bind fun mq hmq => .ite (fun hq => ?_) fun _ =>
        .ok ⟨h, .refl _ _, fun e => ⟨e, rfl⟩⟩
      obtain ⟨g1, g2, -⟩ :=
        Multi.nextMatcher_spec (I.faithful sc) (m := { m with cur := m.cur + 1 }) h'.child h'.sub h'.asc
      have hlt := (List.getElem?_eq_some_iff.1 hs).1
      refine (ih _ true (I.multi.2 g1) (Nat.lt_of_le_of_lt (Nat.sub_le_sub_left (Nat.le_add_right _ _) _)
        (by omega : m.segs.length - (m.cur + 1) < n))).mono fun out k => ⟨k.1, k.2.1.trans ?_, fun e => nomatch (k.2.2 e).1⟩
      rw [g2, Multi.den_of_get hs]
      exact keeps_append_left fun p hp => Rat.le_trans (bounded_shift hmq.1 p hp) (Rat.le_of_lt hq)

theorem replace_multi_spec (sc : Shape) : ReplSpec W (.multi sc) (replace (.multi sc)) := by
  intro m q hQ h
  have core : Yields (Multi.replaceCore (ops sc) m q) fun out => ReplOK W (.multi sc) m q (out.2, ⟨.multi sc, out.1⟩) := by
    refine .ite (fun hq => ?_) fun _ => .ok (.self _ m q h)
    obtain ⟨hq, hS⟩ := scored_of hQ hq
    exact (multi_replLoop_spec I hS sc q _ m false h (Nat.lt_succ_self _)).mono fun out k =>
      ⟨.of_ne hq k.2.1, k.1, fun hf => by rw [(k.2.2 hf).2]⟩
  refine core.bind ?_
  rintro ⟨m', ch⟩ ok
  exact .ite (fun ha => null_spec I (I.den_nil ok.inv ha ▸ ok.toKept)) fun _ => .ok ok


theorem dismaxMain_spec (hra : ReplSpec W sa ra) (hrb : ReplSpec W sb rb) :
    ReplSpec W (.dismax sa sb) (dismaxMain sa sb ra rb) := by
  intro m q hQ h
  obtain ⟨wa, wb⟩ := I.dismax.1 h
  refine unionHead_spec I max hra hrb hQ wa wb rfl ((hra m.a q hQ wa).bind ?_)
  rintro ⟨ca, a'⟩ oa
  refine (hrb m.b q hQ wb).bind ?_
  rintro ⟨cb, b'⟩ ob
  have hk := oa.op₂ ob.toKept (unionWith max) (fun hq => ⟨hq, hq⟩) fun _ =>
    keeps_unionMax (I.asc wa) (I.asc oa.inv) (I.asc wb) (I.asc ob.inv) oa.keeps ob.keeps
  refine .ite (fun hi => ?_) fun _ => .ite (fun hi => ?_) fun _ => .ite (fun hi => ?_) fun _ =>
    rebuild_spec (mk := pure (mkDisMax a' b')) h (.ok ⟨I.dismax.2 ⟨oa.inv, ob.inv⟩, rfl⟩) hk
  · rw [Bool.not_or, Bool.and_eq_true] at hi
    rw [any_den_nil I a' oa.inv hi.1, any_den_nil I b' ob.inv hi.2, unionWith_nil_left] at hk
    exact null_spec I hk
  · rw [any_den_nil I a' oa.inv hi, unionWith_nil_left] at hk
    exact .ok (.of_kept ob.inv hk)
  · rw [any_den_nil I b' ob.inv hi, unionWith_nil_right] at hk
    exact .ok (.of_kept oa.inv hk)

theorem dismaxReplace_spec (hra : ReplSpec W sa ra) (hrb : ReplSpec W sb rb) :
    ReplSpec W (.dismax sa sb) (dismaxReplace sa sb ra rb) := by
  intro m q hQ h
  obtain ⟨wa, wb⟩ := I.dismax.1 h
  have ascA := I.asc wa
  have ascB := I.asc wb
  refine .ite (fun hc => ?_) fun _ => dismaxMain_spec I hra hrb m q hQ h
  rw [Bool.and_eq_true, Bool.and_eq_true] at hc
  obtain ⟨hq, hS⟩ := scored_of hQ hc.1.1
  refine (hS.max wa).bind fun amax ha => (hS.max wb).bind fun bmax hb => .ite (fun hboth => ?_) fun _ =>
    .ite (fun hlowb => ?_) fun _ => .ite (fun hlowa => ?_) fun _ => dismaxMain_spec I hra hrb m q hQ h
  · rw [Bool.and_eq_true, decide_eq_true_eq, decide_eq_true_eq] at hboth
    exact null_spec I (.nil_of_lt hq (bounded_unionMax ha.1 hb.1) (rat_max_lt hboth.1 hboth.2))
  · exact changed_spec (hra m.a q hQ wa) (.of_ne hq (keeps_left_of_unionMax ascA ascB hb.1 hlowb))
  · exact changed_spec (hrb m.b q hQ wb) (.of_ne hq (keeps_right_of_unionMax ascA ascB ha.1 hlowa))

theorem andNotReplace_spec (hra : ReplSpec W sa ra) (hrb : ReplSpec W sb rb) :
    ReplSpec W (.andNot sa sb) (andNotReplace sa sb ra rb) := by
  intro m q hQ h
  obtain ⟨wa, wb, -⟩ := I.andNot.1 h
  have main : Yields (andNotMain sa sb ra rb m q) (ReplOK W (.andNot sa sb) m q) := by
    refine .ite (fun hi => ?_) fun _ => (hra m.a q hQ wa).bind ?_
    · exact changed_spec (hra m.a q hQ wa) (.of_eq (by
        show _ = diff (den sa m.a) (den sb m.b)
        rw [I.den_nil wb hi, diff_nil_right]))
    · rintro ⟨ca, a'⟩ oa
      refine (hrb m.b 0 (.inl rfl) wb).bind ?_
      rintro ⟨cb, b'⟩ ob
      refine rebuild_spec h (mkAndNot_spec I oa.inv ob.inv) (oa.op₂ ob.toKept diff (fun hq => ⟨hq, rfl⟩) fun _ => ?_)
      rw [show b'.den = _ from ob.eq0 rfl]
      exact keeps_diff_left (I.asc wa) (I.asc oa.inv) oa.keeps
  refine .ite (fun hi => ?_) fun _ => .ite (fun hq => ?_) fun _ => main
  · exact null_spec I (.of_eq (by
      show [] = diff (den sa m.a) (den sb m.b)
      rw [I.den_nil wa hi]; rfl))
  · obtain ⟨hq, hS⟩ := scored_of hQ hq
    refine (hS.max wa).bind fun amax ha => .ite (fun hlow => ?_) fun _ => main
    exact null_spec I (.nil_of_lt hq (bounded_subset (diff_subset _ _) ha.1) hlow)

theorem andMaybeReplace_spec (hra : ReplSpec W sa ra) (hrb : ReplSpec W sb rb) :
    ReplSpec W (.andMaybe sa sb) (andMaybeReplace sa sb ra rb) := by
  intro m q hQ h
  obtain ⟨wa, wb, -⟩ := I.andMaybe.1 h
  have main : Yields (andMaybeMain sa sb ra rb m q) (ReplOK W (.andMaybe sa sb) m q) := by
    refine (slack_spec hQ wb).bind fun qa ha => (hra m.a qa (ha.thr hQ) wa).bind ?_
    rintro ⟨ca, a'⟩ oa
    refine (slack_spec hQ wa).bind fun qb hb => (hrb m.b qb (hb.thr hQ) wb).bind ?_
    rintro ⟨cb, b'⟩ ob
    exact rebuild_spec h (mkAndMaybe_spec I oa.inv ob.inv) (kept_additive I leftJoin
      (fun hA hA' hB hB' _ nB bB hb0 bA' _ KA KB =>
        (keeps_leftJoin_right hA' hB hB' nB bA' KB).trans (keeps_leftJoin_left hA hA' bB hb0 KA))
      hQ wa wb oa ob ha (hb.mono oa.keeps.dom))
  refine .ite (fun hi => ?_) fun _ => .ite (fun hc => ?_) fun _ => .ite (fun hi => ?_) fun _ => main
  · exact null_spec I (.of_eq (by
      show [] = leftJoin (den sa m.a) (den sb m.b)
      rw [I.den_nil wa hi]; rfl))
  · rw [Bool.and_eq_true] at hc
    obtain ⟨hq, hS⟩ := scored_of hQ hc.1
    refine (hS.max wa).bind fun amax ha => (hS.max wb).bind fun bmax hb => .ite (fun hlow => ?_) fun _ =>
      .ite (fun hlowa => ?_) fun _ => main
    · exact null_spec I (.nil_of_lt hq (bounded_leftJoin ha.1 hb.1 hb.2) hlow)
    · exact built_spec (mkInter_spec I wa wb)
        (.of_ne hq (keeps_inter_of_leftJoin (I.asc wa) ha.1 hlowa))
  · exact changed_spec (hra m.a q hQ wa) (.of_eq (by
      show _ = leftJoin (den sa m.a) (den sb m.b)
      rw [I.den_nil wb hi, leftJoin_nil_right]))

theorem replace_spec_of (s : Shape) : ReplSpec W s (replace s) := by
  induction s with
  | null => exact fun m q _ h => .ok (.self .null m q h)
  | list => exact replace_list_spec I
  | leaf => exact fun m q _ h => .ok (.self .leaf m q h)
  | union a b iha ihb => exact unionReplace_spec I iha ihb
  | dismax a b iha ihb => exact dismaxReplace_spec I iha ihb
  | inter a b iha ihb => exact interReplace_spec I iha ihb
  | andNot a b iha ihb => exact andNotReplace_spec I iha ihb
  | andMaybe a b iha ihb => exact andMaybeReplace_spec I iha ihb
  | require a b iha ihb => exact requireReplace_spec I iha ihb
  | boost c ih => exact replace_boost_spec I c ih
  | filter c ih => exact replace_filter_spec I c ih
  | inverse c ih => exact replace_inverse_spec I c ih
  | const c ih => exact replace_const_spec I c ih
  | multi c _ => exact replace_multi_spec I c
  | aunion c _ => exact fun m q _ h => .ok (.self (.aunion c) m q h)

end

theorem treeInv_W0 : TreeInv (W0 Unit01) where
  faithful s := (tree_qfaithful01 s).cur0
  null := trivial
  union := Iff.rfl
  dismax := Iff.rfl
  inter := Iff.rfl
  andNot := Iff.rfl
  andMaybe := Iff.rfl
  require := Iff.rfl
  boost_child h := h.1
  boost_mk h hx := ⟨hx, h.2⟩
  const_child h := h.1
  const_mk h hx := ⟨hx, h.2⟩
  filter_child h := h.1.1
  filter_mk h hm hb := ⟨hm, hb ▸ h.2⟩
  inverse_child h := h.1.1
  inverse_mk h hm hw := ⟨hm, hw ▸ h.2⟩
  multi := Iff.rfl

theorem replace_spec (s : Shape) (m : St s) (q : Rat) (h : W0 Unit01 s m) :
    Yields (replace s m q) (ReplOK (W0 Unit01) s m q) :=
  replace_spec_of treeInv_W0 s m q (.inr fun _ _ h => h) h

theorem any_active_of_den (r : Any) (h : WF r.1 r.2) (hd : r.den ≠ []) : r.isActive = true :=
  ((tree_faithful r.1).active _ h).2 hd

theorem treeInv_WF : TreeInv WF where
  faithful := tree_faithful
  null := trivial
  union := Iff.rfl
  dismax := Iff.rfl
  inter := Iff.rfl
  andNot := Iff.rfl
  andMaybe := Iff.rfl
  require := Iff.rfl
  boost_child h := h
  boost_mk _ hx := hx
  const_child h := h
  const_mk _ hx := hx
  filter_child h := h.1
  filter_mk _ hm _ := hm
  inverse_child h := h.1
  inverse_mk _ hm _ := hm
  multi := Iff.rfl

theorem replace0_spec (s : Shape) (m : St s) (h : WF s m) : Yields (replace s m 0) (ReplOK WF s m 0) :=
  replace_spec_of treeInv_WF s m 0 (.inl rfl) h

end WM.Matcher
