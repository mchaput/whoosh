import WM.Lemmas.NormalizeRange
import WM.Lemmas.NormalizeDedupe
/-! The two passes of `CompoundQuery.normalize` over the clause list, as list transformations: the
    range-merging loop (`popOverlap`, `absorb`, `mergeLoop`) and the de-duplication (`dedupe`).
    `stable`/`dstable` are the clause lists the passes leave alone, and the output of each pass is such
    a list.  Nothing here speaks of what a query means. -/
namespace WM.Normalize

theorem asRange_toQ (r : Rng) : r.toQ.asRange = some r := rfl

theorem asRange_some {s : Q} {r : Rng} (h : s.asRange = some r) : s = r.toQ := by
  cases s <;> simp [Q.asRange] at h
  subst h
  rfl

/-- `TermRange.normalize` leaves the range as it is. -/
def Rng.proper (r : Rng) : Bool :=
  !((r.lo == none || r.lo == some []) && (r.hi == none || r.hi == some maxText)) && !(r.lo == r.hi) && r.cs

theorem rngNormalize_of_proper {r : Rng} (h : r.proper = true) : r.normalize = r.toQ := by
  simp only [Rng.proper, Bool.and_eq_true, Bool.not_eq_true'] at h
  obtain ⟨⟨h1, h2⟩, h3⟩ := h
  unfold Rng.normalize Rng.toQ
  simp only [h1, h2, h3, Bool.false_eq_true, ↓reduceIte]

theorem rngNormalize_cases (r : Rng) :
    r.normalize = .every (some r.f) r.boost ∨ r.normalize = .null ∨ (∃ t, r.normalize = .term r.f t r.boost)
      ∨ (r.normalize = ({ r with cs := true } : Rng).toQ ∧ ({ r with cs := true } : Rng).proper = true) := by
  unfold Rng.normalize
  by_cases h1 : ((r.lo == none || r.lo == some []) && (r.hi == none || r.hi == some maxText)) = true
  · rw [if_pos h1]; exact Or.inl rfl
  rw [if_neg h1]
  by_cases h2 : (r.lo == r.hi) = true
  · rw [if_pos h2]
    refine ite_cases (P := fun q => _ ∨ q = Q.null ∨ (∃ t, q = .term r.f t r.boost) ∨ _) (Or.inr (Or.inl rfl)) ?_
    cases r.lo with
    | none => exact Or.inr (Or.inl rfl)
    | some t => exact Or.inr (Or.inr (Or.inl ⟨t, rfl⟩))
  · rw [if_neg h2]
    refine Or.inr (Or.inr (Or.inr ⟨rfl, ?_⟩))
    simp only [Rng.proper, Bool.and_true, Bool.and_eq_true, Bool.not_eq_true']
    exact ⟨Bool.eq_false_iff.mpr h1, Bool.eq_false_iff.mpr h2⟩

/-- A range clause that `TermRange.normalize` returns differs from the range in `cs` only, which `overlaps`
    does not read. -/
theorem asRange_rngNormalize {r r' : Rng} (h : r.normalize.asRange = some r') :
    r' = { r with cs := true } ∧ r'.proper = true := by
  rcases rngNormalize_cases r with e | e | ⟨t, e⟩ | ⟨e, hp⟩ <;> rw [e] at h <;> cases h
  exact ⟨rfl, hp⟩

theorem rngNormalize_field (r : Rng) : r.normalize.field = some r.f ∨ r.normalize.field = none := by
  rcases rngNormalize_cases r with e | e | ⟨t, e⟩ | ⟨e, _⟩ <;> rw [e]
  · exact Or.inl rfl
  · exact Or.inr rfl
  · exact Or.inl rfl
  · exact Or.inl rfl

theorem rngNormalize_not_everyAll (r : Rng) : r.normalize.isEveryAll = false := by
  rcases rngNormalize_cases r with e | e | ⟨t, e⟩ | ⟨e, _⟩ <;> rw [e] <;> rfl

/-- `q` overlaps no range clause of `l`. -/
def NoOv (q : Rng) (l : List Q) : Prop := ∀ s ∈ l, ∀ r, s.asRange = some r → q.overlaps r = false

theorem NoOv.sub {q : Rng} {l l' : List Q} (hn : NoOv q l) (hs : ∀ x ∈ l', x ∈ l) : NoOv q l' :=
  fun s h => hn s (hs s h)

theorem popOverlap_none_iff {q : Rng} {l : List Q} : popOverlap q l = none ↔ NoOv q l := by
  induction l with
  | nil => exact ⟨fun _ _ hs => (nomatch hs), fun _ => rfl⟩
  | cons s rest ih =>
    have hcons : NoOv q (s :: rest) ↔ (∀ r, s.asRange = some r → q.overlaps r = false) ∧ NoOv q rest := by
      simp only [NoOv, List.forall_mem_cons]
    rw [hcons, ← ih]
    cases hr : s.asRange with
    | none => simp [popOverlap, hr]
    | some r => cases ho : q.overlaps r <;> simp [popOverlap, hr, ho]

theorem popOverlap_some {q : Rng} {l : List Q} {r : Rng} {l' : List Q} (h : popOverlap q l = some (r, l')) :
    q.overlaps r = true ∧ ∃ l1 l2, l = l1 ++ r.toQ :: l2 ∧ l' = l1 ++ l2 := by
  induction l generalizing l' with
  | nil => simp [popOverlap] at h
  | cons s rest ih =>
    have skip : ∀ {l'}, (popOverlap q rest).map (fun (r', rest') => (r', s :: rest')) = some (r, l') →
        q.overlaps r = true ∧ ∃ l1 l2, s :: rest = l1 ++ r.toQ :: l2 ∧ l' = l1 ++ l2 := by
      intro l' h
      obtain ⟨⟨r0, l0⟩, hp, he⟩ := Option.map_eq_some_iff.mp h
      cases he
      obtain ⟨hov, l1, l2, e1, e2⟩ := ih hp
      exact ⟨hov, s :: l1, l2, by rw [e1]; rfl, by rw [e2]; rfl⟩
    unfold popOverlap at h
    split at h
    · rename_i r0 hr0
      split at h
      · rename_i hov
        cases h
        exact ⟨hov, [], rest, by rw [asRange_some hr0]; rfl, rfl⟩
      · exact skip h
    · exact skip h

theorem popOverlap_sublist {q : Rng} {l : List Q} {r : Rng} {l' : List Q} (h : popOverlap q l = some (r, l')) :
    l'.Sublist l := by
  obtain ⟨_, l1, l2, rfl, rfl⟩ := popOverlap_some h
  exact (List.Sublist.refl l1).append (List.sublist_cons_self _ _)

theorem absorb_of_none {i : Bool} {q : Rng} {rest : List Q} (h : popOverlap q rest = none) :
    absorb i q rest = (q, rest) := by
  rw [absorb]
  split
  · rfl
  · rename_i r rest' h'
    rw [h] at h'
    cases h'

theorem absorb_sublist (i : Bool) (q : Rng) (rest : List Q) : (absorb i q rest).2.Sublist rest := by
  fun_induction absorb i q rest with
  | case1 q rest h => exact List.Sublist.refl _
  | case2 q rest r rest' h ih => exact ih.trans (popOverlap_sublist h)

theorem absorb_f (i : Bool) (q : Rng) (rest : List Q) : (absorb i q rest).1.f = q.f := by
  fun_induction absorb i q rest with
  | case1 q rest h => rfl
  | case2 q rest r rest' h ih => rw [ih]; rfl

/-- The merged range overlaps nothing that is left. -/
theorem absorb_post (i : Bool) (q : Rng) (rest : List Q) : NoOv (absorb i q rest).1 (absorb i q rest).2 := by
  fun_induction absorb i q rest with
  | case1 q rest h => exact popOverlap_none_iff.mp h
  | case2 q rest r rest' h ih => exact ih

/-- A range `R` that overlapped neither `q` nor a clause of `rest` does not overlap the merged range. -/
theorem absorb_noOv (R : Rng) (i : Bool) (q : Rng) (rest : List Q)
    (hq : R.overlaps q = false) (hrest : NoOv R rest) : R.overlaps (absorb i q rest).1 = false := by
  fun_induction absorb i q rest with
  | case1 q rest h => exact hq
  | case2 q rest r rest' h ih =>
    obtain ⟨hov, l1, l2, rfl, rfl⟩ := popOverlap_some h
    have hr : R.overlaps r = false := hrest r.toQ (by simp) r rfl
    refine ih ?_ (hrest.sub fun x hx => (popOverlap_sublist h).subset hx)
    rw [Bool.eq_false_iff]
    intro hc
    rcases Rng.overlaps_merge R q r i hov hc with h1 | h1
    · rw [hq] at h1; cases h1
    · rw [hr] at h1; cases h1

/-- `everyfields` after looking at clause `q`. -/
def efNext (q : Q) (ef : List (Option Field)) : List (Option Field) :=
  match q with
  | .every f _ => f :: ef
  | _ => ef

theorem mem_efNext {o : Option Field} {q : Q} {ef : List (Option Field)} :
    o ∈ efNext q ef ↔ o ∈ ef ∨ ∃ b, q = .every o b := by
  cases q <;> simp [efNext]
  rw [or_comm, eq_comm]

/-- `everyfields` after a whole pass over `l`. -/
def efFinal (ef : List (Option Field)) : List Q → List (Option Field)
  | [] => ef
  | q :: rest => efFinal (efNext q ef) rest

theorem mem_efFinal : ∀ (l : List Q) (ef : List (Option Field)) (o : Option Field),
    o ∈ efFinal ef l ↔ o ∈ ef ∨ ∃ b, Q.every o b ∈ l
  | [], ef, o => by simp [efFinal]
  | q :: rest, ef, o => by
    simp only [efFinal, mem_efFinal rest, mem_efNext, List.mem_cons, exists_or, or_assoc, @eq_comm _ q]

theorem efFinal_sublist {l' l : List Q} (hs : l'.Sublist l) (ef : List (Option Field)) :
    ∀ o ∈ efFinal ef l', o ∈ efFinal ef l := by
  intro o ho
  rw [mem_efFinal] at ho ⊢
  exact ho.imp_right fun ⟨b, hb⟩ => ⟨b, hs.subset hb⟩

theorem mergeLoop_snd (i : Bool) (ef : List (Option Field)) (l : List Q) :
    (mergeLoop i ef l).2 = efFinal ef (mergeLoop i ef l).1 := by
  fun_induction mergeLoop i ef l with
  | case1 ef => rfl
  | case2 ef q rest h ih => exact ih
  | case3 ef q rest h r hr p q' ef' res ih => exact ih
  | case4 ef q rest h hr ef' res ih => exact ih

theorem mergeLoop_forall {P : Q → Prop} {i : Bool}
    (hP : ∀ (r : Rng) (rest : List Q), P r.toQ → (∀ x ∈ rest, P x) → P (absorb i r rest).1.normalize)
    (ef : List (Option Field)) (l : List Q) (h : ∀ x ∈ l, P x) : ∀ x ∈ (mergeLoop i ef l).1, P x := by
  fun_induction mergeLoop i ef l with
  | case1 ef => exact fun x hx => by cases hx
  | case2 ef q rest hc ih => exact ih (fun x hx => h x (List.mem_cons_of_mem _ hx))
  | case3 ef q rest hc r hr p q' ef' res ih =>
    have hrest : ∀ y ∈ rest, P y := fun y hy => h y (List.mem_cons_of_mem _ hy)
    exact List.forall_mem_cons.mpr ⟨hP r rest (asRange_some hr ▸ h q (List.mem_cons_self ..)) hrest,
      ih fun y hy => hrest y ((absorb_sublist i r rest).subset hy)⟩
  | case4 ef q rest hc hr ef' res ih =>
    exact List.forall_mem_cons.mpr ⟨h _ (List.mem_cons_self ..), ih fun y hy => h y (List.mem_cons_of_mem _ hy)⟩

theorem mergeLoop_noOv (R : Rng) (i : Bool) (ef : List (Option Field)) (l : List Q) (h : NoOv R l) :
    NoOv R (mergeLoop i ef l).1 := by
  refine mergeLoop_forall (P := fun s => ∀ r, s.asRange = some r → R.overlaps r = false)
    (fun r rest hr hrest r' hr' => ?_) ef l h
  obtain ⟨rfl, _⟩ := asRange_rngNormalize hr'
  exact absorb_noOv R i r rest (hr r rfl) hrest

theorem mergeLoop_isEmpty (i : Bool) (l : List Q) : (mergeLoop i [] l).1.isEmpty = l.isEmpty := by
  cases l with
  | nil => simp [mergeLoop]
  | cons q rest =>
    unfold mergeLoop
    simp only [List.contains_nil, Bool.false_eq_true, ↓reduceIte]
    cases q.asRange <;> rfl

/-- The merge loop has nothing to do on `l` (started with `everyfields = ef`). -/
def stable (ef : List (Option Field)) : List Q → Bool
  | [] => true
  | q :: rest =>
    !ef.contains q.field
      && (match q.asRange with
          | some r => r.proper && (popOverlap r rest).isNone
          | none => true)
      && stable (efNext q ef) rest

/-- The de-duplication pass has nothing to do on `l`. -/
def dstable (ef : List (Option Field)) : List Q → List Q → Bool
  | _, [] => true
  | seen, s :: rest =>
    !(!s.isEvery && ef.contains s.field) && !seen.contains s && dstable ef (s :: seen) rest

theorem stable_cons {ef : List (Option Field)} {q : Q} {rest : List Q} :
    stable ef (q :: rest) = true ↔ ef.contains q.field = false
      ∧ (∀ r, q.asRange = some r → r.proper = true ∧ NoOv r rest) ∧ stable (efNext q ef) rest = true := by
  cases hq : q.asRange <;> simp [stable, hq, and_assoc, popOverlap_none_iff]

theorem dstable_cons {ef : List (Option Field)} {seen : List Q} {s : Q} {rest : List Q} :
    dstable ef seen (s :: rest) = true ↔ (!s.isEvery && ef.contains s.field) = false
      ∧ seen.contains s = false ∧ dstable ef (s :: seen) rest = true := by
  simp only [dstable, Bool.and_eq_true, Bool.not_eq_true', and_assoc]

theorem mergeLoop_cons_of_noOv {i : Bool} {ef : List (Option Field)} {q : Q} {rest : List Q}
    (hq : ∀ r, q.asRange = some r → r.proper = true ∧ NoOv r rest) :
    mergeLoop i ef (q :: rest) = if ef.contains q.field = true then mergeLoop i ef rest
      else (q :: (mergeLoop i (efNext q ef) rest).1, (mergeLoop i (efNext q ef) rest).2) := by
  rw [mergeLoop.eq_def]
  dsimp only
  cases hr : q.asRange with
  | none => rfl
  | some r =>
    obtain ⟨hp, hn⟩ := hq r hr
    simp only [absorb_of_none (popOverlap_none_iff.mpr hn), rngNormalize_of_proper hp, ← asRange_some hr]
    rfl

theorem mergeLoop_of_stable (i : Bool) (ef : List (Option Field)) (l : List Q) (h : stable ef l = true) :
    mergeLoop i ef l = (l, efFinal ef l) := by
  induction l generalizing ef with
  | nil => rw [mergeLoop, efFinal]
  | cons q rest ih =>
    obtain ⟨hc, hq, ht⟩ := stable_cons.mp h
    rw [mergeLoop_cons_of_noOv hq, if_neg (ne_true_of_eq_false hc), ih _ ht]
    rfl

theorem dedupe_of_dstable (ef : List (Option Field)) : ∀ (l seen : List Q),
    dstable ef seen l = true → dedupe ef seen l = l
  | [], _, _ => rfl
  | s :: rest, seen, h => by
    obtain ⟨h1, h2, h3⟩ := dstable_cons.mp h
    unfold dedupe
    rw [if_neg (ne_true_of_eq_false h1), if_neg (ne_true_of_eq_false h2), dedupe_of_dstable ef rest (s :: seen) h3]

theorem efNext_mono {q : Q} {ef ef' : List (Option Field)} (h : ∀ o ∈ ef', o ∈ ef) :
    ∀ o ∈ efNext q ef', o ∈ efNext q ef := by
  intro o ho
  rw [mem_efNext] at ho ⊢
  exact ho.imp_left (h o)

theorem stable_mono {l' l : List Q} (hs : l'.Sublist l) : ∀ {ef ef' : List (Option Field)},
    (∀ o ∈ ef', o ∈ ef) → stable ef l = true → stable ef' l' = true := by
  induction hs with
  | slnil => exact fun _ _ => rfl
  | cons a _ ih =>
    exact fun hsub h => ih (fun o ho => mem_efNext.mpr (Or.inl (hsub o ho))) (stable_cons.mp h).2.2
  | cons_cons a hs ih =>
    intro ef ef' hsub h
    obtain ⟨hc, hr, ht⟩ := stable_cons.mp h
    exact stable_cons.mpr ⟨contains_false_mono hsub hc,
      fun r hq => (hr r hq).imp_right (·.sub fun _ hx => hs.subset hx), ih (efNext_mono hsub) ht⟩

theorem dstable_mono {l' l : List Q} (hs : l'.Sublist l) : ∀ {ef ef' : List (Option Field)} {seen seen' : List Q},
    (∀ o ∈ ef', o ∈ ef) → (∀ x ∈ seen', x ∈ seen) → dstable ef seen l = true → dstable ef' seen' l' = true := by
  induction hs with
  | slnil => exact fun _ _ _ => rfl
  | cons a _ ih =>
    exact fun hsub hseen h => ih hsub (fun x hx => List.mem_cons_of_mem _ (hseen x hx)) (dstable_cons.mp h).2.2
  | cons_cons a _ ih =>
    intro ef ef' seen seen' hsub hseen h
    obtain ⟨h1, h2, h3⟩ := dstable_cons.mp h
    rw [Bool.and_eq_false_iff] at h1
    refine dstable_cons.mpr ⟨Bool.and_eq_false_iff.mpr (h1.imp_right (contains_false_mono hsub)),
      contains_false_mono hseen h2, ih hsub (fun x hx => ?_) h3⟩
    exact (List.mem_cons.mp hx).imp_right (hseen x) |> List.mem_cons.mpr

theorem dedupe_sublist (ef : List (Option Field)) (l seen : List Q) : (dedupe ef seen l).Sublist l := by
  rw [WM.NormalizeDedupe.dedupe_eq_dedupeBy_filter]
  exact (WM.NormalizeDedupe.dedupeBy_sublist ..).trans List.filter_sublist

theorem dedupe_dstable (ef : List (Option Field)) : ∀ (l seen : List Q),
    dstable ef seen (dedupe ef seen l) = true
  | [], _ => rfl
  | s :: rest, seen => by
    unfold dedupe
    split
    · exact dedupe_dstable ef rest seen
    · rename_i h1
      split
      · exact dedupe_dstable ef rest seen
      · rename_i h2
        exact dstable_cons.mpr ⟨eq_false_of_ne_true h1, eq_false_of_ne_true h2, dedupe_dstable ef rest (s :: seen)⟩

theorem none_notin_efNext {q : Q} {ef : List (Option Field)} (h : none ∉ ef) (hq : q.isEveryAll = false) :
    none ∉ efNext q ef := by
  intro hm
  rcases mem_efNext.mp hm with hm | ⟨b, rfl⟩
  · exact h hm
  · cases hq

/-- The clause emitted for a range is a fixed point of `TermRange.normalize` and of the scan over what follows,
    and its field is that of the range or `None`. -/
theorem mergeLoop_stable (i : Bool) (ef : List (Option Field)) (l : List Q) (hnone : none ∉ ef)
    (hall : ∀ s ∈ l, s.isEveryAll = false) : stable ef (mergeLoop i ef l).1 = true := by
  fun_induction mergeLoop i ef l with
  | case1 ef => rfl
  | case2 ef q rest hc ih => exact ih hnone (fun s hs => hall s (List.mem_cons_of_mem _ hs))
  | case3 ef q rest hc r hr p q' ef' res ih =>
    have hp2 : ∀ s ∈ p.2, s.isEveryAll = false :=
      fun s hs => hall s (List.mem_cons_of_mem _ ((absorb_sublist i r rest).subset hs))
    have hn' : none ∉ efNext q' ef := none_notin_efNext hnone (rngNormalize_not_everyAll p.1)
    refine stable_cons.mpr ⟨?_, fun r'' hqr => ?_, ih hn' hp2⟩
    · rcases rngNormalize_field p.1 with hf | hf <;> rw [show q'.field = _ from hf]
      · rw [absorb_f, ← show q.field = some r.f by rw [asRange_some hr]; rfl]
        exact eq_false_of_ne_true hc
      · simpa using hnone
    · obtain ⟨rfl, hprop⟩ := asRange_rngNormalize hqr
      exact ⟨hprop, mergeLoop_noOv _ i ef' p.2 (absorb_post i r rest)⟩
  | case4 ef q rest hc hr ef' res ih =>
    exact stable_cons.mpr ⟨eq_false_of_ne_true hc, fun r h => (by rw [hr] at h; cases h),
      ih (none_notin_efNext hnone (hall q (List.mem_cons_self ..))) fun s hs => hall s (List.mem_cons_of_mem _ hs)⟩

end WM.Normalize
