import WM.Lemmas.IndexHistory
/-! Documents added as one group stay adjacent and in order. -/
namespace WM.Index
open WM.Dict

theorem group_commit {w : Writer} {plan : Plan} {t' : Toc} (h : w.commitPlan plan = .ok t')
    (hna : w.added = false → w.ndocs = []) (pre g post : List DocRec) (hg : w.ndocs = pre ++ g ++ post) (hne : g ≠ []) :
    ∃ s ∈ t'.segs, g <:+: s.liveDocs := by
  obtain ⟨w1, h1, rfl⟩ := Writer.commitPlan_inv h
  obtain ⟨_, b4, b5⟩ := Writer.addReaders_fields h1
  have hadd : w.added = true := by
    cases ha : w.added with
    | true => rfl
    | false =>
      have h0 := hna ha
      rw [hg, List.append_eq_nil_iff, List.append_eq_nil_iff] at h0
      exact absurd h0.1.2 hne
  refine ⟨w1.finalizeSegment, by simp [b4, hadd], ?_⟩
  rw [liveDocs_of_no_deletions _ rfl]
  exact ⟨pre, post ++ contentOf w.schema (plan w.segs).1, by simp [Writer.finalizeSegment, b5, hg]⟩

theorem group_merge {w : Writer} {plan : Plan} {t' : Toc} (h : w.commitPlan plan = .ok t') (s : Seg)
    (hs : s ∈ (plan w.segs).1 ∨ s ∈ (plan w.segs).2) (g : List DocRec) (hg : g <:+: s.liveDocs) :
    ∃ s' ∈ t'.segs, g.map (restrict w.schema) <:+: s'.liveDocs.map (restrict w.schema) := by
  obtain ⟨w1, h1, rfl⟩ := Writer.commitPlan_inv h
  obtain ⟨_, b4, b5⟩ := Writer.addReaders_fields h1
  rcases hs with hs | hs
  · have hadd1 : w1.added = true := by
      rw [b4, List.isEmpty_eq_false_iff.mpr (List.ne_nil_of_mem hs)]
      simp
    refine ⟨w1.finalizeSegment, by simp [hadd1], ?_⟩
    rw [liveDocs_of_no_deletions _ rfl]
    simp only [Writer.finalizeSegment, b5, List.map_append, contentOf_restrict]
    have h2 : s.liveDocs.map (restrict w.schema) <:+: contentOf w.schema (plan w.segs).1 := by
      rw [contentOf, List.flatMap_def]
      exact List.infix_of_mem_flatten (List.mem_map_of_mem hs)
    exact ((hg.map (restrict w.schema)).trans h2).trans ⟨w.ndocs.map (restrict w.schema), [], by simp⟩
  · exact ⟨s, by simp only; split <;> simp [hs], hg.map _⟩

/-- `g` (documents as visible under `sc`) is an adjacent run, in order, of the live documents of
    one segment -/
def AdjIn (sc : Schema) (g : List DocRec) (segs : List Seg) : Prop :=
  ∃ s ∈ segs, g <:+: s.liveDocs.map (restrict sc)

theorem adj_session {t : Toc} {docs : List DocRec} {plan : Plan} (hp : PlanOK plan) {t' : Toc}
    (h : t.session (docs.map .add) (.commit plan) = .ok t') (sc : Schema) (g : List DocRec) (hsc : t.schema = sc)
    (ha : AdjIn sc g t.segs) : t'.schema = sc ∧ AdjIn sc g t'.segs := by
  subst hsc
  have hsegs : (t.writer.run (docs.map .add)).segs = t.segs := congrArg Writer.segs (Writer.run_adds t.writer docs)
  have hsch : (t.writer.run (docs.map .add)).schema = t.schema := congrArg Writer.schema (Writer.run_adds t.writer docs)
  refine ⟨(Writer.commitPlan_schema h).trans hsch, ?_⟩
  obtain ⟨s, hs, hg⟩ := ha
  obtain ⟨g', hg', rfl⟩ := List.infix_map_iff.mp hg
  have hmem : s ∈ (plan (t.writer.run (docs.map .add)).segs).1 ∨ s ∈ (plan (t.writer.run (docs.map .add)).segs).2 :=
    List.mem_append.mp ((hp _).mem_iff.mpr (hsegs ▸ hs))
  obtain ⟨s', hs', h2⟩ := group_merge h s hmem g' hg'
  exact ⟨s', hs', hsch ▸ h2⟩

theorem adj_history {later : List (List DocRec × Plan)} {t : Toc} (hp : ∀ x ∈ later, PlanOK x.2) {t' : Toc}
    (h : t.history (later.map (fun x => (x.1.map Op.add, Ending.commit x.2))) = .ok t') (sc : Schema) (g : List DocRec)
    (hsc : t.schema = sc) (ha : AdjIn sc g t.segs) : t'.schema = sc ∧ AdjIn sc g t'.segs := by
  induction later generalizing t with
  | nil => cases h; exact ⟨hsc, ha⟩
  | cons x r ih =>
    simp only [List.map_cons, Toc.history] at h
    cases h1 : t.session (x.1.map Op.add) (.commit x.2) with
    | error e => simp [h1, Except.bind] at h
    | ok t1 =>
      simp only [h1, Except.bind] at h
      obtain ⟨hs1, a1⟩ := adj_session (hp x (by simp)) h1 sc g hsc ha
      exact ih (fun y hy => hp y (by simp [hy])) h hs1 a1

theorem group_history (t : Toc) (pre g post : List DocRec) (hne : g ≠ []) (plan : Plan) (t1 : Toc)
    (h1 : t.session ((pre ++ g ++ post).map .add) (.commit plan) = .ok t1)
    (hfit : ∀ d ∈ pre ++ g ++ post, d.fits t.schema = true)
    (later : List (List DocRec × Plan)) (hp : ∀ x ∈ later, PlanOK x.2) (t2 : Toc)
    (h2 : t1.history (later.map (fun x => (x.1.map Op.add, Ending.commit x.2))) = .ok t2) :
    t2.schema = t.schema ∧ ∃ s ∈ t2.segs, g.map (restrict t.schema) <:+: s.liveDocs.map (restrict t.schema) := by
  have hrun := Writer.run_adds_of_fits t.writer (pre ++ g ++ post) hfit
  have hs1 : t1.schema = t.schema := (Writer.commitPlan_schema h1).trans (by rw [hrun]; rfl)
  obtain ⟨s, hs, hg⟩ := group_commit h1
    (by rw [hrun]; intro hf; simp only [Toc.writer, Bool.false_or, Bool.not_eq_false', List.isEmpty_iff] at hf; simp [Toc.writer, hf])
    pre g post (by rw [hrun]; rfl) hne
  exact adj_history hp h2 t.schema _ hs1 ⟨s, hs, hg.map _⟩

end WM.Index
