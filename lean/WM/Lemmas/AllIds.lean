import WM.Lemmas.ReplaceRest
/-! `all_ids()`.  The base-class loop (step, and `replace()` every tenth step) yields exactly the remaining ids
(`allIds_spec`).  The overrides (`ListMatcher`, `IntersectionMatcher`, `WrappingMatcher`, `FilterMatcher`, `MultiMatcher`,
`ArrayUnionMatcher`) against stepping: the list an override yields ascends strictly, contains every id that is still to come
and only ids of the complete list (`allIdsO_spec`); on a matcher at its start it is exactly what stepping yields
(`allIdsO_fresh`). -/
namespace WM.Matcher

theorem allIdsLoop_spec : ∀ (fuel : Nat) (m : Any) (i : Nat), WF m.1 m.2 → m.den.length < fuel →
    allIdsLoop fuel m i = .ok (m.den.map (·.1))
  | 0, _, _, _, h => absurd h (Nat.not_lt_zero _)
  | n + 1, ⟨s, st⟩, i, hw, hfuel => by
    unfold allIdsLoop
    rcases (tree_faithful s).head hw with ⟨hd, ha⟩ | ⟨x, r, L, hd, ha, hid, -⟩
    · simp only [Any.isActive, ha, Any.den, hd]; rfl
    · obtain ⟨st', h1, h2, h3, -, -⟩ := (tree_faithful s).next st x r L hw hd
      -- whichever matcher the loop goes on with (the stepped one, or its replacement) stands on `L`
      have rest : ∀ (r' : Any) i', WF r'.1 r'.2 → r'.den = L →
          (do let rest ← allIdsLoop n r' i'; pure (x :: rest)) = Except.ok ((den s st).map (·.1)) :=
        fun r' i' hw' hd' => by
          rw [allIdsLoop_spec n r' i' hw' (by rw [hd']; simpa [Any.den, hd] using hfuel), hd', hd]; rfl
      simp only [Any.isActive, ha, ↓reduceIte, hid, h1, bind, Except.bind]
      split
      · obtain ⟨⟨c, rr⟩, e1, e2⟩ := replace0_spec s st' h2
        have hrep : Any.replace ⟨s, st'⟩ 0 = .ok rr := by unfold Any.replace; rw [e1]; rfl
        rw [hrep]; exact rest rr 0 e2.inv ((e2.eq0 rfl).trans h3)
      · exact rest ⟨s, st'⟩ (i + 1) h2 h3

theorem allIds_spec (m : Any) (h : WF m.1 m.2) : allIds m = .ok (m.den.map (·.1)) :=
  allIdsLoop_spec _ m 0 h (Nat.lt_succ_self _)

/-- what an `all_ids()` result must satisfy relative to the remaining list `D` and the complete list `F`: it ascends
    and lies between their ids -/
structure IdsOK (L : List Nat) (D F : Den) : Prop where
  asc : L.Pairwise (· < ·)
  lower : D.map (·.1) ⊆ L
  upper : L ⊆ F.map (·.1)

/-- where `all_ids()` is the base-class generator (it yields the remaining ids) the remaining list must be
    part of the complete list for the result to consist of ids of the complete list.  This holds in every state
    reached by cursor operations from a matcher at its start (`idSub_next`, `idSub_skipTo`, `idSub_reset`). -/
def AllIdsPre : (s : Shape) → St s → Prop
  | .null, _ => True
  | .list, _ => True
  | .inter a b, m => AllIdsPre a m.a ∧ AllIdsPre b m.b
  | .require a b, m => AllIdsPre a m.a ∧ AllIdsPre b m.b
  | .boost c, m => AllIdsPre c m.child
  | .const c, m => AllIdsPre c m.child
  | .filter c, m => AllIdsPre c m.child
  | .multi c, m => ∀ s ∈ m.segs, AllIdsPre c s.1
  | .aunion c, m => IdSub (den (.aunion c) m) (full (.aunion c) m)
  | .leaf, m => IdSub (den .leaf m) (full .leaf m)
  | .union a b, m => IdSub (den (.union a b) m) (full (.union a b) m)
  | .dismax a b, m => IdSub (den (.dismax a b) m) (full (.dismax a b) m)
  | .andNot a b, m => IdSub (den (.andNot a b) m) (full (.andNot a b) m)
  | .andMaybe a b, m => IdSub (den (.andMaybe a b) m) (full (.andMaybe a b) m)
  | .inverse c, m => IdSub (den (.inverse c) m) (full (.inverse c) m)

theorem idSub_next (s : Shape) (m m' : St s) (h : WF s m) (hs : IdSub (den s m) (full s m)) (hne : den s m ≠ [])
    (hn : (ops s).next m = .ok m') : IdSub (den s m') (full s m') := by
  obtain ⟨⟨x, r⟩, L, hd⟩ := List.exists_cons_of_ne_nil hne
  have st := ((tree_faithful s).next_step h hd).of_eq hn
  rw [st.den_eq, st.adv.full_eq]
  exact (IdSub.of_sublist (by rw [hd]; exact List.sublist_cons_self _ _)).trans hs

theorem idSub_skipTo (s : Shape) (m m' : St s) (t : Nat) (h : WF s m) (hs : IdSub (den s m) (full s m))
    (hne : den s m ≠ []) (hn : (ops s).skipTo m t = .ok m') : IdSub (den s m') (full s m') := by
  have st := ((tree_faithful s).skipTo_step t h hne).of_eq hn
  rw [st.den_eq, st.adv.full_eq]
  exact (IdSub.of_sublist (List.dropWhile_sublist _)).trans hs

theorem idSub_reset (s : Shape) (m m' : St s) (h : WF s m) (hn : (ops s).reset m = .ok m') :
    IdSub (den s m') (full s m') := by
  obtain ⟨-, h3, h4⟩ := Yields.of_eq ((tree_faithful s).reset m h) hn
  rw [h3, h4]; exact IdSub.refl _

/-- the base-class generator: exactly the remaining ids -/
theorem idsOK_base {D F : Den} (hD : Asc D) (hs : IdSub D F) : IdsOK (D.map (·.1)) D F where
  asc := List.pairwise_map.2 hD
  lower _ h := h
  upper x hx := by
    obtain ⟨p, hp, rfl⟩ := List.mem_map.1 hx
    exact mem_ids.2 (hs p hp)

/-- a wrapper that keeps the ids (boost, constant score) -/
theorem idsOK_map_key {L : List Nat} {D F : Den} (g g' : Nat × Rat → Rat) (h : IdsOK L D F) :
    IdsOK L (D.map fun p => (p.1, g p)) (F.map fun p => (p.1, g' p)) :=
  ⟨h.asc, by rw [ids_map_key]; exact h.lower, by rw [ids_map_key]; exact h.upper⟩

/-- `IntersectionMatcher.all_ids` -/
theorem idsOK_inter {f : Rat → Rat → Rat} {La Lb : List Nat} {Da Fa Db Fb : Den} (hFb : Asc Fb) (hDb : Asc Db)
    (ha : IdsOK La Da Fa) (hb : IdsOK Lb Db Fb) :
    IdsOK (La.filter fun i => Lb.contains i) (interWith f Da Db) (interWith f Fa Fb) where
  asc := ha.asc.sublist List.filter_sublist
  lower x hx := by
    obtain ⟨h1, h2⟩ := (mem_ids_interWith hDb).1 hx
    exact List.mem_filter.2 ⟨ha.lower h1, by simpa using hb.lower h2⟩
  upper x hx := by
    obtain ⟨h1, h2⟩ := List.mem_filter.1 hx
    exact (mem_ids_interWith hFb).2 ⟨ha.upper h1, hb.upper (by simpa using h2)⟩

theorem ids_filter (S : List Nat) (excl : Bool) (w : Rat) (D : Den) :
    (scale w (keepIds S excl D)).map (·.1) = (D.map (·.1)).filter fun i => !Filter.rejects S excl i := by
  rw [scale, ids_map_key, keepIds, List.filter_map]
  rfl

/-- `FilterMatcher.all_ids` -/
theorem idsOK_filter {L : List Nat} {D F : Den} (S : List Nat) (excl : Bool) (w : Rat) (h : IdsOK L D F) :
    IdsOK (L.filter fun i => !Filter.rejects S excl i) (scale w (keepIds S excl D)) (scale w (keepIds S excl F)) where
  asc := h.asc.sublist List.filter_sublist
  lower x hx := by
    rw [ids_filter, List.mem_filter] at hx
    exact List.mem_filter.2 ⟨h.lower hx.1, hx.2⟩
  upper x hx := by
    rw [ids_filter, List.mem_filter]
    exact ⟨h.upper (List.mem_filter.1 hx).1, (List.mem_filter.1 hx).2⟩

theorem multiAllIds_spec {α : Type} {f : α → R (List Nat)} {d fl : α → Den} :
    ∀ l : List (α × Nat), (∀ s ∈ l, Yields (f s.1) (IdsOK · (d s.1) (fl s.1))) → Asc (Multi.denOf fl l) →
    Yields (multiAllIds f l) (IdsOK · (Multi.denOf d l) (Multi.denOf fl l))
  | [], _, _ => .ok ⟨.nil, List.Subset.refl _, List.Subset.refl _⟩
  | s :: ss, h, hasc => by
    obtain ⟨-, f2, f3⟩ := asc_append.1 hasc
    unfold multiAllIds
    refine (h s List.mem_cons_self).bind fun L h2 => ?_
    refine (multiAllIds_spec ss (fun s' hs' => h s' (List.mem_cons_of_mem _ hs')) f2).bind fun R' k2 => .ok ⟨?_, ?_, ?_⟩
    · rw [List.pairwise_append]
      refine ⟨?_, k2.asc, ?_⟩
      · rw [List.pairwise_map]
        exact h2.asc.imp (by intro a b hab; exact Nat.add_lt_add_right hab _)
      · intro a ha b hb
        obtain ⟨a0, ha0, rfl⟩ := List.mem_map.1 ha
        obtain ⟨ra, hra⟩ := mem_ids.1 (h2.upper ha0)
        obtain ⟨rb, hrb⟩ := mem_ids.1 (k2.upper hb)
        exact f3 (a0 + s.2, ra) (List.mem_map.2 ⟨(a0, ra), hra, rfl⟩) (b, rb) hrb
    · rw [Multi.denOf, List.map_append, ids_shift]
      exact List.append_subset.2 ⟨List.subset_append_of_subset_left _ (List.map_subset _ h2.lower),
        List.subset_append_of_subset_right _ k2.lower⟩
    · rw [Multi.denOf, List.map_append, ids_shift]
      exact List.append_subset.2 ⟨List.subset_append_of_subset_left _ (List.map_subset _ h2.upper),
        List.subset_append_of_subset_right _ k2.upper⟩

theorem allIdsO_spec : ∀ (s : Shape) (m : St s), WF s m → AllIdsPre s m →
    Yields (allIdsO s m) (IdsOK · (den s m) (full s m))
  | .null, _, _, _ => .ok ⟨.nil, List.Subset.refl _, List.Subset.refl _⟩
  | .list, m, h, _ =>
    have e : (m.ids.zip m.weights).map (·.1) = m.ids := List.map_fst_zip (Nat.le_of_eq h.2.symm)
    .ok ⟨h.1, e ▸ List.map_subset _ (List.drop_subset _ _), e ▸ List.Subset.refl _⟩
  | .inter a b, m, h, hp | .require a b, m, h, hp =>
    (allIdsO_spec a m.a h.1 hp.1).bind fun _ a2 => (allIdsO_spec b m.b h.2.1 hp.2).bind fun _ b2 =>
      .ok (idsOK_inter (asc_full b m.b h.2.1) ((tree_faithful b).asc _ h.2.1) a2 b2)
  | .boost c, m, h, hp | .const c, m, h, hp => (allIdsO_spec c m.child h hp).mono fun _ => idsOK_map_key _ _
  | .filter c, m, h, hp =>
    (allIdsO_spec c m.child h.1 hp).bind fun _ c2 => .ok (idsOK_filter m.ids m.exclude m.boost c2)
  | .multi c, m, h, hp =>
    have h' : Multi.WF (ops c) (den c) (full c) (WF c) m := h
    (multiAllIds_spec (f := allIdsO c) (d := den c) (fl := full c) m.segs
      (fun s hs => allIdsO_spec c s.1 (h'.child s hs) (hp s hs)) h'.asc).mono fun _ k2 =>
      ⟨k2.asc, (List.map_subset _ (Multi.denOf_drop_sublist (den c) m.segs m.cur).subset).trans k2.lower, k2.upper⟩
  | .aunion c, m, h, hp =>
    -- `ArrayUnionMatcher.all_ids` walks the buffered parts: exactly the remaining ids, like the base generator
    ⟨_, AUnion.allIds_spec (tree_faithful c) m h, idsOK_base ((tree_faithful (.aunion c)).asc m h) hp⟩
  | .leaf, m, h, hp | .union _ _, m, h, hp | .dismax _ _, m, h, hp | .andNot _ _, m, h, hp | .andMaybe _ _, m, h, hp
  | .inverse _, m, h, hp => ⟨_, allIds_spec ⟨_, m⟩ h, idsOK_base ((tree_faithful _).asc m h) hp⟩

theorem allIdsO_fresh (s : Shape) (m : St s) (h : WF s m) (hp : AllIdsPre s m) (hf : den s m = full s m) :
    allIdsO s m = .ok ((den s m).map (·.1)) := by
  obtain ⟨L, h1, h2⟩ := allIdsO_spec s m h hp
  rw [h1]
  exact congrArg _ (pairwise_ext Nat.lt_asymm h2.asc (List.pairwise_map.2 ((tree_faithful s).asc m h))
    fun x => ⟨fun hx => hf ▸ h2.upper hx, fun hx => h2.lower hx⟩)

end WM.Matcher
