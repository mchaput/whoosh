import WM.Model.Compile
import WM.Lemmas.Den
/-!
Strictly ascending posting lists are determined by their `lookup` function; the list operators of `WM.Compile` are
characterised by what they do to `lookup` (`arrayParts` only under positive scores, where it is the identity:
`arrayParts_pos`).  A posting list is a result list of the matcher family (`WM.Matcher.Den`)
in another record type (`toPL`), and an operator that is the image of one of the matcher family has the laws of its
original (`OpSpec.of_den`), so what a merge or an intersection does to ascending lists is not proved here.
The few order facts about `Rat` sums the group needs stand beside the monoids on `Option Rat` they serve.
-/
namespace WM.Compile
open WM.Search

def Sorted (l : PL) : Prop := l.Pairwise (fun a b => a.id < b.id)

theorem sorted_nil : Sorted [] := List.Pairwise.nil

@[simp] theorem lookup_nil (i : Nat) : lookup [] i = none := rfl

theorem lookup_cons (a : Hit) (l : PL) (i : Nat) :
    lookup (a :: l) i = if a.id = i then some a.score else lookup l i := by
  unfold lookup
  by_cases h : a.id = i <;> simp [h]

theorem lookup_eq_none_iff {l : PL} {i : Nat} : lookup l i = none ↔ ∀ e ∈ l, e.id ≠ i := by
  simp [lookup]

theorem lookup_isSome_iff {l : PL} {i : Nat} : (lookup l i).isSome ↔ ∃ e ∈ l, e.id = i := by
  simp [lookup]

def optMerge (g : Rat → Rat → Rat) : Option Rat → Option Rat → Option Rat
  | some x, some y => some (g x y)
  | some x, none => some x
  | none, y => y

theorem isSome_optMerge (g : Rat → Rat → Rat) (x y : Option Rat) :
    (optMerge g x y).isSome = (x.isSome || y.isSome) := by
  cases x <;> cases y <;> rfl

/-- a binary list operator is known by the pointwise function `F` it induces on `lookup`: whatever is proved of a
    compound query is proved of `F` on `Option Rat` (`none`: the document is not in the list) -/
structure OpSpec (op : PL → PL → PL) (F : Option Rat → Option Rat → Option Rat) : Prop where
  sorted : ∀ a b, Sorted a → Sorted b → Sorted (op a b)
  lookup : ∀ a b, Sorted a → Sorted b → ∀ i, lookup (op a b) i = F (lookup a i) (lookup b i)

def toPL (L : WM.Matcher.Den) : PL := L.map (fun p => (⟨p.1, p.2⟩ : Hit))

@[simp] theorem toPL_nil : toPL [] = [] := rfl

@[simp] theorem toPL_cons (p : Nat × Rat) (L : WM.Matcher.Den) : toPL (p :: L) = ⟨p.1, p.2⟩ :: toPL L := rfl

theorem toPL_append (A B : WM.Matcher.Den) : toPL (A ++ B) = toPL A ++ toPL B := List.map_append

theorem mem_toPL {p : Nat × Rat} {L : WM.Matcher.Den} (h : p ∈ L) : (⟨p.1, p.2⟩ : Hit) ∈ toPL L :=
  List.mem_map_of_mem h

theorem exists_toPL (l : PL) : ∃ L, toPL L = l :=
  ⟨l.map fun e => (e.id, e.score), by simp [toPL, List.map_map, Function.comp_def]⟩

theorem toPL_inj {A B : WM.Matcher.Den} : toPL A = toPL B ↔ A = B :=
  List.map_inj_right fun _ _ h => Prod.ext (congrArg Hit.id h) (congrArg Hit.score h)

theorem ids_toPL (L : WM.Matcher.Den) : (toPL L).map (·.id) = L.map (·.1) := List.map_map

theorem sorted_toPL {L : WM.Matcher.Den} : Sorted (toPL L) ↔ WM.Matcher.Asc L := List.pairwise_map

theorem lookup_toPL (L : WM.Matcher.Den) (i : Nat) : lookup (toPL L) i = WM.Matcher.lookup L i := by
  induction L with
  | nil => rfl
  | cons p L ih =>
    obtain ⟨x, s⟩ := p
    rw [toPL_cons, lookup_cons, WM.Matcher.lookup, ih]

theorem lookup_of_mem {l : PL} (hs : Sorted l) {e : Hit} (he : e ∈ l) : lookup l e.id = some e.score := by
  obtain ⟨L, rfl⟩ := exists_toPL l
  obtain ⟨p, hp, rfl⟩ := List.mem_map.mp he
  exact (lookup_toPL L p.1).trans (WM.Matcher.mem_lookup (sorted_toPL.mp hs) hp)

theorem sorted_ext {a b : PL} (ha : Sorted a) (hb : Sorted b) (h : ∀ i, lookup a i = lookup b i) : a = b := by
  obtain ⟨A, rfl⟩ := exists_toPL a
  obtain ⟨B, rfl⟩ := exists_toPL b
  exact congrArg toPL (WM.Matcher.den_ext (sorted_toPL.mp ha) (sorted_toPL.mp hb) fun d => by
    rw [← lookup_toPL, ← lookup_toPL, h])

theorem toPL_unionWith (f : Rat → Rat → Rat) (A B : WM.Matcher.Den) :
    toPL (WM.Matcher.unionWith f A B) = mergeWith f (toPL A) (toPL B) := by
  fun_induction WM.Matcher.unionWith f A B with
  | case1 B => rw [toPL_nil, mergeWith]
  | case2 A hA => cases A <;> simp [mergeWith]
  | case3 x s A y t B hlt ih => rw [toPL_cons, toPL_cons, toPL_cons, mergeWith, if_pos hlt, ih, toPL_cons]
  | case4 x s A y t B hlt hgt ih =>
    rw [toPL_cons, toPL_cons, toPL_cons, mergeWith, if_neg hlt, if_pos hgt, ih, toPL_cons]
  | case5 x s A y t B hlt hgt ih => rw [toPL_cons, toPL_cons, toPL_cons, mergeWith, if_neg hlt, if_neg hgt, ih]

theorem toPL_interAdd (A B : WM.Matcher.Den) :
    toPL (WM.Matcher.interWith (· + ·) A B) = interL (toPL A) (toPL B) := by
  unfold WM.Matcher.interWith interL toPL
  rw [List.filterMap_map, List.map_filterMap]
  congr 1
  funext p
  simp only [Function.comp]
  rw [← toPL, lookup_toPL]
  cases WM.Matcher.lookup B p.1 <;> rfl

theorem ratMax_eq_max : ratMax = max := by
  funext x y
  rw [ratMax, Rat.max_def]
  by_cases h : x < y
  · rw [if_pos h, if_pos (Rat.le_of_lt h)]
  · rw [if_neg h]
    by_cases h' : x ≤ y
    · rw [if_pos h']; exact Rat.le_antisymm h' (Rat.not_lt.mp h)
    · rw [if_neg h']

theorem toPL_unionMax (A B : WM.Matcher.Den) :
    toPL (WM.Matcher.unionWith max A B) = dismaxL (toPL A) (toPL B) := by
  rw [dismaxL, ratMax_eq_max]; exact toPL_unionWith _ A B

theorem toPL_sumDens (Ds : List WM.Matcher.Den) : toPL (WM.Matcher.sumDens Ds) = unionAll (Ds.map toPL) := by
  induction Ds with
  | nil => rfl
  | cons D Ds ih => exact (toPL_unionWith _ D _).trans (congrArg (unionL (toPL D)) ih)

theorem toPL_diff (A B : WM.Matcher.Den) : toPL (WM.Matcher.diff A B) = andNotL (toPL A) (toPL B) := by
  unfold WM.Matcher.diff andNotL toPL
  rw [List.filter_map]
  congr 1
  apply List.filter_congr
  intro p _
  simp only [Function.comp]
  rw [← toPL, lookup_toPL]

theorem toPL_require (A B : WM.Matcher.Den) :
    toPL (WM.Matcher.interWith (fun s _ => s) A B) = requireL (toPL A) (toPL B) := by
  unfold WM.Matcher.interWith requireL
  induction A with
  | nil => rfl
  | cons p A ih =>
    rw [List.filterMap_cons, toPL_cons, List.filter_cons]
    rw [lookup_toPL]
    cases h : WM.Matcher.lookup B p.1 with
    | none => simpa using ih
    | some t => simp [ih]

theorem toPL_leftJoin (A B : WM.Matcher.Den) : toPL (WM.Matcher.leftJoin A B) = andMaybeL (toPL A) (toPL B) := by
  unfold WM.Matcher.leftJoin andMaybeL toPL
  rw [List.map_map, List.map_map]
  apply List.map_congr_left
  intro p _
  simp only [Function.comp]
  rw [← toPL, lookup_toPL]
  cases WM.Matcher.lookup B p.1 <;> rfl

theorem toPL_scale (w : Rat) (A : WM.Matcher.Den) : toPL (WM.Matcher.scale w A) = boostL w (toPL A) := by
  simp [WM.Matcher.scale, boostL, toPL, List.map_map, Function.comp_def]

theorem toPL_constScore (c : Rat) (A : WM.Matcher.Den) :
    toPL (WM.Matcher.constScore c A) = constL c (toPL A) := by
  simp [WM.Matcher.constScore, constL, toPL, List.map_map, Function.comp_def]

/-- `InverseMatcher(child, doc_count_all, missing=is_deleted)` from id 0, weight 1 -/
theorem toPL_complement (s : Segment) (C : WM.Matcher.Den) :
    toPL (WM.Matcher.complement 0 s.size s.deleted C 1) =
      (s.live.filter (fun i => (lookup (toPL C) i).isNone)).map (fun i => (⟨i, 1⟩ : Hit)) := by
  unfold WM.Matcher.complement toPL Segment.live
  rw [List.map_map, Nat.sub_zero, ← List.range_eq_range', List.filter_filter]
  congr 1
  apply List.filter_congr
  intro i _
  rw [← toPL, lookup_toPL]
  cases (s.deleted.contains i) <;> simp

theorem toPL_shift (off : Nat) (A : WM.Matcher.Den) : toPL (WM.Matcher.shift off A) = shift off (toPL A) := by
  simp [toPL, WM.Matcher.shift, shift, List.map_map, Function.comp_def]

theorem toPL_below (n : Nat) (L : WM.Matcher.Den) (h : ∀ e ∈ toPL L, e.id < n) : toPL (WM.Matcher.below n L) = toPL L := by
  unfold WM.Matcher.below
  rw [List.filter_eq_self.mpr]
  intro p hp
  simpa using h _ (mem_toPL hp)

theorem OpSpec.of_den {Op : WM.Matcher.Den → WM.Matcher.Den → WM.Matcher.Den} {op : PL → PL → PL}
    {F : Option Rat → Option Rat → Option Rat} (hop : ∀ A B, toPL (Op A B) = op (toPL A) (toPL B))
    (hasc : ∀ {A B}, WM.Matcher.Asc A → WM.Matcher.Asc B → WM.Matcher.Asc (Op A B))
    (hlookup : ∀ {A B}, WM.Matcher.Asc A → WM.Matcher.Asc B → ∀ d,
      WM.Matcher.lookup (Op A B) d = F (WM.Matcher.lookup A d) (WM.Matcher.lookup B d)) : OpSpec op F where
  sorted a b ha hb := by
    obtain ⟨A, rfl⟩ := exists_toPL a
    obtain ⟨B, rfl⟩ := exists_toPL b
    rw [← hop, sorted_toPL]
    exact hasc (sorted_toPL.mp ha) (sorted_toPL.mp hb)
  lookup a b ha hb i := by
    obtain ⟨A, rfl⟩ := exists_toPL a
    obtain ⟨B, rfl⟩ := exists_toPL b
    rw [← hop, lookup_toPL, lookup_toPL, lookup_toPL]
    exact hlookup (sorted_toPL.mp ha) (sorted_toPL.mp hb) i

theorem optMerge_eq : optMerge = WM.Matcher.optUnion := by
  funext g x y
  cases x <;> cases y <;> rfl

theorem mergeWith_opSpec (g : Rat → Rat → Rat) : OpSpec (mergeWith g) (optMerge g) :=
  .of_den (toPL_unionWith g) (WM.Matcher.asc_unionWith g) (optMerge_eq ▸ WM.Matcher.lookup_unionWith g)

def optBoth : Option Rat → Option Rat → Option Rat
  | some x, some y => some (x + y)
  | _, _ => none

theorem isSome_optBoth (x y : Option Rat) : (optBoth x y).isSome = (x.isSome && y.isSome) := by
  cases x <;> cases y <;> rfl

theorem interL_opSpec : OpSpec interL optBoth :=
  -- `lookup_interWith` has on its right the `match` that `optBoth` unfolds to
  .of_den toPL_interAdd (fun hA _ => WM.Matcher.asc_interWith _ _ hA)
    fun _ _ d => WM.Matcher.lookup_interWith _ _ d

theorem andNotL_opSpec : OpSpec andNotL fun x y => if y.isNone then x else none :=
  .of_den toPL_diff (fun hA _ => WM.Matcher.asc_diff _ hA) fun _ _ d => WM.Matcher.lookup_diff _ d

theorem requireL_opSpec : OpSpec requireL fun x y => if y.isSome then x else none :=
  .of_den toPL_require (fun hA _ => WM.Matcher.asc_interWith _ _ hA) fun {A B} _ _ d =>
    (WM.Matcher.lookup_interWith _ _ d).trans (by cases WM.Matcher.lookup A d <;> cases WM.Matcher.lookup B d <;> rfl)

theorem andMaybeL_opSpec :
    OpSpec andMaybeL fun x y => x.map fun s => match (generalizing := false) y with | some t => s + t | none => s :=
  .of_den toPL_leftJoin (fun hA _ => WM.Matcher.asc_leftJoin _ hA) fun _ _ d => WM.Matcher.lookup_leftJoin _ d

/-! ### operators that filter or map entry by entry

None of the `lookup` equations of this section needs an order: an entry is kept or dropped, and its id kept, as a
function of its id alone. -/

theorem lookup_filter (P : Nat → Bool) (a : PL) (i : Nat) :
    lookup (a.filter (fun e => P e.id)) i = if P i = true then lookup a i else none := by
  obtain ⟨A, rfl⟩ := exists_toPL a
  rw [show (toPL A).filter (fun e => P e.id) = toPL (A.filter fun p => P p.1) from List.filter_map, lookup_toPL,
    lookup_toPL]
  exact WM.Matcher.lookup_filter P i

theorem lookup_map (g : Hit → Rat) (a : PL) (i : Nat) :
    lookup (a.map fun e => ⟨e.id, g e⟩) i = (lookup a i).map fun x => g ⟨i, x⟩ := by
  obtain ⟨A, rfl⟩ := exists_toPL a
  rw [show (toPL A).map (fun e => (⟨e.id, g e⟩ : Hit)) = toPL (A.map fun p => (p.1, g ⟨p.1, p.2⟩)) by
    simp [toPL, List.map_map, Function.comp_def], lookup_toPL, lookup_toPL]
  exact WM.Matcher.lookup_map_key _ i

theorem map_sorted (g : Hit → Rat) {a : PL} (ha : Sorted a) : Sorted (a.map fun e => ⟨e.id, g e⟩) :=
  List.pairwise_map.mpr ha

theorem boostL_sorted (w : Rat) {a : PL} (ha : Sorted a) : Sorted (boostL w a) := map_sorted _ ha

theorem lookup_boostL (w : Rat) (a : PL) (i : Nat) : lookup (boostL w a) i = (lookup a i).map (· * w) :=
  lookup_map _ a i

theorem boostL_one (l : PL) : boostL 1 l = l := by
  simp [boostL, Rat.mul_one]

theorem constL_sorted (c : Rat) {a : PL} (ha : Sorted a) : Sorted (constL c a) := map_sorted _ ha

theorem lookup_constL (c : Rat) (a : PL) (i : Nat) : lookup (constL c a) i = (lookup a i).map (fun _ => c) :=
  lookup_map _ a i

/-- the list a predicate and a score function determine on the live documents: `postings` and the specified `segHits`
    have this form by definition, so they are ascending and their `lookup` is the guarded value (`lookup_canon`) -/
def canon (live : List Nat) (p : Nat → Bool) (sc : Nat → Rat) : PL :=
  (live.filter p).map (fun i => ⟨i, sc i⟩)

theorem canon_sorted {live : List Nat} (h : live.Pairwise (· < ·)) (p : Nat → Bool) (sc : Nat → Rat) :
    Sorted (canon live p sc) :=
  List.pairwise_map.mpr (List.Pairwise.sublist List.filter_sublist h)

theorem lookup_map_mk (l : List Nat) (sc : Nat → Rat) (i : Nat) :
    lookup (l.map (fun j => ⟨j, sc j⟩)) i = if i ∈ l then some (sc i) else none := by
  induction l with
  | nil => rfl
  | cons x xs ih =>
    rw [List.map_cons, lookup_cons, ih]
    by_cases hi : x = i
    · subst hi; simp
    · simp [hi, Ne.symm hi]

theorem lookup_canon (live : List Nat) (p : Nat → Bool) (sc : Nat → Rat) (i : Nat) :
    lookup (canon live p sc) i = if i ∈ live ∧ p i = true then some (sc i) else none := by
  simp only [canon, lookup_map_mk, List.mem_filter]

/-- `F` with unit `e` is a commutative monoid on `Option Rat`: that is what makes the fold of `op` over a tree of
    clauses independent of the tree's shape (`foldShape_spec`) and of the order of its leaves (`foldr_perm`), so that
    `ValidOracle` need say no more of the tree the implementation builds than that its leaves are the clauses -/
structure Monoidal (F : Option Rat → Option Rat → Option Rat) (e : Option Rat) : Prop where
  assoc : ∀ x y z, F (F x y) z = F x (F y z)
  comm : ∀ x y, F x y = F y x
  idl : ∀ x, F e x = x

theorem Monoidal.idr {F e} (h : Monoidal F e) (x : Option Rat) : F x e = x := by
  rw [h.comm, h.idl]

theorem Monoidal.foldr_append {F e} (h : Monoidal F e) (l r : List (Option Rat)) :
    (l ++ r).foldr F e = F (l.foldr F e) (r.foldr F e) := by
  induction l with
  | nil => exact (h.idl _).symm
  | cons x xs ih => rw [List.cons_append, List.foldr_cons, List.foldr_cons, ih, h.assoc]

theorem Monoidal.foldr_perm {F e} (h : Monoidal F e) {l r : List (Option Rat)} (hp : l.Perm r) :
    l.foldr F e = r.foldr F e :=
  hp.foldr_eq' (fun x _ y _ z => by rw [← h.assoc, ← h.assoc, h.comm y x]) e

theorem getD_sorted {ms : List PL} (hms : ∀ m ∈ ms, Sorted m) (j : Nat) : Sorted (ms.getD j []) := by
  rw [List.getD_eq_getElem?_getD]
  cases h : ms[j]? with
  | none => exact sorted_nil
  | some m => exact hms m (List.mem_of_getElem? h)

theorem foldShape_spec {op F e} (hop : OpSpec op F) (hF : Monoidal F e) {ms : List PL}
    (hms : ∀ m ∈ ms, Sorted m) (sh : Shape) :
    Sorted (foldShape op ms sh) ∧
    ∀ i, lookup (foldShape op ms sh) i =
      (sh.leaves.map (fun j => lookup (ms.getD j []) i)).foldr F e := by
  induction sh with
  | leaf j =>
    refine ⟨getD_sorted hms j, fun i => ?_⟩
    simp [foldShape, Shape.leaves, hF.idr]
  | node l r ihl ihr =>
    refine ⟨hop.sorted _ _ ihl.1 ihr.1, fun i => ?_⟩
    simp only [foldShape, Shape.leaves, List.map_append]
    rw [hop.lookup _ _ ihl.1 ihr.1, ihl.2, ihr.2, hF.foldr_append]

theorem map_range_getD {α β} (ms : List α) (d : α) (f : α → β) :
    (List.range ms.length).map (fun j => f (ms.getD j d)) = ms.map f := by
  apply List.ext_getElem
  · simp
  · intro n h1 h2
    simp at h1
    simp [h1]

def Shape.Valid (sh : Shape) (n : Nat) : Prop := sh.leaves.Perm (List.range n)

theorem optMerge_monoidal {g : Rat → Rat → Rat} (hassoc : ∀ x y z, g (g x y) z = g x (g y z))
    (hcomm : ∀ x y, g x y = g y x) : Monoidal (optMerge g) none := by
  refine ⟨fun x y z => ?_, fun x y => ?_, fun x => rfl⟩
  · rcases x with _ | x <;> rcases y with _ | y <;> rcases z with _ | z <;> try rfl
    exact congrArg some (hassoc x y z)
  · rcases x with _ | x <;> rcases y with _ | y <;> try rfl
    exact congrArg some (hcomm x y)

theorem add_monoidal : Monoidal (optMerge (· + ·)) none :=
  optMerge_monoidal (fun x y z => Rat.add_assoc x y z) (fun x y => Rat.add_comm x y)

theorem add_pos_of_pos_of_nonneg {a b : Rat} (ha : 0 < a) (hb : 0 ≤ b) : 0 < a + b := by
  have h : a + 0 ≤ a + b := Rat.add_le_add_left.mpr hb
  rw [Rat.add_zero] at h
  exact Std.lt_of_lt_of_le ha h

theorem sum_map_nonneg {α} {g : α → Rat} {l : List α} (h : ∀ a ∈ l, 0 < g a) : 0 ≤ (l.map g).sum := by
  induction l with
  | nil => exact Rat.le_refl
  | cons a l ih =>
    rw [List.map_cons, List.sum_cons]
    exact Rat.le_of_lt (add_pos_of_pos_of_nonneg (h a List.mem_cons_self)
      (ih fun z hz => h z (List.mem_cons_of_mem _ hz)))

theorem sum_map_pos {α} {g : α → Rat} {l : List α} (h : ∀ a ∈ l, 0 < g a) (hne : l ≠ []) :
    0 < (l.map g).sum := by
  cases l with
  | nil => exact absurd rfl hne
  | cons a l =>
    rw [List.map_cons, List.sum_cons]
    exact add_pos_of_pos_of_nonneg (h a List.mem_cons_self)
      (sum_map_nonneg fun z hz => h z (List.mem_cons_of_mem _ hz))

theorem perm_sum_map {α} (g : α → Rat) {l₁ l₂ : List α} (h : l₁.Perm l₂) :
    (l₁.map g).sum = (l₂.map g).sum := by
  induction h with
  | nil => rfl
  | cons x _ ih => simp only [List.map_cons, List.sum_cons, ih]
  | swap x y l =>
    simp only [List.map_cons, List.sum_cons]
    rw [← Rat.add_assoc, ← Rat.add_assoc, Rat.add_comm (g y) (g x)]
  | trans _ _ ih1 ih2 => rw [ih1, ih2]

/-- `ratMax` is the least upper bound; commutativity and associativity follow from that alone -/
theorem ratMax_le_iff {x y z : Rat} : ratMax x y ≤ z ↔ x ≤ z ∧ y ≤ z := by
  unfold ratMax
  by_cases h : x < y
  · rw [if_pos h]
    exact ⟨fun hy => ⟨Rat.le_trans (Rat.le_of_lt h) hy, hy⟩, fun h => h.2⟩
  · rw [if_neg h]
    exact ⟨fun hx => ⟨hx, Rat.le_trans (Rat.not_lt.mp h) hx⟩, fun h => h.1⟩

theorem eq_of_forall_le_iff {a b : Rat} (h : ∀ z, a ≤ z ↔ b ≤ z) : a = b :=
  Rat.le_antisymm ((h b).mpr Rat.le_refl) ((h a).mp Rat.le_refl)

theorem ratMax_comm (x y : Rat) : ratMax x y = ratMax y x :=
  eq_of_forall_le_iff fun z => by rw [ratMax_le_iff, ratMax_le_iff, and_comm]

theorem ratMax_assoc (x y z : Rat) : ratMax (ratMax x y) z = ratMax x (ratMax y z) :=
  eq_of_forall_le_iff fun w => by simp only [ratMax_le_iff, and_assoc]

theorem max_monoidal : Monoidal (optMerge ratMax) none :=
  optMerge_monoidal ratMax_assoc ratMax_comm

theorem both_monoidal : Monoidal optBoth (some 0) := by
  refine ⟨fun x y z => ?_, fun x y => ?_, fun x => ?_⟩
  · rcases x with _ | x <;> rcases y with _ | y <;> rcases z with _ | z <;> try rfl
    exact congrArg some (Rat.add_assoc x y z)
  · rcases x with _ | x <;> rcases y with _ | y <;> try rfl
    exact congrArg some (Rat.add_comm x y)
  · rcases x with _ | x
    · rfl
    · exact congrArg some (Rat.zero_add x)

theorem unionAll_spec {ms : List PL} (hms : ∀ m ∈ ms, Sorted m) :
    Sorted (unionAll ms) ∧
    ∀ i, lookup (unionAll ms) i = (ms.map (fun m => lookup m i)).foldr (optMerge (· + ·)) none := by
  induction ms with
  | nil => exact ⟨sorted_nil, fun i => rfl⟩
  | cons m ms ih =>
    have ih' := ih (fun x hx => hms x (List.mem_cons_of_mem _ hx))
    have hm := hms m List.mem_cons_self
    refine ⟨(mergeWith_opSpec _).sorted _ _ hm ih'.1, fun i => ?_⟩
    simp only [unionAll, List.foldr_cons, List.map_cons] at *
    show lookup (mergeWith (· + ·) m (List.foldr unionL [] ms)) i = _
    rw [(mergeWith_opSpec _).lookup _ _ hm ih'.1, ih'.2]

theorem mergeWith_forall {P : Hit → Prop} (g : Rat → Rat → Rat)
    (hg : ∀ x y : Hit, P x → P y → x.id = y.id → P ⟨x.id, g x.score y.score⟩) (a b : PL)
    (ha : ∀ e ∈ a, P e) (hb : ∀ e ∈ b, P e) : ∀ e ∈ mergeWith g a b, P e := by
  obtain ⟨A, rfl⟩ := exists_toPL a
  obtain ⟨B, rfl⟩ := exists_toPL b
  rw [← toPL_unionWith]
  exact List.forall_mem_map.mpr <| WM.Matcher.forall_unionWith g (PA := fun p => P ⟨p.1, p.2⟩)
    (fun p hp => ha _ (mem_toPL hp)) (fun p hp => hb _ (mem_toPL hp)) (fun _ h => h) (fun _ h => h)
    fun x s t hs ht => hg ⟨x, s⟩ ⟨x, t⟩ hs ht rfl

theorem unionAll_forall {P : Hit → Prop}
    (hg : ∀ x y : Hit, P x → P y → x.id = y.id → P ⟨x.id, x.score + y.score⟩) :
    ∀ (ms : List PL), (∀ m ∈ ms, ∀ e ∈ m, P e) → ∀ e ∈ unionAll ms, P e
  | [], _ => by intro e he; cases he
  | m :: ms, h =>
    mergeWith_forall _ hg m (unionAll ms) (h m List.mem_cons_self)
      (unionAll_forall hg ms (fun x hx => h x (List.mem_cons_of_mem _ hx)))

theorem arrayParts_pos (psz : Nat) (l : PL) (h : ∀ e ∈ l, 0 < e.score) : arrayParts psz l = l := by
  fun_induction arrayParts psz l with
  | case1 => rfl
  | case2 e rest ih =>
    have hrest : ∀ x ∈ rest, 0 < x.score := fun x hx => h x (List.mem_cons_of_mem _ hx)
    have hdrop : ∀ x ∈ rest.dropWhile (fun x => decide (x.id < e.id + psz)), 0 < x.score :=
      fun x hx => hrest x ((List.dropWhile_sublist _).subset hx)
    rw [ih hdrop]
    have hfil : (rest.takeWhile (fun x => decide (x.id < e.id + psz))).filter (fun x => decide (0 < x.score))
        = rest.takeWhile (fun x => decide (x.id < e.id + psz)) := by
      apply List.filter_eq_self.mpr
      intro x hx
      have := hrest x ((List.takeWhile_sublist _).subset hx)
      simpa using this
    rw [hfil, List.takeWhile_append_dropWhile]

end WM.Compile
