import WM.Lemmas.NormalizeMerge
import WM.Lemmas.NormalizeNormal
/-! `CompoundQuery.normalize` (after the clauses have been normalized) preserves the meaning of the
    compound (`den`), step by step, under `BelowMax` and `LOk`: for `Or`/`DisjunctionMax` on every clause
    list, for `And` on clean ones. -/
namespace WM.Normalize
open WM.Sat WM.Clean WM.NormalizeDedupe

theorem den_of_ne_and {k : CK} (hk : k ≠ .and) (env : Env) (l : List Q) (d : Doc) :
    k.intersect = false ∧ den env k l d = satAny env l d := by
  cases k <;> first | exact absurd rfl hk | exact ⟨rfl, rfl⟩

theorem den_of_all_null (env : Env) (k : CK) (l : List Q) (d : Doc) (h : ∀ s ∈ l, s.isNull = true) :
    den env k l d = false := by
  have hs : ∀ s ∈ l, sat env s d = false := fun s hs => by rw [Q.isNull_iff.mp (h s hs)]; rfl
  cases k
  · cases l with
    | nil => rfl
    | cons s rest => simp [den, satAll, hs s (List.mem_cons_self ..)]
  all_goals
    simp only [den, satAny_eq_any, List.any_eq_false]
    exact fun s h => by rw [hs s h]; simp

theorem satAll_map_withBoost (env : Env) (l : List Q) (f : Q → Rat) (d : Doc) :
    satAll env (l.map fun x => x.withBoost (f x)) d = satAll env l d := by
  simp [satAll_eq_all, List.all_map, Function.comp_def, withBoost_sat]

theorem satAny_map_withBoost (env : Env) (l : List Q) (f : Q → Rat) (d : Doc) :
    satAny env (l.map fun x => x.withBoost (f x)) d = satAny env l d := by
  simp [satAny_eq_any, List.any_map, Function.comp_def, withBoost_sat]

theorem flatten_isEmpty (k : CK) (l : List Q) (hn : NormalList l = true) :
    (flatten k l).isEmpty = l.isEmpty := by
  fun_cases flatten k l with
  | case2 ss b rest =>
    match ss, (Normal_comp.mp ((Bool.and_eq_true ..).mp hn).1).2.1 with
    | _ :: _, _ => rfl
  | case1 | case3 | case4 => rfl

theorem flatten_satAll (env : Env) (l : List Q) (d : Doc) (hn : NormalList l = true) :
    satAll env (flatten .and l) d = satAll env l d := by
  fun_induction flatten .and l with
  | case1 => rfl
  | case2 ss b rest ih =>
    obtain ⟨hs, hr⟩ := (Bool.and_eq_true ..).mp hn
    rw [satAll_append, satAll_map_withBoost, ih hr]
    match ss, (Normal_comp.mp hs).2.1 with
    | _ :: _, _ => rfl
  | case3 _ _ _ _ _ ih | case4 _ _ _ ih => exact congrArg (_ && ·) (ih ((Bool.and_eq_true ..).mp hn).2)

theorem flatten_satAny (env : Env) (k : CK) (hk : k ≠ .and) (l : List Q) (d : Doc) :
    satAny env (flatten k l) d = satAny env l d := by
  fun_induction flatten k l with
  | case1 => rfl
  | case2 ss b rest ih =>
    rw [satAny_append, satAny_map_withBoost, ih]
    cases k <;> first | exact absurd rfl hk | rfl
  | case3 _ _ _ _ _ ih | case4 _ _ _ ih => exact congrArg (_ || ·) ih

theorem den_flatten (env : Env) (k : CK) (subs : List Q) (d : Doc) (hnf : NormalList subs = true) :
    den env k (flatten k subs) d = den env k subs d := by
  cases k
  · simp only [den, flatten_isEmpty _ _ hnf, flatten_satAll env _ d hnf]
  · exact flatten_satAny env _ (by decide) _ d
  · exact flatten_satAny env _ (by decide) _ d

theorem sat_congr_of_beq (env : Env) (d : Doc) (a b : Q) (h : (a == b) = true) : sat env a d = sat env b d := by
  rw [eq_of_beq h]

/-- A clause dropped for its field is covered by the `Every` that put the field into `everyfields`. -/
theorem dedupe_or (env : Env) (d : Doc) (l : List Q) :
    satAny env (dedupe (efFinal [] l) [] l) d = satAny env l d := by
  simp only [dedupe_eq_dedupeBy_filter, satAny_eq_any]
  refine (dedupeBy_any _ (fun q => sat env q d) (sat_congr_of_beq env d) _ []).trans ?_
  rw [Bool.eq_iff_iff]
  simp only [List.any_nil, Bool.false_or, List.any_eq_true, List.mem_filter]
  constructor
  · rintro ⟨x, hx, hs⟩
    exact ⟨x, hx.1, hs⟩
  · rintro ⟨x, hx, hs⟩
    cases hk : (!x.isEvery && (efFinal [] l).contains x.field)
    · exact ⟨x, ⟨hx, by rw [hk]; rfl⟩, hs⟩
    · simp only [Bool.and_eq_true, Bool.not_eq_true', List.contains_iff_mem, mem_efFinal, List.not_mem_nil,
        false_or] at hk
      obtain ⟨b, hb⟩ := hk.2
      exact ⟨_, ⟨hb, rfl⟩, (sat_every ..).trans (everySat_field env d x hs)⟩

theorem dedupe_and (env : Env) (d : Doc) (ef : List (Option Field)) (l : List Q)
    (hw : ∀ s ∈ l, s.isEvery = false → ef.contains s.field = false) :
    (dedupe ef [] l).isEmpty = l.isEmpty ∧ satAll env (dedupe ef [] l) d = satAll env l d := by
  rw [dedupe_eq_of_fields ef l [] hw]
  refine ⟨by cases l <;> rfl, ?_⟩
  simp only [satAll_eq_all]
  exact dedupeBy_all _ (fun q => sat env q d) (sat_congr_of_beq env d) l []

theorem everyFieldOk_spec {l : List Q} (h : everyFieldOk l = true) :
    ∀ s ∈ l, ∀ f, s.field = some f → (∃ b, Q.every (some f) b ∈ l) → s.isEvery = true := by
  intro s hs f hf ⟨b, hb⟩
  simp only [everyFieldOk, List.all_eq_true] at h
  have := h _ hb
  simp only [List.all_eq_true, Bool.or_eq_true, bne_iff_ne, ne_eq] at this
  rcases this s hs with h1 | h1
  · exact absurd hf h1
  · exact h1

theorem rangesApart_sublist {l' l : List Q} (hs : l'.Sublist l) (h : rangesApart l = true) :
    rangesApart l' = true := by
  induction hs with
  | slnil => rfl
  | cons a _ ih => exact ih ((Bool.and_eq_true ..).mp h).2
  | cons_cons a hs ih =>
    obtain ⟨h1, h2⟩ := (Bool.and_eq_true ..).mp h
    refine (Bool.and_eq_true ..).mpr ⟨?_, ih h2⟩
    cases hr : a.asRange with
    | none => rfl
    | some r =>
      simp only [hr, List.all_eq_true] at h1 ⊢
      exact fun x hx => h1 x (hs.subset hx)

theorem satAny_filter_notNull (env : Env) (d : Doc) (l : List Q) :
    satAny env (l.filter fun q => !q.isNull) d = satAny env l d := by
  rw [satAny_eq_any, satAny_eq_any, List.any_filter]
  refine List.any_congr rfl fun a => ?_
  cases h : a.isNull
  · rfl
  · rw [Q.isNull_iff.mp h]; rfl

theorem satAll_filter_notEveryAll (env : Env) (d : Doc) (l : List Q) :
    satAll env (l.filter fun q => !q.isEveryAll) d = satAll env l d := by
  rw [satAll_eq_all, satAll_eq_all, List.all_filter]
  refine List.all_congr rfl fun a => ?_
  cases h : a.isEveryAll
  · rfl
  · obtain ⟨b, rfl⟩ := Q.isEveryAll_iff.mp h
    rfl

theorem finish_sat (env : Env) (k : CK) (l : List Q) (boost : Rat) (d : Doc) :
    sat env (finish k l boost) d = den env k l d := by
  unfold finish
  match l with
  | [] => cases k <;> simp [sat, den, satAll, satAny]
  | [sub] =>
    simp only
    split <;> cases k <;> simp [den, satAll, satAny, withBoost_sat]
  | a :: b :: rest => simp only [sat_comp]

theorem compTail_or (env : Env) (k : CK) (hk : k ≠ .and) (l : List Q) (boost : Rat) (d : Doc)
    (hp : d.BelowMax) (hl : LOk d l) : sat env (compTail k l boost) d = satAny env l d := by
  unfold compTail
  rw [finish_sat, (den_of_ne_and hk ..).2, satAny_filter_notNull, (den_of_ne_and hk env l d).1, mergeLoop_snd, dedupe_or]
  exact mergeLoop_or env d hp [] l hl

theorem compTail_and (env : Env) (l : List Q) (boost : Rat) (d : Doc)
    (hok : AndOk [] l) (hnonull : ∀ s ∈ l, s.isNull = false) :
    sat env (compTail .and l boost) d = den env .and l d := by
  obtain ⟨hm1, hm2⟩ := mergeLoop_and env d [] l hok
  have hmemp := mergeLoop_isEmpty true l
  simp only [compTail, CK.intersect, mergeLoop_snd]
  generalize (mergeLoop true [] l).1 = out at hm1 hm2 hmemp ⊢
  -- after the loop no clause other than an `Every` has its field in `everyfields`: the first branch of
  -- `dedupe` never fires, and what remains is the plain removal of duplicates
  have hded : ∀ s ∈ out, s.isEvery = false → (efFinal [] out).contains s.field = false := by
    intro s hs hnev
    rw [Bool.eq_false_iff]
    intro hc
    obtain ⟨b, hb⟩ := ((mem_efFinal ..).mp (List.contains_iff_mem.mp hc)).resolve_left (nomatch ·)
    rw [hok.every s (hm2 s hs) (Or.inr ⟨b, hm2 _ hb⟩)] at hnev
    cases hnev
  obtain ⟨hd1, hd2⟩ := dedupe_and env d _ out hded
  have hnn : ∀ s ∈ dedupe (efFinal [] out) [] out, s.isNull = false :=
    fun s hs => hnonull s (hm2 s ((dedupe_sublist ..).subset hs))
  rw [filter_notNull_of_none hnn, finish_sat, den, hd1, hmemp, hd2, show satAll env out d = _ from hm1]
  rfl

theorem compNormalize_sat (env : Env) (k : CK) (subs : List Q) (boost : Rat) (d : Doc) (hp : d.BelowMax)
    (hl : LOk d (flatten k subs)) (hnf : NormalList subs = true)
    (hclean : k = .and → nullMixOk (flatten k subs) = true ∧ everyFieldOk (flatten k subs) = true
      ∧ rangesApart (flatten k subs) = true) :
    sat env (compNormalize k subs boost) d = den env k subs d := by
  rw [← den_flatten env k subs d hnf]
  have hprop : ∀ r : Rng, r.toQ ∈ flatten k subs → r.proper = true :=
    fun r hr => (Normal_of_mem_flatten k subs hnf _ hr).1
  unfold compNormalize
  generalize flatten k subs = l at hclean hprop hl ⊢
  simp only [filter_notEveryAll_eq]
  by_cases hall : l.all Q.isNull = true
  · rw [if_pos hall, den_of_all_null env k l d (List.all_eq_true.mp hall)]; rfl
  rw [if_neg hall]
  by_cases hk : k = .and
  · -- And: the unfielded `Every`s are neutral, the rest goes through the tail unchanged in meaning
    subst hk
    obtain ⟨hN, hE, hR⟩ := hclean rfl
    have hnonull : ∀ s ∈ l, s.isNull = false := by
      simp only [nullMixOk, Bool.or_eq_true, List.all_eq_true] at hN
      rcases hN with hN | hN
      · exact absurd (List.all_eq_true.mpr hN) hall
      · intro s hs; simpa using hN s hs
    simp only [CK.intersect, Bool.not_true, Bool.and_false, Bool.false_eq_true, ↓reduceIte]
    have hR := rangesApart_sublist (List.filter_sublist (p := fun q => !q.isEveryAll)) hR
    have hden : den env .and l d = satAll env (l.filter fun q => !q.isEveryAll) d := by
      rw [satAll_filter_notEveryAll]
      cases l with
      | nil => exact absurd rfl hall
      | cons _ _ => rfl
    rw [hden]
    generalize hl2 : l.filter (fun q => !q.isEveryAll) = l2 at hR
    have hsub : ∀ s ∈ l2, s ∈ l ∧ s.isEveryAll = false := fun s hs => by
      rw [← hl2] at hs; simpa using List.mem_filter.mp hs
    cases l2 with
    | nil =>
      have hany : l.any Q.isEveryAll = true := by
        rw [← Bool.not_eq_false]
        intro hany
        refine hall (List.all_eq_true.mpr fun a ha => absurd ?_ (List.any_eq_false.mp hany a ha))
        simpa using List.filter_eq_nil_iff.mp hl2 a ha
      rw [if_pos (by rw [hany]; rfl)]
      rfl
    | cons a as =>
      rw [if_neg (by simp [hnonull a (hsub a (List.mem_cons_self ..)).1])]
      refine compTail_and env _ boost d ⟨hR, fun r hr => hprop r (hsub _ hr).1, fun s hs hw => ?_⟩
        fun s hs => hnonull s (hsub s hs).1
      obtain ⟨b, hb⟩ := hw.resolve_left (nomatch ·)
      cases hf : s.field with
      | none => rw [hf] at hb; cases (hsub _ hb).2
      | some f => exact everyFieldOk_spec hE s (hsub s hs).1 f hf ⟨b, (hsub _ (hf ▸ hb)).1⟩
  · -- Or, DisjunctionMax: an unfielded `Every` matches everything, otherwise the tail keeps the union
    rw [(den_of_ne_and hk env l d).1, (den_of_ne_and hk env l d).2]
    by_cases hany : l.any Q.isEveryAll = true
    · obtain ⟨x, hx, hxe⟩ := List.any_eq_true.mp hany
      obtain ⟨b, rfl⟩ := Q.isEveryAll_iff.mp hxe
      rw [if_pos (by rw [hany]; rfl)]
      exact (satAny_of_mem env d hx rfl).symm
    · rw [if_neg (by simp [hany]), if_neg (by simp [hany]), ← filter_notEveryAll_eq, if_neg hany]
      exact compTail_or env k hk l boost d hp hl

end WM.Normalize
