import WM.Lemmas.ParserDescent
/-! Precedence: what `do_operators` makes of the node list of a well-formed expression.

One family of node lists, `Expr.lin gk ws j`, follows the expression from `do_groups` to the last
pass of `do_operators`: each filter and each pass of the six default taggers maps one member to the
next, the last member is the single node `Expr.mid`, and the recursive descent turns `Expr.mid` into
the expected tree `Expr.out`. -/
namespace WM.Parser

/-- the node a chain `m₁ OP m₂ OP …` of one left-associative operator becomes -/
def chainL (g : GK) : List Node → Node
  | [] => .group g [] 1
  | m :: ms => ms.foldl (combineL g) m

mutual
/-- the node the passes of `do_operators` build for an expression at the level where it occurs
    (the contents of parenthesised groups are still unprocessed) -/
def Expr.mid (gk : GK) : Expr → Node
  | .atom n => n
  | .paren items => .group gk (joinWith [] (linL gk [] 0 items)) 1
  | .not e => .group .not [e.mid gk] 1
  | .op g es => chainL g (midL gk es)
def midL (gk : GK) : List Expr → List Node
  | [] => []
  | e :: es => e.mid gk :: midL gk es
/-- The expression as a node list in which brackets have become groups.  `ws` is what stands between
    two tokens: `[.ws]` after `do_groups`, `[]` after `remove_whitespace`.  Outside brackets every
    sub-expression of level `≤ j` has been collapsed into its node: the list after the passes for
    the levels `≤ j` (`j = 0`: before the first pass). -/
def Expr.lin (gk : GK) (ws : List Node) (j : Nat) : Expr → List Node
  | .atom n => [n]
  | .paren items => [.group gk (joinWith ws (linL gk ws 0 items)) 1]
  | .not e => if 1 ≤ j then [.group .not [e.mid gk] 1] else opNot :: ws ++ e.lin gk ws j
  | .op g es =>
    if g.lvl ≤ j then [chainL g (midL gk es)] else joinWith (ws ++ opNode g :: ws) (linL gk ws j es)
def linL (gk : GK) (ws : List Node) (j : Nat) : List Expr → List (List Node)
  | [] => []
  | e :: es => e.lin gk ws j :: linL gk ws j es
end

theorem midL_eq (gk : GK) (es : List Expr) : midL gk es = es.map (Expr.mid gk) := by
  induction es with
  | nil => rfl
  | cons e es ih => rw [midL, ih, List.map_cons]

theorem linL_eq (gk : GK) (ws : List Node) (j : Nat) (es : List Expr) :
    linL gk ws j es = es.map (Expr.lin gk ws j) := by
  induction es with
  | nil => rfl
  | cons e es ih => rw [linL, ih, List.map_cons]

/-- a sequence of expressions, as the contents of a group or as the whole query -/
def linSeq (gk : GK) (ws : List Node) (j : Nat) (items : List Expr) : List Node :=
  joinWith ws (items.map (Expr.lin gk ws j))

theorem linSeq_single (gk : GK) (ws : List Node) (j : Nat) (e : Expr) : linSeq gk ws j [e] = e.lin gk ws j := by
  rw [linSeq, List.map_cons, List.map_nil, joinWith_single]

theorem mid_paren (gk : GK) (items : List Expr) :
    (Expr.paren items).mid gk = .group gk (linSeq gk [] 0 items) 1 := by rw [Expr.mid, linL_eq, linSeq]
theorem mid_op_cons (gk : GK) (g : GK) (e : Expr) (es : List Expr) :
    (Expr.op g (e :: es)).mid gk = (es.map (Expr.mid gk)).foldl (combineL g) (e.mid gk) := by
  rw [Expr.mid, midL, midL_eq, chainL]

theorem lin_paren (gk : GK) (ws : List Node) (j : Nat) (items : List Expr) :
    (Expr.paren items).lin gk ws j = [.group gk (linSeq gk ws 0 items) 1] := by rw [Expr.lin, linL_eq, linSeq]
theorem lin_not (gk : GK) (ws : List Node) (e : Expr) :
    (Expr.not e).lin gk ws 0 = opNot :: ws ++ e.lin gk ws 0 := rfl
theorem lin_op (gk : GK) (ws : List Node) {j : Nat} {g : GK} (h : j < g.lvl) (es : List Expr) :
    (Expr.op g es).lin gk ws j = joinWith (ws ++ opNode g :: ws) (es.map (Expr.lin gk ws j)) := by
  rw [Expr.lin, if_neg (Nat.not_le.2 h), linL_eq]

theorem lin_collapsed (gk : GK) (j : Nat) (e : Expr) (hl : e.level ≤ j) : e.lin gk [] j = [e.mid gk] := by
  cases e with
  | atom n => rfl
  | paren items => rfl
  | not e => rw [Expr.lin, if_pos (show 1 ≤ j from hl), Expr.mid]
  | op g es => rw [Expr.lin, if_pos (show g.lvl ≤ j from hl), Expr.mid]

theorem linSeq_six (gk : GK) (items : List Expr) : linSeq gk [] 6 items = items.map (Expr.mid gk) := by
  rw [linSeq, joinWith_nil]
  induction items with
  | nil => rfl
  | cons e es ih => rw [List.map_cons, List.flatten_cons, ih, lin_collapsed gk 6 e (level_le_six e)]; rfl

theorem foldl_combineL_group (g : GK) (a m : Node) (ms : List Node) :
    ∃ ns b, (m :: ms).foldl (combineL g) a = .group g ns b := by
  induction ms generalizing a m with
  | nil => exact combineL_group g a m
  | cons m2 ms ih => exact ih _ _

theorem foldl_combineL_merge {g : GK} (hm : g.merging = true) (X : List Node) (b : Rat) (ms : List Node) :
    ms.foldl (combineL g) (.group g X b) = .group g (X ++ ms) b := by
  induction ms generalizing X with
  | nil => simp
  | cons m ms ih => simp only [List.foldl_cons, combineL_merge hm, ih]; simp

theorem foldl_combineL_fresh {g : GK} (hm : g.merging = true) {a : Node} (h : a.groupOf? g = none)
    (m : Node) (ms : List Node) :
    (m :: ms).foldl (combineL g) a = .group g (a :: m :: ms) 1 := by
  simp only [List.foldl_cons]
  rw [combineL_fresh (by simp [h]), foldl_combineL_merge hm]
  simp

theorem lvl_merging {g : GK} (h : 2 ≤ g.lvl) : g.merging = true ↔ g.lvl ≤ 3 := by
  cases g <;> simp [GK.lvl, GK.merging] at h ⊢

theorem isLeaf_isOp {n : Node} (h : n.isLeaf = true) : n.isOp = false := by
  cases n <;> first | rfl | cases h

theorem mid_isOp (gk : GK) (e : Expr) (h : e.wf = true) : (e.mid gk).isOp = false := by
  cases e with
  | atom n => exact isLeaf_isOp (wf_atom ▸ h)
  | paren items => rfl
  | not e => rfl
  | op g es =>
    match es, (wf_op.1 h).2.1 with
    | e1 :: e2 :: es, _ =>
      obtain ⟨ns, b, hg⟩ := foldl_combineL_group g (e1.mid gk) (e2.mid gk) (es.map (Expr.mid gk))
      rw [mid_op_cons, List.map_cons, hg]
      rfl

theorem mid_wf_isOpOf (gk : GK) (o : OpCfg) (e : Expr) (h : e.wf = true) : (e.mid gk).isOpOf o = false :=
  isOp_isOpOf o (mid_isOp gk e h)

theorem operand_groupOf? {gk g : GK} {e : Expr} (hwf : e.wf = true) (hl : e.level < g.lvl)
    (hp : ∀ items, e = .paren items → gk ≠ g) : (e.mid gk).groupOf? g = none := by
  cases e with
  | atom n =>
    have h : n.isLeaf = true := wf_atom ▸ hwf
    cases n <;> first | rfl | cases h
  | paren items => exact if_neg (hp items rfl)
  | not e0 => exact if_neg (by rintro rfl; cases hl)
  | op g' es =>
    match es, (wf_op.1 hwf).2.1 with
    | e1 :: e2 :: es, _ =>
      obtain ⟨ns, b, h1⟩ := foldl_combineL_group g' (e1.mid gk) (e2.mid gk) (es.map (Expr.mid gk))
      rw [mid_op_cons, List.map_cons, h1]
      exact if_neg (by rintro rfl; exact Nat.lt_irrefl _ hl)

/-- the tagger of `defaultOps` that handles binding level `j` -/
def stageOp (j : Nat) : OpCfg :=
  match j with
  | 1 => ⟨.pre, .not, true⟩
  | 2 => ⟨.inf, .and, true⟩
  | 3 => ⟨.inf, .or, true⟩
  | 4 => ⟨.inf, .andnot, true⟩
  | 5 => ⟨.inf, .andmaybe, true⟩
  | _ => ⟨.inf, .require, true⟩

theorem stageOp_lvl {g : GK} (h : 2 ≤ g.lvl) : stageOp g.lvl = ⟨.inf, g, true⟩ := by
  cases g <;> simp [GK.lvl] at h ⊢ <;> rfl

theorem stageOp_g_lvl {j : Nat} (h2 : 2 ≤ j) (h6 : j ≤ 6) : (stageOp j).g.lvl = j := by
  rcases (by omega : j = 2 ∨ j = 3 ∨ j = 4 ∨ j = 5 ∨ j = 6) with rfl | rfl | rfl | rfl | rfl <;> rfl

theorem stageOp_inf {j : Nat} (h2 : 2 ≤ j) : (stageOp j).t = .inf := by
  unfold stageOp
  split <;> first | rfl | omega

theorem opNode_isOpOf_stage {g : GK} {j : Nat} (hj1 : 1 ≤ j) (hj6 : j ≤ 6) (hne : g.lvl ≠ j) :
    (opNode g).isOpOf (stageOp j) = false := by
  rcases Nat.lt_or_ge j 2 with h | h
  · obtain rfl : j = 1 := by omega
    rfl
  · simp only [opNode, Node.isOpOf, Bool.and_eq_false_iff, beq_eq_false_iff_ne]
    exact .inr (fun e => hne (by rw [e, stageOp_g_lvl h hj6]))

theorem passZ_join {α} (o : OpCfg) (sep : List Node) (hsep : ∀ x ∈ sep, x.isOpOf o = false)
    (f1 f2 : α → List Node) (cs : List α)
    (h : ∀ c ∈ cs, ∀ done rest, passZ o done (f1 c ++ rest) = passZ o (done ++ f2 c) rest)
    (done rest : List Node) :
    passZ o done (joinWith sep (cs.map f1) ++ rest) = passZ o (done ++ joinWith sep (cs.map f2)) rest := by
  refine joinWith_rel (R := fun xs ys => ∀ done rest,
    passZ o done (xs ++ rest) = passZ o (done ++ ys) rest) ?_ ?_ (fun done rest => passZ_skips o done sep rest hsep)
    f1 f2 cs h done rest
  · intro done rest; rw [List.nil_append, List.append_nil]
  · intro a b a' b' h1 h2 done rest
    rw [List.append_assoc, h1, h2, List.append_assoc]

theorem passZ_chain (o : OpCfg) (ht : o.t = .inf) (sep : Node) (hsep : sep.isOpOf o = true)
    (d : List Node) (acc : Node) (ms rest : List Node) :
    passZ o (d ++ [acc]) ((ms.flatMap fun m => [sep, m]) ++ rest)
      = passZ o (d ++ [ms.foldl (combineL o.g) acc]) rest := by
  induction ms generalizing acc with
  | nil => simp
  | cons m ms ih =>
    simp only [List.flatMap_cons, List.cons_append, List.nil_append, List.foldl_cons]
    rw [passZ_inf o d acc sep m _ ht hsep]
    exact ih _

/-- Pass `j` on the tokens of one expression.  Stated with the scanned part `done` and a continuation `rest`, so
    that it composes over the items of a sequence (`passZ_join`). -/
theorem pass_expr (gk : GK) (j : Nat) (hj1 : 1 ≤ j) (hj6 : j ≤ 6) (e : Expr) (h : e.wf = true)
    (done rest : List Node) :
    passZ (stageOp j) done (e.lin gk [] (j - 1) ++ rest) = passZ (stageOp j) (done ++ e.lin gk [] j) rest := by
  induction e, h using Expr.wf_ind generalizing done rest with
  | atom n hn => exact passZ_skip _ _ _ _ (isOp_isOpOf _ (isLeaf_isOp hn))
  | paren items _ _ _ => exact passZ_skip _ _ _ _ rfl
  | not e0 hl _ _ =>
    rw [lin_collapsed gk j (.not e0) hj1]
    rcases Nat.eq_or_lt_of_le hj1 with rfl | hj
    · rw [lin_not, lin_collapsed gk _ e0 (Nat.le_of_eq hl)]
      exact passZ_pre _ _ _ _ _ rfl rfl
    · rw [lin_collapsed gk _ (.not e0) (Nat.le_sub_one_of_lt hj)]
      exact passZ_skip _ _ _ _ rfl
  | op g es hg hlen hch ih =>
    have hop := mid_wf_isOpOf gk (stageOp j) (.op g es) (wf_op.2 ⟨hg, hlen, hch⟩)
    rcases Nat.lt_trichotomy g.lvl j with hlt | rfl | hgt
    · -- collapsed by an earlier pass
      rw [lin_collapsed gk _ (.op g es) (Nat.le_sub_one_of_lt hlt), lin_collapsed gk _ (.op g es) (Nat.le_of_lt hlt)]
      exact passZ_skip _ _ _ _ hop
    · -- this pass builds the chain: the operands are single nodes by now
      rw [lin_op gk [] (Nat.sub_one_lt (Nat.ne_of_gt hj1)), lin_collapsed gk g.lvl (.op g es) (Nat.le_refl _),
        stageOp_lvl hg]
      match es, hlen with
      | e1 :: es, _ =>
        have hmap : (e1 :: es).map (Expr.lin gk [] (g.lvl - 1))
            = ((e1 :: es).map (Expr.mid gk)).map (fun x => [x]) := by
          rw [List.map_map]
          exact List.map_congr_left fun c hc => lin_collapsed gk _ c (Nat.le_sub_one_of_lt (hch c hc).1)
        rw [hmap, List.map_cons, List.nil_append, joinWith_singletons, mid_op_cons, List.cons_append,
          passZ_skip _ _ _ _ (mid_wf_isOpOf gk _ e1 (hch e1 (by simp)).2)]
        exact passZ_chain ⟨.inf, g, true⟩ rfl (opNode g) (by simp [opNode, Node.isOpOf]) done _ _ rest
    · -- a looser operator: its operands are scanned one after the other
      rw [lin_op gk [] (Nat.lt_of_le_of_lt (Nat.sub_le _ _) hgt), lin_op gk [] hgt]
      exact passZ_join (stageOp j) _
        (List.forall_mem_singleton.2 (opNode_isOpOf_stage hj1 hj6 (Nat.ne_of_gt hgt))) _ _ es ih done rest

theorem pass_seq (gk : GK) (j : Nat) (hj1 : 1 ≤ j) (hj6 : j ≤ 6) (items : List Expr)
    (h : ∀ e ∈ items, e.wf = true) (tail : List Node) (ht : ∀ x ∈ tail, x.isOp = false) :
    passZ (stageOp j) [] (linSeq gk [] (j - 1) items ++ tail) = linSeq gk [] j items ++ tail := by
  rw [linSeq, passZ_join (stageOp j) [] nofun _ _ items (fun e he => pass_expr gk j hj1 hj6 e (h e he)),
    ← List.append_nil tail, passZ_skips _ _ tail [] (fun x hx => isOp_isOpOf _ (ht x hx)), passZ_nil,
    List.nil_append, List.append_nil, linSeq]

theorem passesZ_seq (gk : GK) (items : List Expr) (h : ∀ e ∈ items, e.wf = true)
    (tail : List Node) (ht : ∀ x ∈ tail, x.isOp = false) :
    passesZ defaultOps (linSeq gk [] 0 items ++ tail) = items.map (Expr.mid gk) ++ tail := by
  rw [show defaultOps = [stageOp 1, stageOp 2, stageOp 3, stageOp 4, stageOp 5, stageOp 6] from rfl]
  simp only [passesZ, List.foldl_cons, List.foldl_nil]
  rw [pass_seq gk 1 (by decide) (by decide) items h tail ht,
      pass_seq gk 2 (by decide) (by decide) items h tail ht,
      pass_seq gk 3 (by decide) (by decide) items h tail ht,
      pass_seq gk 4 (by decide) (by decide) items h tail ht,
      pass_seq gk 5 (by decide) (by decide) items h tail ht,
      pass_seq gk 6 (by decide) (by decide) items h tail ht,
      linSeq_six]

theorem lin_laOK (gk : GK) (e : Expr) (h : e.wf = true) : ∀ x ∈ e.lin gk [] 0, x.laOK = true := by
  induction e, h using Expr.wf_ind with
  | atom n hn => exact fun x hx => List.mem_singleton.1 hx ▸ isOp_false_laOK (isLeaf_isOp hn)
  | paren items _ _ _ => exact fun x hx => List.mem_singleton.1 hx ▸ rfl
  | not e0 _ _ ih => exact fun x hx => (List.mem_cons.1 hx).elim (fun e => e ▸ rfl) (ih x)
  | op g es hg _ _ ih =>
    rw [lin_op gk [] (Nat.lt_of_lt_of_le Nat.zero_lt_two hg)]
    exact forall_mem_joinWith (List.forall_mem_singleton.2 rfl) ih

theorem opsOut_seq (gk k : GK) (b : Rat) (items : List Expr) (hwf : ∀ e ∈ items, e.wf = true)
    (tail : List Node) (ht : ∀ x ∈ tail, x.isOp = false) :
    opsOut defaultOps (.group k (linSeq gk [] 0 items ++ tail) b)
      = .group k ((items.map (Expr.mid gk) ++ tail).map (opsOut defaultOps)) b := by
  refine opsOut_group ?_ k b
  rw [opPasses_eq_passesZ defaultOps (by decide), passesZ_seq gk items hwf tail ht]
  exact List.forall_mem_append.2 ⟨forall_mem_joinWith nofun fun e he => lin_laOK gk e (hwf e he),
    fun x hx => isOp_false_laOK (ht x hx)⟩

theorem opsOut_tail (k : GK) (b : Rat) (tail : List Node) (ht : ∀ x ∈ tail, x.isOp = false) :
    opsOut defaultOps (.group k tail b) = .group k (tail.map (opsOut defaultOps)) b :=
  opsOut_seq .and k b [] nofun tail ht

theorem opsOut_paren (gk k : GK) (b : Rat) (items : List Expr) (hwf : ∀ e ∈ items, e.wf = true) :
    opsOut defaultOps (.group k (linSeq gk [] 0 items) b)
      = .group k ((items.map (Expr.mid gk)).map (opsOut defaultOps)) b := by
  have := opsOut_seq gk k b items hwf [] nofun
  rwa [List.append_nil, List.append_nil] at this

theorem chain_nonmerging {g : GK} (hm : g.merging = false) (acc : Node) (hop : acc.isOp = false)
    (ms : List Node) (hms : ∀ m ∈ ms, m.isOp = false) :
    opsOut defaultOps (ms.foldl (combineL g) acc)
      = (ms.map (opsOut defaultOps)).foldl (combineL g) (opsOut defaultOps acc) := by
  induction ms generalizing acc with
  | nil => rfl
  | cons m ms ih =>
    have hms := List.forall_mem_cons.1 hms
    rw [List.foldl_cons, List.map_cons, List.foldl_cons, combineL_nonmerging hm, combineL_nonmerging hm,
      ih _ rfl hms.2, opsOut_tail g 1 [acc, m] (List.forall_mem_cons.2 ⟨hop, List.forall_mem_singleton.2 hms.1⟩)]
    rfl

theorem opsOut_mid (gk : GK) (e : Expr) (h : e.wf = true) : opsOut defaultOps (e.mid gk) = e.out gk := by
  induction e, h using Expr.wf_ind with
  | atom n hn =>
    rw [Expr.mid, out_atom]
    exact okOr_of_eq (doOperators_nongroup _ (isLeaf_props hn).2)
  | paren items _ hw ih =>
    rw [mid_paren, out_paren, opsOut_paren gk gk 1 items hw, List.map_map]
    exact congrArg (Node.group gk · 1) (List.map_congr_left ih)
  | not e0 _ hw ih =>
    rw [Expr.mid, out_not, opsOut_tail .not 1 [e0.mid gk] (List.forall_mem_singleton.2 (mid_isOp gk e0 hw)),
      List.map_singleton, ih]
  | op g es hg hlen hch ih =>
    match es, hlen with
    | e1 :: e2 :: es, _ =>
      have ih1 := ih e1 (List.mem_cons_self ..)
      have hmsop : ∀ m ∈ (e2 :: es).map (Expr.mid gk), m.isOp = false := by
        intro m hm
        obtain ⟨c, hc, rfl⟩ := List.mem_map.1 hm
        exact mid_isOp gk c (hch c (List.mem_cons_of_mem _ hc)).2
      have hmsout : ((e2 :: es).map (Expr.mid gk)).map (opsOut defaultOps) = (e2 :: es).map (Expr.out gk) := by
        rw [List.map_map]
        exact List.map_congr_left fun c hc => ih c (List.mem_cons_of_mem _ hc)
      have h1 := hch e1 (List.mem_cons_self ..)
      rw [mid_op_cons, out_op_cons]
      by_cases hm : g.merging = true
      · by_cases hp : ∃ items1, e1 = .paren items1 ∧ gk = g
        · -- a parenthesised group of the operator's own class absorbs the other operands; what the
          -- descent makes of its members is read off what it makes of the group
          obtain ⟨items1, rfl, rfl⟩ := hp
          have hw1 := (wf_paren.1 h1.2).2
          rw [mid_paren, out_paren, opsOut_paren gk gk 1 items1 hw1] at ih1
          rw [mid_paren, out_paren, foldl_combineL_merge hm, foldl_combineL_merge hm,
            opsOut_seq gk gk 1 items1 hw1 _ hmsop, List.map_append, (Node.group.inj ih1).2.1, hmsout]
        · have hno := operand_groupOf? h1.2 h1.1 (fun items he hg => hp ⟨items, he, hg⟩)
          rw [List.map_cons, List.map_cons, foldl_combineL_fresh hm hno,
            foldl_combineL_fresh hm (ih1 ▸ opsOut_groupOf? hno),
            opsOut_tail g 1 _ (List.forall_mem_cons.2 ⟨mid_isOp gk e1 h1.2,
              by rwa [List.map_cons] at hmsop⟩),
            List.map_cons, ih1, ← List.map_cons, hmsout, List.map_cons]
      · rw [chain_nonmerging (Bool.not_eq_true _ ▸ hm) (e1.mid gk) (mid_isOp gk e1 h1.2) _ hmsop, hmsout, ih1]

end WM.Parser
