import WM.Spec.Columns
import WM.Lemmas.Yields
/-! Lemmas about the spec of a column (`lookup`, `cell`, `Increasing`, `Within`), among them what a
row codec on top of a column shows (`cell_codec`), and the rows a sequential writer lays down for
strictly increasing adds (`extendRows`): they are the rows of the spec. Generic in the row type. -/
namespace WM.Columns

variable {α β : Type}

theorem lookup_cons_ne (d0 d : Nat) (v : α) (rest : List (Nat × α)) (h : d0 ≠ d) :
    lookup ((d0, v) :: rest) d = lookup rest d := by
  simp [lookup, h]

theorem lookup_cons_eq (d0 : Nat) (v : α) (rest : List (Nat × α)) :
    lookup ((d0, v) :: rest) d0 = some v := by
  simp [lookup]

theorem lookup_none_of_lt (adds : List (Nat × α)) (d : Nat) (h : ∀ p ∈ adds, d < p.1) :
    lookup adds d = none := by
  simp only [lookup, Option.map_eq_none_iff, List.find?_eq_none, beq_iff_eq]
  exact fun p hp e => Nat.lt_irrefl d (e ▸ h p hp)

theorem lookup_mem {adds : List (Nat × α)} {d : Nat} {v : α} (h : lookup adds d = some v) :
    (d, v) ∈ adds := by
  simp only [lookup, Option.map_eq_some_iff] at h
  obtain ⟨p, hf, rfl⟩ := h
  have e : p.1 = d := by simpa using List.find?_some hf
  exact e ▸ List.mem_of_find?_eq_some hf

theorem lookup_eq_some_iff {adds : List (Nat × α)} (hinc : Increasing adds) {d : Nat} {v : α} :
    lookup adds d = some v ↔ (d, v) ∈ adds := by
  refine ⟨lookup_mem, fun hm => ?_⟩
  induction adds with
  | nil => cases hm
  | cons p rest ih =>
    obtain ⟨d0, v0⟩ := p
    obtain ⟨hgt, hinc'⟩ := List.pairwise_cons.mp hinc
    rcases List.mem_cons.mp hm with e | hm
    · cases e; exact lookup_cons_eq d v rest
    · rw [lookup_cons_ne d0 d v0 rest (Nat.ne_of_lt (hgt _ hm))]; exact ih hinc' hm

theorem lookup_map (f : α → β) (adds : List (Nat × α)) (d : Nat) :
    lookup (adds.map fun p => (p.1, f p.2)) d = (lookup adds d).map f := by
  simp only [lookup, List.find?_map, Option.map_map]
  rfl

theorem cell_map (f : α → β) (dc : β) (adds : List (Nat × α)) (d : Nat) :
    cell dc (adds.map fun p => (p.1, f p.2)) d = ((lookup adds d).map f).getD dc := by
  rw [cell, lookup_map]

theorem rowsOf_length (dflt : α) (adds : List (Nat × α)) (n : Nat) : (rowsOf dflt adds n).length = n := by
  rw [rowsOf, List.length_map, List.length_range]

theorem rowsOf_get (dflt : α) (adds : List (Nat × α)) (n d : Nat) (h : d < n) :
    (rowsOf dflt adds n)[d]? = some (cell dflt adds d) := by
  rw [rowsOf, List.getElem?_map, List.getElem?_range h]; rfl

/-- The decode half of a row codec on top of a column; `w` is the form in which the decoder reports a
    value (`id`, `some`, `.ok`). -/
theorem cell_codec {γ : Type} (enc : α → β) (dec : β → γ) (w : α → γ) (dc : β) (dflt : α)
    (adds : List (Nat × α)) (d : Nat) (hdc : dec dc = w dflt) (hde : ∀ p ∈ adds, dec (enc p.2) = w p.2) :
    dec (cell dc (adds.map fun p => (p.1, enc p.2)) d) = w (cell dflt adds d) := by
  rw [cell_map, cell]
  cases hl : lookup adds d with
  | none => exact hdc
  | some v => exact hde _ (lookup_mem hl)

/-- A total stand-in for a partial encoder: it agrees with `f` wherever `f` is known to succeed. -/
theorem exists_total {ε : Type} {f : α → Except ε β} {D : α → Prop} {P : α → β → Prop} (dflt : β)
    (h : ∀ a, D a → Yields (f a) (P a)) : ∃ g : α → β, ∀ a, D a → f a = .ok (g a) ∧ P a (g a) :=
  ⟨fun a => okOr (f a) dflt, fun a ha =>
    have e := (h a ha).eq_okOr dflt
    ⟨e, (h a ha).of_eq e⟩⟩

theorem increasing_map (f : α → β) (adds : List (Nat × α)) (h : Increasing adds) :
    Increasing (adds.map fun p => (p.1, f p.2)) :=
  List.pairwise_map.mpr h

theorem within_map (f : α → β) (adds : List (Nat × α)) (n : Nat) (h : Within adds n) :
    Within (adds.map fun p => (p.1, f p.2)) n := by
  intro p hp
  obtain ⟨q, hq, rfl⟩ := List.mem_map.mp hp
  exact h q hq

/-- The rows of a sequential writer that holds `rows` and takes the adds in turn: before each value
    it pads with `dflt` up to the add's document number. -/
def extendRows (dflt : α) (rows : List α) : List (Nat × α) → List α
  | [] => rows
  | (d, v) :: rest => extendRows dflt (rows ++ List.replicate (d - rows.length) dflt ++ [v]) rest

theorem length_pad (dflt : α) (rows : List α) (d : Nat) (h : rows.length ≤ d) :
    (rows ++ List.replicate (d - rows.length) dflt).length = d := by
  rw [List.length_append, List.length_replicate]; exact Nat.add_sub_cancel' h

theorem length_pad_snoc (dflt v : α) (rows : List α) (d : Nat) (h : rows.length ≤ d) :
    (rows ++ List.replicate (d - rows.length) dflt ++ [v]).length = d + 1 := by
  rw [List.length_append, length_pad dflt rows d h]; rfl

theorem getD_append_replicate (l : List α) (k : Nat) (dflt : α) (d : Nat) :
    ((l ++ List.replicate k dflt)[d]?).getD dflt = (l[d]?).getD dflt := by
  rw [List.getElem?_append]
  split
  · rfl
  · rename_i h
    rw [List.getElem?_replicate, List.getElem?_eq_none (Nat.le_of_not_lt h)]
    split <;> rfl

theorem extendRows_getD (dflt : α) (adds : List (Nat × α)) (rows : List α)
    (hinc : Increasing adds) (hge : ∀ p ∈ adds, rows.length ≤ p.1) (d : Nat) :
    ((extendRows dflt rows adds)[d]?).getD dflt = (rows[d]?).getD (cell dflt adds d) := by
  induction adds generalizing rows with
  | nil => rfl
  | cons p rest ih =>
    obtain ⟨d0, v⟩ := p
    obtain ⟨hgt, hinc'⟩ := List.pairwise_cons.mp hinc
    have hd0 : rows.length ≤ d0 := hge _ List.mem_cons_self
    have hpad := length_pad dflt rows d0 hd0
    have hlen := length_pad_snoc dflt v rows d0 hd0
    rw [extendRows, ih _ hinc' (fun q hq => by rw [hlen]; exact hgt q hq)]
    by_cases h1 : d < d0
    · -- an old row or padding; no add is for `d`
      have hnone : lookup ((d0, v) :: rest) d = none :=
        lookup_none_of_lt _ d fun q hq => by
          rcases List.mem_cons.mp hq with rfl | hq
          · exact h1
          · exact Nat.lt_trans h1 (hgt q hq)
      have hlt : d < (rows ++ List.replicate (d0 - rows.length) dflt).length := by rw [hpad]; exact h1
      have hcell : cell dflt ((d0, v) :: rest) d = dflt := by rw [cell, hnone]; rfl
      rw [List.getElem?_append_left hlt, hcell, ← getD_append_replicate rows (d0 - rows.length) dflt d,
        List.getElem?_eq_getElem hlt]
      rfl
    · have hr : rows[d]? = none := List.getElem?_eq_none (Nat.le_trans hd0 (Nat.le_of_not_lt h1))
      rw [hr, cell, cell]
      by_cases h2 : d = d0
      · subst h2
        rw [List.getElem?_append_right (by rw [hpad]; exact Nat.le_refl _), hpad, Nat.sub_self,
          lookup_cons_eq]; rfl
      · rw [List.getElem?_eq_none (by rw [hlen]; exact Nat.lt_of_le_of_ne (Nat.le_of_not_lt h1) (Ne.symm h2)),
          lookup_cons_ne d0 d v rest (Ne.symm h2)]

theorem extendRows_nil_getD (dflt : α) (adds : List (Nat × α)) (hinc : Increasing adds) (d : Nat) :
    ((extendRows dflt [] adds)[d]?).getD dflt = cell dflt adds d :=
  extendRows_getD dflt adds [] hinc (fun _ _ => Nat.zero_le _) d

theorem extendRows_length_le (dflt : α) (adds : List (Nat × α)) (rows : List α) (n : Nat)
    (hinc : Increasing adds) (hge : ∀ p ∈ adds, rows.length ≤ p.1) (hn : rows.length ≤ n)
    (hlt : ∀ p ∈ adds, p.1 < n) : (extendRows dflt rows adds).length ≤ n := by
  induction adds generalizing rows with
  | nil => exact hn
  | cons p rest ih =>
    obtain ⟨hgt, hinc'⟩ := List.pairwise_cons.mp hinc
    have hlen := length_pad_snoc dflt p.2 rows p.1 (hge _ List.mem_cons_self)
    exact ih _ hinc' (fun q hq => by rw [hlen]; exact hgt q hq)
      (by rw [hlen]; exact hlt _ List.mem_cons_self) (fun q hq => hlt q (List.mem_cons_of_mem _ hq))

theorem append_replicate_eq_map_getD (l : List α) (n : Nat) (dflt : α) (h : l.length ≤ n) :
    l ++ List.replicate (n - l.length) dflt = (List.range n).map fun d => (l[d]?).getD dflt := by
  apply List.ext_getElem
  · rw [List.length_append, List.length_replicate, List.length_map, List.length_range,
      Nat.add_sub_cancel' h]
  · intro d h1 h2
    rw [List.getElem_map, List.getElem_range, ← getD_append_replicate l (n - l.length) dflt d,
      List.getElem?_eq_getElem h1]
    rfl

theorem extendRows_final (dflt : α) (adds : List (Nat × α)) (doccount : Nat)
    (hinc : Increasing adds) (hwithin : Within adds doccount) :
    extendRows dflt [] adds ++ List.replicate (doccount - (extendRows dflt [] adds).length) dflt
      = rowsOf dflt adds doccount := by
  have hle := extendRows_length_le dflt adds [] doccount hinc (fun _ _ => Nat.zero_le _)
    (Nat.zero_le _) hwithin
  rw [append_replicate_eq_map_getD _ _ _ hle, rowsOf]
  exact List.map_congr_left fun d _ => extendRows_nil_getD dflt adds hinc d

end WM.Columns
