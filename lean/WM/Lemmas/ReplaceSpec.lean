import WM.Lemmas.QualityTree
/-!
`replace(minquality)` keeps every entry scoring above `minquality` (C12 `replace_keeps_partial`) and, without a threshold,
the whole remaining list (C11 `replace0`).  Both are one theorem about an invariant `W` of matcher trees (`TreeInv`):
`replace s m q` never raises on a tree satisfying `W`, and returns a tree satisfying `W` that keeps what it must - for
`q = 0` under any such invariant, for other thresholds when `W` also gives the quality contract (`Scored W`).

A `replace` method is followed statement by statement with the rules of `Yields` (`bind`, `ite`) and, for its return
statements, those below (`null_spec`, `built_spec`, `rebuild_spec`, `changed_spec`); what a branch returns is justified on
the lists (`Kept`, `Slack`).
-/
namespace WM.Matcher

/-- boosts for which `WrappingMatcher.replace` (threshold handed to the child unscaled) is sound -/
abbrev Unit01 : Rat → Prop := fun b => 0 < b ∧ b ≤ 1

theorem tree_qfaithful01 (s : Shape) : QFaithful (ops s) (den s) (full s) (WQ Unit01 s) (W0 Unit01 s) :=
  tree_qfaithful Unit01 (fun _ h => h.1) s

/-- An invariant of matcher trees under which the cursor contract holds and which is assembled from the invariants of
    the sub-trees the way `WF` and `W0` are: what the constructors called by `replace` need and deliver.  Leaves and
    `ArrayUnionMatcher` have no clause: `replace` returns them as they are (or `NullMatcher`) and builds none. -/
structure TreeInv (W : (s : Shape) → St s → Prop) : Prop where
  faithful : ∀ s, Faithful (ops s) (den s) (full s) (W s)
  null : W .null ()
  union : ∀ {a b} {m : Bin (St a) (St b)}, W (.union a b) m ↔ W a m.a ∧ W b m.b
  dismax : ∀ {a b} {m : Bin (St a) (St b)}, W (.dismax a b) m ↔ W a m.a ∧ W b m.b
  inter : ∀ {a b} {m : Bin (St a) (St b)}, W (.inter a b) m ↔ W a m.a ∧ W b m.b ∧ Inter.Aligned (den a) (den b) m
  andNot : ∀ {a b} {m : Bin (St a) (St b)}, W (.andNot a b) m ↔ W a m.a ∧ W b m.b ∧ AndNot.Ahead (den a) (den b) m
  andMaybe : ∀ {a b} {m : Bin (St a) (St b)},
    W (.andMaybe a b) m ↔ W a m.a ∧ W b m.b ∧ AndMaybe.NotBehind (den a) (den b) m
  require : ∀ {a b} {m : Bin (St a) (St b)}, W (.require a b) m ↔ W a m.a ∧ W b m.b ∧ Inter.Aligned (den a) (den b) m
  boost_child : ∀ {c} {m : Boost (St c)}, W (.boost c) m → W c m.child
  boost_mk : ∀ {c c'} {m : Boost (St c)} {x : St c'}, W (.boost c) m → W c' x → W (.boost c') ⟨x, m.boost⟩
  const_child : ∀ {c} {m : Const (St c)}, W (.const c) m → W c m.child
  const_mk : ∀ {c c'} {m : Const (St c)} {x : St c'}, W (.const c) m → W c' x → W (.const c') ⟨x, m.score⟩
  filter_child : ∀ {c} {m : Filter (St c)}, W (.filter c) m → W c m.child
  filter_mk : ∀ {c c'} {m : Filter (St c)} {m' : Filter (St c')}, W (.filter c) m →
    W c' m'.child ∧ Filter.Passes (den c') m'.ids m'.exclude m'.child → m'.boost = m.boost → W (.filter c') m'
  inverse_child : ∀ {c} {m : Inverse (St c)}, W (.inverse c) m → W c m.child
  inverse_mk : ∀ {c c'} {m : Inverse (St c)} {m' : Inverse (St c')}, W (.inverse c) m →
    W c' m'.child ∧ Inverse.Stops (den c') m'.limit m'.missing m'.child m'.id → m'.weight = m.weight →
    W (.inverse c') m'
  multi : ∀ {c} {m : Multi (St c)}, W (.multi c) m ↔ Multi.WF (ops c) (den c) (full c) (W c) m

/-- `W` gives the quality bounds (`Scored.max`, `Scored.nn`); `replace(q)` consults them only when `q ≠ 0` -/
def Scored (W : (s : Shape) → St s → Prop) : Prop := ∀ s m, W s m → W0 Unit01 s m

/-- A matcher meaning `L'` may stand for one meaning `L` when only scores above `q` matter - and `q = 0` means that all
    matter.  This is what C12 `replace_keeps_partial` says of the result of `replace`. -/
structure Kept (q : Rat) (L' L : Den) : Prop where
  keeps : Keeps q L' L
  eq0 : q = 0 → L' = L

namespace Kept
variable {q : Rat} {L₁ L₂ L₃ : Den}

theorem of_eq (h : L₁ = L₂) : Kept q L₁ L₂ := ⟨.of_eq h, fun _ => h⟩

theorem of_ne (hq : q ≠ 0) (h : Keeps q L₁ L₂) : Kept q L₁ L₂ := ⟨h, fun h0 => absurd h0 hq⟩

theorem cases (h0 : q = 0 → L₁ = L₂) (hk : q ≠ 0 → Keeps q L₁ L₂) : Kept q L₁ L₂ :=
  ⟨if hq : q = 0 then .of_eq (h0 hq) else hk hq, h0⟩

theorem trans (h₁ : Kept q L₁ L₂) (h₂ : Kept q L₂ L₃) : Kept q L₁ L₃ :=
  ⟨h₁.keeps.trans h₂.keeps, fun hq => (h₁.eq0 hq).trans (h₂.eq0 hq)⟩

theorem op₂ {qa qb : Rat} {A' A B' B : Den} (ka : Kept qa A' A) (kb : Kept qb B' B) (op : Den → Den → Den)
    (h0 : q = 0 → qa = 0 ∧ qb = 0) (hk : q ≠ 0 → Keeps q (op A' B') (op A B)) : Kept q (op A' B') (op A B) :=
  .cases (fun hq => by rw [ka.eq0 (h0 hq).1, kb.eq0 (h0 hq).2]) hk

theorem nil_of_lt {v : Rat} (hq : q ≠ 0) (hb : BoundedBy v L₁) (hv : v < q) : Kept q [] L₁ :=
  .of_ne hq (keeps_nil_of_bounded fun p hp => Rat.le_trans (hb p hp) (Rat.le_of_lt hv))

end Kept

/-- The threshold an additive class hands to one sub-matcher, the other one meaning `L`:
    `minquality - other.max_quality() if minquality else 0`. -/
structure Slack (q : Rat) (L : Den) (x : Rat) : Prop where
  zero : q = 0 → x = 0
  sub : q ≠ 0 → ∃ v, BoundedBy v L ∧ 0 ≤ v ∧ x = q - v

namespace Slack
variable {q v x : Rat} {L L' : Den}

/-- the test `if minquality:` failed -/
theorem of_zero (hq : ¬(q != 0) = true) : Slack q L 0 := ⟨fun _ => rfl, fun h => absurd (bne_iff_ne.2 h) hq⟩

theorem of_ne (hq : q ≠ 0) (hb : BoundedBy v L) (hv : 0 ≤ v) : Slack q L (q - v) :=
  ⟨fun h => absurd h hq, fun _ => ⟨v, hb, hv, rfl⟩⟩

theorem mono (h : Slack q L x) (d : Dominated L' L) : Slack q L' x :=
  ⟨h.zero, fun hq => (h.sub hq).imp fun _ hv => ⟨bounded_of_dominated d hv.1, hv.2⟩⟩

end Slack

variable {W : (s : Shape) → St s → Prop}

theorem TreeInv.asc (I : TreeInv W) {s : Shape} {m : St s} (h : W s m) : Asc (den s m) := (I.faithful s).asc m h

/-- the test `not m.is_active()` -/
theorem TreeInv.den_nil (I : TreeInv W) {s : Shape} {m : St s} (h : W s m) (hi : (!(ops s).isActive m) = true) :
    den s m = [] := ((I.faithful s).inactive h).1 ((Bool.not_eq_true' _).mp hi)

theorem Scored.max (hS : Scored W) {s : Shape} {m : St s} (h : W s m) :
    Yields ((ops s).maxQuality m) fun v => BoundedBy v (den s m) ∧ 0 ≤ v := (tree_qfaithful01 s).max m (hS s m h)

theorem Scored.nn (hS : Scored W) {s : Shape} {m : St s} (h : W s m) : NonNegDen (den s m) :=
  (tree_qfaithful01 s).nn m (hS s m h)

/-- the test `if minquality:` succeeded -/
theorem scored_of {q : Rat} (hQ : q = 0 ∨ Scored W) (hq : (q != 0) = true) : q ≠ 0 ∧ Scored W :=
  ⟨bne_iff_ne.1 hq, hQ.resolve_left (bne_iff_ne.1 hq)⟩

/-- the side condition of `ReplSpec` for the threshold handed to a sub-matcher -/
theorem Slack.thr {q x : Rat} {L : Den} (h : Slack q L x) (hQ : q = 0 ∨ Scored W) : x = 0 ∨ Scored W := hQ.imp h.zero id

theorem slack_spec {q : Rat} (hQ : q = 0 ∨ Scored W) {s : Shape} {m : St s} (h : W s m) :
    Yields (slack q ((ops s).maxQuality m)) (Slack q (den s m)) := by
  refine .ite (fun hq => ?_) fun hq => .ok (.of_zero hq)
  obtain ⟨hq, hS⟩ := scored_of hQ hq
  exact (hS.max h).bind fun v hv => .ok (.of_ne hq hv.1 hv.2)

/-- What `replace` returns: the flag `out.1` is the callers' test `r is not self`, so `false` means that the node came
    back as it was. -/
structure ReplOK (W : (s : Shape) → St s → Prop) (s : Shape) (m : St s) (q : Rat) (out : Bool × Any) : Prop
    extends Kept q out.2.den (den s m) where
  inv : W out.2.1 out.2.2
  same : out.1 = false → out.2 = ⟨s, m⟩

/-- For `q = 0` no quality is compared with anything and any tree invariant will do; otherwise the bounds are needed. -/
def ReplSpec (W : (s : Shape) → St s → Prop) (s : Shape) (r : St s → Rat → Repl) : Prop :=
  ∀ m q, q = 0 ∨ Scored W → W s m → Yields (r m q) (ReplOK W s m q)

variable {s : Shape} {m : St s} {q : Rat}

theorem ReplOK.self (s : Shape) (m : St s) (q : Rat) (h : W s m) : ReplOK W s m q (false, ⟨s, m⟩) :=
  ⟨.of_eq rfl, h, fun _ => rfl⟩

theorem ReplOK.of_kept {n : Any} (hn : W n.1 n.2) (hk : Kept q n.den (den s m)) : ReplOK W s m q (true, n) :=
  ⟨hk, hn, nofun⟩

/-- `return NullMatcher()` -/
theorem null_spec (I : TreeInv W) (hk : Kept q [] (den s m)) : Yields nullRepl (ReplOK W s m q) :=
  .ok (.of_kept (n := Any.null) I.null hk)

/-- `return self.__class__(…)`; the constructor `mk` may align its sub-matchers -/
theorem built_spec {mk : R Any} {D : Den} (hmk : Yields mk fun n => W n.1 n.2 ∧ n.den = D) (hk : Kept q D (den s m)) :
    Yields (do let r ← mk; pure (true, r)) (ReplOK W s m q) :=
  hmk.bind fun _ hn => .ok (.of_kept hn.1 (hn.2 ▸ hk))

/-- `return self.__class__(…) if a sub-matcher changed else self` -/
theorem rebuild_spec {c : Bool} {mk : R Any} {D : Den} (h : W s m) (hmk : Yields mk fun n => W n.1 n.2 ∧ n.den = D)
    (hk : Kept q D (den s m)) :
    Yields (if c = true then (do let r ← mk; pure (true, r)) else pure (false, (⟨s, m⟩ : Any))) (ReplOK W s m q) := by
  cases c
  · exact .ok (.self s m q h)
  · exact built_spec hmk hk

/-- "return a replacement of the sub-matcher that matters": `x` replaces a matcher that may stand for the node -/
theorem changed_spec {s' : Shape} {m' : St s'} {x : Repl} (hx : Yields x (ReplOK W s' m' q))
    (hk : Kept q (den s' m') (den s m)) : Yields (changed x) (ReplOK W s m q) :=
  hx.bind fun _ o => .ok (.of_kept o.inv (o.toKept.trans hk))

theorem replace_list_spec (I : TreeInv W) : ReplSpec W .list (replace .list) := by
  intro m q _ h
  refine .ite (fun ha => null_spec I (.of_eq (I.den_nil h ha).symm)) fun _ => .ite (fun hc => ?_) fun _ => .ok (.self .list m q h)
  simp only [Bool.and_eq_true, bne_iff_ne, ne_eq, decide_eq_true_eq] at hc
  exact null_spec I (.nil_of_lt hc.1 (ListM.den_bounded m) hc.2)

theorem replace_boost_spec (I : TreeInv W) (sc : Shape) (ih : ReplSpec W sc (replace sc)) :
    ReplSpec W (.boost sc) (replace (.boost sc)) := by
  intro m q hQ h
  have hc := I.boost_child h
  refine (ih m.child q hQ hc).bind ?_
  rintro ⟨c, r⟩ o
  refine rebuild_spec (mk := pure (mkBoost r m.boost)) (D := scale m.boost r.den) h (.ok ⟨I.boost_mk h o.inv, rfl⟩)
    (.cases (fun hq => by rw [o.eq0 hq]; rfl) fun hq => ?_)
  have hS := hQ.resolve_left hq
  have hb : Unit01 m.boost := (hS _ _ h).2
  exact keeps_scale_unscaled hb.1 hb.2 (I.asc hc) (I.asc o.inv) (hS.nn hc) o.keeps

theorem replace_const_spec (I : TreeInv W) (sc : Shape) (ih : ReplSpec W sc (replace sc)) :
    ReplSpec W (.const sc) (replace (.const sc)) := by
  intro m q _ h
  refine .ite (fun hc => ?_) fun _ => (ih m.child 0 (.inl rfl) (I.const_child h)).bind ?_
  · simp only [Bool.and_eq_true, bne_iff_ne, ne_eq, decide_eq_true_eq] at hc
    exact null_spec I (.nil_of_lt hc.1 (bounded_constScore _ _) hc.2)
  · rintro ⟨c, r⟩ o
    refine rebuild_spec (mk := pure (mkConst r m.score)) (D := constScore m.score r.den) h
      (.ok ⟨I.const_mk h o.inv, rfl⟩) (.of_eq ?_)
    rw [o.eq0 rfl]; rfl

theorem replace_filter_spec (I : TreeInv W) (sc : Shape) (ih : ReplSpec W sc (replace sc)) :
    ReplSpec W (.filter sc) (replace (.filter sc)) := by
  intro m q hQ h
  have hc := I.filter_child h
  refine (ih m.child q hQ hc).bind ?_
  rintro ⟨c, r⟩ o
  -- `_find_next` of the rebuilt filter only moves the new child
  obtain ⟨c', g1, g2, g3, g4, -⟩ := Filter.findNext_spec (I.faithful r.1) ⟨r.2, m.ids, m.exclude, m.boost⟩ o.inv
  refine rebuild_spec h (.intro _ ⟨bind_pure_ok g1 _, I.filter_mk h ⟨g2, g3⟩ rfl, congrArg (scale m.boost) g4⟩)
    (.cases (fun hq => ?_) fun hq => ?_)
  · show scale m.boost (keepIds m.ids m.exclude r.den) = _
    rw [o.eq0 hq]; rfl
  have hS := hQ.resolve_left hq
  have hu : Unit01 m.boost := (hS _ _ h).2
  exact keeps_scale_unscaled hu.1 hu.2 (asc_keepIds _ _ (I.asc hc)) (asc_keepIds _ _ (I.asc o.inv))
    (nonNeg_subset (keepIds_subset _ _ _) (hS.nn hc)) (keeps_keepIds _ _ (I.asc hc) (I.asc o.inv) o.keeps)

theorem replace_inverse_spec (I : TreeInv W) (sc : Shape) (ih : ReplSpec W sc (replace sc)) :
    ReplSpec W (.inverse sc) (replace (.inverse sc)) := by
  intro m q _ h
  refine (ih m.child 0 (.inl rfl) (I.inverse_child h)).bind ?_
  rintro ⟨c, r⟩ o
  obtain ⟨c', i', g1, g2, g3, g4, -⟩ :=
    Inverse.findNext_spec (I.faithful r.1) m.weight ⟨r.2, m.limit, m.missing, m.weight, m.id⟩ o.inv
  refine rebuild_spec h (.intro _ ⟨bind_pure_ok g1 _, I.inverse_mk h ⟨g2, g3⟩ rfl, g4⟩) (.of_eq ?_)
  show complement m.id m.limit m.missing r.den m.weight = _
  rw [o.eq0 rfl]; rfl

end WM.Matcher
