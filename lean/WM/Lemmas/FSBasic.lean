import WM.Lemmas.FSNames
/-! The abstract file system: well-formedness; recovery (`latestGen`, `readToc`, `readable`) as
iff-lemmas; what one storage event does to the directory, the name list and the inode data, stated
once for all events; what a crash does. -/
namespace WM.FS

structure WF (fs : FS) : Prop where
  support : ∀ n, (fs.dir n).isSome → n ∈ fs.names
  range : ∀ n i, fs.dir n = some i → i < fs.next
  inj : ∀ a b i, fs.dir a = some i → fs.dir b = some i → a = b

theorem Consistent.wf {ix : Name} {old : Toc} {fs : FS} (h : Consistent ix old fs) : WF fs :=
  ⟨h.support, h.range, h.inj⟩

theorem isComplete_iff (fs : FS) (n : Name) :
    fs.isComplete n = true ↔ ∃ i, fs.dir n = some i ∧ (fs.data i).st = .complete := by
  unfold FS.isComplete
  cases fs.dir n <;> simp

theorem isWriting_iff (fs : FS) (n : Name) :
    fs.isWriting n = true ↔ ∃ i, fs.dir n = some i ∧ (fs.data i).st = .writing := by
  unfold FS.isWriting
  cases fs.dir n <;> simp

theorem bound_of_isComplete {fs : FS} {n : Name} (h : fs.isComplete n = true) :
    (fs.dir n).isSome := by
  obtain ⟨i, hi, _⟩ := (isComplete_iff fs n).1 h
  rw [hi]; rfl

theorem mem_listing (fs : FS) (n : Name) : n ∈ fs.listing ↔ n ∈ fs.names ∧ (fs.dir n).isSome := by
  simp [FS.listing, FS.bound]

theorem mem_listing_wf {fs : FS} (h : WF fs) (n : Name) : n ∈ fs.listing ↔ (fs.dir n).isSome := by
  rw [mem_listing]; exact ⟨fun h => h.2, fun h' => ⟨h.support n h', h'⟩⟩

/-- one round of the loop of `TOC._latest_generation`: what `latestGenOf` folds over the listing -/
def genStep (ix : Name) (mx : Option Nat) (n : Name) : Option Nat :=
  match tocGen ix n, mx with
  | some g, some m => some (max g m)
  | some g, none => some g
  | none, mx => mx

theorem genStep_eq (ix : Name) (acc : Option Nat) (n : Name) :
    genStep ix acc n = max acc (tocGen ix n) := by
  unfold genStep
  cases tocGen ix n <;> cases acc <;>
    simp only [Option.max_none_left, Option.max_none_right, Option.max_some_some, Nat.max_comm]

theorem foldl_genStep (ix : Name) (ns : List Name) (acc : Option Nat) :
    ns.foldl (genStep ix) acc = max acc (ns.filterMap (tocGen ix)).max? := by
  induction ns generalizing acc with
  | nil => exact Option.max_none_right.symm
  | cons n ns ih =>
    rw [List.foldl_cons, ih, genStep_eq]
    cases hn : tocGen ix n with
    | none => rw [List.filterMap_cons_none hn, Option.max_none_right]
    | some g =>
      rw [List.filterMap_cons_some hn, List.max?_cons]
      cases acc <;> cases (ns.filterMap (tocGen ix)).max? <;>
        simp only [Option.max_none_left, Option.max_none_right, Option.max_some_some,
          Option.elim_none, Option.elim_some, Nat.max_assoc]

theorem latestGenOf_eq_some_iff (ix : Name) (ns : List Name) (g : Nat) :
    latestGenOf ix ns = some g ↔
      (∃ n ∈ ns, tocGen ix n = some g) ∧ ∀ n g', n ∈ ns → tocGen ix n = some g' → g' ≤ g := by
  show ns.foldl (genStep ix) none = some g ↔ _
  rw [foldl_genStep, Option.max_none_left, List.max?_eq_some_iff]
  simp only [List.mem_filterMap]
  exact and_congr_right fun _ =>
    ⟨fun h n g' hn hg' => h g' ⟨n, hn, hg'⟩, fun h g' ⟨n, hn, hg'⟩ => h n g' hn hg'⟩

/-- `g` is the largest generation among the bound TOC names -/
def IsLatest (ix : Name) (fs : FS) (g : Nat) : Prop :=
  (∃ n, (fs.dir n).isSome ∧ tocGen ix n = some g) ∧
  ∀ n g', (fs.dir n).isSome → tocGen ix n = some g' → g' ≤ g

theorem latestGen_eq_some_iff {ix : Name} {fs : FS} (h : WF fs) (g : Nat) :
    latestGen ix fs = some g ↔ IsLatest ix fs g := by
  simp only [latestGen, latestGenOf_eq_some_iff, mem_listing_wf h, IsLatest]

theorem readable_iff (fs : FS) (t : Toc) :
    readable fs t = true ↔ ∀ f ∈ t.files, fs.isComplete f = true := by
  simp [readable, List.all_eq_true]

theorem mem_toc_files {t : Toc} {s : SegRef} {f : Name} (hs : s ∈ t.segs) (hf : f ∈ s.files) :
    f ∈ t.files :=
  List.mem_flatMap.2 ⟨s, hs, hf⟩

theorem bound_of_readable {fs : FS} {t : Toc} (hr : readable fs t = true) :
    ∀ s ∈ t.segs, ∀ f ∈ s.files, (fs.dir f).isSome := fun _ hs f hf =>
  bound_of_isComplete ((readable_iff fs t).1 hr f (mem_toc_files hs hf))

theorem readToc_eq_ok_iff (ix : Name) (fs : FS) (t : Toc) :
    readToc ix fs = .ok t ↔ latestGen ix fs = some t.gen ∧
      ∃ i, fs.dir (tocName ix t.gen) = some i ∧ (fs.data i).st = .complete ∧
        (fs.data i).toc = some t := by
  refine ⟨?_, fun ⟨hg, i, hi, hst, ht⟩ => by simp [readToc, hg, hi, hst, ht]⟩
  -- the one leaf of `readToc` that answers `.ok _`, with the tests passed on the way
  fun_cases readToc ix fs <;> intro h <;> cases h
  next i _ hst ht hg hi => exact ⟨hg, i, hi, hst, ht⟩

/-- the name an event binds -/
def newName : Event → Option Name
  | .create n => some n
  | .rename _ b => some b
  | _ => none

/-- the name an event unbinds -/
def oldName : Event → Option Name
  | .delete n => some n
  | .rename a _ => some a
  | _ => none

/-- every `create` of the trace targets a name that is unbound at that moment (no in-place
    truncation of an existing file) -/
def freshCreates (fs : FS) : List Event → Bool
  | [] => true
  | e :: es =>
    (match e with
      | .create n => (fs.dir n).isNone
      | _ => true) && freshCreates (step fs e) es

/-- every `create` and every `rename` target of the trace is a name that was never bound before
    (segment ids are random, generations only grow, temp names carry a time stamp) -/
def freshNames (fs : FS) : List Event → Bool
  | [] => true
  | e :: es =>
    (match newName e with
      | some n => !(decide (n ∈ fs.names))
      | none => true) && freshNames (step fs e) es

theorem freshNames_cons {fs : FS} {e : Event} {es : List Event} :
    freshNames fs (e :: es) = true ↔
      (∀ n, newName e = some n → n ∉ fs.names) ∧ freshNames (step fs e) es = true := by
  rw [freshNames, Bool.and_eq_true]
  refine and_congr_left fun _ => ?_
  cases newName e <;> simp

theorem freshCreates_cons {fs : FS} {e : Event} {es : List Event} :
    freshCreates fs (e :: es) = true ↔
      (∀ n, e = .create n → fs.dir n = none) ∧ freshCreates (step fs e) es = true := by
  cases e with
  | create n =>
    simp only [freshCreates, Bool.and_eq_true, Option.isNone_iff_eq_none]
    exact and_congr_left' ⟨fun h m hm => by cases hm; exact h, fun h => h n rfl⟩
  | _ => simp [freshCreates]

def Touches (e : Event) (m : Name) : Prop := newName e = some m ∨ oldName e = some m

theorem setData_dir (fs : FS) (i : Nat) (d : FileData) : (setData fs i d).dir = fs.dir := rfl
theorem setData_names (fs : FS) (i : Nat) (d : FileData) : (setData fs i d).names = fs.names := rfl
theorem setData_next (fs : FS) (i : Nat) (d : FileData) : (setData fs i d).next = fs.next := rfl

theorem modData_frame (fs : FS) (n : Name) (f : FileData → FileData) :
    (modData fs n f).dir = fs.dir ∧ (modData fs n f).names = fs.names ∧
      (modData fs n f).next = fs.next := by
  unfold modData
  split
  · split <;> exact ⟨rfl, rfl, rfl⟩
  · exact ⟨rfl, rfl, rfl⟩

theorem modData_data (fs : FS) (n : Name) (f : FileData → FileData) (j : Nat)
    (hj : (fs.data j).st ≠ .writing) : (modData fs n f).data j = fs.data j := by
  unfold modData
  split
  · next i hi =>
    split
    · next hw =>
      have : j ≠ i := fun h => hj (h ▸ hw)
      exact if_neg this
    · rfl
  · rfl

theorem step_write (fs : FS) (n : Name) (k : Nat) :
    step fs (.write n k) = modData fs n fun d => { d with len := d.len + k } := rfl

theorem step_setToc (fs : FS) (n : Name) (t : Toc) :
    step fs (.setToc n t) = modData fs n fun d => { d with toc := some t } := rfl

theorem step_close (fs : FS) (n : Name) :
    step fs (.close n) = modData fs n fun d => { d with st := .complete } := rfl

theorem step_create_bound {fs : FS} {n : Name} {i : Nat} (h : fs.dir n = some i) :
    step fs (.create n) = setData fs i ⟨0, .writing, none⟩ := by
  simp only [step, h]

theorem step_create_unbound {fs : FS} {n : Name} (h : fs.dir n = none) :
    step fs (.create n) =
      { names := n :: fs.names
        dir := fun m => if m = n then some fs.next else fs.dir m
        data := fun j => if j = fs.next then ⟨0, .writing, none⟩ else fs.data j
        next := fs.next + 1 } := by
  simp only [step, h]

theorem step_rename_bound {fs : FS} {a : Name} {i : Nat} (h : fs.dir a = some i) (b : Name) :
    step fs (.rename a b) =
      { fs with names := b :: fs.names
                dir := fun m => if m = b then some i else if m = a then none else fs.dir m } := by
  simp only [step, h]

theorem step_rename_unbound {fs : FS} {a : Name} (h : fs.dir a = none) (b : Name) :
    step fs (.rename a b) = fs := by
  simp only [step, h]

theorem step_dir_cases (fs : FS) (e : Event) (m : Name) :
    (step fs e).dir m = fs.dir m ∨ (newName e = some m ∧ ((step fs e).dir m).isSome) ∨
      (oldName e = some m ∧ (step fs e).dir m = none) := by
  cases e with
  | create n =>
    cases hn : fs.dir n with
    | some i => rw [step_create_bound hn]; exact .inl rfl
    | none =>
      rw [step_create_unbound hn]
      by_cases hmn : m = n
      · exact .inr (.inl ⟨hmn ▸ rfl, by simp only [if_pos hmn]; rfl⟩)
      · exact .inl (if_neg hmn)
  | write n k => rw [step_write]; exact .inl (congrFun (modData_frame ..).1 m)
  | setToc n t => rw [step_setToc]; exact .inl (congrFun (modData_frame ..).1 m)
  | close n => rw [step_close]; exact .inl (congrFun (modData_frame ..).1 m)
  | rename a b =>
    cases ha : fs.dir a with
    | none => rw [step_rename_unbound ha]; exact .inl rfl
    | some i =>
      rw [step_rename_bound ha]
      by_cases hmb : m = b
      · exact .inr (.inl ⟨hmb ▸ rfl, by simp only [if_pos hmb]; rfl⟩)
      · by_cases hma : m = a
        · exact .inr (.inr ⟨hma ▸ rfl, by simp only [if_neg hmb, if_pos hma]⟩)
        · exact .inl (by simp only [if_neg hmb, if_neg hma])
  | delete n =>
    by_cases hmn : m = n
    · exact .inr (.inr ⟨hmn ▸ rfl, if_pos hmn⟩)
    · exact .inl (if_neg hmn)
  | other => exact .inl rfl

theorem step_dir_some (fs : FS) (e : Event) (m : Name) (j : Nat) (h : (step fs e).dir m = some j) :
    fs.dir m = some j ∨ newName e = some m := by
  rcases step_dir_cases fs e m with h1 | ⟨h1, _⟩ | ⟨_, h2⟩
  · exact .inl (h1 ▸ h)
  · exact .inr h1
  · rw [h2] at h; cases h

theorem step_dir_eq (fs : FS) (e : Event) (m : Name) (ht : ¬ Touches e m) :
    (step fs e).dir m = fs.dir m :=
  (step_dir_cases fs e m).resolve_right fun h => ht (h.elim (fun h => .inl h.1) fun h => .inr h.1)

theorem bound_step (fs : FS) (e : Event) (m : Name) (h : ((step fs e).dir m).isSome) :
    (fs.dir m).isSome ∨ newName e = some m := by
  obtain ⟨j, hj⟩ := Option.isSome_iff_exists.1 h
  exact (step_dir_some fs e m j hj).imp_left fun h' => by rw [h']; rfl

theorem step_names (fs : FS) (e : Event) :
    (step fs e).names = fs.names ∨ ∃ n, newName e = some n ∧ (step fs e).names = n :: fs.names := by
  cases e with
  | create n =>
    cases hn : fs.dir n with
    | some i => rw [step_create_bound hn]; exact .inl rfl
    | none => rw [step_create_unbound hn]; exact .inr ⟨n, rfl, rfl⟩
  | write n k => rw [step_write]; exact .inl (modData_frame ..).2.1
  | setToc n t => rw [step_setToc]; exact .inl (modData_frame ..).2.1
  | close n => rw [step_close]; exact .inl (modData_frame ..).2.1
  | rename a b =>
    cases ha : fs.dir a with
    | none => rw [step_rename_unbound ha]; exact .inl rfl
    | some i => rw [step_rename_bound ha]; exact .inr ⟨b, rfl, rfl⟩
  | delete n => exact .inl rfl
  | other => exact .inl rfl

theorem mem_names_step (fs : FS) (e : Event) (n : Name) (h : n ∈ fs.names) : n ∈ (step fs e).names := by
  rcases step_names fs e with h' | ⟨_, _, h'⟩ <;> rw [h']
  · exact h
  · exact List.mem_cons_of_mem _ h

theorem step_data_stable (fs : FS) (e : Event) (i : Nat) (hi : i < fs.next)
    (hs : (fs.data i).st ≠ .writing) (hc : ∀ n, e = .create n → fs.dir n = none) :
    (step fs e).data i = fs.data i ∧ fs.next ≤ (step fs e).next := by
  cases e with
  | create n =>
    rw [step_create_unbound (hc n rfl)]
    exact ⟨if_neg (Nat.ne_of_lt hi), Nat.le_succ _⟩
  | write n k => rw [step_write]; exact ⟨modData_data fs n _ i hs, Nat.le_of_eq (modData_frame ..).2.2.symm⟩
  | setToc n t => rw [step_setToc]; exact ⟨modData_data fs n _ i hs, Nat.le_of_eq (modData_frame ..).2.2.symm⟩
  | close n => rw [step_close]; exact ⟨modData_data fs n _ i hs, Nat.le_of_eq (modData_frame ..).2.2.symm⟩
  | rename a b =>
    cases ha : fs.dir a with
    | none => rw [step_rename_unbound ha]; exact ⟨rfl, Nat.le_refl _⟩
    | some j => rw [step_rename_bound ha]; exact ⟨rfl, Nat.le_refl _⟩
  | delete n => exact ⟨rfl, Nat.le_refl _⟩
  | other => exact ⟨rfl, Nat.le_refl _⟩

theorem step_frame {fs : FS} (hwf : WF fs) (e : Event) (m : Name) (j : Nat)
    (hd : fs.dir m = some j) (hs : (fs.data j).st ≠ .writing) (ht : ¬ Touches e m)
    (hc : ∀ n, e = .create n → fs.dir n = none) :
    (step fs e).dir m = some j ∧ (step fs e).data j = fs.data j :=
  ⟨(step_dir_eq fs e m ht).trans hd, (step_data_stable fs e j (hwf.range m j hd) hs hc).1⟩

theorem isComplete_step {fs : FS} (hwf : WF fs) (e : Event) (m : Name)
    (hm : fs.isComplete m = true) (ht : ¬ Touches e m)
    (hc : ∀ n, e = .create n → fs.dir n = none) : (step fs e).isComplete m = true := by
  rw [isComplete_iff] at *
  obtain ⟨j, hj, hst⟩ := hm
  obtain ⟨h1, h2⟩ := step_frame hwf e m j hj (by rw [hst]; decide) ht hc
  exact ⟨j, h1, by rw [h2]; exact hst⟩

theorem WF.mono {fs fs' : FS} (h : WF fs) (hd : ∀ m j, fs'.dir m = some j → fs.dir m = some j)
    (hn : ∀ m, m ∈ fs.names → m ∈ fs'.names) (hx : fs.next ≤ fs'.next) : WF fs' where
  support m hm := by
    obtain ⟨j, hj⟩ := Option.isSome_iff_exists.1 hm
    exact hn m (h.support m (by rw [hd m j hj]; rfl))
  range m j hm := Nat.lt_of_lt_of_le (h.range m j (hd m j hm)) hx
  inj a b i ha hb := h.inj a b i (hd a i ha) (hd b i hb)

theorem WF.unbind {fs : FS} (h : WF fs) (n : Name) :
    WF { fs with dir := fun m => if m = n then none else fs.dir m } :=
  h.mono (fun m j hm => by
    by_cases hmn : m = n
    · simp [hmn] at hm
    · simpa [hmn] using hm) (fun _ hm => hm) (Nat.le_refl _)

theorem WF.bind {fs : FS} (h : WF fs) (n : Name) (i nx : Nat) (d : Nat → FileData)
    (hi : ∀ m, fs.dir m ≠ some i) (hlt : i < nx) (hnx : fs.next ≤ nx) :
    WF { names := n :: fs.names, dir := fun m => if m = n then some i else fs.dir m,
         data := d, next := nx } where
  support m hm := by
    by_cases hmn : m = n
    · simp [hmn]
    · exact List.mem_cons_of_mem _ (h.support m (by simpa [hmn] using hm))
  range m j hm := by
    by_cases hmn : m = n
    · have : i = j := by simpa [hmn] using hm
      exact this ▸ hlt
    · exact Nat.lt_of_lt_of_le (h.range m j (by simpa [hmn] using hm)) hnx
  inj a b j ha hb := by
    simp only at ha hb
    by_cases han : a = n <;> by_cases hbn : b = n
    · rw [han, hbn]
    · rw [if_pos han] at ha; rw [if_neg hbn] at hb
      exact absurd (Option.some.inj ha ▸ hb) (hi b)
    · rw [if_neg han] at ha; rw [if_pos hbn] at hb
      exact absurd (Option.some.inj hb ▸ ha) (hi a)
    · rw [if_neg han] at ha; rw [if_neg hbn] at hb
      exact h.inj a b j ha hb

theorem step_wf {fs : FS} (hwf : WF fs) (e : Event) : WF (step fs e) := by
  have hdata : ∀ n f, WF (modData fs n f) := fun n f =>
    have h := modData_frame fs n f
    hwf.mono (fun m j hm => by rwa [h.1] at hm) (fun m hm => by rwa [h.2.1])
      (Nat.le_of_eq h.2.2.symm)
  cases e with
  | create n =>
    cases hn : fs.dir n with
    | some i =>
      rw [step_create_bound hn]
      exact hwf.mono (fun _ _ hm => hm) (fun _ hm => hm) (Nat.le_refl _)
    | none =>
      rw [step_create_unbound hn]
      exact hwf.bind n fs.next (fs.next + 1) _
        (fun m hm => Nat.lt_irrefl _ (hwf.range m _ hm)) (Nat.lt_succ_self _) (Nat.le_succ _)
  | write n k => rw [step_write]; exact hdata n _
  | setToc n t => rw [step_setToc]; exact hdata n _
  | close n => rw [step_close]; exact hdata n _
  | rename a b =>
    cases ha : fs.dir a with
    | none => rw [step_rename_unbound ha]; exact hwf
    | some i =>
      rw [step_rename_bound ha]
      refine (hwf.unbind a).bind b i fs.next fs.data (fun m hm => ?_) (hwf.range a i ha)
        (Nat.le_refl _)
      by_cases hma : m = a
      · simp [hma] at hm
      · exact hma (hwf.inj m a i (by simpa [hma] using hm) ha)
  | delete n => exact hwf.unbind n
  | other => exact hwf

theorem crash_dir (fs : FS) (τ : Nat → Nat) : (crash fs τ).dir = fs.dir := rfl

theorem crash_data_of_not_writing (fs : FS) (τ : Nat → Nat) (i : Nat)
    (h : (fs.data i).st ≠ .writing) : (crash fs τ).data i = fs.data i := by
  simp [crash, h]

theorem crash_noWriting (fs : FS) (τ : Nat → Nat) (i : Nat) : ((crash fs τ).data i).st ≠ .writing := by
  simp only [crash]
  split
  · simp
  · assumption

end WM.FS
