import WM.Lemmas.ParserTotal
/-! What the filters of the pipelines of `C16.total*` do to the kinds of nodes in a tree.  Each of them only
rearranges nodes or creates text, range and group nodes, so it keeps every `Stable` node predicate; and one
that has a marker kind `m` of its own *sweeps* it: if every node that is not an `m`-marker satisfies `q`,
every node of the result does.  A pipeline is followed by peeling one disjunct per filter off
`m₁ x || (m₂ x || (… || q x))`.

Here: the filters that keep every `Stable` predicate (groups, boosts, wildcards, field names, white
space, multifield). -/
namespace WM.Parser

mutual
  def Node.allNodes (p : Node → Bool) : Node → Bool
    | .group k ns b => p (.group k ns b) && allNodesL p ns
    | n => p n
  def allNodesL (p : Node → Bool) : List Node → Bool
    | [] => true
    | n :: ns => n.allNodes p && allNodesL p ns
end

theorem isGroup_iff {n : Node} : n.isGroup = true ↔ ∃ k ns b, n = .group k ns b := by
  cases n <;> simp [Node.isGroup]

theorem allNodesL_iff {q : Node → Bool} {l : List Node} :
    allNodesL q l = true ↔ ∀ n ∈ l, n.allNodes q = true := by
  induction l with
  | nil => simp [allNodesL]
  | cons a t ih => simp [allNodesL, ih]

theorem allNodes_group_iff {p : Node → Bool} {k : GK} {ns : List Node} {b : Rat} :
    (Node.group k ns b).allNodes p = true ↔ p (.group k ns b) = true ∧ ∀ n ∈ ns, n.allNodes p = true := by
  rw [Node.allNodes, Bool.and_eq_true, allNodesL_iff]

theorem allNodes_nongroup {q : Node → Bool} {n : Node} (h : n.isGroup = false) : n.allNodes q = q n := by
  cases n <;> first | rfl | cases h

theorem Node.allNodes_ind {p : Node → Bool} {P : ∀ n : Node, n.allNodes p = true → Prop}
    (leaf : ∀ n (hl : n.isGroup = false) (hp : p n = true), P n ((allNodes_nongroup hl).trans hp))
    (group : ∀ k ns b (hp : p (.group k ns b) = true) (hns : ∀ x ∈ ns, x.allNodes p = true),
      (∀ x hx, P x (hns x hx)) → P (.group k ns b) (allNodes_group_iff.2 ⟨hp, hns⟩))
    (n : Node) (h : n.allNodes p = true) : P n h := by
  induction n using Node.childrenInd with
  | leaf n hl => exact leaf n hl ((allNodes_nongroup hl).symm.trans h)
  | group k ns b ih =>
    have h := allNodes_group_iff.1 h
    exact group k ns b h.1 h.2 fun x hx => ih x hx _

theorem allNodes_self {p : Node → Bool} {n : Node} (h : n.allNodes p = true) : p n = true := by
  induction n, h using Node.allNodes_ind with
  | leaf _ _ hp => exact hp
  | group _ _ _ hp => exact hp

theorem allNodes_mono {p r : Node → Bool} (h : ∀ x, p x = true → r x = true) (n : Node) (hn : n.allNodes p = true) :
    n.allNodes r = true := by
  induction n, hn using Node.allNodes_ind with
  | leaf n hl hp => exact (allNodes_nongroup hl).trans (h n hp)
  | group k ns b hp _ ih => exact allNodes_group_iff.2 ⟨h _ hp, ih⟩

theorem allNodes_of_forall {p : Node → Bool} (h : ∀ x, p x = true) (n : Node) : n.allNodes p = true := by
  induction n using Node.childrenInd with
  | leaf n hl => exact (allNodes_nongroup hl).trans (h n)
  | group k ns b ih => exact allNodes_group_iff.2 ⟨h _, ih⟩

/-- node predicates that hold of every node a filter can create or modify -/
structure Stable (q : Node → Bool) : Prop where
  text : ∀ k t f b, q (.text k t f b) = true
  range : ∀ s e sx ex f, q (.range s e sx ex f) = true
  /-- on a group node `q` may only look at the group's class -/
  group : ∀ k ns b, q (.group k ns b) = q (.group k [] 1)

theorem Stable.allNodes_group {q : Node → Bool} (hq : Stable q) {k : GK} {ns ns' : List Node} {b b' : Rat}
    (h : q (.group k ns b) = true) (hns : ∀ x ∈ ns', x.allNodes q = true) :
    (Node.group k ns' b').allNodes q = true :=
  allNodes_group_iff.2 ⟨by rw [hq.group] at h ⊢; exact h, hns⟩

/-- a marker kind may still be present: `m` is false of text, range and group nodes in every use -/
theorem Stable.or (m : Node → Bool) {q : Node → Bool} (hm : ∀ k ns b, m (.group k ns b) = m (.group k [] 1)) (hq : Stable q) :
    Stable (fun x => m x || q x) :=
  ⟨fun k t f b => by simp [hq.text], fun s e sx ex f => by simp [hq.range],
   fun k ns b => by show (m _ || q _) = (m _ || q _); rw [hm, hq.group]⟩

theorem rmWs_sweep {q : Node → Bool} (hq : Stable q) (n : Node) :
    n.isWs = false → n.allNodes (fun x => x.isWs || q x) = true → (rmWs n).allNodes q = true := by
  intro hw hn
  induction n, hn using Node.allNodes_ind with
  | leaf n hl hp =>
    rw [hw] at hp
    rw [rmWs_nongroup hl, allNodes_nongroup hl]; exact hp
  | group k ns b hp _ ih =>
    rw [rmWs_group]
    refine hq.allNodes_group hp (List.forall_mem_map.2 fun x hx => ?_)
    rw [List.mem_filter, Bool.not_eq_true'] at hx
    exact ih x hx.1 hx.2

theorem stable_notWs : Stable (fun x => !x.isWs) := ⟨fun _ _ _ _ => rfl, fun _ _ _ _ _ => rfl, fun _ _ _ => rfl⟩

theorem rmWs_pres {q : Node → Bool} (hq : Stable q) (n : Node) (hw : n.isWs = false) (h : n.allNodes q = true) :
    (rmWs n).allNodes q = true :=
  rmWs_sweep hq n hw (allNodes_mono (fun x hx => by simp [hx]) n h)

theorem rmWs_elim {n : Node} (hw : n.isWs = false) : (rmWs n).allNodes (fun x => !x.isWs) = true :=
  rmWs_sweep stable_notWs n hw (allNodes_of_forall (fun x => by simp) n)

def Node.isBst : Node → Bool
  | .bst .. => true
  | _ => false

theorem setBoost_pres {q : Node → Bool} (hq : Stable q) (b : Rat) (n : Node) (h : n.allNodes q = true) :
    (setBoost b n).allNodes q = true := by
  cases n with
  | text k t f b0 => exact hq.text ..
  | group k ns b0 =>
    rw [setBoost]
    split
    · exact hq.allNodes_group (allNodes_self h) (allNodes_group_iff.1 h).2
    · exact h
  | _ => exact h

theorem doBoostStep_pres {q : Node → Bool} (hq : Stable q) (acc : List Node) (n : Node)
    (ha : ∀ x ∈ acc, x.allNodes q = true) (hn : n.isBst = false → n.allNodes q = true) :
    ∀ x ∈ doBoostStep acc n, x.allNodes q = true := by
  unfold doBoostStep
  split
  · next o b =>
    split
    · next p hp =>
      split
      · exact forall_mem_snoc (fun x hx => ha x (List.dropLast_subset _ hx))
          (setBoost_pres hq b p (ha p (List.mem_of_getLast? hp)))
      · exact forall_mem_snoc ha (hq.text ..)
    · exact forall_mem_snoc ha (hq.text ..)
  · next hnb =>
    refine forall_mem_snoc ha (hn ?_)
    cases n <;> first | rfl | exact (hnb _ _ rfl).elim

theorem doBoost_nongroup {n : Node} (h : n.isGroup = false) : doBoost n = n := by
  rw [doBoost]
  rintro k ns b rfl; cases h

theorem doBoost_isGroup (n : Node) : (doBoost n).isGroup = n.isGroup := by
  cases hg : n.isGroup
  · rw [doBoost_nongroup hg]; exact hg
  · obtain ⟨k, ns, b, rfl⟩ := isGroup_iff.1 hg
    rw [doBoost]; rfl

theorem doBoost_sweep {q : Node → Bool} (hq : Stable q) (n : Node) :
    n.isBst = false → n.allNodes (fun x => x.isBst || q x) = true → (doBoost n).allNodes q = true := by
  intro hb hn
  induction n, hn using Node.allNodes_ind with
  | leaf n hl hp =>
    rw [hb] at hp
    rw [doBoost_nongroup hl, allNodes_nongroup hl]; exact hp
  | group k ns b hp _ ih =>
    rw [doBoost]
    refine hq.allNodes_group hp ?_
    refine List.foldlRecOn (motive := fun (acc : List Node) => ∀ x ∈ acc, x.allNodes q = true) ns _ nofun ?_
    intro acc ha x hx
    split
    · exact forall_mem_snoc ha (ih _ hx rfl)
    · next hng =>
      refine doBoostStep_pres hq acc x ha fun hb => ?_
      rw [← doBoost_nongroup (n := x) (by cases x <;> first | rfl | exact (hng _ _ _ rfl).elim)]
      exact ih x hx hb

theorem stable_notBst : Stable (fun x => !x.isBst) := ⟨fun _ _ _ _ => rfl, fun _ _ _ _ _ => rfl, fun _ _ _ => rfl⟩

theorem cleanBoostL_pres {q : Node → Bool} (hq : Stable q) (prev : Option Node) (ns : List Node)
    (h : ∀ x ∈ ns, x.allNodes q = true) : ∀ x ∈ cleanBoostL prev ns, x.allNodes q = true := by
  induction ns generalizing prev with
  | nil => intro x hx; cases hx
  | cons n rest ih =>
    rw [List.forall_mem_cons] at h
    simp only [cleanBoostL, List.forall_mem_cons]
    refine ⟨?_, ih _ h.2⟩
    split
    · split
      · exact hq.text ..
      · split
        · exact h.1
        · exact hq.text ..
    · exact h.1

theorem cleanBoost_isGroup (n : Node) : (cleanBoost n).isGroup = n.isGroup := by
  cases n <;> rfl

theorem cleanBoost_pres {q : Node → Bool} (hq : Stable q) (n : Node) (h : n.allNodes q = true) :
    (cleanBoost n).allNodes q = true := by
  cases n with
  | group k ns b => exact hq.allNodes_group (allNodes_self h) (cleanBoostL_pres hq none ns (allNodes_group_iff.1 h).2)
  | _ => exact h

theorem doGroupsLoop_pres {q : Node → Bool} (hq : Stable q) (gk : GK) (hgk : q (.group gk [] 1) = true)
    (ns cur : List Node) (below : List (List Node))
    (hns : ∀ n ∈ ns, n.isBracket = true ∨ n.allNodes q = true)
    (hcur : ∀ x ∈ cur, x.allNodes q = true) (hbelow : ∀ l ∈ below, ∀ x ∈ l, x.allNodes q = true) :
    ∀ l ∈ (doGroupsLoop gk ns cur below).1 :: (doGroupsLoop gk ns cur below).2, ∀ x ∈ l, x.allNodes q = true := by
  fun_induction doGroupsLoop gk ns cur below with
  | case1 => exact List.forall_mem_cons.2 ⟨hcur, hbelow⟩
  | case2 _ _ _ ih => exact ih (List.forall_mem_cons.1 hns).2 nofun (List.forall_mem_cons.2 ⟨hcur, hbelow⟩)
  | case3 _ _ ih => exact ih (List.forall_mem_cons.1 hns).2 hcur hbelow
  | case4 _ _ _ _ ih =>
    rw [List.forall_mem_cons] at hbelow
    exact ih (List.forall_mem_cons.1 hns).2 (forall_mem_snoc hbelow.1 (hq.allNodes_group hgk hcur)) hbelow.2
  | case5 n _ _ _ ho hc ih =>
    rw [List.forall_mem_cons] at hns
    refine ih hns.2 (forall_mem_snoc hcur (hns.1.resolve_left ?_)) hbelow
    cases n <;> first | exact Bool.false_ne_true | exact (ho rfl).elim | exact (hc rfl).elim

theorem doGroups_isGroup (gk : GK) (ns : List Node) : (doGroups gk ns).isGroup = true := by
  unfold doGroups; simp only; split <;> rfl

theorem doGroups_sweep {q : Node → Bool} (hq : Stable q) (gk : GK) (hgk : q (.group gk [] 1) = true)
    (ns : List Node) (hns : ∀ n ∈ ns, n.isBracket = true ∨ n.allNodes q = true) :
    (doGroups gk ns).allNodes q = true := by
  have := doGroupsLoop_pres hq gk hgk ns [] [] hns (fun _ h => nomatch h) (fun _ h => nomatch h)
  unfold doGroups
  generalize doGroupsLoop gk ns [] [] = r at this
  obtain ⟨cur, below⟩ := r
  have htop : ∀ x ∈ ((cur :: below).reverse).flatten, x.allNodes q = true := fun x hx => by
    obtain ⟨l, hl, hxl⟩ := List.mem_flatten.1 hx
    exact this l (List.mem_reverse.1 hl) x hxl
  simp only
  split
  · next k ns' b heq =>
    rw [heq] at htop
    have := htop _ (List.mem_singleton.2 rfl)
    exact hq.allNodes_group (allNodes_self this) (allNodes_group_iff.1 this).2
  · exact hq.allNodes_group hgk htop

theorem toPrefix_pres {q : Node → Bool} (hq : Stable q) (n : Node) (h : n.allNodes q = true) :
    (toPrefix n).allNodes q = true := by
  unfold toPrefix
  split
  · split
    · split <;> exact hq.text ..
    · exact h
  · exact h

theorem doWildcards_spec {q : Node → Bool} (hq : Stable q) (n : Node) :
    n.allNodes q = true → Yields (doWildcards n) fun r => r.isGroup = n.isGroup ∧ r.allNodes q = true := by
  intro hn
  induction n, hn using Node.allNodes_ind with
  | leaf n hl hp => rw [doWildcards_nongroup hl]; exact .ok ⟨rfl, (allNodes_nongroup hl).trans hp⟩
  | group k ns b hp _ ih =>
    rw [doWildcards_group_eq]
    exact .bind (.mapM fun x hx => (ih x hx).mono fun _ => And.right) fun ns1 h1 =>
      .bind (wildLoop_spec (P := fun x => x.allNodes q = true) hq.text ns1 0 h1) fun ns2 h2 =>
        .ok ⟨rfl, hq.allNodes_group hp (List.forall_mem_map.2 fun x hx => toPrefix_pres hq x (h2 x hx))⟩

theorem setFieldname_pres {q : Node → Bool} (hq : Stable q) (name : Str) (n : Node) :
    n.allNodes q = true → (setFieldname name false n).allNodes q = true := by
  intro hn
  induction n, hn using Node.allNodes_ind with
  | leaf n hl hp =>
    rw [setFieldname.eq_def]
    cases n <;> first | exact hp | exact hq.text .. | exact hq.range .. | cases hl
  | group k ns b hp _ ih =>
    rw [setFieldname]
    exact hq.allNodes_group hp (List.forall_mem_map.2 ih)

theorem fnToWord_pres {q : Node → Bool} (hq : Stable q) (n : Node) (h : n.isFname = true ∨ n.allNodes q = true) :
    (fnToWord n).allNodes q = true := by
  cases n with
  | fname => exact hq.text ..
  | _ => exact h.resolve_left Bool.false_ne_true

theorem fnRev_pres {q : Node → Bool} (hq : Stable q) (l : List Node)
    (h : ∀ y ∈ l, y.isFname = true ∨ y.allNodes q = true) : ∀ x ∈ fnRev l, x.allNodes q = true := by
  fun_induction fnRev l with
  | case1 => exact fun _ hx => nomatch hx
  | case2 node => exact List.forall_mem_singleton.2 (fnToWord_pres hq node (h node (List.mem_singleton.2 rfl)))
  | case3 node name o prevs hws ih =>
    rw [List.forall_mem_cons, List.forall_mem_cons] at h
    exact List.forall_mem_cons.2 ⟨setFieldname_pres hq name _ (fnToWord_pres hq node h.1), ih h.2.2⟩
  | case4 node _ _ _ _ ih | case5 node _ _ _ ih =>
    rw [List.forall_mem_cons] at h
    exact List.forall_mem_cons.2 ⟨fnToWord_pres hq node h.1, ih h.2⟩

theorem fnStage1_pres {q : Node → Bool} (hq : Stable q) (c : Cfg) (prev : Option Str) (l : List Node)
    (h : ∀ y ∈ l, y.isFname = true ∨ y.allNodes q = true) :
    ∀ y ∈ fnStage1 c prev l, y.isFname = true ∨ y.allNodes q = true := by
  fun_induction fnStage1 c prev l with
  | case1 o => exact List.forall_mem_singleton.2 (Or.inr (hq.text ..))
  | case2 => exact h
  | case3 prev rest name o _ _ ih => exact ih (List.forall_mem_cons.1 h).2
  | case4 rest o k t f b _ _ ih =>
    exact List.forall_mem_cons.2 ⟨Or.inr (hq.text ..), ih (List.forall_mem_cons.1 h).2⟩
  | case5 n rest _ o _ hnt ih =>
    rw [List.forall_mem_cons] at h
    split
    · exact (hnt _ _ _ _ rfl).elim
    · exact List.forall_mem_cons.2 ⟨Or.inr (hq.text ..), List.forall_mem_cons.2 ⟨h.1, ih h.2⟩⟩
  | case6 n rest _ _ ih =>
    rw [List.forall_mem_cons] at h
    exact List.forall_mem_cons.2 ⟨h.1, ih h.2⟩

/-- `do_fieldnames` sweeps field prefixes (a prefix that is the whole input stays) -/
theorem fieldsOut_sweep {q : Node → Bool} (hq : Stable q) (c : Cfg) (n : Node) :
    n.allNodes (fun x => x.isFname || q x) = true →
    (fieldsOut c n).isFname = true ∨ (fieldsOut c n).allNodes q = true := by
  intro hn
  induction n, hn using Node.allNodes_ind with
  | leaf n hl hp =>
    rw [Bool.or_eq_true] at hp
    rw [fieldsOut_nongroup c hl, allNodes_nongroup hl]; exact hp
  | group k ns b hp _ ih =>
    rw [fieldsOut_group]
    refine .inr (hq.allNodes_group hp fun y hy => fnRev_pres hq _ (fun z hz => ?_) y (List.mem_reverse.1 hy))
    have hall : ∀ w ∈ ns.map (fieldsOut c), w.isFname = true ∨ w.allNodes q = true := List.forall_mem_map.2 ih
    rw [List.mem_reverse] at hz
    unfold stage1 at hz
    split at hz
    · exact fnStage1_pres hq c none _ hall z hz
    · exact hall z hz

theorem doMultifield_group (c : Cfg) (k : GK) (ns : List Node) (b : Rat) :
    doMultifield c (.group k ns b) = .group k (ns.map (doMultifield c)) b := by rw [doMultifield]

theorem doMultifield_pres {q : Node → Bool} (hq : Stable q) (c : Cfg) (hmf : q (.group c.mfGroup [] 1) = true)
    (n : Node) : n.allNodes q = true → (doMultifield c n).allNodes q = true := by
  intro hn
  induction n, hn using Node.allNodes_ind with
  | leaf n hl hp =>
    have hn := (allNodes_nongroup hl).trans hp
    rw [doMultifield]
    · split
      · exact hq.allNodes_group hmf
          (List.forall_mem_map.2 fun _ _ => setBoost_pres hq _ _ (setFieldname_pres hq _ _ hn))
      · exact hn
    · rintro k ns b rfl; cases hl
  | group k ns b hp _ ih =>
    rw [doMultifield_group]
    exact hq.allNodes_group hp (List.forall_mem_map.2 ih)

end WM.Parser
