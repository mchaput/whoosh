import WM.Lemmas.SearchCursorBuild
import WM.Lemmas.SearchIndex
import WM.Model.SearchTop
/-!
`Term.matcher` on the top searcher of a multi-segment index (`topTerm`) is the matcher family's `multi` node
(`mkMulti_spec`) over the sub-readers that have the term.  Its result list is the concatenation of the
per-segment posting lists shifted by the offsets, i.e. what the segment-by-segment run enumerates.
-/
namespace WM.Compile
open WM.Search
open WM.Matcher (WF Multi IdSub)

theorem listSt_eq (l : PL) : listSt l = listM l := rfl

def gpost (ls : LeafScore) (f : String) (t : Term) : Nat → Index → PL
  | _, [] => []
  | off, s :: rest => shift off (postings ls s f t) ++ gpost ls f t (off + s.size) rest

theorem full_eq_den_listM (l : PL) : WM.Matcher.full .list (listM l) = WM.Matcher.den .list (listM l) := rfl

theorem gpost_sorted (ls : LeafScore) (f : String) (t : Term) : ∀ (idx : Index) (off : Nat),
    Sorted (gpost ls f t off idx) ∧ ∀ e ∈ gpost ls f t off idx, off ≤ e.id
  | [], _ => ⟨sorted_nil, nofun⟩
  | s :: rest, off =>
    have ih := gpost_sorted ls f t rest (off + s.size)
    sorted_shift_append (postings_sorted ls s f t) canon_id_lt ih.1 ih.2

/-- what the `MultiMatcher` enumerates, and what its constructor asks of the sub-matchers: each is a fresh list
    matcher (remaining = complete list) over the postings of a segment that has the term -/
theorem topSegs_spec (ls : LeafScore) (f : String) (t : Term) (off : Nat) (idx : Index) :
    toPL (Multi.denOf (WM.Matcher.den .list) (topSegs ls f t off idx)) = gpost ls f t off idx ∧
    Multi.denOf (WM.Matcher.full .list) (topSegs ls f t off idx) =
      Multi.denOf (WM.Matcher.den .list) (topSegs ls f t off idx) ∧
    ∀ x ∈ topSegs ls f t off idx, WF .list x.1 ∧ IdSub (WM.Matcher.den .list x.1) (WM.Matcher.full .list x.1) := by
  fun_induction topSegs ls f t off idx with
  | case1 => exact ⟨rfl, rfl, nofun⟩
  | case2 off s rest _ ih =>
    obtain ⟨ih1, ih2, ih3⟩ := ih
    refine ⟨?_, by rw [Multi.denOf, ih2]; rfl, List.forall_mem_cons.mpr
      ⟨⟨(denotes_listOf (postings_sorted ls s f t)).1, IdSub.refl _⟩, ih3⟩⟩
    rw [Multi.denOf, toPL_append, toPL_shift, ih1]
    exact congrArg (shift off · ++ _) (den_listOf _)
  | case3 off s rest h ih =>
    rw [gpost, postings_nil_of_not_lexicon ls s f t (by simpa using h)]
    exact ih

theorem runFrom_term (ls : LeafScore) (so : ShapeOracle) (ctx : Ctx) (f : String) (t : Term) (b : Rat) :
    ∀ (idx : Index) (off : Nat), runFrom ls so ctx (.term f t b) off idx = boostL b (gpost ls f t off idx)
  | [], _ => rfl
  | s :: rest, off => by
    simp only [runFrom, gpost, compile, runFrom_term ls so ctx f t b rest (off + s.size)]
    simp [boostL, shift, List.map_map, Function.comp_def]

theorem topTerm_denotes (ls : LeafScore) (so : ShapeOracle) (ctx : Ctx) (idx : Index) (f : String) (t : Term)
    (b : Rat) : Denotes (topTerm ls idx f t b) (run ls so ctx (.term f t b) idx) := by
  obtain ⟨h1, h2, hw⟩ := topSegs_spec ls f t 0 idx
  rw [run, runFrom_term, ← h1]
  unfold topTerm
  split
  next hnil => rw [hnil]; exact denotes_null
  · refine denotes_boostM b ?_
    have hasc : WM.Matcher.Asc (Multi.denOf (WM.Matcher.full .list) (topSegs ls f t 0 idx)) :=
      h2 ▸ sorted_toPL.mp (h1 ▸ (gpost_sorted ls f t idx 0).1)
    obtain ⟨g1, g2⟩ := WM.Matcher.mkMulti_spec .list (topSegs ls f t 0 idx)
      (fun s hs => (hw s hs).1) (fun s hs => (hw s hs).2) hasc
    exact ⟨g1, congrArg toPL g2⟩

end WM.Compile
