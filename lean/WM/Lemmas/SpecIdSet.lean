import WM.Spec.IdSet
import WM.Lemmas.Basics
/-! Facts about the specification-level sets (strictly ascending lists). -/
namespace WM.Spec.IdSet

theorem sorted_nil : Sorted [] := List.Pairwise.nil

/-- As a `simp` rule it checks a literal list in one pass. -/
theorem sorted_cons_cons {a b : Nat} {t : List Nat} :
    Sorted (a :: b :: t) ↔ a < b ∧ Sorted (b :: t) := by
  unfold Sorted
  rw [List.pairwise_cons]
  constructor
  · intro h; exact ⟨h.1 b (List.mem_cons_self ..), h.2⟩
  · intro h
    refine ⟨fun x hx => ?_, h.2⟩
    rcases List.mem_cons.mp hx with rfl | hx
    · exact h.1
    · exact Nat.lt_trans h.1 (List.rel_of_pairwise_cons h.2 hx)

theorem sorted_bounds {l : List Nat} {mn mx : Nat} (hs : Sorted l) (hmn : l.head? = some mn)
    (hmx : l.getLast? = some mx) : ∀ x ∈ l, mn ≤ x ∧ x ≤ mx := by
  intro x hx
  constructor
  · obtain ⟨t, rfl⟩ := List.head?_eq_some_iff.mp hmn
    rcases List.mem_cons.mp hx with rfl | hx
    · exact Nat.le_refl _
    · exact Nat.le_of_lt (List.rel_of_pairwise_cons hs hx)
  · obtain ⟨u, rfl⟩ := List.getLast?_eq_some_iff.mp hmx
    rcases List.mem_append.mp hx with hx | hx
    · exact Nat.le_of_lt ((List.pairwise_append.mp hs).2.2 x hx mx (List.mem_singleton_self _))
    · rw [List.mem_singleton.mp hx]; exact Nat.le_refl _

theorem sorted_ext {a b : List Nat} (ha : Sorted a) (hb : Sorted b) (h : ∀ x, x ∈ a ↔ x ∈ b) : a = b :=
  pairwise_ext Nat.lt_asymm ha hb h

theorem mem_insert {i x : Nat} {s : List Nat} : x ∈ insert i s ↔ x = i ∨ x ∈ s := by
  fun_induction insert i s with
  | case1 => simp
  | case2 y ys h => simp
  | case3 ys h => simp
  | case4 y ys h1 h2 ih => rw [List.mem_cons, ih, List.mem_cons, or_left_comm]

theorem sorted_insert {i : Nat} {s : List Nat} (h : Sorted s) : Sorted (insert i s) := by
  fun_induction insert i s with
  | case1 => exact List.pairwise_singleton ..
  | case2 y ys hlt => exact sorted_cons_cons.mpr ⟨hlt, h⟩
  | case3 ys _ => exact h
  | case4 y ys h1 h2 ih =>
    have ⟨hy, hys⟩ := List.pairwise_cons.mp h
    exact List.pairwise_cons.mpr ⟨fun z hz => (mem_insert.mp hz).elim (fun e => by omega) (hy z), ih hys⟩

/-! Insertion where the list is split (`SortedIntSet` bisects): it passes the members below `i`, and then meets
the end, a larger member, or `i` itself. -/

theorem insert_append_of_lt {i : Nat} {b : List Nat} : ∀ {a : List Nat}, (∀ x ∈ a, x < i) →
    insert i (a ++ b) = a ++ insert i b
  | [], _ => rfl
  | y :: ys, h => by
    have := h y (List.mem_cons_self ..)
    rw [List.cons_append, insert, if_neg (Nat.lt_asymm this), if_neg (Nat.ne_of_gt this),
      insert_append_of_lt fun x hx => h x (List.mem_cons_of_mem _ hx)]
    rfl

theorem insert_cons_of_lt {i y : Nat} {t : List Nat} (h : i < y) : insert i (y :: t) = i :: y :: t := by
  rw [insert, if_pos h]

theorem insert_cons_self {i : Nat} {t : List Nat} : insert i (i :: t) = i :: t := by
  rw [insert, if_neg (Nat.lt_irrefl i), if_pos rfl]

theorem split_of_mem {i : Nat} {l : List Nat} (hs : Sorted l) (h : i ∈ l) :
    ∃ a b, l = a ++ i :: b ∧ (∀ x ∈ a, x < i) ∧ ∀ x ∈ b, i < x := by
  obtain ⟨a, b, rfl⟩ := List.append_of_mem h
  have ⟨_, hb, ha⟩ := List.pairwise_append.mp hs
  exact ⟨a, b, rfl, fun x hx => ha x hx i (List.mem_cons_self ..), fun x => List.rel_of_pairwise_cons hb⟩

theorem insert_of_mem {i : Nat} {s : List Nat} (hs : Sorted s) (hm : i ∈ s) : insert i s = s := by
  obtain ⟨a, b, rfl, ha, -⟩ := split_of_mem hs hm
  rw [insert_append_of_lt ha, insert_cons_self]

theorem mem_union {x : Nat} {a : List Nat} : ∀ {b : List Nat}, x ∈ union a b ↔ x ∈ a ∨ x ∈ b
  | [] => by simp [union]
  | y :: ys => by
    have ih := mem_union (x := x) (a := a) (b := ys)
    simp only [union, List.foldr_cons] at ih ⊢
    rw [mem_insert, ih, List.mem_cons, or_left_comm]

theorem sorted_union {a : List Nat} (ha : Sorted a) : ∀ {b : List Nat}, Sorted (union a b)
  | [] => ha
  | y :: ys => by
    have ih := sorted_union ha (b := ys)
    simp only [union, List.foldr_cons] at ih ⊢
    exact sorted_insert ih

/-! `ofList l` is `union [] l`. -/

theorem mem_ofList {x : Nat} {l : List Nat} : x ∈ ofList l ↔ x ∈ l :=
  (mem_union (a := [])).trans (or_iff_right List.not_mem_nil)

theorem sorted_ofList {l : List Nat} : Sorted (ofList l) := sorted_union sorted_nil

theorem ofList_sorted {l : List Nat} (h : Sorted l) : ofList l = l :=
  sorted_ext sorted_ofList h fun _ => mem_ofList

theorem foldl_insert_eq_union (l : List Nat) {s : List Nat} (hs : Sorted s) :
    l.foldl (fun a n => insert n a) s = union s l := by
  rw [← List.foldr_reverse]
  show union s l.reverse = union s l
  exact sorted_ext (sorted_union hs) (sorted_union hs) fun x => by rw [mem_union, mem_union, List.mem_reverse]

theorem mem_erase {x i : Nat} {s : List Nat} : x ∈ erase i s ↔ x ∈ s ∧ x ≠ i := by
  simp [erase]

theorem erase_of_not_mem {i : Nat} {s : List Nat} (h : i ∉ s) : erase i s = s :=
  List.filter_eq_self.mpr fun x hx => by simpa using fun (e : x = i) => h (e ▸ hx)

theorem erase_append_cons {i : Nat} {a b : List Nat} (ha : i ∉ a) (hb : i ∉ b) :
    erase i (a ++ i :: b) = a ++ b := by
  unfold erase
  rw [List.filter_append, List.filter_cons, if_neg (by simp), ← erase, ← erase, erase_of_not_mem ha,
    erase_of_not_mem hb]

theorem sorted_erase {i : Nat} {s : List Nat} (h : Sorted s) : Sorted (erase i s) :=
  List.Pairwise.filter _ h

theorem mem_inter {x : Nat} {a b : List Nat} : x ∈ inter a b ↔ x ∈ a ∧ x ∈ b := by
  simp [inter]

theorem sorted_inter {a b : List Nat} (h : Sorted a) : Sorted (inter a b) :=
  List.Pairwise.filter _ h

theorem mem_diff {x : Nat} {a b : List Nat} : x ∈ diff a b ↔ x ∈ a ∧ x ∉ b := by
  simp [diff]

theorem sorted_diff {a b : List Nat} (h : Sorted a) : Sorted (diff a b) :=
  List.Pairwise.filter _ h

theorem foldl_erase_eq_diff : ∀ (l s : List Nat), l.foldl (fun a n => erase n a) s = diff s l
  | [], s => (List.filter_eq_self.mpr fun _ _ => rfl).symm
  | n :: t, s => by
    rw [List.foldl_cons, foldl_erase_eq_diff t, diff, erase, List.filter_filter]
    exact List.filter_congr fun x _ => by rw [List.contains_cons, Bool.not_or]; exact Bool.and_comm ..

/-- `for n in self: if not p(n): self.discard(n)`, run over a snapshot of the set itself, keeps the `p`: a loop
    that skips the `p` is the loop over the others. -/
theorem foldl_erase_unless_self (p : Nat → Bool) (s : List Nat) :
    s.foldl (fun a n => if p n then a else erase n a) s = s.filter p := by
  have e : (fun a n => if p n then a else erase n a) = fun a n => if (!p n) = true then erase n a else a := by
    funext a n; cases p n <;> rfl
  rw [e, ← List.foldl_filter, foldl_erase_eq_diff]
  exact List.filter_congr fun x hx => by cases h : p x <;> simp [hx, h]

theorem mem_invert {x n : Nat} {a : List Nat} : x ∈ invert n a ↔ x < n ∧ x ∉ a := by
  simp [invert]

theorem sorted_invert {n : Nat} {a : List Nat} : Sorted (invert n a) :=
  List.Pairwise.filter _ List.pairwise_lt_range

theorem mem_toggle {x k : Nat} {a : List Nat} :
    x ∈ (if k ∈ a then erase k a else insert k a) ↔ if x = k then x ∉ a else x ∈ a := by
  by_cases hx : x = k
  · subst hx
    by_cases h : x ∈ a <;> simp [h, mem_erase, mem_insert]
  · by_cases h : k ∈ a <;> simp [h, hx, mem_erase, mem_insert]

/-- A loop that toggles `0, …, n - 1` in turn (the generic `DocIdSet.invert_update`) complements the set below `n`
    and leaves the members from `n` on alone. -/
theorem mem_foldl_toggle {x : Nat} {s : List Nat} : ∀ {n : Nat},
    x ∈ (List.range n).foldl (fun a k => if k ∈ a then erase k a else insert k a) s ↔
      if x < n then x ∉ s else x ∈ s
  | 0 => by rw [if_neg (Nat.not_lt_zero x)]; rfl
  | n + 1 => by
    rw [List.range_succ, List.foldl_append, List.foldl_cons, List.foldl_nil, mem_toggle, mem_foldl_toggle (n := n)]
    rcases Nat.lt_trichotomy x n with h | rfl | h
    · rw [if_neg (Nat.ne_of_lt h), if_pos h, if_pos (Nat.lt_succ_of_lt h)]
    · rw [if_pos rfl, if_neg (Nat.lt_irrefl x), if_pos (Nat.lt_succ_self x)]
    · rw [if_neg (Nat.ne_of_gt h), if_neg (Nat.lt_asymm h), if_neg (Nat.not_lt.mpr h)]

/-! Complement and single elements (`ReverseIdSet` wraps the complement of what it shows). -/

theorem invert_erase {l n : Nat} {s : List Nat} (hn : n < l) :
    invert l (erase n s) = insert n (invert l s) :=
  sorted_ext sorted_invert (sorted_insert sorted_invert) fun x => by
    rw [mem_insert, mem_invert, mem_invert, mem_erase]
    by_cases hx : x = n
    · subst hx; simp [hn]
    · simp [hx]

theorem invert_erase_of_le {l n : Nat} {s : List Nat} (hn : l ≤ n) : invert l (erase n s) = invert l s :=
  sorted_ext sorted_invert sorted_invert fun x => by
    rw [mem_invert, mem_invert, mem_erase]
    by_cases hx : x = n
    · subst hx; simp [Nat.not_lt.mpr hn]
    · simp [hx]

theorem invert_insert {l n : Nat} {s : List Nat} : invert l (insert n s) = erase n (invert l s) :=
  sorted_ext sorted_invert (sorted_erase sorted_invert) fun x => by
    rw [mem_erase, mem_invert, mem_invert, mem_insert]
    by_cases hx : x = n <;> simp [hx]

theorem find?_ge_of_mem {i : Nat} {l : List Nat} (hs : Sorted l) (h : i ∈ l) :
    l.find? (fun x => decide (i ≤ x)) = some i := by
  obtain ⟨a, b, rfl, ha, -⟩ := split_of_mem hs h
  rw [List.find?_append, List.find?_eq_none.mpr fun x hx => by simpa using ha x hx, Option.none_or,
    List.find?_cons, decide_eq_true (Nat.le_refl i)]

theorem getLast?_filter_lt_succ_of_mem {i : Nat} {l : List Nat} (hs : Sorted l) (h : i ∈ l) :
    (l.filter fun x => decide (x < i + 1)).getLast? = some i := by
  obtain ⟨a, b, rfl, -, hb⟩ := split_of_mem hs h
  rw [List.filter_append, List.filter_cons, decide_eq_true (Nat.lt_succ_self i), if_pos rfl,
    (List.filter_eq_nil_iff (l := b)).mpr fun x hx => by rw [decide_eq_true_eq]; exact Nat.not_lt.mpr (hb x hx),
    List.getLast?_concat]

theorem getLast?_filter_eq_none {q : Nat → Bool} {l : List Nat} :
    (l.filter q).getLast? = none ↔ ∀ x ∈ l, q x = false := by
  rw [List.getLast?_eq_none_iff, List.filter_eq_nil_iff]
  simp

end WM.Spec.IdSet
