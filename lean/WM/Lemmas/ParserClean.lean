import WM.Lemmas.ParserKinds
import WM.Lemmas.ParserDescent
/-! The two filters that build binary groups, `do_operators` and `do_plusminus`, sweep their markers
into any `GStable` predicate (one that accepts a binary group with at most two operands), and with
that the pipelines end in a `clean` tree. -/
namespace WM.Parser

def defaultOp : Node → Bool
  | .op t g la _ => la && defaultOps.any (fun o => o.t == t && o.g == g)
  | _ => false

/-- a binary group has at most two operands (`hasBoost` is False exactly for `BinaryGroup`s) -/
def binOK : Node → Bool
  | .group k ns _ => k.hasBoost || decide (ns.length ≤ 2)
  | _ => true

def noBin : Node → Bool
  | .group k _ _ => k.hasBoost
  | _ => true

/-- predicates that hold of every group the scans and `do_plusminus` build -/
def GStable (q : Node → Bool) : Prop :=
  ∀ k ns b, (k.hasBoost = true ∨ ns.length ≤ 2) → q (.group k ns b) = true

theorem GStable.or (m : Node → Bool) {q : Node → Bool} (hq : GStable q) : GStable (fun x => m x || q x) :=
  fun k ns b h => by simp [hq k ns b h]

theorem GStable.allNodes_group {q : Node → Bool} (hq : GStable q) {k : GK} {ns : List Node} (b : Rat)
    (hk : k.hasBoost = true ∨ ns.length ≤ 2) (hns : ∀ x ∈ ns, x.allNodes q = true) :
    (Node.group k ns b).allNodes q = true :=
  allNodes_group_iff.2 ⟨hq k ns b hk, hns⟩

theorem GStable.allNodes_pair {q : Node → Bool} (hq : GStable q) (g : GK) {a c : Node}
    (ha : a.allNodes q = true) (hc : c.allNodes q = true) : (Node.group g [a, c] 1).allNodes q = true :=
  hq.allNodes_group 1 (Or.inr (Nat.le_refl 2)) (List.forall_mem_cons.2 ⟨ha, List.forall_mem_singleton.2 hc⟩)

theorem GStable.allNodes_single {q : Node → Bool} (hq : GStable q) (g : GK) (y : Node) (hy : y.allNodes q = true) :
    (Node.group g [y] 1).allNodes q = true :=
  hq.allNodes_group 1 (Or.inr (by simp)) (List.forall_mem_singleton.2 hy)

theorem merging_hasBoost {g : GK} (h : g.merging = true) : g.hasBoost = true := by
  cases g <;> first | rfl | cases h

theorem combineL_pres {q : Node → Bool} (hq : GStable q) (g : GK) (left y : Node)
    (hl : left.allNodes q = true) (hy : y.allNodes q = true) : (combineL g left y).allNodes q = true := by
  obtain h | ⟨ns, b, hm, rfl, h⟩ := combineL_cases g left y <;> rw [h]
  · exact hq.allNodes_pair g hl hy
  · exact hq.allNodes_group b (Or.inl (merging_hasBoost hm)) (forall_mem_snoc (allNodes_group_iff.1 hl).2 hy)

theorem isGroup_notOpOf (o : OpCfg) {x : Node} (h : x.isGroup = true) : x.isOpOf o = false := by
  obtain ⟨k, ns, b, rfl⟩ := isGroup_iff.1 h; rfl

theorem passZ_noop (o : OpCfg) (done rest : List Node) :
    (∀ d ∈ done, d.isOpOf o = false) → ∀ x ∈ passZ o done rest, x.isOpOf o = false := by
  induction done, rest using passZ_induct o with
  | nil done => intro hd; rw [passZ_nil]; exact hd
  | skip done x rest hx ih => intro hd; rw [passZ_skip o done x rest hx]; exact ih (forall_mem_snoc hd hx)
  | pre done x y rest ht hx ih => intro hd; rw [passZ_pre o done x y rest ht hx]; exact ih (forall_mem_snoc hd rfl)
  | inf d left x y rest ht hx ih =>
    intro hd
    rw [passZ_inf o d left x y rest ht hx]
    exact ih (forall_mem_snoc (List.forall_mem_append.1 hd).1 (isGroup_notOpOf o (combineL_isGroup _ _ _)))
  | post d left x rest ht hx ih =>
    intro hd
    rw [passZ_post o d left x rest ht hx]
    exact ih (forall_mem_snoc (List.forall_mem_append.1 hd).1 rfl)
  | last done x ht hx => intro hd; rw [passZ_last o done x ht hx]; exact hd
  | first x rest ht hx ih => intro hd; rw [passZ_first o x rest ht hx]; exact ih hd

theorem passZ_length (o : OpCfg) (done rest : List Node) :
    (passZ o done rest).length ≤ done.length + rest.length := by
  induction done, rest using passZ_induct o with
  | nil done => rw [passZ_nil]; exact Nat.le_add_right ..
  | skip done x rest hx ih => rw [passZ_skip o done x rest hx]; exact Nat.le_trans ih (by simp +arith)
  | pre done x y rest ht hx ih => rw [passZ_pre o done x y rest ht hx]; exact Nat.le_trans ih (by simp +arith)
  | inf d left x y rest ht hx ih => rw [passZ_inf o d left x y rest ht hx]; exact Nat.le_trans ih (by simp +arith)
  | post d left x rest ht hx ih => rw [passZ_post o d left x rest ht hx]; exact Nat.le_trans ih (by simp +arith)
  | last done x ht hx => rw [passZ_last o done x ht hx]; exact Nat.le_add_right ..
  | first x rest ht hx ih => rw [passZ_first o x rest ht hx]; exact Nat.le_trans ih (by simp +arith)

theorem passesZ_pres {q : Node → Bool} (hq : GStable q) (ops : List OpCfg) (l : List Node)
    (h : ∀ x ∈ l, x.allNodes q = true) : ∀ x ∈ passesZ ops l, x.allNodes q = true := by
  induction ops generalizing l with
  | nil => exact h
  | cons o ops ih => exact ih _ (passZ_forall o (hq.allNodes_single _) (combineL_pres hq _) [] l nofun h)

theorem passesZ_length (ops : List OpCfg) (l : List Node) : (passesZ ops l).length ≤ l.length := by
  induction ops generalizing l with
  | nil => exact Nat.le_refl _
  | cons o ops ih =>
    have := passZ_length o [] l
    exact Nat.le_trans (ih (passZ o [] l)) (by simpa using this)

/-- later scans only add groups -/
theorem passesZ_keeps_noop (o : OpCfg) (ops : List OpCfg) (l : List Node) (h : ∀ x ∈ l, x.isOpOf o = false) :
    ∀ x ∈ passesZ ops l, x.isOpOf o = false := by
  induction ops generalizing l with
  | nil => exact h
  | cons o' ops ih =>
    exact ih _ (passZ_forall_of_group o' (fun _ => isGroup_notOpOf o) h)

theorem passesZ_noop (ops : List OpCfg) (l : List Node) :
    ∀ o ∈ ops, ∀ x ∈ passesZ ops l, x.isOpOf o = false := by
  induction ops generalizing l with
  | nil => intro o ho; cases ho
  | cons o' ops ih =>
    intro o ho
    rcases List.mem_cons.1 ho with rfl | ho
    · exact passesZ_keeps_noop o ops _ (passZ_noop o [] l (fun _ h => nomatch h))
    · exact ih _ o ho

theorem defaultOp_inv {x : Node} (h : defaultOp x = true) :
    ∃ t g txt, x = .op t g true txt ∧ ∃ o ∈ defaultOps, o.t = t ∧ o.g = g := by
  cases x with
  | op t g la txt =>
    simp only [defaultOp, Bool.and_eq_true, List.any_eq_true, beq_iff_eq] at h
    obtain ⟨rfl, o, ho, h1, h2⟩ := h
    exact ⟨t, g, txt, rfl, o, ho, h1, h2⟩
  | _ => cases h

theorem opsOut_sweep {q : Node → Bool} (hq : GStable q) (hqx : ∀ x, q x = true → x.isOp = false ∧ binOK x = true)
    (n : Node) : n.isOp = false → n.allNodes (fun x => defaultOp x || q x) = true →
    (opsOut defaultOps n).allNodes q = true := by
  intro h0 h1
  -- the descent goes into the members of the list the scans return
  fun_induction doOperators defaultOps n with
  | case1 k ns b e hp => exact nomatch hp ▸ opPasses_ok defaultOps ns
  | case2 k ns b ns1 hp ih =>
    rw [allNodes_group_iff] at h1
    have hla : ∀ x ∈ ns, x.laOK = true := fun x hx => by
      rcases Bool.or_eq_true_iff.1 (allNodes_self (h1.2 x hx)) with h | h
      · obtain ⟨t, g, txt, rfl, _⟩ := defaultOp_inv h; rfl
      · exact isOp_false_laOK (hqx x h).1
    obtain rfl := Except.ok.inj (hp.symm.trans (opPasses_eq_passesZ defaultOps (by decide) ns hla))
    have p1 := passesZ_pres (hq.or defaultOp) defaultOps ns h1.2
    rw [opsOut_group hp]
    refine hq.allNodes_group b ?_ (List.forall_mem_map.2 fun x hx => ih x hx ?_ (p1 x hx))
    · have hb : k.hasBoost = true ∨ ns.length ≤ 2 := by simpa [binOK] using (hqx _ h1.1).2
      refine hb.imp id (fun hb => ?_)
      rw [List.length_map]
      exact Nat.le_trans (passesZ_length defaultOps ns) hb
    · -- the scans have used up the default operators
      rcases Bool.or_eq_true_iff.1 (allNodes_self (p1 x hx)) with h | h
      · obtain ⟨t, g, txt, rfl, o, ho, h1, h2⟩ := defaultOp_inv h
        have := passesZ_noop defaultOps ns o ho _ hx
        simp [Node.isOpOf, h1, h2] at this
      · exact (hqx x h).1
  | case3 n hn =>
    have hg : n.isGroup = false := by cases n <;> first | rfl | exact (hn _ _ _ rfl).elim
    rw [opsOut, okOr_of_eq (doOperators_nongroup defaultOps hg)]
    rw [allNodes_nongroup hg] at h1 ⊢
    refine (Bool.or_eq_true_iff.1 h1).resolve_left (fun h => ?_)
    obtain ⟨t, g, txt, rfl, _⟩ := defaultOp_inv h
    cases h0

def Node.isPM : Node → Bool
  | .plus | .minus => true
  | _ => false

theorem plusMinusLoop_forall {P : Node → Prop} (l : List Node) (nx : PMNext) (req opt ban : List Node)
    (hl : ∀ n ∈ l, n.isPM = true ∨ P n)
    (h1 : ∀ x ∈ req, P x) (h2 : ∀ x ∈ opt, P x) (h3 : ∀ x ∈ ban, P x) :
    (∀ x ∈ (plusMinusLoop l nx req opt ban).1, P x) ∧
    (∀ x ∈ (plusMinusLoop l nx req opt ban).2.1, P x) ∧
    ∀ x ∈ (plusMinusLoop l nx req opt ban).2.2, P x := by
  have notPM : ∀ {n : Node}, (n = .plus → False) → (n = .minus → False) → n.isPM = true ∨ P n → P n := by
    intro n hp hm h
    refine h.resolve_left ?_
    cases n <;> first | exact Bool.false_ne_true | exact (hp rfl).elim | exact (hm rfl).elim
  fun_induction plusMinusLoop l nx req opt ban with
  | case1 => exact ⟨h1, h2, h3⟩
  | case2 _ _ _ _ _ ih | case3 _ _ _ _ _ ih => exact ih (List.forall_mem_cons.1 hl).2 h1 h2 h3
  | case4 n rest req opt ban hp hm ih =>
    rw [List.forall_mem_cons] at hl
    exact ih hl.2 h1 (forall_mem_snoc h2 (notPM hp hm hl.1)) h3
  | case5 n rest req opt ban hp hm ih =>
    rw [List.forall_mem_cons] at hl
    exact ih hl.2 (forall_mem_snoc h1 (notPM hp hm hl.1)) h2 h3
  | case6 n rest req opt ban hp hm ih =>
    rw [List.forall_mem_cons] at hl
    exact ih hl.2 h1 h2 (forall_mem_snoc h3 (notPM hp hm hl.1))

theorem doPlusMinus_nongroup {n : Node} (h : n.isGroup = false) : doPlusMinus n = n := by
  rw [doPlusMinus]
  rintro k ns b rfl; cases h

theorem doPlusMinus_sweep {q : Node → Bool} (hq : GStable q) (n : Node) :
    n.isPM = false → n.allNodes noBin = true → n.allNodes (fun x => x.isPM || q x) = true →
    (doPlusMinus n).allNodes q = true := by
  intro hpm hb hn
  induction n, hn using Node.allNodes_ind with
  | leaf n hl hp =>
    rw [hpm] at hp
    rw [doPlusMinus_nongroup hl, allNodes_nongroup hl]; exact hp
  | group k ns b _ _ ih =>
    rw [allNodes_group_iff] at hb
    have l := plusMinusLoop_forall (P := fun y => y.allNodes q = true) (ns.map doPlusMinus) .optional [] [] []
      (List.forall_mem_map.2 fun x hx => by
        cases hx' : x.isPM
        · exact .inr (ih x hx hx' (hb.2 x hx))
        · exact .inl (by rwa [doPlusMinus_nongroup (by cases x <;> first | rfl | cases hx')]))
      nofun nofun nofun
    rw [doPlusMinus]
    generalize plusMinusLoop (ns.map doPlusMinus) .optional [] [] [] = r at l
    obtain ⟨req, opt, ban⟩ := r
    have o := hq.allNodes_group b (Or.inl hb.1) l.2.1
    have r := hq.allNodes_group (k := .and) 1 (Or.inl rfl) l.1
    have n := hq.allNodes_group (k := .or) 1 (Or.inl rfl) l.2.2
    dsimp only
    cases req.isEmpty <;> cases ban.isEmpty
    · exact hq.allNodes_pair .andnot (hq.allNodes_pair .andmaybe r o) n
    · exact hq.allNodes_pair .andmaybe r o
    · exact hq.allNodes_pair .andnot o n
    · exact o

/-- nodes that have a `query()` of their own -/
def Node.hasQuery : Node → Bool
  | .text .. | .range .. | .every | .group .. => true
  | _ => false

/-- `clean`, node by node (`clean_eq_allNodes`) -/
def cleanAt (x : Node) : Bool := x.hasQuery && binOK x

/-- what the filters before `do_operators` / `do_plusminus` leave once their markers are swept -/
def plain (x : Node) : Bool := x.hasQuery && noBin x

theorem gstable_cleanAt : GStable cleanAt :=
  fun k ns b h => by simpa [cleanAt, Node.hasQuery, binOK] using h

theorem stable_plain : Stable plain := ⟨fun _ _ _ _ => rfl, fun _ _ _ _ _ => rfl, fun _ _ _ => rfl⟩

theorem clean_eq_allNodes (n : Node) : clean n = n.allNodes cleanAt := by
  induction n using Node.childrenInd with
  | leaf n h =>
    rw [allNodes_nongroup h, clean.eq_def]
    cases n <;> first | rfl | cases h
  | group k ns b ih =>
    rw [clean, Node.allNodes]
    congr 1
    induction ns with
    | nil => rfl
    | cons a t iht =>
      rw [List.map_cons, List.all_cons, allNodesL, id, ih a List.mem_cons_self,
        iht (fun x hx => ih x (List.mem_cons_of_mem _ hx))]

theorem binOK_of_noBin {x : Node} (h : noBin x = true) : binOK x = true := by
  cases x <;> first | rfl | simp_all [noBin, binOK]

theorem allNodes_or_cleanAt {m : Node → Bool} {n : Node} (h : n.allNodes (fun x => m x || plain x) = true) :
    n.allNodes (fun x => m x || cleanAt x) = true := by
  refine allNodes_mono (fun x hx => ?_) n h
  rw [Bool.or_eq_true, plain, Bool.and_eq_true] at hx
  rw [Bool.or_eq_true, cleanAt, Bool.and_eq_true]
  exact hx.imp id (fun h => ⟨h.1, binOK_of_noBin h.2⟩)

theorem opsOut_clean (n : Node) (hg : n.isGroup = true) (h : n.allNodes (fun x => defaultOp x || plain x) = true) :
    clean (opsOut defaultOps n) = true := by
  rw [clean_eq_allNodes]
  refine opsOut_sweep gstable_cleanAt (fun x hx => ?_) n ?_ (allNodes_or_cleanAt h)
  · rw [cleanAt, Bool.and_eq_true] at hx
    refine ⟨?_, hx.2⟩
    cases x <;> first | rfl | cases hx.1
  · obtain ⟨k, ns, b, rfl⟩ := isGroup_iff.1 hg; rfl

theorem doPlusMinus_clean (k : GK) (ns : List Node) (b : Rat)
    (h : (Node.group k ns b).allNodes (fun x => x.isPM || plain x) = true) :
    clean (doPlusMinus (.group k ns b)) = true := by
  rw [clean_eq_allNodes]
  refine doPlusMinus_sweep gstable_cleanAt _ rfl ?_ (allNodes_or_cleanAt h)
  refine allNodes_mono (fun x hx => ?_) _ h
  cases x with
  | group => exact (Bool.and_eq_true_iff.1 (show plain _ = true from hx)).2
  | _ => rfl

end WM.Parser
