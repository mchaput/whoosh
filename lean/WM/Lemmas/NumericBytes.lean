import WM.Model.Numeric
/-! Big-endian term bytes: length, round trip, lexicographic order = numeric order. -/
namespace WM.Numeric

theorem beBytes_length (w x : Nat) : (beBytes w x).length = w := by
  induction w with
  | zero => rfl
  | succ w ih => simp [beBytes, ih]

theorem beBytes_lt (w x : Nat) : ∀ b ∈ beBytes w x, b < 256 := by
  induction w with
  | zero => simp [beBytes]
  | succ w ih =>
    intro b hb
    simp only [beBytes, List.mem_cons] at hb
    rcases hb with rfl | hb
    · exact Nat.mod_lt _ (by decide)
    · exact ih b hb

theorem beValue_beBytes (w x : Nat) : beValue (beBytes w x) = x % 256 ^ w := by
  induction w with
  | zero => simp [beBytes, beValue, Nat.mod_one]
  | succ w ih =>
    simp only [beBytes, beValue, beBytes_length, ih]
    rw [Nat.mod_pow_succ]
    rw [Nat.mul_comm, Nat.add_comm]

theorem radix_lt_eq {B x y r s : Nat} (hr : r < B) (hs : s < B) :
    (x * B + r < y * B + s ↔ x < y ∨ x = y ∧ r < s) ∧ (x * B + r = y * B + s ↔ x = y ∧ r = s) := by
  have key : ∀ {u v : Nat}, u < v → u * B + B ≤ v * B := fun h =>
    Nat.succ_mul _ B ▸ Nat.mul_le_mul_right B h
  rcases Nat.lt_trichotomy x y with h | rfl | h
  · have := key h
    omega
  · omega
  · have := key h
    omega

theorem lex_step (a b ra rb P : Nat) (ha : ra < P) (hb : rb < P) :
    (ra + P * a ≤ rb + P * b) ↔ (a < b ∨ (a = b ∧ ra ≤ rb)) := by
  rw [← Nat.not_lt, Nat.add_comm, Nat.add_comm ra, Nat.mul_comm, Nat.mul_comm P, (radix_lt_eq hb ha).1]
  omega

theorem bytesLe_beBytes (w x y : Nat) :
    bytesLe (beBytes w x) (beBytes w y) = decide (x % 256 ^ w ≤ y % 256 ^ w) := by
  induction w with
  | zero => simp [beBytes, bytesLe, Nat.mod_one]
  | succ w ih =>
    have hP : 0 < 256 ^ w := Nat.pow_pos (by decide)
    rw [Nat.mod_pow_succ (b := 256) (x := x), Nat.mod_pow_succ (b := 256) (x := y), Bool.eq_iff_iff,
      decide_eq_true_iff, lex_step _ _ _ _ _ (Nat.mod_lt _ hP) (Nat.mod_lt _ hP)]
    simp only [beBytes, bytesLe, ih, Bool.or_eq_true, Bool.and_eq_true, decide_eq_true_eq, beq_iff_eq]

theorem beBytes_inj (w x y : Nat) (hx : x < 256 ^ w) (hy : y < 256 ^ w)
    (h : beBytes w x = beBytes w y) : x = y := by
  have := congrArg beValue h
  rwa [beValue_beBytes, beValue_beBytes, Nat.mod_eq_of_lt hx, Nat.mod_eq_of_lt hy] at this

theorem bytesLe_term (w s t x y : Nat) (hx : x < 256 ^ w) (hy : y < 256 ^ w) :
    bytesLe (s :: beBytes w x) (t :: beBytes w y) = true ↔ (s < t ∨ (s = t ∧ x ≤ y)) := by
  simp [bytesLe, bytesLe_beBytes, Nat.mod_eq_of_lt hx, Nat.mod_eq_of_lt hy]

theorem term_eq_iff (w s t x y : Nat) (hx : x < 256 ^ w) (hy : y < 256 ^ w) :
    (s :: beBytes w x) = (t :: beBytes w y) ↔ (s = t ∧ x = y) := by
  constructor
  · intro h
    injection h with h1 h2
    exact ⟨h1, beBytes_inj w x y hx hy h2⟩
  · rintro ⟨rfl, rfl⟩; rfl

/-- `Term([s] ++ a)`, built when the two bounds coincide (`c`), or else `TermRange([s] ++ a, [s] ++ b)`, selects
    the term `[t] ++ x` iff `t` is the level `s` and `x` lies between the bounds. -/
theorem selects_iff (c : Prop) [Decidable c] (w s t a b x : Nat) (hc : c → a = b)
    (ha : a < 256 ^ w) (hb : b < 256 ^ w) (hx : x < 256 ^ w) :
    (if c then Sub.term (s :: beBytes w a) else .range (s :: beBytes w a) (s :: beBytes w b)).selects
      (t :: beBytes w x) = true ↔ t = s ∧ a ≤ x ∧ x ≤ b := by
  by_cases h : c
  · obtain rfl := hc h
    rw [if_pos h, Sub.selects, beq_iff_eq, term_eq_iff w _ _ _ _ ha hx, ← Nat.le_antisymm_iff, eq_comm]
  · rw [if_neg h, Sub.selects, Bool.and_eq_true, bytesLe_term w _ _ _ _ ha hx, bytesLe_term w _ _ _ _ hx hb]
    constructor
    · rintro ⟨h1 | ⟨rfl, h1⟩, h2 | ⟨e, h2⟩⟩
      · exact absurd h2 (Nat.lt_asymm h1)
      · exact absurd h1 (e ▸ Nat.lt_irrefl _)
      · exact absurd h2 (Nat.lt_irrefl _)
      · exact ⟨rfl, h1, h2⟩
    · rintro ⟨rfl, h1, h2⟩
      exact ⟨.inr ⟨rfl, h1⟩, .inr ⟨rfl, h2⟩⟩

end WM.Numeric
