import WM.Model.ParserTag
import WM.Lemmas.Basics
/-!
Facts about the model of `QueryParser.tag()`: it returns (no exception) when every tagger moves the
cursor forward, the character ranges of the nodes it returns tile the query string, and every
node is either an interstitial `WordNode` or the answer of the first matching tagger at the place
where it stands.
-/
namespace WM.Parser

/-- consecutive non-empty character ranges from `a` to `b` -/
def Tiles : Nat → List Tagged → Nat → Prop
  | a, [], b => a = b
  | a, x :: rest, b => x.startchar = a ∧ x.startchar < x.endchar ∧ Tiles x.endchar rest b

theorem Tiles_append {a m b : Nat} {l r : List Tagged} (hl : Tiles a l m) (hr : Tiles m r b) :
    Tiles a (l ++ r) b := by
  induction l generalizing a with
  | nil => cases hl; exact hr
  | cons x t ih => exact ⟨hl.1, hl.2.1, ih hl.2.2⟩

theorem Tiles_single (x : Tagged) (h : x.startchar < x.endchar) : Tiles x.startchar [x] x.endchar :=
  ⟨rfl, h, rfl⟩

/-- where a node of the tagged list comes from -/
def FromTag (tgs : List Tagger) (text : List QChar) (x : Tagged) : Prop :=
  x = inter text x.startchar x.endchar ∨
  ∃ h, firstHit tgs text x.startchar = some h ∧ x = ⟨h.node, x.startchar, h.endchar⟩

/-- the tagger's matches end inside the string (true of every regular-expression match; a
    hypothesis only for the taggers that are not modelled) -/
def Tagger.Bounded (text : List QChar) : Tagger → Prop
  | .ext f => ∀ p h, f p = some h → h.endchar ≤ text.length
  | _ => True

/-- the tagger's matches are not empty -/
def Tagger.Forward : Tagger → Prop
  | .ext f => ∀ p h, f p = some h → p < h.endchar
  | .op lit .. => lit ≠ []
  | _ => True

theorem spaceRun_le (l : List QChar) : spaceRun l ≤ l.length := by
  induction l with
  | nil => exact Nat.le_refl 0
  | cons c t ih =>
    rw [spaceRun]
    split
    · rw [Nat.add_comm]; exact Nat.succ_le_succ ih
    · exact Nat.zero_le _

theorem codeAt_lt {text : List QChar} {i c : Nat} (h : codeAt text i = some c) : i < text.length :=
  Nat.lt_of_not_le fun hle => by rw [codeAt, List.getElem?_eq_none hle] at h; cases h

theorem spaceAt_lt {text : List QChar} {i : Nat} (h : spaceAt text i = true) : i < text.length :=
  Nat.lt_of_not_le fun hle => by rw [spaceAt, List.getElem?_eq_none hle] at h; cases h

/-- a match of a modelled tagger is not empty (of an operator: when its literal is not) and ends
    inside the string; for the other taggers this is what `Forward` and `Bounded` assume -/
theorem matchAt_span {text : List QChar} {pos : Nat} {t : Tagger} {h : TagHit}
    (hm : t.matchAt text pos = some h) :
    (t.Forward → pos < h.endchar) ∧ (t.Bounded text → h.endchar ≤ text.length) := by
  cases t with
  | opn | cls =>
    obtain ⟨hc, hh⟩ := Option.ite_none_right_eq_some.1 hm
    cases hh
    exact ⟨fun _ => Nat.lt_succ_self _, fun _ => codeAt_lt (eq_of_beq hc)⟩
  | ws =>
    obtain ⟨hc, hh⟩ := Option.ite_none_right_eq_some.1 hm
    cases hh
    have := spaceRun_le (text.drop pos)
    rw [List.length_drop] at this
    have hle : pos ≤ text.length := Nat.le_of_lt (Nat.lt_of_sub_pos (Nat.lt_of_lt_of_le hc this))
    exact ⟨fun _ => Nat.lt_add_of_pos_right hc,
      fun _ => Nat.add_comm _ _ ▸ Nat.add_le_of_le_sub hle this⟩
  | op lit a p t g la =>
    obtain ⟨hc, hh⟩ := Option.ite_none_right_eq_some.1 hm
    cases hh
    rw [Bool.and_eq_true] at hc
    exact ⟨fun hf => Nat.lt_add_of_pos_right (List.length_pos_iff.2 hf),
      fun _ => Nat.le_of_lt (spaceAt_lt hc.2)⟩
  | ext f => exact ⟨fun hf => hf pos h hm, fun hb => hb pos h hm⟩

theorem ws_hit {text : List QChar} {p : Nat} {h : TagHit} (hm : Tagger.ws.matchAt text p = some h) : h.node = .ws := by
  obtain ⟨_, hh⟩ := Option.ite_none_right_eq_some.1 hm
  cases hh
  rfl

theorem firstHit_mem {tgs : List Tagger} {text : List QChar} {pos : Nat} {h : TagHit}
    (hm : firstHit tgs text pos = some h) : ∃ t ∈ tgs, t.matchAt text pos = some h := by
  induction tgs with
  | nil => cases hm
  | cons t rest ih =>
    rw [firstHit] at hm
    split at hm
    · next h' he => cases hm; exact ⟨t, .head _, he⟩
    · obtain ⟨t', ht', he⟩ := ih hm
      exact ⟨t', .tail _ ht', he⟩

theorem inter_span (text : List QChar) (a b : Nat) : (inter text a b).startchar = a ∧ (inter text a b).endchar = b :=
  ⟨rfl, rfl⟩

/-- invariant of `tagLoop`: the nodes emitted so far tile `p0 .. p`, each an interstitial or a first hit -/
def Emitted (tgs : List Tagger) (text : List QChar) (p0 : Nat) (l : List Tagged) (p : Nat) : Prop :=
  Tiles p0 l p ∧ ∀ x ∈ l, FromTag tgs text x

theorem Emitted.snoc {tgs : List Tagger} {text : List QChar} {p0 : Nat} {l : List Tagged} {x : Tagged}
    (h : Emitted tgs text p0 l x.startchar) (hlt : x.startchar < x.endchar) (hx : FromTag tgs text x) :
    Emitted tgs text p0 (l ++ [x]) x.endchar := by
  refine ⟨Tiles_append h.1 (Tiles_single x hlt), fun y hy => ?_⟩
  rcases List.mem_append.1 hy with hy | hy
  · exact h.2 y hy
  · rw [List.mem_singleton.1 hy]; exact hx

theorem Emitted.inter {tgs : List Tagger} {text : List QChar} {p0 prev pos : Nat} {l : List Tagged}
    (h : Emitted tgs text p0 l prev) (hle : prev ≤ pos) :
    Emitted tgs text p0 (if prev < pos then l ++ [inter text prev pos] else l) pos := by
  split
  · next hlt => exact Emitted.snoc (x := WM.Parser.inter text prev pos) h hlt (.inl rfl)
  · next hge => rwa [Nat.le_antisymm (Nat.le_of_not_lt hge) hle]

theorem tagLoop_spec (tgs : List Tagger) (text : List QChar) (hb : ∀ t ∈ tgs, t.Bounded text)
    (pos prev : Nat) (stack out : List Tagged) (p0 : Nat)
    (hE : Emitted tgs text p0 stack prev) (hpp : prev ≤ pos) (hpl : prev ≤ text.length)
    (h : tagLoop tgs text pos prev stack = .ok out) : Emitted tgs text p0 out text.length := by
  fun_induction tagLoop tgs text pos prev stack with
  | case1 pos prev stack hlt hit hfh hle => cases h
  | case2 pos prev stack hlt hit hfh hgt stack1 ih =>
    obtain ⟨t, ht, hm⟩ := firstHit_mem hfh
    refine ih ?_ ?_ ((matchAt_span hm).2 (hb t ht)) h
    · exact Emitted.snoc (x := ⟨hit.node, pos, hit.endchar⟩) (hE.inter hpp) (Nat.lt_of_not_le hgt)
        (.inr ⟨hit, hfh, rfl⟩)
    · split
      · exact Nat.le_refl _
      · exact Nat.le_succ _
  | case3 pos prev stack hlt hfh ih => exact ih hE (Nat.le_succ_of_le hpp) hpl h
  | case4 pos prev stack hge => cases h; exact hE.inter hpl

theorem tagLoop_ok (tgs : List Tagger) (text : List QChar) (hf : ∀ t ∈ tgs, t.Forward)
    (pos prev : Nat) (stack : List Tagged) : ∃ out, tagLoop tgs text pos prev stack = .ok out := by
  fun_induction tagLoop tgs text pos prev stack with
  | case1 pos prev stack hlt hit hfh hle =>
    obtain ⟨t, ht, hm⟩ := firstHit_mem hfh
    exact absurd ((matchAt_span hm).1 (hf t ht)) (Nat.not_lt.2 hle)
  | case2 pos prev stack hlt hit hfh hgt stack1 ih => exact ih
  | case3 pos prev stack hlt hfh ih => exact ih
  | case4 pos prev stack hge => exact ⟨_, rfl⟩

theorem tagLoop_err (tgs : List Tagger) (text : List QChar) (pos prev : Nat) (stack : List Tagged) (e : Err)
    (h : tagLoop tgs text pos prev stack = .error e) : e = .other := by
  fun_induction tagLoop tgs text pos prev stack with
  | case1 pos prev stack hlt hit hfh hle => cases h; rfl
  | case2 pos prev stack hlt hit hfh hgt stack1 ih => exact ih h
  | case3 pos prev stack hlt hfh ih => exact ih h
  | case4 pos prev stack hge => cases h

/-- concatenation of the source ranges -/
def sourceOf (text : List QChar) : List Tagged → List QChar
  | [] => []
  | x :: rest => (text.drop x.startchar).take (x.endchar - x.startchar) ++ sourceOf text rest

theorem Tiles_source (text : List QChar) (a b : Nat) (l : List Tagged) (h : Tiles a l b) :
    a ≤ b ∧ sourceOf text l = (text.drop a).take (b - a) := by
  induction l generalizing a with
  | nil => cases h; exact ⟨Nat.le_refl _, by rw [Nat.sub_self]; rfl⟩
  | cons x t ih =>
    obtain ⟨rfl, h2, h3⟩ := h
    obtain ⟨hle, hsrc⟩ := ih _ h3
    exact ⟨Nat.le_trans (Nat.le_of_lt h2) hle,
      by rw [sourceOf, hsrc, take_drop_append text (Nat.le_of_lt h2) hle]⟩

end WM.Parser
