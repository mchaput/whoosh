import WM.Lemmas.ColumnsVar
import WM.Lemmas.Varint
/-! `RefBytesColumn`: buffered byte refs, the switch to ushorts when the table of uniques (default
included) gets its 257th entry, saturation beyond 65 535, the table of uniques. -/
namespace WM.Columns

/-- One dict lookup-or-insert (the step of `uniquesOf`). -/
def insertU (U : List Bytes) (v : Bytes) : List Bytes := if v ∈ U then U else U ++ [v]

/-- `uniquesOf` from any start table `U`: the induction over the adds carries the table grown so far. -/
def tableOf (U : List Bytes) (adds : List (Nat × Bytes)) : List Bytes :=
  adds.foldl (fun us p => insertU us p.2) U

theorem tableOf_eq_uniquesOf (default : Bytes) (adds : List (Nat × Bytes)) :
    tableOf [default] adds = uniquesOf default adds := rfl

theorem mem_insertU (U : List Bytes) (v : Bytes) : v ∈ insertU U v := by
  unfold insertU; split
  · assumption
  · exact List.mem_append_right _ (List.mem_singleton_self v)

theorem insertU_prefix (U : List Bytes) (v : Bytes) : ∃ X, insertU U v = U ++ X ∧ ∀ x ∈ X, x = v := by
  unfold insertU; split
  · exact ⟨[], (List.append_nil U).symm, fun _ h => nomatch h⟩
  · exact ⟨[v], rfl, fun _ h => List.mem_singleton.mp h⟩

theorem idxOf_insertU (U : List Bytes) (v : Bytes) : (insertU U v).idxOf v = U.idxOf v := by
  unfold insertU; split
  · rfl
  · rename_i h; simp [List.idxOf_append, h, List.idxOf_eq_length h]

theorem tableOf_prefix (U : List Bytes) (adds : List (Nat × Bytes)) :
    ∃ X, tableOf U adds = U ++ X ∧ ∀ x ∈ X, ∃ p ∈ adds, p.2 = x := by
  induction adds generalizing U with
  | nil => exact ⟨[], (List.append_nil U).symm, fun _ h => nomatch h⟩
  | cons p rest ih =>
    obtain ⟨Y, hY, hYm⟩ := insertU_prefix U p.2
    obtain ⟨X, hX, hXm⟩ := ih (insertU U p.2)
    refine ⟨Y ++ X, by rw [tableOf, List.foldl_cons, ← tableOf, hX, hY, List.append_assoc], fun x hx => ?_⟩
    rcases List.mem_append.mp hx with hx | hx
    · exact ⟨p, List.mem_cons_self, (hYm x hx).symm⟩
    · obtain ⟨q, hq, e⟩ := hXm x hx
      exact ⟨q, List.mem_cons_of_mem _ hq, e⟩

theorem idxOf_tableOf (U : List Bytes) (adds : List (Nat × Bytes)) (v : Bytes) (h : v ∈ U) :
    (tableOf U adds).idxOf v = U.idxOf v := by
  obtain ⟨X, hX, _⟩ := tableOf_prefix U adds
  rw [hX, List.idxOf_append, if_pos h]

theorem mem_tableOf (U : List Bytes) (adds : List (Nat × Bytes)) : ∀ p ∈ adds, p.2 ∈ tableOf U adds := by
  induction adds generalizing U with
  | nil => exact fun _ h => nomatch h
  | cons p rest ih =>
    intro q hq
    rcases List.mem_cons.mp hq with rfl | hq
    · obtain ⟨X, hX, _⟩ := tableOf_prefix (insertU U q.2) rest
      rw [tableOf, List.foldl_cons, ← tableOf, hX]
      exact List.mem_append_left _ (mem_insertU U q.2)
    · exact ih _ q hq

theorem forall_mem_tableOf {P : Bytes → Prop} (U : List Bytes) (adds : List (Nat × Bytes))
    (hU : ∀ u ∈ U, P u) (ha : ∀ p ∈ adds, P p.2) : ∀ u ∈ tableOf U adds, P u := by
  obtain ⟨X, hX, hXm⟩ := tableOf_prefix U adds
  rw [hX]
  refine List.forall_mem_append.2 ⟨hU, fun x hx => ?_⟩
  obtain ⟨p, hp, rfl⟩ := hXm x hx
  exact ha p hp

theorem satRef_small (r : Nat) (h : r ≤ 65535) : satRef r = r := if_neg (Nat.not_lt.mpr h)

theorem map_satRef_small (l : List Nat) (n : Nat) (h : ∀ r ∈ l, r < n) (hn : n ≤ 256) : l.map satRef = l :=
  (List.map_congr_left fun r hr => satRef_small r (by have := h r hr; omega)).trans (List.map_id l)

/-- One `add` in terms of `insertU` and `idxOf`, whether or not the value is new (`idxOf` is the length
    of the table for a value not in it); while the refs are buffered, the writer switches to ushorts
    exactly when the table outgrows 256 entries. -/
theorem insertU_step (U : List Bytes) (v : Bytes) :
    (if !(U.contains v) then U.length else U.idxOf v) = U.idxOf v ∧
      (if !(U.contains v) then U ++ [v] else U) = insertU U v ∧
      (U.length ≤ 256 →
        ((!(U.contains v) && decide (U.idxOf v ≥ 256)) = true ↔ 256 < (insertU U v).length)) := by
  by_cases hm : v ∈ U <;> simp [insertU, hm, List.idxOf_eq_length] <;> omega

theorem idxOf_lt_insertU (U : List Bytes) (v : Bytes) : U.idxOf v < (insertU U v).length := by
  rw [← idxOf_insertU]; exact List.idxOf_lt_length_iff.mpr (mem_insertU U v)

theorem length_le_insertU (U : List Bytes) (v : Bytes) : U.length ≤ (insertU U v).length := by
  obtain ⟨X, hX, _⟩ := insertU_prefix U v
  rw [hX, List.length_append]; exact Nat.le_add_right _ _

/-- The writer invariant: the unsaturated refs `R` laid down so far and the table `U`; the refs are
    buffered as bytes while the table has at most 256 entries and are on disk as saturated ushorts
    afterwards. -/
structure RefW.Inv (w : RefW) (R : List Nat) (U : List Bytes) : Prop where
  uniq : w.uniques = U
  refs : w.refs = some R ∧ w.out = [] ∧ U.length ≤ 256 ∨
    w.refs = none ∧ w.out = packArr 2 (R.map satRef) ∧ 256 < U.length
  bound : ∀ r ∈ R, r < U.length
  nonempty : 0 < U.length

theorem RefW.inv_init (default : Bytes) : (RefW.init default).Inv [] [default] :=
  ⟨rfl, .inl ⟨rfl, rfl, by simp⟩, (fun _ h => nomatch h), Nat.zero_lt_one⟩

theorem RefW.fill_inv (w : RefW) (R : List Nat) (U : List Bytes) (d : Nat) (h : w.Inv R U)
    (hcount : w.count = R.length) : (w.fill d).Inv (R ++ List.replicate (d - R.length) 0) U := by
  unfold RefW.fill
  by_cases hgt : d > w.count
  · have hb : ∀ r ∈ R ++ List.replicate (d - R.length) 0, r < U.length :=
      List.forall_mem_append.2 ⟨h.bound, fun r hr => (List.mem_replicate.mp hr).2 ▸ h.nonempty⟩
    rw [if_pos hgt, hcount]
    rcases h.refs with ⟨hrs, hout, hU⟩ | ⟨hrs, hout, hU⟩ <;> rw [hrs]
    · exact ⟨h.uniq, .inl ⟨rfl, hout, hU⟩, hb, h.nonempty⟩
    · refine ⟨h.uniq, .inr ⟨rfl, ?_, hU⟩, hb, h.nonempty⟩
      show w.out ++ _ = _
      rw [hout, List.map_append, packArr_append, List.map_replicate, packArr_eq_flatten _ (List.replicate _ _),
        List.map_replicate]; rfl
  · rw [if_neg hgt, Nat.sub_eq_zero_of_le (hcount ▸ Nat.le_of_not_lt hgt), List.replicate_zero,
      List.append_nil]
    exact h

theorem RefW.add_inv (w : RefW) (R : List Nat) (U : List Bytes) (d : Nat) (v : Bytes) (h : w.Inv R U)
    (hcount : w.count = R.length) :
    (w.add d v).Inv (R ++ List.replicate (d - R.length) 0 ++ [U.idxOf v]) (insertU U v) ∧
      (w.add d v).count = d + 1 := by
  obtain ⟨hu, hr, hb, _⟩ := w.fill_inv R U d h hcount
  generalize R ++ List.replicate (d - R.length) 0 = R' at hr hb ⊢
  have hne' := Nat.zero_lt_of_lt (idxOf_lt_insertU U v)
  have hb' : ∀ x ∈ R' ++ [U.idxOf v], x < (insertU U v).length :=
    forall_mem_snoc (fun x hx => Nat.lt_of_lt_of_le (hb x hx) (length_le_insertU U v)) (idxOf_lt_insertU U v)
  obtain ⟨href, huni, hsw⟩ := insertU_step U v
  have hpack : packArr 2 (R'.map satRef) ++ be 2 (satRef (U.idxOf v))
      = packArr 2 ((R' ++ [U.idxOf v]).map satRef) := by
    rw [List.map_append, packArr_append]; rfl
  simp only [RefW.add, hu, href, huni]
  rcases hr with ⟨hrs, hout, hU⟩ | ⟨hrs, hout, hU⟩ <;> simp only [hrs]
  · by_cases hlen : 256 < (insertU U v).length
    · -- the 257th entry of the table: the buffered refs go to disk as ushorts
      rw [if_pos ((hsw hU).mpr hlen)]
      refine ⟨⟨rfl, .inr ⟨rfl, ?_, hlen⟩, hb', hne'⟩, rfl⟩
      show (w.fill d).out ++ _ ++ _ = _
      rw [hout, List.nil_append, ← hpack, map_satRef_small _ _ hb hU]
    · rw [if_neg (mt (hsw hU).mp hlen)]
      exact ⟨⟨rfl, .inl ⟨rfl, hout, Nat.le_of_not_lt hlen⟩, hb', hne'⟩, rfl⟩
  · refine ⟨⟨rfl, .inr ⟨rfl, ?_, Nat.lt_of_lt_of_le hU (length_le_insertU U v)⟩, hb', hne'⟩, trivial⟩
    show (w.fill d).out ++ _ = _
    rw [hout, hpack]

/-- Every add's ref is the position of its value in the *final* table (the table only grows at the
    end). -/
theorem RefW.addAll_inv (adds : List (Nat × Bytes)) (w : RefW) (R : List Nat) (U : List Bytes)
    (h : w.Inv R U) (hcount : w.count = R.length) (hinc : Increasing adds)
    (hge : ∀ p ∈ adds, R.length ≤ p.1) :
    (adds.foldl (fun w p => w.add p.1 p.2) w).Inv
        (extendRows 0 R (adds.map fun p => (p.1, (tableOf U adds).idxOf p.2))) (tableOf U adds) ∧
      (adds.foldl (fun w p => w.add p.1 p.2) w).count
        = (extendRows 0 R (adds.map fun p => (p.1, (tableOf U adds).idxOf p.2))).length := by
  induction adds generalizing w R U with
  | nil => exact ⟨h, hcount⟩
  | cons p rest ih =>
    obtain ⟨d, v⟩ := p
    obtain ⟨hgt, hinc'⟩ := List.pairwise_cons.mp hinc
    have hd : R.length ≤ d := hge _ List.mem_cons_self
    obtain ⟨ha, hc⟩ := w.add_inv R U d v h hcount
    have hlen := length_pad_snoc 0 (U.idxOf v) R d hd
    have hidx : (tableOf (insertU U v) rest).idxOf v = U.idxOf v := by
      rw [idxOf_tableOf _ rest v (mem_insertU U v), idxOf_insertU]
    have := ih _ _ _ ha (hc.trans hlen.symm) hinc' (fun q hq => by rw [hlen]; exact hgt q hq)
    rw [List.foldl_cons, List.map_cons, extendRows, tableOf, List.foldl_cons, ← tableOf, hidx]
    exact this

theorem RefW.finish_inv (fixedlen : Nat) (w : RefW) (R : List Nat) (U : List Bytes) (doccount : Nat)
    (h : w.Inv R U) (hcount : w.count = R.length) :
    ∃ tc : TC, w.finish fixedlen doccount
        = packArr tc.size ((R ++ List.replicate (doccount - R.length) 0).map satRef)
            ++ writeUniques fixedlen U ++ [tc.code] ∧
      ∀ r ∈ R ++ List.replicate (doccount - R.length) 0, satRef r < 256 ^ tc.size := by
  have hf := w.fill_inv R U doccount h hcount
  simp only [RefW.finish, hf.uniq]
  rcases hf.refs with ⟨hrs, hout, hU⟩ | ⟨hrs, hout, hU⟩ <;> simp only [hrs]
  · refine ⟨.B, by rw [hout, List.nil_append, map_satRef_small _ _ hf.bound hU]; rfl, fun r hr' => ?_⟩
    have hr : r < 256 := Nat.lt_of_lt_of_le (hf.bound r hr') hU
    rw [satRef_small r (by omega)]
    exact hr
  · refine ⟨.H, by rw [hout]; rfl, fun r _ => ?_⟩
    show satRef r < 65536
    unfold satRef; split <;> omega

theorem readUniques_write (fixedlen : Nat) (U : List Bytes) (rest : Bytes)
    (hfl : fixedlen = 0 ∨ ∀ u ∈ U, u.length = fixedlen) :
    readUniques fixedlen U.length
      ((U.flatMap fun v => (if fixedlen = 0 then WM.Varint.encode v.length else []) ++ v) ++ rest)
      = some U := by
  induction U with
  | nil => rfl
  | cons u U ih =>
    have ih' := ih (hfl.imp_right fun h x hx => h x (List.mem_cons_of_mem _ hx))
    simp only [List.length_cons, readUniques, List.flatMap_cons, List.append_assoc]
    by_cases h0 : fixedlen = 0
    · simp only [h0, if_true] at ih' ⊢
      rw [WM.Varint.decode_encode]
      simp only
      rw [List.take_left, List.drop_left, ih']
      rfl
    · have hl : u.length = fixedlen := (hfl.resolve_left h0) u List.mem_cons_self
      simp only [h0, if_false, List.nil_append] at ih' ⊢
      rw [List.take_left' hl, List.drop_left' hl, ih']
      rfl

theorem refRead_layout (fixedlen : Nat) (tc : TC) (Rs : List Nat) (U : List Bytes) (doccount : Nat)
    (hlen : Rs.length = doccount) (hRs : ∀ r ∈ Rs, r < 256 ^ tc.size)
    (hfl : fixedlen = 0 ∨ ∀ u ∈ U, u.length = fixedlen)
    (d r : Nat) (u : Bytes) (hr : Rs[d]? = some r) (hu : U[r]? = some u) :
    refRead fixedlen (packArr tc.size Rs ++ writeUniques fixedlen U ++ [tc.code]) doccount d = .ok u := by
  have hdrop : (packArr tc.size Rs ++ writeUniques fixedlen U ++ [tc.code]).drop (doccount * tc.size)
      = writeUniques fixedlen U ++ [tc.code] := by
    rw [List.append_assoc]
    exact List.drop_left' (by rw [packArr_length, hlen, Nat.mul_comm])
  have hlast : (packArr tc.size Rs ++ writeUniques fixedlen U ++ [tc.code])[
      (packArr tc.size Rs ++ writeUniques fixedlen U ++ [tc.code]).length - 1]? = some tc.code := by
    rw [List.length_append, List.length_singleton, Nat.add_sub_cancel, List.getElem?_concat_length]
  simp only [refRead, refOpen, hlast, Option.bind_eq_bind, Option.bind_some, TC.ofCode_code', hdrop]
  rw [writeUniques, List.append_assoc, WM.Varint.decode_encode]
  simp only
  rw [readUniques_write fixedlen U [tc.code] hfl]
  simp only [refGet]
  rw [List.append_assoc, slice_packArr tc.size Rs _ d r hr, unbe_be _ _ (hRs r (List.mem_of_getElem? hr)), hu]

theorem refCell_of_table (default : Bytes) (adds : List (Nat × Bytes)) (d : Nat) :
    (uniquesOf default adds)[satRef (((lookup adds d).map (uniquesOf default adds).idxOf).getD 0)]?
      = some (refCell default adds d) := by
  obtain ⟨X, hX, _⟩ := tableOf_prefix [default] adds
  rw [tableOf_eq_uniquesOf] at hX
  have hU0 : (uniquesOf default adds)[0]? = some default := by rw [hX]; rfl
  unfold refCell refCellWith
  cases hl : lookup adds d with
  | none => exact hU0
  | some v =>
    have hvU : v ∈ uniquesOf default adds :=
      tableOf_eq_uniquesOf default adds ▸ mem_tableOf [default] adds _ (lookup_mem hl)
    simp only [Option.map_some, Option.getD_some, satRef]
    split
    · exact hU0
    · have hlt := List.idxOf_lt_length_iff.mpr hvU
      rw [List.getElem?_eq_getElem hlt, List.getElem_idxOf hlt]

end WM.Columns
