import WM.Model.MatcherMulti
import WM.Model.MatcherCombo
import WM.Lemmas.Den
/-! List-level facts for the list operators that one class uses alone.  `Multi.denOf` (defined in the model file): the lists
of the segments of a `MultiMatcher`, shifted, one after the other.  The array matchers of combo.py: unions of many lists
(`sumDens`), the part of a list below `doccount` (`below`), the documents held in the score buffer (`bufDen`, defined in the
model file); `All2` relates the sub-matcher lists before and after a pass over them. -/
namespace WM.Matcher

namespace Multi
variable {α : Type}

theorem denOf_append (d : α → Den) (l₁ l₂ : List (α × Nat)) : denOf d (l₁ ++ l₂) = denOf d l₁ ++ denOf d l₂ := by
  induction l₁ with
  | nil => rfl
  | cons s ss ih => simp [denOf, ih]

theorem mem_denOf {d : α → Den} {l : List (α × Nat)} {p : Nat × Rat} :
    p ∈ denOf d l ↔ ∃ s ∈ l, p ∈ shift s.2 (d s.1) := by
  induction l with
  | nil => simp [denOf]
  | cons s ss ih => simp only [denOf, List.mem_append, ih, List.mem_cons, exists_eq_or_imp]

theorem denOf_idSub {d f : α → Den} {l : List (α × Nat)} (h : ∀ s ∈ l, IdSub (d s.1) (f s.1)) :
    IdSub (denOf d l) (denOf f l) := fun p hp => by
  obtain ⟨s, hs, hp⟩ := mem_denOf.1 hp
  obtain ⟨r, hr⟩ := (h s hs).shift p hp
  exact ⟨r, mem_denOf.2 ⟨s, hs, hr⟩⟩

theorem asc_denOf {d f : α → Den} {l : List (α × Nat)} (hd : ∀ s ∈ l, Asc (d s.1)) (h : ∀ s ∈ l, IdSub (d s.1) (f s.1))
    (hf : Asc (denOf f l)) : Asc (denOf d l) := by
  induction l with
  | nil => exact List.Pairwise.nil
  | cons s ss ih =>
    have hs' : ∀ s' ∈ ss, IdSub (d s'.1) (f s'.1) := fun s' hs' => h s' (List.mem_cons_of_mem _ hs')
    obtain ⟨-, f2, f3⟩ := asc_append.1 hf
    refine asc_append.2 ⟨asc_shift _ (hd s List.mem_cons_self), ih (fun s' hs' => hd s' (List.mem_cons_of_mem _ hs')) hs' f2, ?_⟩
    intro a ha b hb
    obtain ⟨ra, hra⟩ := (h s List.mem_cons_self).shift a ha
    obtain ⟨rb, hrb⟩ := denOf_idSub hs' b hb
    exact f3 (a.1, ra) hra (b.1, rb) hrb

theorem denOf_drop_sublist (d : α → Den) (l : List (α × Nat)) (n : Nat) : (denOf d (l.drop n)).Sublist (denOf d l) := by
  conv => rhs; rw [← List.take_append_drop n l, denOf_append]
  exact List.sublist_append_right _ _

theorem denOf_set {f : α → Den} {l : List (α × Nat)} {n : Nat} {s : α × Nat} {c : α}
    (hs : l[n]? = some s) (hf : f c = f s.1) : denOf f (l.set n (c, s.2)) = denOf f l := by
  conv => rhs; rw [← List.take_append_drop n l, drop_of_get hs]
  rw [List.set_eq_take_append_cons_drop, if_pos (List.getElem?_eq_some_iff.1 hs).1, denOf_append, denOf_append, denOf,
    denOf, hf]

end Multi

-- position by position: how a loop over all sub-matchers (`drainAll`, `skipAll`, `resetAll`) relates the list it is given to
-- the list it returns
inductive All2 {α : Type} (R : α → α → Prop) : List α → List α → Prop
  | nil : All2 R [] []
  | cons {a b : α} {l l' : List α} : R a b → All2 R l l' → All2 R (a :: l) (b :: l')

theorem All2.mem_right {α : Type} {R : α → α → Prop} {l l' : List α} (h : All2 R l l') {b : α} (hb : b ∈ l') :
    ∃ a ∈ l, R a b := by
  induction h with
  | nil => cases hb
  | cons hr _ ih =>
    rcases List.mem_cons.1 hb with rfl | hb
    · exact ⟨_, List.mem_cons_self, hr⟩
    · obtain ⟨a, ha, hr'⟩ := ih hb
      exact ⟨a, List.mem_cons_of_mem _ ha, hr'⟩

theorem All2.map_eq {α β : Type} {R : α → α → Prop} {l l' : List α} (h : All2 R l l') (f g : α → β)
    (hfg : ∀ a b, R a b → f a = g b) : l.map f = l'.map g := by
  induction h with
  | nil => rfl
  | cons hr _ ih => simp [hfg _ _ hr, ih]

theorem All2.trans {α : Type} {R S T : α → α → Prop} (hT : ∀ a b c, R a b → S b c → T a c) {l₁ l₂ l₃ : List α}
    (h₁ : All2 R l₁ l₂) (h₂ : All2 S l₂ l₃) : All2 T l₁ l₃ := by
  induction h₁ generalizing l₃ with
  | nil => cases h₂; exact All2.nil
  | cons hr _ ih =>
    cases h₂ with
    | cons hs h₂' => exact All2.cons (hT _ _ _ hr hs) (ih h₂')


/-- pointwise meaning of `sumDens` -/
def sumAt : List Den → Nat → Option Rat
  | [], _ => none
  | D :: Ds, d => optUnion (· + ·) (lookup D d) (sumAt Ds d)

theorem asc_sumDens : ∀ {Ds : List Den}, (∀ D ∈ Ds, Asc D) → Asc (sumDens Ds)
  | [], _ => List.Pairwise.nil
  | D :: _, h =>
    asc_unionWith _ (h D List.mem_cons_self) (asc_sumDens fun D' hD' => h D' (List.mem_cons_of_mem _ hD'))

theorem forall_sumDens {P : Nat × Rat → Prop} (hadd : ∀ x s t, P (x, s) → P (x, t) → P (x, s + t)) :
    ∀ {Ds : List Den}, (∀ D ∈ Ds, ∀ p ∈ D, P p) → ∀ p ∈ sumDens Ds, P p
  | [], _ => fun _ hp => nomatch hp
  | D :: _, h =>
    forall_unionWith _ (h D List.mem_cons_self) (forall_sumDens hadd fun D' hD' => h D' (List.mem_cons_of_mem _ hD'))
      (fun _ h => h) (fun _ h => h) hadd

theorem lookup_sumDens : ∀ {Ds : List Den}, (∀ D ∈ Ds, Asc D) → ∀ d, lookup (sumDens Ds) d = sumAt Ds d
  | [], _, _ => rfl
  | D :: Ds, h, d => by
    have h' : ∀ D' ∈ Ds, Asc D' := fun D' hD' => h D' (List.mem_cons_of_mem _ hD')
    show lookup (unionWith (· + ·) D (sumDens Ds)) d = _
    rw [lookup_unionWith _ (h D List.mem_cons_self) (asc_sumDens h'), lookup_sumDens h' d]
    rfl

theorem optUnion_getD (a b : Option Rat) : (optUnion (· + ·) a b).getD 0 = a.getD 0 + b.getD 0 := by
  cases a <;> cases b <;> simp [optUnion] <;> grind

theorem sumAt_congr {Ds Es : List Den} {d : Nat} (hl : Ds.length = Es.length)
    (h : ∀ i (h1 : i < Ds.length) (h2 : i < Es.length), lookup Ds[i] d = lookup Es[i] d) : sumAt Ds d = sumAt Es d := by
  induction Ds generalizing Es with
  | nil =>
    cases Es with
    | nil => rfl
    | cons _ _ => simp at hl
  | cons D Ds ih =>
    cases Es with
    | nil => simp at hl
    | cons E Es =>
      simp only [sumAt]
      have h0 := h 0 (by simp) (by simp)
      simp only [List.getElem_cons_zero] at h0
      rw [h0, ih (by simpa using hl) (fun i h1 h2 => by
        have := h (i + 1) (by simp; omega) (by simp; omega)
        simpa using this)]

theorem sumAt_map_congr {α : Type} (l : List α) (f g : α → Den) (d : Nat) (h : ∀ s ∈ l, lookup (f s) d = lookup (g s) d) :
    sumAt (l.map f) d = sumAt (l.map g) d := by
  induction l with
  | nil => rfl
  | cons s ss ih =>
    simp only [List.map_cons, sumAt]
    rw [h s List.mem_cons_self, ih fun s' hs' => h s' (List.mem_cons_of_mem _ hs')]

theorem sumAt_none {Ds : List Den} {d : Nat} (h : ∀ D ∈ Ds, lookup D d = none) : sumAt Ds d = none := by
  induction Ds with
  | nil => rfl
  | cons D Ds ih =>
    simp only [sumAt]
    rw [h D List.mem_cons_self, ih fun D' hD' => h D' (List.mem_cons_of_mem _ hD')]
    rfl

theorem sumAt_ne_none {Ds : List Den} {D : Den} {d : Nat} {r : Rat} (hD : D ∈ Ds) (h : lookup D d = some r) :
    sumAt Ds d ≠ none := by
  induction Ds with
  | nil => cases hD
  | cons E Es ih =>
    simp only [sumAt]
    rcases List.mem_cons.1 hD with rfl | hD
    · rw [h]; cases sumAt Es d <;> simp [optUnion]
    · have := ih hD
      cases h1 : lookup E d <;> cases h2 : sumAt Es d <;> simp_all [optUnion]

theorem asc_below {L : Den} (n : Nat) (h : Asc L) : Asc (below n L) := asc_sublist List.filter_sublist h

theorem lookup_below {L : Den} (n d : Nat) : lookup (below n L) d = if d < n then lookup L d else none := by
  have := lookup_filter (A := L) (fun i => decide (i < n)) d
  simpa [below] using this

theorem mem_below {L : Den} {n : Nat} {p : Nat × Rat} : p ∈ below n L ↔ p ∈ L ∧ p.1 < n := by
  simp [below, List.mem_filter]

theorem getElem?_cellAt {a : List Rat} {off d : Nat} (h : d - off < a.length) : a[d - off]? = some (cellAt a off d) := by
  simp [cellAt, h]

theorem cellAt_replicate (n off d : Nat) : cellAt (List.replicate n 0) off d = 0 := by
  unfold cellAt
  cases h : (List.replicate n (0 : Rat))[d - off]? with
  | none => rfl
  | some v =>
    have := List.mem_of_getElem? h
    rw [List.mem_replicate] at this
    simp [this.2]

theorem bufDen_eq_nil_of_ge (a : List Rat) (off : Nat) {lo hi : Nat} (h : hi ≤ lo) : bufDen a off lo hi = [] := by
  unfold bufDen
  have : hi - lo = 0 := by omega
  rw [this]; rfl

theorem bufDen_step (a : List Rat) (off : Nat) {lo hi : Nat} (h : lo < hi) :
    bufDen a off lo hi =
      if 0 < cellAt a off lo then (lo, cellAt a off lo) :: bufDen a off (lo + 1) hi else bufDen a off (lo + 1) hi := by
  unfold bufDen
  have : hi - lo = (hi - (lo + 1)) + 1 := by omega
  rw [this, List.range'_succ, List.filterMap_cons]
  by_cases hc : 0 < cellAt a off lo
  · simp only [hc, ↓reduceIte]
  · simp only [hc, ↓reduceIte]

theorem mem_bufDen {a : List Rat} {off lo hi : Nat} {p : Nat × Rat} :
    p ∈ bufDen a off lo hi ↔ lo ≤ p.1 ∧ p.1 < hi ∧ p.2 = cellAt a off p.1 ∧ 0 < p.2 := by
  unfold bufDen
  rw [List.mem_filterMap]
  constructor
  · rintro ⟨d, hd, he⟩
    rw [List.mem_range'_1] at hd
    by_cases hc : 0 < cellAt a off d
    · rw [if_pos hc] at he; cases he; exact ⟨hd.1, by omega, rfl, hc⟩
    · rw [if_neg hc] at he; cases he
  · rintro ⟨h1, h2, h3, h4⟩
    refine ⟨p.1, List.mem_range'_1.2 ⟨h1, by omega⟩, ?_⟩
    rw [if_pos (h3 ▸ h4), ← h3]

theorem asc_bufDen (a : List Rat) (off lo hi : Nat) : Asc (bufDen a off lo hi) := by
  generalize hn : hi - lo = n
  induction n generalizing lo with
  | zero => rw [bufDen_eq_nil_of_ge a off (Nat.le_of_sub_eq_zero hn)]; exact List.Pairwise.nil
  | succ n ih =>
    rw [bufDen_step a off (Nat.lt_of_sub_eq_succ hn)]
    have ih := ih (lo + 1) (by rw [Nat.sub_succ, hn]; rfl)
    split
    · exact asc_cons.2 ⟨fun q hq => (mem_bufDen.1 hq).1, ih⟩
    · exact ih

theorem asc_bufDen_append (a : List Rat) (off lo : Nat) {hi : Nat} {B : Den} (hB : Asc B) (hge : ∀ q ∈ B, hi ≤ q.1) :
    Asc (bufDen a off lo hi ++ B) :=
  asc_append.2 ⟨asc_bufDen .., hB, fun _ hp q hq => Nat.lt_of_lt_of_le (mem_bufDen.1 hp).2.1 (hge q hq)⟩

theorem lookup_bufDen (a : List Rat) (off lo hi d : Nat) :
    lookup (bufDen a off lo hi) d =
      if lo ≤ d ∧ d < hi ∧ 0 < cellAt a off d then some (cellAt a off d) else none := by
  by_cases hc : lo ≤ d ∧ d < hi ∧ 0 < cellAt a off d
  · rw [if_pos hc]
    exact mem_lookup (asc_bufDen a off lo hi) (mem_bufDen.2 ⟨hc.1, hc.2.1, rfl, hc.2.2⟩)
  · rw [if_neg hc]
    cases hl : lookup (bufDen a off lo hi) d with
    | none => rfl
    | some r =>
      obtain ⟨h1, h2, h3, h4⟩ := mem_bufDen.1 (lookup_some_mem hl)
      exact absurd ⟨h1, h2, h3 ▸ h4⟩ hc

theorem dropBelow_bufDen (a : List Rat) (off hi : Nat) {lo t : Nat} (h : lo ≤ t) :
    dropBelow t (bufDen a off lo hi) = bufDen a off t hi := by
  apply den_ext (asc_dropBelow _ (asc_bufDen ..)) (asc_bufDen ..)
  intro d
  rw [lookup_dropBelow (asc_bufDen ..), lookup_bufDen, lookup_bufDen]
  by_cases hd : d < t
  · rw [if_pos hd, if_neg (by omega)]
  · rw [if_neg hd]
    by_cases hc : d < hi ∧ 0 < cellAt a off d
    · rw [if_pos ⟨by omega, hc⟩, if_pos ⟨by omega, hc⟩]
    · rw [if_neg (fun h3 => hc h3.2), if_neg (fun h3 => hc h3.2)]

/-- A freshly read part: the buffer holds what `T` has in `[x, lim)`; with what `T` has from `lim` on, that is `T`. -/
theorem part_split {a : List Rat} {x lim : Nat} {T : Den} (hT : Asc T) (hpos : ∀ p ∈ T, 0 < p.2)
    (hlow : ∀ p ∈ T, x ≤ p.1) (hcell : ∀ d, x ≤ d → d < lim → cellAt a x d = (lookup T d).getD 0) :
    bufDen a x x lim ++ dropBelow lim T = T := by
  refine den_ext (asc_bufDen_append _ _ _ (asc_dropBelow _ hT) fun q => mem_dropBelow_ge hT) hT fun d => ?_
  rw [lookup_append, lookup_bufDen, lookup_dropBelow hT]
  by_cases hd : x ≤ d ∧ d < lim
  · rw [hcell d hd.1 hd.2, if_pos hd.2]
    cases h : lookup T d with
    | none => rw [if_neg fun h' => absurd h'.2.2 (by decide)]
    | some r => rw [if_pos ⟨hd.1, hd.2, hpos _ (lookup_some_mem h)⟩]; rfl
  · rw [if_neg fun h' => hd ⟨h'.1, h'.2.1⟩]
    by_cases hl : d < lim
    · rw [if_pos hl, lookup_eq_none_of_forall_le_of_lt hlow (by omega)]
    · rw [if_neg hl]

end WM.Matcher
