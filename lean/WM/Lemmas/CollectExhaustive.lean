import WM.Lemmas.CollectLoop
/-! Runs of `ScoredCollector.matches` that hand the matcher no threshold (`replace(0)` at most, no
    `skip_to_quality`) collect every posting: an `UnlimitedCollector` always does (`collectUnlimited_eq`, for C05);
    a `TopCollector` did if `may_have_dropped` is still false at the end, and then `total` has counted every posting
    (`runSegs_total`, for C14.len). -/
namespace WM.Collect
open WM.Rank

theorem dropMasked_zero (mask : List Wish) (m : List Posting) : dropMasked 0 mask m = m := by
  fun_induction dropMasked 0 mask m with
  | case1 | case2 => rfl
  | case3 _ _ _ h | case4 _ _ _ h | case5 _ _ _ h => cases h
  | case6 _ _ p _ _ ih => exact congrArg (p :: ·) ih

/-- A `replace(0)` — which it was, or none, if `may_have_dropped` is still false — changes nothing the
    loop looks at. -/
theorem replacePhase_of_zero {cfg : Cfg} {selfMin : Rat} {step : Step} {m : List Posting} {lv : Locals} {tr : Trace}
    (h : replaceThreshold cfg lv = 0 ∨ (replacePhase cfg selfMin step m lv tr).2.2.1.mayHaveDropped = false)
    (hm : m ≠ []) :
    (replacePhase cfg selfMin step m lv tr).1 = m ∧ (replacePhase cfg selfMin step m lv tr).2.2.2 = false ∧
    (replacePhase cfg selfMin step m lv tr).2.2.1.mayHaveDropped = tr.mayHaveDropped := by
  rcases replacePhase_cases cfg selfMin step m lv tr rfl with ⟨h1, h2, h3, -⟩ | ⟨h1, h2, h3, -⟩
  · exact ⟨h1, h3, by rw [h2]⟩
  · have hthr : replaceThreshold cfg lv = 0 := h.elim id fun h => by
      rw [h2, Bool.or_eq_false_iff, bne_eq_false_iff_eq] at h; exact h.2
    rw [hthr, dropMasked_zero] at h1
    exact ⟨h1, by rw [h3, h1]; simpa using hm, by rw [h2, hthr]; simp⟩

/-- `skip_to_quality` is not called while the local `minscore` is 0 — nor was it, if `may_have_dropped`
    is still false. -/
theorem skipPhase_of_zero {step : Step} {m : List Posting} {lv : Locals} {tr : Trace}
    (h : lv.minscore = 0 ∨ (skipPhase step m lv tr).2.mayHaveDropped = false) : skipPhase step m lv tr = (m, tr) := by
  rcases skipPhase_cases step m lv tr with h' | ⟨-, hne, -, hf⟩
  · exact h'
  · rcases h with h | h
    · exact absurd h hne
    · rw [hf] at h; cases h

/-- With `self.minscore` constantly 0 the local `minscore` stays 0: the matcher is handed no threshold,
    and an iteration drops nothing and does not end the loop. -/
theorem phases_unl {cfg : Cfg} {step : Step} {m : List Posting} {lv : Locals} {tr : Trace}
    {r : List Posting × Locals × Trace × Bool} {s : List Posting × Trace}
    (hr : r = replacePhase cfg 0 step m lv tr) (hs : s = skipPhase step r.1 r.2.1 r.2.2.1)
    (hmin : lv.minscore = 0) (hm : m ≠ []) : r.2.2.2 = false ∧ s.1 = m ∧ r.2.1.minscore = 0 := by
  have h3 : r.2.1.minscore = 0 := by
    rcases replacePhase_cases cfg 0 step m lv tr hr with ⟨-, -, -, e, -⟩ | ⟨-, -, -, e, -⟩
    · exact e.trans hmin
    · exact e.elim (·.trans hmin) id
  subst hr
  obtain ⟨h1, h2, -⟩ := replacePhase_of_zero (selfMin := 0) (step := step) (tr := tr)
    (Or.inl ((replaceThreshold_cases cfg lv).elim id fun e => e.1.trans hmin)) hm
  exact ⟨h2, by rw [hs, skipPhase_of_zero (Or.inl h3), h1], h3⟩

theorem matchesLoop_unl (cfg : Cfg) (final : Nat → Rat → Rat) (off : Nat)
    (sched : List Step) (m : List Posting) (lv : Locals) (items : List Hit) (tr : Trace) (hmin : lv.minscore = 0) :
    ∃ sched' tr', matchesLoop cfg (unlConsume cfg final) (fun _ => 0) off sched m lv items tr
      = .ok (items ++ m.map (toHit cfg final off), sched', tr') := by
  fun_induction matchesLoop cfg (unlConsume cfg final) (fun _ => 0) off sched m lv items tr with
  | case1 sched m lv c tr hm =>
    rw [List.isEmpty_iff.mp hm]
    exact ⟨sched, tr, by simp⟩
  | case2 sched m lv c tr hm step r hbrk =>
    rw [(phases_unl (r := r) rfl rfl hmin (mt List.isEmpty_iff.mpr hm)).1] at hbrk
    cases hbrk
  | case3 sched m lv c tr hm step r hbrk s hs =>
    rw [(phases_unl (r := r) (s := s) rfl rfl hmin (mt List.isEmpty_iff.mpr hm)).2.1] at hs
    exact absurd (List.isEmpty_iff.mpr hs) hm
  | case4 sched m lv c tr hm step r hbrk s p rest hs e he => cases he
  | case5 sched m lv c tr hm step r hbrk s p rest hs c' hc ih =>
    obtain ⟨-, h2, h3⟩ := phases_unl (r := r) (s := s) rfl rfl hmin (mt List.isEmpty_iff.mpr hm)
    obtain ⟨sched', tr', hrun⟩ := ih h3
    cases hc
    rw [h2] at hs
    exact ⟨sched', tr', by rw [hrun, hs]; simp⟩

theorem runSegs_unl (cfg : Cfg) (final : Nat → Rat → Rat) :
    ∀ (segs : List Seg) (sched : List Step) (items : List Hit) (tr : Trace),
      ∃ sched' tr', runSegs cfg (unlConsume cfg final) (fun _ => 0) segs sched items tr
        = .ok (items ++ allHits cfg final segs, sched', tr')
  | [], sched, items, tr => ⟨sched, tr, by simp [runSegs, allHits]⟩
  | s :: segs, sched, items, tr => by
    obtain ⟨sched1, tr1, h1⟩ := matchesLoop_unl cfg final s.off sched s.postings
      { supports := s.supports, minscore := 0, usequality := useBlockQuality cfg s.supports,
        replacecounter := 0, checkquality := true } items { tr with supports := s.supports } rfl
    obtain ⟨sched2, tr2, h2⟩ := runSegs_unl cfg final segs sched1 (items ++ s.postings.map (toHit cfg final s.off)) tr1
    exact ⟨sched2, tr2, by simp only [runSegs, h1, h2, allHits_cons, List.append_assoc]⟩

theorem collectUnlimited_eq (cfg : Cfg) (final : Nat → Rat → Rat) (reverse : Bool) (segs : List Seg)
    (sched : List Step) :
    collectUnlimited cfg.replace cfg.useFinal final reverse segs sched =
      .ok (if reverse then (rankAll (allHits cfg final segs)).reverse else rankAll (allHits cfg final segs)) := by
  obtain ⟨sched', tr', h⟩ := runSegs_unl
    { limit := 0, replace := cfg.replace, usequality := false, useFinal := cfg.useFinal } final segs sched [] {}
  unfold collectUnlimited
  simp only [h, List.nil_append]
  rw [allHits_cfg (cfg' := cfg) rfl]
  rfl

theorem collect_total {k : Nat} {st st' : TopState} {h : Hit} (hc : st.collect k h = .ok st') :
    st'.total = st.total + 1 := by
  unfold TopState.collect at hc
  dsimp only at hc
  split at hc
  · cases hc; rfl
  · split at hc
    · cases hc
    · split at hc
      · split at hc
        · cases hc
        · cases hc; rfl
      · cases hc; rfl

theorem matchesLoop_total {cfg : Cfg} {final : Nat → Rat → Rat} {off : Nat} {sched : List Step} {m : List Posting}
    {lv : Locals} {st : TopState} {tr : Trace} {st' : TopState} {sched' : List Step} {tr' : Trace}
    (hrun : matchesLoop cfg (topConsume cfg final) (fun st => st.minscore) off sched m lv st tr
      = .ok (st', sched', tr'))
    (hfin : tr'.mayHaveDropped = false) :
    tr.mayHaveDropped = false ∧ st'.total = st.total + m.length := by
  fun_induction matchesLoop cfg (topConsume cfg final) (fun st => st.minscore) off sched m lv st tr with
  | case1 sched m lv c tr hm =>
    cases hrun
    exact ⟨hfin, by rw [List.isEmpty_iff.mp hm]; simp⟩
  | case2 sched m lv c tr hm step r hbrk =>
    cases hrun
    rw [(replacePhase_of_zero (Or.inr hfin) (mt List.isEmpty_iff.mpr hm)).2.1] at hbrk
    cases hbrk
  | case3 sched m lv c tr hm step r hbrk s hs =>
    cases hrun
    have h1 : s = (r.1, r.2.2.1) := skipPhase_of_zero (Or.inr hfin)
    rw [h1] at hfin hs
    rw [(replacePhase_of_zero (Or.inr hfin) (mt List.isEmpty_iff.mpr hm)).1] at hs
    exact absurd (List.isEmpty_iff.mpr hs) hm
  | case4 sched m lv c tr hm step r hbrk s p rest hs e he => cases hrun
  | case5 sched m lv c tr hm step r hbrk s p rest hs c' hc ih =>
    obtain ⟨hflag, htot⟩ := ih hrun
    have h1 : s = (r.1, r.2.2.1) := skipPhase_of_zero (Or.inr hflag)
    rw [h1] at hflag hs
    obtain ⟨h2, -, h3⟩ := replacePhase_of_zero (Or.inr hflag) (mt List.isEmpty_iff.mpr hm)
    rw [h2] at hs
    refine ⟨h3 ▸ hflag, ?_⟩
    rw [htot, collect_total hc, hs, List.length_cons]
    omega

theorem runSegs_total {cfg : Cfg} {final : Nat → Rat → Rat} {segs : List Seg} {sched : List Step} {st : TopState}
    {tr : Trace} {st' : TopState} {sched' : List Step} {tr' : Trace}
    (hrun : runSegs cfg (topConsume cfg final) (fun st => st.minscore) segs sched st tr = .ok (st', sched', tr'))
    (hfin : tr'.mayHaveDropped = false) :
    tr.mayHaveDropped = false ∧ st'.total = st.total + (allHits cfg final segs).length := by
  induction segs generalizing sched st tr with
  | nil =>
    cases hrun
    exact ⟨hfin, by simp [allHits]⟩
  | cons s segs ih =>
    simp only [runSegs] at hrun
    split at hrun
    · cases hrun
    · next c1 sched1 tr1 h1 =>
      obtain ⟨hf1, ht1⟩ := ih hrun
      obtain ⟨hf0, ht0⟩ := matchesLoop_total h1 hf1
      refine ⟨hf0, ?_⟩
      rw [ht1, ht0, allHits_cons, List.length_append, List.length_map]
      omega

end WM.Collect
