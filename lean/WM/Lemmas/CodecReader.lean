import WM.Lemmas.CodecBasic
import WM.Lemmas.Yields
/-! The block cursor `W3LeafMatcher` refines the list cursor: for a well-formed cursor `den` is the
plain list `Leaf.rest` (entries left in the current block, then the later blocks); `next` and `scanTo`
are `tail` and `dropWhile` on it, a skip over blocks splits a prefix off it (`skipToBlock`), and
`skipTo` / `skipToQuality` say the same of `den`. -/
namespace WM.Codec

variable {ι μ : Type} {k : IdKind ι μ} {fs : Option Nat} {m : Leaf ι μ}

/-- A block whose three decoded lists have the length the header announces (and is not empty). -/
structure BlockWF (k : IdKind ι μ) (fs : Option Nat) (b : DiskBlock ι μ) : Prop where
  vals : ∃ vs, readValues fs b = .ok vs ∧ vs.length = b.info.count
  ids : (readIds k b).length = b.info.count
  ws : (readWeights b).length = b.info.count
  pos : 0 < b.info.count

/-- Well-formed cursor: on a block of a well-formed block list in which exactly the final block is
    flagged; inside the block unless at the end. -/
structure Leaf.WF (k : IdKind ι μ) (fs : Option Nat) (m : Leaf ι μ) : Prop where
  cur_eq : m.blocks[m.pos]? = some m.cur
  blocks_wf : ∀ b ∈ m.blocks, BlockWF k fs b
  flags : ∀ j b, m.blocks[j]? = some b → (b.last = true ↔ j + 1 = m.blocks.length)
  lastblock_eq : m.lastblock = true ↔ m.pos + 1 = m.blocks.length
  inside : m.atend = false → m.i < m.cur.info.count

theorem BlockWF.entries {k : IdKind ι μ} {fs : Option Nat} {b : DiskBlock ι μ} (h : BlockWF k fs b) :
    ∃ es, blockEntries k fs b = .ok es ∧ es.length = b.info.count ∧
      ∀ j, j < b.info.count → ∃ e, es[j]? = some e ∧ (readIds k b)[j]? = some e.id ∧
        (readWeights b)[j]? = some e.weight ∧
        ∃ vs, readValues fs b = .ok vs ∧ vs[j]? = some e.value := by
  obtain ⟨vs, hvs, hvl⟩ := h.vals
  have hlen : (zip3 (readIds k b) (readWeights b) vs).length = b.info.count := by
    simp [zip3_eq_zip, h.ids, h.ws, hvl]
  refine ⟨_, by simp only [blockEntries, hvs], hlen, fun j hj => ?_⟩
  have h1 : j < (readIds k b).length := h.ids ▸ hj
  have h2 : j < (readWeights b).length := h.ws ▸ hj
  have h3 : j < vs.length := hvl ▸ hj
  exact ⟨_, List.getElem?_eq_getElem (hlen ▸ hj), by simp [zip3_eq_zip, h1], by simp [zip3_eq_zip, h2],
    vs, hvs, by simp [zip3_eq_zip, h3]⟩

/-- The entries of a block, `[]` where decoding raises. -/
def ents (k : IdKind ι μ) (fs : Option Nat) (b : DiskBlock ι μ) : List (Entry ι) :=
  match blockEntries k fs b with
  | .ok es => es
  | .error _ => []

theorem BlockWF.read {b : DiskBlock ι μ} (h : BlockWF k fs b) :
    blockEntries k fs b = .ok (ents k fs b) ∧ (ents k fs b).length = b.info.count := by
  obtain ⟨es, hes, hl, -⟩ := h.entries
  simp only [ents, hes]
  exact ⟨trivial, hl⟩

theorem decodeBlocks_eq (bs : List (DiskBlock ι μ)) (h : ∀ b ∈ bs, BlockWF k fs b) :
    decodeBlocks k fs bs = .ok (bs.flatMap (ents k fs)) := by
  induction bs with
  | nil => rfl
  | cons b bs ih =>
    simp only [decodeBlocks, (h b (by simp)).read.1, ih (fun x hx => h x (by simp [hx])), List.flatMap_cons]

theorem Leaf.isActive_iff :
    m.isActive = true ↔ m.atend = false ∧ m.i < m.cur.info.count := by
  simp [Leaf.isActive]

/-- What remains to be read, as a plain list (`den` of a well-formed cursor). -/
def Leaf.rest (k : IdKind ι μ) (fs : Option Nat) (m : Leaf ι μ) : List (Entry ι) :=
  if m.atend then [] else (ents k fs m.cur).drop m.i ++ (m.blocks.drop (m.pos + 1)).flatMap (ents k fs)

theorem Leaf.WF.cur_wf (h : m.WF k fs) : BlockWF k fs m.cur := h.blocks_wf _ (List.mem_of_getElem? h.cur_eq)

theorem Leaf.WF.den_eq (h : m.WF k fs) : den k fs m = .ok (m.rest k fs) := by
  unfold den Leaf.rest
  split
  · rfl
  · simp only [h.cur_wf.read.1, decodeBlocks_eq _ (fun b hb => h.blocks_wf b (List.mem_of_mem_drop hb))]

theorem Leaf.WF.den_ok {k : IdKind ι μ} {fs : Option Nat} {m : Leaf ι μ} (h : m.WF k fs) :
    ∃ es, den k fs m = .ok es := ⟨_, h.den_eq⟩

theorem Leaf.WF.rest_inactive (h : m.WF k fs) (ha : m.isActive = false) : m.rest k fs = [] := by
  cases hat : m.atend with
  | true => simp only [Leaf.rest, hat, if_true]
  | false => rw [Leaf.isActive_iff.mpr ⟨hat, h.inside hat⟩] at ha; cases ha

theorem Leaf.WF.rest_active (h : m.WF k fs) (ha : m.isActive = true) :
    ∃ e, m.rest k fs = e :: Leaf.rest k fs { m with i := m.i + 1 } ∧ m.id k = .ok e.id ∧
      m.weight = .ok e.weight ∧ m.value fs = .ok e.value := by
  obtain ⟨hat, hi⟩ := Leaf.isActive_iff.mp ha
  obtain ⟨es, hes, hlen, hget⟩ := h.cur_wf.entries
  cases hes.symm.trans h.cur_wf.read.1
  obtain ⟨e, he, hid, hw, vs, hvs, hv⟩ := hget m.i hi
  refine ⟨e, ?_, by simp only [Leaf.id, hid], by simp only [Leaf.weight, hw], by simp only [Leaf.value, hvs, hv]⟩
  simp only [Leaf.rest, hat, Bool.false_eq_true, if_false]
  rw [List.drop_eq_getElem_cons (hlen ▸ hi), List.cons_append, (List.getElem_eq_iff _).mpr he]

/-- `_next_block` does not read the offset `_i`, so the lemma holds from any offset `j`. -/
theorem Leaf.WF.nextBlock (h : m.WF k fs) (hat : m.atend = false) (j : Nat) :
    Yields (Leaf.nextBlock { m with i := j }) fun m' => m'.WF k fs ∧ m'.blocks = m.blocks ∧
      m'.rest k fs = (m.blocks.drop (m.pos + 1)).flatMap (ents k fs) := by
  unfold Leaf.nextBlock
  simp only [hat, Bool.false_eq_true, if_false]
  by_cases hpos : m.pos + 1 = m.blocks.length
  · -- on the flagged block: no later blocks, the cursor goes to the end
    rw [if_pos (h.lastblock_eq.mpr hpos), List.drop_eq_nil_of_le (Nat.le_of_eq hpos.symm)]
    exact .ok ⟨{ h with inside := fun hh => by cases hh }, rfl, rfl⟩
  · have hlt : m.pos + 1 < m.blocks.length :=
      Nat.lt_of_le_of_ne (List.getElem?_eq_some_iff.mp h.cur_eq).1 hpos
    have hb : m.blocks[m.pos + 1]? = some m.blocks[m.pos + 1] := List.getElem?_eq_getElem hlt
    have hl : ¬ m.lastblock = true := fun e => hpos (h.lastblock_eq.mp e)
    rw [if_neg hl, hb, List.drop_eq_getElem_cons hlt]
    refine .ok ⟨?_, rfl, rfl⟩
    exact { cur_eq := hb, blocks_wf := h.blocks_wf, flags := h.flags,
            lastblock_eq := by
              simp only [Leaf.enter, (Bool.not_eq_true _).mp hl, Bool.false_or]
              exact h.flags _ _ hb
            inside := fun _ => (h.blocks_wf _ (List.getElem_mem hlt)).pos }

theorem Leaf.WF.next (h : m.WF k fs) (ha : m.isActive = true) :
    Yields m.next fun (m', _) => m'.WF k fs ∧ m'.rest k fs = (m.rest k fs).tail := by
  obtain ⟨hat, hi⟩ := Leaf.isActive_iff.mp ha
  obtain ⟨e, he, -⟩ := h.rest_active ha
  rw [he, List.tail_cons]
  unfold Leaf.next
  simp only
  by_cases hend : m.i + 1 = m.cur.info.count
  · -- the block is used up: nothing of it is left in front of the later blocks
    obtain ⟨m', hnb, hwf, -, hd'⟩ := h.nextBlock hat (m.i + 1)
    rw [if_pos hend, hnb]
    refine .ok ⟨hwf, ?_⟩
    rw [hd']
    simp only [Leaf.rest, hat, Bool.false_eq_true, if_false]
    rw [List.drop_eq_nil_of_le (as := ents k fs m.cur) (by rw [h.cur_wf.read.2]; omega), List.nil_append]
  · rw [if_neg hend]
    exact .ok ⟨{ h with inside := fun _ => show m.i + 1 < m.cur.info.count by omega }, rfl⟩

/-- A block list the writer could have produced: well-formed blocks, exactly the final one flagged. -/
def WFBlocks (k : IdKind ι μ) (fs : Option Nat) (blocks : List (DiskBlock ι μ)) : Prop :=
  (∀ b ∈ blocks, BlockWF k fs b) ∧
  (∀ j b, blocks[j]? = some b → (b.last = true ↔ j + 1 = blocks.length))

theorem Leaf.open_wf (blocks : List (DiskBlock ι μ)) (h : WFBlocks k fs blocks) (hne : blocks ≠ []) :
    Yields (Leaf.open blocks) fun m => m.blocks = blocks ∧ m.WF k fs ∧
      den k fs m = decodeBlocks k fs blocks := by
  cases blocks with
  | nil => exact absurd rfl hne
  | cons b bs =>
    have hwf : Leaf.WF k fs { blocks := b :: bs, pos := 0, cur := b, i := 0, lastblock := b.last, atend := false } :=
      { cur_eq := rfl, blocks_wf := h.1, flags := h.2
        lastblock_eq := by simpa using h.2 0 b rfl
        inside := fun _ => (h.1 b (by simp)).pos }
    exact .ok ⟨rfl, hwf, by rw [hwf.den_eq, decodeBlocks_eq _ h.1]; rfl⟩

theorem Leaf.WF.scanTo (h : m.WF k fs) (t : ι) :
    Yields (Leaf.scanTo k t m) fun m' => m'.WF k fs ∧
      m'.rest k fs = (m.rest k fs).dropWhile (fun e => k.lt e.id t) := by
  -- along the definition; its two error branches cannot occur on a well-formed cursor
  fun_induction Leaf.scanTo k t m with
  | case1 m hact e hid => obtain ⟨_, _, hid', _⟩ := h.rest_active hact; cases hid.symm.trans hid'
  | case2 m hact x hid hlt e hn => obtain ⟨_, hn', _⟩ := h.next hact; cases hn.symm.trans hn'
  | case3 m hact x hid hlt m' b hn hat =>
    obtain ⟨e, he, hid', -⟩ := h.rest_active hact
    obtain ⟨hwf, he'⟩ := (h.next hact).of_eq hn
    cases hid.symm.trans hid'
    have hnil : m'.rest k fs = [] := by simp only [Leaf.rest, hat, if_true]
    rw [he, List.tail_cons] at he'
    exact .ok ⟨hwf, by rw [he, List.dropWhile_cons, if_pos hlt, ← he', hnil]; rfl⟩
  | case4 m hact x hid hlt m' b hn hat ih =>
    obtain ⟨e, he, hid', -⟩ := h.rest_active hact
    obtain ⟨hwf, he'⟩ := (h.next hact).of_eq hn
    cases hid.symm.trans hid'
    refine (ih hwf).mono fun m2 h2 => ⟨h2.1, ?_⟩
    rw [h2.2, he', he, List.dropWhile_cons, if_pos hlt, List.tail_cons]
  | case5 m hact x hid hlt =>
    obtain ⟨e, he, hid', -⟩ := h.rest_active hact
    cases hid.symm.trans hid'
    exact .ok ⟨h, by rw [he, List.dropWhile_cons, if_neg hlt]⟩
  | case6 m hact =>
    exact .ok ⟨h, by rw [h.rest_inactive (by simpa using hact)]; rfl⟩

/-- `pre`: what is passed over, the entries still unread of each block left behind, all of them
    blocks satisfying `P`; the cursor stops on the first block that does not satisfy `P`, or at the end. -/
theorem Leaf.WF.skipToBlock (h : m.WF k fs) (P : DiskBlock ι μ → Bool) :
    Yields (Leaf.skipToBlock (fun m => P m.cur) m) fun (m', _) => m'.WF k fs ∧ m'.blocks = m.blocks ∧
      (m'.isActive = true → P m'.cur = false) ∧
      ∃ pre, m.rest k fs = pre ++ m'.rest k fs ∧ ∀ e ∈ pre, ∃ b ∈ m.blocks, P b = true ∧ e ∈ ents k fs b := by
  -- one block on: what is dropped from the current block belongs to a block satisfying `P`
  have step : ∀ {m : Leaf ι μ}, m.WF k fs → (m.isActive && P m.cur) = true →
      Yields m.nextBlock fun m1 => m1.WF k fs ∧ m1.blocks = m.blocks ∧
        m.rest k fs = (ents k fs m.cur).drop m.i ++ m1.rest k fs ∧
        ∀ e ∈ (ents k fs m.cur).drop m.i, ∃ b ∈ m.blocks, P b = true ∧ e ∈ ents k fs b := by
    intro m h hc
    obtain ⟨hact, hP⟩ := Bool.and_eq_true_iff.mp hc
    have hat := (Leaf.isActive_iff.mp hact).1
    refine (h.nextBlock hat m.i).mono ?_
    rintro m1 ⟨hwf1, hbl1, hd1⟩
    exact ⟨hwf1, hbl1, by rw [hd1]; simp only [Leaf.rest, hat, Bool.false_eq_true, if_false],
      fun e he => ⟨m.cur, List.mem_of_getElem? h.cur_eq, hP, List.mem_of_mem_drop he⟩⟩
  fun_induction Leaf.skipToBlock (fun m => P m.cur) m with
  | case1 m hc e hnb => obtain ⟨_, hnb', _⟩ := step h hc; cases hnb.symm.trans hnb'
  | case2 m hc m' hnb hat =>
    obtain ⟨hwf1, hbl1, hr, hpre⟩ := (step h hc).of_eq hnb
    exact .ok ⟨hwf1, hbl1, (fun ha => by rw [(Leaf.isActive_iff.mp ha).1] at hat; cases hat), _, hr, hpre⟩
  | case3 m hc m' hnb hat e hs ih =>
    obtain ⟨_, hs', _⟩ := ih ((step h hc).of_eq hnb).1
    cases hs.symm.trans hs'
  | case4 m hc m' hnb hat m'' n hs ih =>
    obtain ⟨hwf1, hbl1, hr, hpre⟩ := (step h hc).of_eq hnb
    obtain ⟨hwf2, hbl2, hstop, pre, hr2, hpre2⟩ := (ih hwf1).of_eq hs
    refine .ok ⟨hwf2, hbl2.trans hbl1, hstop, _ ++ pre, by rw [hr, hr2, List.append_assoc], fun e he => ?_⟩
    rcases List.mem_append.mp he with he | he
    · exact hpre e he
    · obtain ⟨b, hb, hPb, hee⟩ := hpre2 e he
      exact ⟨b, hbl1 ▸ hb, hPb, hee⟩
  | case5 m hc =>
    exact .ok ⟨h, rfl, (fun ha => by simpa [ha] using hc), [], rfl, fun _ he => (List.not_mem_nil he).elim⟩

/-- No entry of a block has an id above the `last id` recorded in the block header. -/
def BoundedByLastId (k : IdKind ι μ) (fs : Option Nat) (blocks : List (DiskBlock ι μ)) : Prop :=
  ∀ b ∈ blocks, ∀ es, blockEntries k fs b = .ok es → ∀ e ∈ es, k.lt b.info.lastId e.id = false

/-- `skip_to(target)` on an active cursor is `dropWhile (id < target)`. -/
theorem Leaf.WF.skipTo {k : IdKind ι μ} {fs : Option Nat} {m : Leaf ι μ} (h : m.WF k fs)
    (hact : m.isActive = true) (hb : BoundedByLastId k fs m.blocks) (htr : k.LeLtTrans) (t : ι)
    (L : List (Entry ι)) (hden : den k fs m = .ok L) :
    ∃ m', m.skipTo k t = .ok m' ∧ m'.WF k fs ∧
      den k fs m' = .ok (L.dropWhile (fun e => k.lt e.id t)) := by
  cases h.den_eq.symm.trans hden
  obtain ⟨e, he, hid, -⟩ := h.rest_active hact
  unfold Leaf.skipTo
  simp only [Leaf.blockMaxId, hact, Bool.not_true, Bool.false_eq_true, if_false, hid]
  by_cases hlt : k.lt e.id t = true
  · simp only [hlt, Bool.not_true, Bool.false_eq_true, if_false]
    by_cases hmax : k.lt m.cur.info.lastId t = true
    · simp only [hmax, if_true]
      obtain ⟨⟨m1, cnt⟩, hs, hwf1, -, -, pre, hL, hpre⟩ := h.skipToBlock (fun b => k.lt b.info.lastId t)
      rw [hs]
      simp only [Except.map]
      refine (hwf1.scanTo t).mono fun m2 h2 => ⟨h2.1, ?_⟩
      rw [h2.1.den_eq, h2.2, hL, List.dropWhile_append_of_pos]
      intro x hx
      obtain ⟨b, hbm, hPb, hxe⟩ := hpre x hx
      exact htr _ _ _ (hb b hbm _ (h.blocks_wf b hbm).read.1 x hxe) hPb
    · simp only [hmax, Bool.false_eq_true, if_false]
      exact (h.scanTo t).mono fun m2 h2 => ⟨h2.1, by rw [h2.1.den_eq, h2.2]⟩
  · simp only [hlt, Bool.not_false, if_true]
    exact ⟨m, rfl, h, by rw [h.den_eq, he, List.dropWhile_cons, if_neg hlt]⟩

/-- `skip_to_quality(minquality)`: passes only over entries of blocks whose quality is
    `≤ minquality`, stops on a block of higher quality (or at the end). -/
theorem Leaf.WF.skipToQuality {k : IdKind ι μ} {fs : Option Nat} {m : Leaf ι μ} (h : m.WF k fs)
    (quality : BlockInfo ι → Rat) (minq : Rat) (L : List (Entry ι)) (hden : den k fs m = .ok L) :
    ∃ m' cnt pre L', m.skipToQuality quality minq = .ok (m', cnt) ∧ m'.WF k fs ∧
      den k fs m' = .ok L' ∧ L = pre ++ L' ∧
      (∀ e ∈ pre, ∃ b es, b ∈ m.blocks ∧ quality b.info ≤ minq ∧ blockEntries k fs b = .ok es ∧ e ∈ es) ∧
      (m'.isActive = true → minq < quality m'.cur.info) := by
  cases h.den_eq.symm.trans hden
  unfold Leaf.skipToQuality
  by_cases hq : quality m.cur.info > minq
  · rw [if_pos hq]
    exact ⟨m, 0, [], _, rfl, h, h.den_eq, rfl, fun _ he => (List.not_mem_nil he).elim, fun _ => hq⟩
  · rw [if_neg hq]
    obtain ⟨⟨m1, cnt⟩, hs, hwf1, -, hstop, pre, hL, hpre⟩ :=
      h.skipToBlock (fun b => decide (quality b.info ≤ minq))
    refine ⟨m1, cnt, pre, _, hs, hwf1, hwf1.den_eq, hL, fun e he => ?_,
      fun ha => Rat.not_le.mp (of_decide_eq_false (hstop ha))⟩
    obtain ⟨b, hbm, hPb, hee⟩ := hpre e he
    exact ⟨b, _, hbm, of_decide_eq_true hPb, (h.blocks_wf b hbm).read.1, hee⟩

end WM.Codec
