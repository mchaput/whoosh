import WM.Lemmas.FaithfulCombo
import WM.Lemmas.Quality
/-! The quality contract (C12) of `ArrayUnionMatcher` over sub-matchers that satisfy it. -/
namespace WM.Matcher

theorem maxList_spec {a : List Rat} (h : a ≠ []) : Yields (maxList a) fun q => ∀ v ∈ a, v ≤ q := by
  cases a with
  | nil => exact absurd rfl h
  | cons x xs => exact ⟨xs.foldl max x, rfl, foldl_max_ge x xs⟩

theorem cellAt_mem {a : List Rat} {off d : Nat} (h : d - off < a.length) : cellAt a off d ∈ a :=
  List.mem_of_getElem? (getElem?_cellAt h)

namespace AUnion
variable {α : Type} {A : Ops α} {dA fA : α → Den} {WQ W0 : α → Prop}

theorem Core.a_ne_nil {WA : α → Prop} {m : AUnion α} (h : Core dA fA WA m) : m.a ≠ [] := by
  intro h0
  have := h.alen; rw [h0] at this
  have := h.ppos; simp at *; omega

theorem buf_le_max {m : AUnion α} {WA : α → Prop} (h : Core dA fA WA m) {q : Rat} (hq : ∀ v ∈ m.a, v ≤ q) {lo : Nat}
    (hlo : m.offset ≤ lo) : BoundedBy q (bufDen m.a m.offset lo m.limit) := by
  intro p hp
  obtain ⟨h1, h2, h3, -⟩ := mem_bufDen.1 hp
  rw [h3]
  exact hq _ (cellAt_mem (by have := h.len_ok; omega))

variable (QA : QFaithful A dA fA WQ W0)
include QA

theorem futureOf_spec (b : Rat) (hb : 0 < b) (subs : List α) : ∀ (acc : Rat), (∀ s ∈ subs, W0 s) →
    Yields (futureOf A subs acc) fun r =>
      ∃ F, r = acc + F ∧ 0 ≤ F ∧ BoundedBy (F * b) (sumDens (scaled b dA subs)) := by
  induction subs with
  | nil => exact fun acc _ => .ok ⟨0, (Rat.add_zero _).symm, Rat.le_refl, fun _ h => nomatch h⟩
  | cons s ss ih =>
    intro acc hw
    have hws := hw s List.mem_cons_self
    have hw' : ∀ x ∈ ss, W0 x := fun x hx => hw x (List.mem_cons_of_mem _ hx)
    have hb0 := Rat.le_of_lt hb
    show Yields _ fun r =>
      ∃ F, _ ∧ _ ∧ BoundedBy (F * b) (unionWith (· + ·) (scale b (dA s)) (sumDens (scaled b dA ss)))
    unfold futureOf
    refine .ite (fun _ => (QA.max s hws).bind fun q hq => (ih (acc + q) hw').mono ?_) fun ha => (ih acc hw').mono ?_
    · rintro _ ⟨F, rfl, f2, f3⟩
      refine ⟨q + F, Rat.add_assoc _ _ _, Rat.add_nonneg hq.2 f2, ?_⟩
      rw [Rat.add_mul]
      exact bounded_unionAdd (bounded_scale hb0 hq.1) f3 (Rat.mul_nonneg hq.2 hb0) (Rat.mul_nonneg f2 hb0)
    · rintro _ ⟨F, rfl, f2, f3⟩
      refine ⟨F, rfl, f2, ?_⟩
      rw [(QA.cur0.inactive hws).1 (by simpa using ha)]
      exact (unionWith_nil_left _ _).symm ▸ f3

/-- `_find_next` follows the loop, so the result is a `Core` state only; `docnum < limit` while active is what makes a
    round, which sets `docnum` to `limit`, move the cursor. -/
theorem skipQLoop_spec (q : Rat) : ∀ (n : Nat) (m : AUnion α) (k : Nat), Core dA fA WQ m →
    (m.docnum < m.doccount → m.docnum < m.limit) → m.doccount - m.docnum < n →
    Yields (skipQLoop A q n m k) fun out => Core dA fA WQ out.1 ∧
      (out.1.docnum < out.1.doccount → out.1.docnum < out.1.limit) ∧ Keeps q (den dA out.1) (den dA m) ∧
      Advances (ops A) (den dA) (full fA) m out.1 := by
  intro n
  induction n with
  | zero => exact fun _ _ _ _ hn => absurd hn (Nat.not_lt_zero _)
  | succ n ih =>
    intro m k h hl hn
    unfold skipQLoop
    refine .ite (fun ha => (maxList_spec h.a_ne_nil).bind fun bq b2 => .ite (fun hq => ?_) fun _ =>
      .ok ⟨h, hl, .refl _ _, .refl _ _ _ _⟩) fun _ => .ok ⟨h, hl, .refl _ _, .refl _ _ _ _⟩
    have hlt : m.docnum < m.doccount := by simpa [isActive] using ha
    -- nothing buffered beats `q`: the part is dropped (`keeps_append_left`) and the next one read from `limit` on
    refine (readPart_spec QA.curQ m m.limit h.ppos h.bpos h.child h.dpos h.fpos h.beyond).bind fun m1 r => ?_
    have hl1 : m1.docnum < m1.doccount → m1.docnum < m1.limit := by
      intro hh
      rw [r.limit_eq, r.docnum_eq, Nat.lt_min]
      rw [r.docnum_eq, r.doccount_eq] at hh
      exact ⟨Nat.lt_add_of_pos_right h.ppos, hh⟩
    have hrem : m1.doccount - m1.docnum < m.doccount - m.docnum := by
      rw [r.doccount_eq, r.docnum_eq]; exact Nat.sub_lt_sub_left hlt (hl hlt)
    refine (ih m1 (k + 1) r.core hl1 (Nat.lt_of_lt_of_le hrem (Nat.le_of_lt_succ hn))).mono fun _ ⟨e2, e3, e4, e5⟩ =>
      ⟨e2, e3, e4.trans ?_, (Advances.of_lt hrem r.full_eq).trans e5⟩
    rw [r.den_eq, den_eq]
    exact keeps_append_left fun p hp => Rat.le_trans (buf_le_max h b2 h.off p hp) hq

theorem qfaithful : QFaithful (ops A) (den dA) (full fA) (WF dA fA WQ) (WF dA fA W0) where
  toW0 _ h := h.mono QA.toW0
  cur0 := faithful QA.cur0
  curQ := faithful QA.curQ
  nn m h := by
    intro p hp
    rw [den_eq] at hp
    rcases List.mem_append.1 hp with hp | hp
    · exact Rat.le_of_lt (mem_bufDen.1 hp).2.2.2
    · exact Rat.le_of_lt (tail_pos h.bpos h.dpos p hp)
  sup m h := by
    show m.subs.all A.supportsBQ = true
    rw [List.all_eq_true]
    intro s hs
    exact QA.sup s (h.child s hs)
  max m h := by
    refine (futureOf_spec QA m.boost h.bpos m.subs 0 h.child).bind ?_
    rintro _ ⟨F, rfl, f2, f3⟩
    refine (maxList_spec h.toCore.a_ne_nil).bind fun bq b2 => .ok ?_
    rw [Rat.zero_add]
    refine ⟨fun p hp => ?_, rat_le_max_of_le_right (Rat.mul_nonneg f2 (Rat.le_of_lt h.bpos))⟩
    rw [den_eq] at hp
    rcases List.mem_append.1 hp with hp | hp
    · exact rat_le_max_of_le_left (buf_le_max h.toCore b2 h.off p hp)
    · exact rat_le_max_of_le_right (f3 p (mem_below.1 hp).1)
  block m h := by
    obtain ⟨bq, b1, b2⟩ := maxList_spec h.toCore.a_ne_nil
    refine ⟨bq, b1, ?_⟩
    intro x r L hd
    rcases Nat.lt_or_ge m.docnum m.doccount with hlt | hge
    · rw [den_head h hlt] at hd
      cases hd
      obtain ⟨c1, -⟩ := h.cur hlt
      exact b2 _ (cellAt_mem (by have := h.len_ok; have := h.off; omega))
    · rw [den_nil_of_done h.toCore hge] at hd; cases hd
  skipQ m q h _ := by
    refine (skipQLoop_spec QA q (m.doccount - m.docnum + 1) m 0 h.toCore (fun hh => (h.cur hh).1) (by omega)).bind ?_
    rintro ⟨m1, k1⟩ ⟨e2, e3, e4, e5⟩
    dsimp only at e2 e3 e4 e5
    refine .ite (fun ha => ?_) fun ha => ?_
    · have hlt1 : m1.docnum < m1.doccount := by simpa [isActive] using ha
      refine (findNext_spec QA.curQ m1 e2 (Nat.le_of_lt (e3 hlt1))).bind ?_
      rintro m2 ⟨f2, f3, f4, f5, f6⟩
      refine .ok ⟨f2, by rw [f3]; exact e4, e5.trans ⟨?_, fun hd => absurd f3 hd, f4⟩⟩
      show m2.doccount - m2.docnum ≤ m1.doccount - m1.docnum
      rw [f6]; exact Nat.sub_le_sub_left f5 _
    · have hge1 : m1.doccount ≤ m1.docnum := Nat.not_lt.1 (by simpa [isActive] using ha)
      exact .ok ⟨⟨e2, fun hh => absurd hh (Nat.not_lt.2 hge1)⟩, e4, e5⟩

end AUnion

end WM.Matcher
