import WM.Model.NumPack
import WM.Lemmas.NumLists
/-! `GInts` against its reference layout, and `natDeltas`, the gaps that every codec's delta variant writes (C20). -/
namespace WM.NumPack
open WM.NumLists

theorem gcode_lt (v : Nat) : gcode v < 4 := by
  unfold gcode
  split
  · decide
  · split
    · decide
    · split <;> decide

theorem encodeLE_take_succ : ∀ (s x : Nat), (encodeLE (s + 1) x).take s = encodeLE s x
  | 0, _ => by simp [encodeLE]
  | s + 1, x => by
    rw [encodeLE, List.take_succ_cons, encodeLE_take_succ s, encodeLE]

theorem gbytes_eq (v : Nat) (h : v < 4294967296) :
    gbytes v = some (encodeLE (gcode v + 1) v) ∧ v < 256 ^ (gcode v + 1) := by
  unfold gbytes gcode
  by_cases h1 : v < 256
  · simp [h1]
  · by_cases h2 : v < 65536
    · simp [h1, h2]
    · by_cases h3 : v < 16777216
      · simp only [h1, h2, h3, ↓reduceIte]
        show some (List.take 3 (encodeLE (3 + 1) v)) = some (encodeLE 3 v) ∧ True
        exact ⟨by rw [encodeLE_take_succ], trivial⟩
      · simp [h1, h2, h3, h]

theorem gbytes_none (v : Nat) (h : ¬ v < 4294967296) : gbytes v = none := by
  unfold gbytes
  have h1 : ¬ v < 256 := by omega
  have h2 : ¬ v < 65536 := by omega
  have h3 : ¬ v < 16777216 := by omega
  simp [h1, h2, h3, h]

/-- The reference layout: groups of four (the last one shorter), each a key byte followed by the
    numbers' bytes. -/
def gkey (cs : List Nat) : Nat :=
  match cs with
  | [] => 0
  | [a] => a
  | [a, b] => a ||| (b <<< 2)
  | [a, b, c] => a ||| (b <<< 2) ||| (c <<< 4)
  | a :: b :: c :: d :: _ => a ||| (b <<< 2) ||| (c <<< 4) ||| (d <<< 6)

def gnum (v : Nat) : List Nat := encodeLE (gcode v + 1) v

def gLayout : List Nat → List Nat
  | [] => []
  | [a] => gkey [gcode a] :: gnum a
  | [a, b] => gkey [gcode a, gcode b] :: (gnum a ++ gnum b)
  | [a, b, c] => gkey [gcode a, gcode b, gcode c] :: (gnum a ++ gnum b ++ gnum c)
  | a :: b :: c :: d :: rest =>
    gkey [gcode a, gcode b, gcode c, gcode d] :: (gnum a ++ gnum b ++ gnum c ++ gnum d) ++ gLayout rest

theorem gWriteLoop_layout : ∀ (xs out : List Nat), (∀ x ∈ xs, x < 4294967296) →
    gWriteLoop xs out [] 0 0 = some (out ++ gLayout xs) := by
  intro xs
  fun_induction gLayout xs with
  | case1 => intro out _; simp [gWriteLoop]
  | case2 | case3 | case4 => intro out h; simp [gWriteLoop, gbytes_eq, h, gkey, gnum]
  | case5 a b c d rest ih =>
    intro out h
    simp [gWriteLoop, gbytes_eq, h, gkey, gnum, ih _ fun x hx => h x (by simp [hx])]

/-- every 2-bit field of a key byte reads back the code that was ORed in (a table of 4⁴ keys) -/
theorem gkey_fields : ∀ a < 4, ∀ b < 4, ∀ c < 4, ∀ d < 4,
    ((a ||| (b <<< 2) ||| (c <<< 4) ||| (d <<< 6)) >>> (0 * 2)) &&& 3 = a
    ∧ ((a ||| (b <<< 2) ||| (c <<< 4) ||| (d <<< 6)) >>> (1 * 2)) &&& 3 = b
    ∧ ((a ||| (b <<< 2) ||| (c <<< 4) ||| (d <<< 6)) >>> (2 * 2)) &&& 3 = c
    ∧ ((a ||| (b <<< 2) ||| (c <<< 4) ||| (d <<< 6)) >>> (3 * 2)) &&& 3 = d := by
  decide

/-- What one round of `gReadLoop` computes for a number `v` written as `gnum v`: the size it derives from the
    2-bit code, the bytes it takes and leaves, and the value it decodes (used to rewrite the unfolded loop body). -/
theorem gRead_num (v : Nat) (tail : List Nat) (hv : v < 4294967296) :
    (if gcode v = 0 then 1 else if gcode v = 1 then 2 else if gcode v = 2 then 3 else 4) = gcode v + 1 ∧
      (gnum v ++ tail).take (gcode v + 1) = gnum v ∧ (gnum v ++ tail).drop (gcode v + 1) = tail ∧
      (gnum v).length = gcode v + 1 ∧ decodeLE (gnum v) = v := by
  have hsize : ∀ c, c < 4 → (if c = 0 then 1 else if c = 1 then 2 else if c = 2 then 3 else 4) = c + 1 := by
    decide
  have hl : (gnum v).length = gcode v + 1 := length_encodeLE _ _
  exact ⟨hsize _ (gcode_lt v), List.take_left' hl, List.drop_left' hl, hl, decodeLE_encodeLE _ _ (gbytes_eq v hv).2⟩

theorem gRead_step (n v count key : Nat) (tail : List Nat) (hc : count ≠ 0) (hv : v < 4294967296)
    (hk : (key >>> (count * 2)) &&& 3 = gcode v) :
    gReadLoop (n + 1) (gnum v ++ tail) count key
      = (gReadLoop n tail ((count + 1) % 4) key).map fun (xs, r) => (v :: xs, r) := by
  obtain ⟨hsize, htake, hdrop, hl, hdec⟩ := gRead_num v tail hv
  conv => lhs; unfold gReadLoop
  simp only [hc, ↓reduceIte, hk, hsize, htake, hdrop, hl, hdec]

theorem gRead_step0 (n v key K : Nat) (tail : List Nat) (hv : v < 4294967296)
    (hk : (K >>> (0 * 2)) &&& 3 = gcode v) :
    gReadLoop (n + 1) (K :: (gnum v ++ tail)) 0 key
      = (gReadLoop n tail 1 K).map fun (xs, r) => (v :: xs, r) := by
  obtain ⟨hsize, htake, hdrop, hl, hdec⟩ := gRead_num v tail hv
  conv => lhs; unfold gReadLoop
  simp only [↓reduceIte, hk, hsize, htake, hdrop, hl, hdec]

theorem gReadLoop_layout : ∀ (xs rest : List Nat) (key : Nat), (∀ x ∈ xs, x < 4294967296) →
    gReadLoop xs.length (gLayout xs ++ rest) 0 key = some (xs, rest) := by
  intro xs
  fun_induction gLayout xs with
  | case1 => intro rest key _; simp [gReadLoop]
  | case2 a =>
    intro rest key h
    obtain ⟨F0, _, _, _⟩ := gkey_fields _ (gcode_lt a) 0 (by decide) 0 (by decide) 0 (by decide)
    simp only [Nat.zero_shiftLeft, Nat.or_zero] at F0
    simp only [gkey, List.length_cons, List.length_nil, List.cons_append]
    rw [gRead_step0 _ a key _ _ (h a (by simp)) F0]
    simp [gReadLoop]
  | case3 a b =>
    intro rest key h
    obtain ⟨F0, F1, _, _⟩ := gkey_fields _ (gcode_lt a) _ (gcode_lt b) 0 (by decide) 0 (by decide)
    simp only [Nat.zero_shiftLeft, Nat.or_zero] at F0 F1
    simp only [gkey, List.length_cons, List.length_nil, List.cons_append, List.append_assoc]
    rw [gRead_step0 _ a key _ _ (h a (by simp)) F0]
    rw [gRead_step _ b 1 _ _ (by decide) (h b (by simp)) F1]
    simp [gReadLoop]
  | case4 a b c =>
    intro rest key h
    obtain ⟨F0, F1, F2, _⟩ := gkey_fields _ (gcode_lt a) _ (gcode_lt b) _ (gcode_lt c) 0 (by decide)
    simp only [Nat.zero_shiftLeft, Nat.or_zero] at F0 F1 F2
    simp only [gkey, List.length_cons, List.length_nil, List.cons_append, List.append_assoc]
    rw [gRead_step0 _ a key _ _ (h a (by simp)) F0]
    rw [gRead_step _ b 1 _ _ (by decide) (h b (by simp)) F1]
    rw [gRead_step _ c 2 _ _ (by decide) (h c (by simp)) F2]
    simp [gReadLoop]
  | case5 a b c d tl ih =>
    intro rest key h
    obtain ⟨F0, F1, F2, F3⟩ := gkey_fields _ (gcode_lt a) _ (gcode_lt b) _ (gcode_lt c) _ (gcode_lt d)
    simp only [gkey, List.length_cons, List.cons_append, List.append_assoc]
    rw [gRead_step0 _ a key _ _ (h a (by simp)) F0]
    rw [gRead_step _ b 1 _ _ (by decide) (h b (by simp)) F1]
    rw [gRead_step _ c 2 _ _ (by decide) (h c (by simp)) F2]
    rw [gRead_step _ d 3 _ _ (by decide) (h d (by simp)) F3]
    rw [ih rest _ fun x hx => h x (by simp [hx])]
    simp

theorem gWriteLoop_none : ∀ (xs out buf : List Nat) (count key : Nat), (∃ x ∈ xs, ¬ x < 4294967296) →
    gWriteLoop xs out buf count key = none
  | [], _, _, _, _, h => by simp at h
  | v :: vs, out, buf, count, key, h => by
    unfold gWriteLoop
    by_cases hv : v < 4294967296
    · have hex : ∃ x ∈ vs, ¬ x < 4294967296 := by
        rcases h with ⟨x, hx, hn⟩
        simp only [List.mem_cons] at hx
        rcases hx with rfl | hx
        · exact absurd hv hn
        · exact ⟨x, hx, hn⟩
      rw [(gbytes_eq v hv).1]
      simp only
      split
      · exact gWriteLoop_none vs _ _ _ _ hex
      · exact gWriteLoop_none vs _ _ _ _ hex
    · rw [gbytes_none v hv]

/-- the gaps of an ascending list -/
def natDeltas : Nat → List Nat → List Nat
  | _, [] => []
  | b, x :: xs => (x - b) :: natDeltas x xs

theorem natDeltas_length : ∀ (b : Nat) (xs : List Nat), (natDeltas b xs).length = xs.length
  | _, [] => rfl
  | b, x :: xs => by simp [natDeltas, natDeltas_length x xs]

theorem deltaEncodeFrom_asc : ∀ (b : Nat) (xs : List Nat), (b :: xs).Pairwise (· ≤ ·) →
    deltaEncodeFrom (b : Int) (xs.map fun (x : Nat) => (x : Int)) = (natDeltas b xs).map fun (d : Nat) => (d : Int)
  | _, [], _ => rfl
  | b, x :: xs, h => by
    rw [List.pairwise_cons] at h
    simp only [List.map_cons, deltaEncodeFrom, natDeltas]
    rw [deltaEncodeFrom_asc x xs h.2]
    congr 1
    have := h.1 x List.mem_cons_self
    omega

theorem map_toNat_cast (l : List Nat) : (l.map fun (d : Nat) => (d : Int)).map Int.toNat = l := by
  induction l with
  | nil => rfl
  | cons a t ih => simp [ih]

end WM.NumPack
