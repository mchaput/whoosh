import WM.Lemmas.NumericBits
/-! `split_ranges` on block indices: the block boundaries that delimit the two edge ranges, one iteration
    in arithmetic form, the loop as a recursion `cover` on block indices, and by its functional induction
    exactness and shape (the domain bound of the shape being a consequence of exactness). -/
namespace WM.Numeric

theorem ite_le {c : Prop} [Decidable c] {x y z : Nat} (hx : x ≤ z) (hy : y ≤ z) :
    (if c then x else y) ≤ z := by
  split <;> assumption

/-- Next-level lower block index, as the loop computes it:
    `(start + diff if haslower else start) & not_mask`. -/
abbrev nextA (A K : Nat) : Nat := (if A % K = 0 then A else A + K) / K
/-- Next-level upper block index, `(end - diff if hasupper else end) & not_mask` (meaningless when the
    level would fall off the bottom: the subtraction is truncated here and wraps in the code). -/
abbrev nextB (B K : Nat) : Nat := (if B % K = K - 1 then B else B - K) / K

/-- `nextA A K * K` is the first block boundary at or above `A`; below it lies the lower edge range. -/
theorem lower_edge (A K : Nat) (hK : 0 < K) :
    A ≤ nextA A K * K ∧
    ∀ w, (A % K ≠ 0 ∧ A ≤ w ∧ w ≤ A / K * K + (K - 1)) ↔ (A ≤ w ∧ w < nextA A K * K) := by
  unfold nextA
  split
  · next h =>
    rw [Nat.div_mul_cancel (Nat.dvd_of_mod_eq_zero h)]
    exact ⟨Nat.le_refl A, fun w => ⟨fun h' => absurd h h'.1, fun h' => absurd h'.2 (Nat.not_lt.mpr h'.1)⟩⟩
  · next h =>
    rw [Nat.add_div_right _ hK, Nat.succ_mul]
    refine ⟨Nat.le_of_lt (Nat.lt_div_mul_add hK), fun w => ?_⟩
    rw [← Nat.add_sub_assoc hK, Nat.le_sub_one_iff_lt (Nat.add_pos_right _ hK)]
    exact and_iff_right h

/-- `(nextB B K + 1) * K` is the last block boundary at or below `B + 1`; from it on lies the upper
    edge range. -/
theorem upper_edge (B K : Nat) (hK : 0 < K) (hB : ¬ (B % K ≠ K - 1 ∧ B < K)) :
    (nextB B K + 1) * K ≤ B + 1 ∧
    ∀ w, (B % K ≠ K - 1 ∧ B / K * K ≤ w ∧ w ≤ B) ↔ ((nextB B K + 1) * K ≤ w ∧ w ≤ B) := by
  unfold nextB
  split
  · next h =>
    have e : B / K * K + K = B + 1 := by have := Nat.div_add_mod' B K; omega
    rw [Nat.succ_mul, e]
    exact ⟨Nat.le_refl _, fun w => ⟨fun h' => absurd h h'.1,
      fun h' => absurd (Nat.le_trans h'.1 h'.2) (Nat.not_succ_le_self B)⟩⟩
  · next h =>
    rw [← Nat.div_eq_sub_div hK (Nat.le_of_not_lt fun hlt => hB ⟨h, hlt⟩)]
    exact ⟨Nat.le_succ_of_le (Nat.div_mul_le_self B K), fun w => and_iff_right h⟩

theorem nextB_mul_le (B K : Nat) : nextB B K * K ≤ B :=
  Nat.le_trans (Nat.div_mul_le_self _ K) (ite_le (Nat.le_refl B) (Nat.sub_le B K))

/-- One level of the trie decomposition, on block indices: the two edge ranges and the aligned middle
    partition `[A, B]`. -/
theorem level_split (A B w K : Nat) (hK : 0 < K) (hB : ¬ (B % K ≠ K - 1 ∧ B < K))
    (hAB : nextA A K ≤ nextB B K) :
    (A ≤ w ∧ w ≤ B) ↔
      ((A % K ≠ 0 ∧ A ≤ w ∧ w ≤ A / K * K + (K - 1)) ∨
       (B % K ≠ K - 1 ∧ B / K * K ≤ w ∧ w ≤ B) ∨
       (nextA A K ≤ w / K ∧ w / K ≤ nextB B K)) := by
  -- compare `w` with the two block boundaries instead of dividing it: then all is linear
  have hw : w / K ≤ nextB B K ↔ w < (nextB B K + 1) * K := by
    rw [← Nat.lt_succ_iff, Nat.div_lt_iff_lt_mul hK]
  have ⟨h1, e1⟩ := lower_edge A K hK
  have ⟨h2, e2⟩ := upper_edge B K hK hB
  have h3 := Nat.mul_le_mul_right K (Nat.succ_le_succ hAB)
  rw [Nat.succ_mul] at h3
  rw [e1, e2, Nat.le_div_iff_mul_le hK, hw]
  clear e1 e2 hw hB hAB
  generalize nextA A K * K = a, (nextB B K + 1) * K = b at *
  omega

theorem R_test_iff (r : R) (v : Nat) :
    r.test v = true ↔ r.lo / 2 ^ r.shift ≤ v / 2 ^ r.shift ∧ v / 2 ^ r.shift ≤ r.hi / 2 ^ r.shift := by
  simp [R.test, Nat.shiftRight_eq_div_pow]

theorem div_block (X P : Nat) (hP : 0 < P) : (X * P + (P - 1)) / P = X := by
  rw [Nat.mul_comm, Nat.mul_add_div hP, Nat.div_eq_of_lt (Nat.sub_one_lt (Nat.ne_of_gt hP)), Nat.add_zero]

/-- The range of the values whose block index at level `shift` lies in `[a, b]`. -/
def blockRange (shift a b : Nat) : R := ⟨a * 2 ^ shift, b * 2 ^ shift + (2 ^ shift - 1), shift⟩

theorem blockRange_test (shift a b v : Nat) :
    (blockRange shift a b).test v = true ↔ a ≤ v / 2 ^ shift ∧ v / 2 ^ shift ≤ b := by
  have hP := Nat.two_pow_pos shift
  rw [blockRange, R_test_iff, Nat.mul_div_cancel _ hP, div_block _ _ hP]

/-- The two edge ranges an iteration emits at level `shift` for the blocks `A .. B`. -/
def edges (step shift A B : Nat) : List R :=
  (if A % 2 ^ step = 0 then [] else [blockRange shift A (A / 2 ^ step * 2 ^ step + (2 ^ step - 1))]) ++
  (if B % 2 ^ step = 2 ^ step - 1 then [] else [blockRange shift (B / 2 ^ step * 2 ^ step) B])

/-- What an iteration masks stays below `2 ^ (n + 1)`, the width of `not_mask`. -/
theorem masked_lt (n step shift B X : Nat) (hQ : 2 ^ step * 2 ^ shift ≤ 2 ^ n) (hB : B * 2 ^ shift < 2 ^ n)
    (hX : X ≤ B + 2 ^ step) : X * 2 ^ shift < 2 ^ (n + 1) := by
  apply Nat.lt_of_le_of_lt (Nat.mul_le_mul_right _ hX)
  rw [Nat.add_mul, Nat.pow_succ, Nat.mul_two]
  exact Nat.add_lt_add_of_lt_of_le hB hQ

/-- One iteration on block indices. The loop stops with the single range `A .. B` at the top level, when `B` is an
    upper edge inside the bottom block (the second condition: there the code's `end - diff` is negative,
    `& not_mask` wraps it above `end`, and the exit test `nextend > end` fires), and when the middle is empty. -/
theorem splitLoop_step (n step : Nat) (hstep : 0 < step) (shift A B : Nat)
    (hAB : A ≤ B) (hB : B * 2 ^ shift < 2 ^ n) :
    splitLoop n step hstep (A * 2 ^ shift) (B * 2 ^ shift) shift =
      if shift + step < n ∧ ¬ (B % 2 ^ step ≠ 2 ^ step - 1 ∧ B < 2 ^ step) ∧
          nextA A (2 ^ step) ≤ nextB B (2 ^ step) then
        edges step shift A B ++
        splitLoop n step hstep (nextA A (2 ^ step) * 2 ^ (shift + step))
          (nextB B (2 ^ step) * 2 ^ (shift + step)) (shift + step)
      else [blockRange shift A B] := by
  have hP : 0 < 2 ^ shift := Nat.two_pow_pos _
  by_cases hterm : shift + step < n
  · have hK : 0 < 2 ^ step := Nat.two_pow_pos _
    have hQ : 2 ^ step * 2 ^ shift ≤ 2 ^ n :=
      Nat.pow_add' 2 shift step ▸ Nat.pow_le_pow_right Nat.two_pos (Nat.le_of_lt hterm)
    have small := fun X => masked_lt n step shift B X hQ hB
    rw [splitLoop]
    -- every mask but `not_mask` in arithmetic form, the two tests as equations between digits,
    -- `* 2 ^ shift` outermost
    simp only [mask_eq, setbits_mul, mul_and_mask, mul_or_mask, bne_iff_ne, ne_eq, ite_not, Nat.mul_eq_zero,
      Nat.mul_right_cancel_iff hP, Nat.ne_of_gt hP, or_false, one_shiftLeft_add, ← Nat.add_mul,
      ← apply_ite (· * 2 ^ shift)]
    rw [mul_and_notMask _ _ _ _ (small _ (ite_le (Nat.le_add_right_of_le hAB) (Nat.add_le_add_right hAB _))),
      mul_and_notMask _ _ _ _ (small _ (Nat.le_add_right _ _))]
    by_cases hj : B % 2 ^ step ≠ 2 ^ step - 1 ∧ B < 2 ^ step
    · -- the next level would fall off the bottom of the domain: the masked value wraps
      have := Nat.lt_of_lt_of_le hB (two_pow_le_pyAnd_sub_of_lt n step shift _ _ (Nat.le_of_lt hterm)
        (Nat.mul_lt_mul_of_pos_right hj.2 hP) hQ)
      rw [if_neg hj.1, if_pos (.inr (.inr (.inr this))), if_neg fun h => h.2.1 hj, blockRange]
    · rw [pyAnd_ite_sub _ _ _ _ fun hu => Nat.mul_le_mul_right _ (Nat.le_of_not_lt fun h => hj ⟨hu, h⟩)]
      simp only [← Nat.sub_mul, ← apply_ite (· * 2 ^ shift)]
      rw [mul_and_notMask _ _ _ _
        (small _ (ite_le (Nat.le_add_right _ _) (Nat.le_add_right_of_le (Nat.sub_le _ _))))]
      -- of the loop's four exit tests only the second can fire
      simp only [ge_iff_le, Nat.not_le.mpr hterm, hterm, hj, not_false_eq_true, true_and, false_or, gt_iff_lt,
        Nat.mul_lt_mul_right hP, Nat.mul_lt_mul_right hK, Nat.not_lt.mpr (lower_edge A _ hK).1,
        Nat.not_lt.mpr (nextB_mul_le B _), or_false, ← Nat.not_lt, ite_not, edges, blockRange, Nat.pow_add',
        ← Nat.mul_assoc]
  · rw [splitLoop, if_pos (Or.inl (Nat.le_of_not_lt hterm)), if_neg fun h => hterm h.1]
    simp only [setbits_mul, blockRange]

/-- `split_ranges` from the iteration at level `shift` on, as a recursion on the block indices `A .. B`. -/
def cover (n step : Nat) (hstep : 0 < step) (shift A B : Nat) : List R :=
  if shift + step < n ∧ ¬ (B % 2 ^ step ≠ 2 ^ step - 1 ∧ B < 2 ^ step) ∧
      nextA A (2 ^ step) ≤ nextB B (2 ^ step) then
    edges step shift A B ++ cover n step hstep (shift + step) (nextA A (2 ^ step)) (nextB B (2 ^ step))
  else [blockRange shift A B]
termination_by n - shift
decreasing_by
  rename_i h
  exact Nat.sub_lt_sub_left (Nat.lt_of_le_of_lt (Nat.le_add_right _ _) h.1) (Nat.lt_add_of_pos_right hstep)

theorem splitLoop_eq_cover (n step : Nat) (hstep : 0 < step) (shift A B : Nat) (hAB : A ≤ B)
    (hB : B * 2 ^ shift < 2 ^ n) :
    splitLoop n step hstep (A * 2 ^ shift) (B * 2 ^ shift) shift = cover n step hstep shift A B := by
  fun_induction cover n step hstep shift A B with
  | case1 shift A B h ih =>
    rw [splitLoop_step n step hstep shift A B hAB hB, if_pos h, ih h.2.2]
    apply Nat.lt_of_le_of_lt _ hB
    rw [Nat.pow_add', ← Nat.mul_assoc]
    exact Nat.mul_le_mul_right _ (nextB_mul_le B _)
  | case2 shift A B h => rw [splitLoop_step n step hstep shift A B hAB hB, if_neg h]

theorem cover_exact (n step : Nat) (hstep : 0 < step) (v shift A B : Nat) :
    (∃ r ∈ cover n step hstep shift A B, r.test v = true) ↔
      (A ≤ v / 2 ^ shift ∧ v / 2 ^ shift ≤ B) := by
  fun_induction cover n step hstep shift A B with
  | case1 shift A B h ih =>
    simp only [edges, List.mem_append, List.mem_ite_nil_left, List.mem_singleton, or_and_right, exists_or,
      and_assoc, exists_and_left, exists_eq_left, ih, blockRange_test]
    rw [Nat.pow_add, ← Nat.div_div_eq_div_mul, level_split A B _ _ (Nat.two_pow_pos _) h.2.1 h.2.2, or_assoc]
  | case2 shift A B h => simp only [List.mem_singleton, exists_eq_left, blockRange_test]

theorem cover_levels (n step : Nat) (hstep : 0 < step) (shift A B : Nat) (hsn : shift < n)
    (hs : shift % step = 0) (hAB : A ≤ B) :
    ∀ r ∈ cover n step hstep shift A B, r.shift % step = 0 ∧ r.shift < n ∧ r.lo ≤ r.hi := by
  have here : ∀ shift a b : Nat, shift < n → shift % step = 0 → a ≤ b →
      shift % step = 0 ∧ shift < n ∧ a * 2 ^ shift ≤ b * 2 ^ shift + (2 ^ shift - 1) :=
    fun shift a b hsn hs hab => ⟨hs, hsn, Nat.le_add_right_of_le (Nat.mul_le_mul_right _ hab)⟩
  intro r hr
  fun_induction cover n step hstep shift A B with
  | case1 shift A B h ih =>
    simp only [edges, List.mem_append, List.mem_ite_nil_left, List.mem_singleton] at hr
    rcases hr with (⟨_, rfl⟩ | ⟨_, rfl⟩) | hr
    · exact here shift _ _ hsn hs (Nat.le_trans (Nat.le_of_eq (Nat.div_add_mod' A _).symm)
        (Nat.add_le_add_left (Nat.le_sub_one_of_lt (Nat.mod_lt A (Nat.two_pow_pos _))) _))
    · exact here shift _ _ hsn hs (Nat.div_mul_le_self B _)
    · exact ih h.1 (by rw [Nat.add_mod_right]; exact hs) h.2.2 hr
  | case2 shift A B h =>
    cases List.mem_singleton.mp hr
    exact here shift A B hsn hs hAB

theorem splitRanges_eq_cover (n step : Nat) (hstep : 0 < step) (s e : Nat) (hse : s ≤ e) (he : e < 2 ^ n) :
    splitRanges n step hstep s e = cover n step hstep 0 s e := by
  have := splitLoop_eq_cover n step hstep 0 s e hse
  rw [Nat.pow_zero, Nat.mul_one, Nat.mul_one] at this
  exact this he

theorem splitRanges_exact (n step : Nat) (hstep : 0 < step) (s e v : Nat) (hse : s ≤ e)
    (he : e < 2 ^ n) :
    (∃ r ∈ splitRanges n step hstep s e, r.test v = true) ↔ (s ≤ v ∧ v ≤ e) := by
  rw [splitRanges_eq_cover n step hstep s e hse he, cover_exact, Nat.pow_zero, Nat.div_one]

theorem splitRanges_shape (n step : Nat) (hstep : 0 < step) (hn : 0 < n) (s e : Nat) (hse : s ≤ e)
    (he : e < 2 ^ n) :
    ∀ r ∈ splitRanges n step hstep s e,
      r.shift % step = 0 ∧ r.shift < n ∧ r.lo ≤ r.hi ∧ r.hi < 2 ^ n := by
  intro r hr
  have h : r.shift % step = 0 ∧ r.shift < n ∧ r.lo ≤ r.hi :=
    cover_levels n step hstep 0 s e hn (Nat.zero_mod _) hse r
      (splitRanges_eq_cover n step hstep s e hse he ▸ hr)
  -- the upper bound of an ordered range passes the range's own test, so by exactness it is at most `e`
  have hin := (splitRanges_exact n step hstep s e r.hi hse he).mp
    ⟨r, hr, (R_test_iff r r.hi).mpr ⟨Nat.div_le_div_right h.2.2, Nat.le_refl _⟩⟩
  exact ⟨h.1, h.2.1, h.2.2, Nat.lt_of_le_of_lt hin.2 he⟩

end WM.Numeric
