import WM.Model.Parser
import WM.Lemmas.Basics
/-! Tools for the proofs about the filter pipeline: `mapM` of a function that succeeds on every element
succeeds, induction on a syntax tree with the children of a group given by membership, and the defining
equations of the two filters that both the totality and the precedence proofs follow step by step. -/
namespace WM.Parser

theorem length_two {α} {l : List α} (h : l.length = 2) : ∃ a c, l = [a, c] :=
  match l, h with
  | [a, c], _ => ⟨a, c, rfl⟩

theorem mapM_ok {α β} {f : α → Except Err β} {l : List α} (h : ∀ x ∈ l, ∃ y, f x = .ok y) :
    ∃ ys, l.mapM f = .ok ys :=
  (Yields.mapM (R := fun _ => True) fun x hx => (h x hx).imp fun _ e => ⟨e, trivial⟩).exists

theorem bind_ok {α β} {x : Except Err α} {f : α → Except Err β} (hx : ∃ a, x = .ok a)
    (hf : ∀ a, ∃ b, f a = .ok b) : ∃ b, x.bind f = .ok b := by
  obtain ⟨a, rfl⟩ := hx
  exact hf a

theorem Node.childrenInd {P : Node → Prop} (leaf : ∀ n, n.isGroup = false → P n)
    (group : ∀ k ns b, (∀ x ∈ ns, P x) → P (.group k ns b)) (n : Node) : P n := by
  induction hsz : n.size using Nat.strongRecOn generalizing n with
  | _ sz ih =>
    cases n with
    | group k ns b =>
      refine group k ns b fun x hx => ?_
      have := size_mem hx
      exact ih x.size (by subst hsz; rw [Node.size, Nat.add_comm]; exact Nat.lt_succ_of_le this) x rfl
    | _ => exact leaf _ rfl

theorem rmWs_group (k : GK) (ns : List Node) (b : Rat) :
    rmWs (.group k ns b) = .group k ((ns.filter (fun n => !n.isWs)).map rmWs) b := by rw [rmWs.eq_def]

theorem rmWs_nongroup {n : Node} (h : n.isGroup = false) : rmWs n = n := by
  rw [rmWs]
  rintro k ns b rfl; cases h

def Node.isBracket : Node → Bool
  | .opn | .cls => true
  | _ => false

theorem doGroupsLoop_other (gk : GK) (n : Node) (hn : n.isBracket = false) (rest cur : List Node)
    (below : List (List Node)) :
    doGroupsLoop gk (n :: rest) cur below = doGroupsLoop gk rest (cur ++ [n]) below := by
  rw [doGroupsLoop]
  · rintro rfl; cases hn
  · rintro rfl; cases hn

theorem doGroupsLoop_opn (gk : GK) (rest cur : List Node) (below : List (List Node)) :
    doGroupsLoop gk (.opn :: rest) cur below = doGroupsLoop gk rest [] (cur :: below) := by
  rw [doGroupsLoop.eq_def]

theorem doGroupsLoop_cls (gk : GK) (rest cur b : List Node) (bs : List (List Node)) :
    doGroupsLoop gk (.cls :: rest) cur (b :: bs) = doGroupsLoop gk rest (b ++ [.group gk cur 1]) bs := by
  rw [doGroupsLoop.eq_def]

theorem doGroupsLoop_nil (gk : GK) (cur : List Node) (below : List (List Node)) :
    doGroupsLoop gk [] cur below = (cur, below) := by rw [doGroupsLoop.eq_def]

end WM.Parser
