import WM.Lemmas.IndexLive
import WM.Lemmas.Yields
/-! Effect of `delete_document`, and of the loop of `delete_document` calls behind `delete_by_query` and
`update_document`, on the live documents (`Selects` says which numbers the loop is given); the state after each call
in closed form. -/
namespace WM.Index
open WM.Dict

/-! ### frame: what `delete_document` never touches -/

structure Frame (w w' : Writer) : Prop where
  schema : w'.schema = w.schema
  gen : w'.gen = w.gen
  ndocs : w'.ndocs = w.ndocs
  pool : w'.pool = w.pool
  added : w'.added = w.added
  counts : w'.segs.map Seg.docCountAll = w.segs.map Seg.docCountAll
  docs : w'.segs.map Seg.docs = w.segs.map Seg.docs
  posts : w'.segs.map Seg.posts = w.segs.map Seg.posts

theorem Frame.refl (w : Writer) : Frame w w := ⟨rfl, rfl, rfl, rfl, rfl, rfl, rfl, rfl⟩

theorem Frame.trans {a b c : Writer} (h1 : Frame a b) (h2 : Frame b c) : Frame a c :=
  ⟨h2.schema.trans h1.schema, h2.gen.trans h1.gen, h2.ndocs.trans h1.ndocs, h2.pool.trans h1.pool,
   h2.added.trans h1.added, h2.counts.trans h1.counts, h2.docs.trans h1.docs, h2.posts.trans h1.posts⟩

theorem Frame.total {w w' : Writer} (h : Frame w w') : docCountAllSegs w'.segs = docCountAllSegs w.segs := by
  simp [docCountAllSegs, h.counts]

theorem Frame.deleteAt (w : Writer) (n : Nat) (b : Bool) : Frame w { w with segs := deleteAt w.segs n b } :=
  ⟨rfl, rfl, rfl, rfl, rfl, deleteAt_map _ Seg.deleteDocument_count _ _ _, deleteAt_map _ Seg.deleteDocument_docs _ _ _,
   deleteAt_map _ Seg.deleteDocument_posts _ _ _⟩

theorem Writer.deleteDocument_eq (w : Writer) (n : Nat) (b : Bool) :
    w.deleteDocument n b =
      if n < docCountAllSegs w.segs then .ok { w with segs := deleteAt w.segs n b } else .error .noSuchDoc := by
  unfold Writer.deleteDocument
  by_cases h : n < docCountAllSegs w.segs
  · obtain ⟨s, off, hs, hoff, hi, hl⟩ := segment_and_docnum w.segs n h
    rw [if_neg (Nat.not_le.mpr h), if_pos h]
    simp only [hs, hoff, hl]
    rw [hi, deleteAt]
  · rw [if_pos (Nat.le_of_not_lt h), if_neg h]

theorem Writer.isDeleted_eq (w : Writer) (n : Nat) (h : n < docCountAllSegs w.segs) :
    w.isDeleted n = some (isDeletedG w.segs n) := by
  obtain ⟨s, off, hs, hoff, hi, hl⟩ := segment_and_docnum w.segs n h
  unfold Writer.isDeleted
  simp only [hs, hoff, hl]
  rw [isDeletedG_locate w.segs n s (hi ▸ hs)]

theorem Writer.deleteDocument_ok (w : Writer) (n : Nat) (h : n < docCountAllSegs w.segs) :
    Yields (w.deleteDocument n true) fun w' => Frame w w' ∧
      liveGlobal w'.segs 0 = (liveGlobal w.segs 0).filter (fun p => p.2 != n) := by
  rw [Writer.deleteDocument_eq, if_pos h]
  exact .ok ⟨Frame.deleteAt w n true, liveGlobal_deleteAt w.segs n h⟩

theorem filter_not_contains_cons {α} (L : List (α × Nat)) (n : Nat) (r : List Nat) :
    (L.filter (fun p => p.2 != n)).filter (fun p => !r.contains p.2) = L.filter (fun p => !(n :: r).contains p.2) := by
  rw [List.filter_filter]
  exact List.filter_congr fun p _ => by rw [List.contains_cons, Bool.not_or, Bool.and_comm, bne]

theorem Writer.deleteMany_ok (w : Writer) (ns : List Nat) (h : ∀ n ∈ ns, n < docCountAllSegs w.segs) :
    Yields (w.deleteMany ns) fun w' => Frame w w' ∧
      liveGlobal w'.segs 0 = (liveGlobal w.segs 0).filter (fun p => !ns.contains p.2) := by
  induction ns generalizing w with
  | nil => exact .ok ⟨Frame.refl w, (List.filter_eq_self.mpr (fun _ _ => rfl)).symm⟩
  | cons n r ih =>
    rw [Writer.deleteMany, List.foldlM_cons]
    refine (Writer.deleteDocument_ok w n (h n List.mem_cons_self)).bind ?_
    rintro w1 ⟨f1, l1⟩
    refine (ih w1 fun m hm => f1.total ▸ h m (List.mem_cons_of_mem _ hm)).mono ?_
    rintro w2 ⟨f2, l2⟩
    exact ⟨f1.trans f2, by rw [l2, l1, filter_not_contains_cons]⟩

/-- `ns` lists, in any order and with any multiplicity, exactly the numbers of the entries of `L` that satisfy `c`:
    what a query, a term lookup or `_find_unique` hands to the deleting loop. -/
def Selects (L : List (DocRec × Nat)) (c : DocRec × Nat → Bool) (ns : List Nat) : Prop :=
  ∀ n, n ∈ ns ↔ ∃ x ∈ L, x.2 = n ∧ c x = true

theorem Selects.contains {L : List (DocRec × Nat)} {c : DocRec × Nat → Bool} {ns : List Nat} (h : Selects L c ns)
    (hL : L.Pairwise (fun a b => a.2 < b.2)) (x : DocRec × Nat) (hx : x ∈ L) : ns.contains x.2 = c x := by
  rw [Bool.eq_iff_iff, List.contains_iff_mem, h]
  exact ⟨fun ⟨y, hy, he, hc⟩ => eq_of_pairwise_ne (·.2) (hL.imp Nat.ne_of_lt) hy hx he ▸ hc, fun hc => ⟨x, hx, rfl, hc⟩⟩

theorem Selects.lt {segs : List Seg} {c : DocRec × Nat → Bool} {ns : List Nat} (h : Selects (liveGlobal segs 0) c ns) :
    ∀ n ∈ ns, n < docCountAllSegs segs := by
  intro n hn
  obtain ⟨x, hx, rfl, _⟩ := (h n).mp hn
  simpa using liveGlobal_lt segs 0 x hx

theorem Selects.contentOf {sc : Schema} {segs segs' : List Seg} {c : DocRec → Bool} {ns : List Nat}
    (h : Selects (liveGlobal segs 0) (fun x => c (restrict sc x.1)) ns)
    (hl : liveGlobal segs' 0 = (liveGlobal segs 0).filter (fun p => !ns.contains p.2)) :
    contentOf sc segs' = (contentOf sc segs).filter (fun d => !c d) := by
  rw [contentOf_eq_liveGlobal _ _ 0, contentOf_eq_liveGlobal _ _ 0, hl, List.filter_map]
  exact congrArg _ (List.filter_congr (fun x hx => congrArg not (h.contains (liveGlobal_pairwise _ _) x hx)))

theorem selects_filter (L : List (DocRec × Nat)) (c : DocRec × Nat → Bool) : Selects L c ((L.filter c).map (·.2)) := by
  intro n
  simp only [List.mem_map, List.mem_filter]
  exact ⟨fun ⟨x, ⟨hx, hc⟩, he⟩ => ⟨x, hx, he, hc⟩, fun ⟨x, hx, he, hc⟩ => ⟨x, ⟨hx, hc⟩, he⟩⟩

theorem Writer.deleteMany_matching (w : Writer) (ns : List Nat) (c : DocRec → Bool)
    (h : Selects (liveGlobal w.segs 0) (fun x => c (restrict w.schema x.1)) ns) :
    Yields (w.deleteMany ns) fun w' => Frame w w' ∧
      contentOf w'.schema w'.segs = (contentOf w.schema w.segs).filter (fun d => !c d) :=
  (Writer.deleteMany_ok w ns h.lt).mono fun w' h1 => ⟨h1.1, by rw [h1.1.schema, h.contentOf h1.2]⟩

theorem docsForQuery_pred (sc : Schema) (p : DocRec → Bool) (segs : List Seg) (base : Nat) :
    docsForQuery sc (.pred p) segs base
      = ((liveGlobal segs base).filter (fun q => p (restrict sc q.1))).map (·.2) := by
  induction segs generalizing base with
  | nil => rfl
  | cons s r ih =>
    simp only [docsForQuery, liveGlobal, List.filter_append, List.map_append, ih, Seg.docsFor]
    rw [List.filter_map, List.map_map, List.map_map]
    rfl

theorem Writer.step_add_eq (w : Writer) (d : DocRec) :
    (w.step (.add d)).1 = if d.fits w.schema then
      { w with ndocs := w.ndocs ++ [d], pool := w.pool ++ docPostings d w.ndocs.length, added := true } else w := by
  simp only [Writer.step, Writer.addDocument]
  cases d.fits w.schema <;> rfl

theorem Writer.step_delDoc_eq (w : Writer) (n : Nat) :
    (w.step (.delDoc n)).1 = if n < docCountAllSegs w.segs then { w with segs := deleteAt w.segs n true } else w := by
  by_cases h : n < docCountAllSegs w.segs <;> simp only [Writer.step, Writer.deleteDocument_eq, h, ↓reduceIte]

theorem Writer.step_undelDoc_eq (w : Writer) (n : Nat) :
    (w.step (.undelDoc n)).1 = if n < docCountAllSegs w.segs then { w with segs := deleteAt w.segs n false } else w := by
  by_cases h : n < docCountAllSegs w.segs <;> simp only [Writer.step, Writer.deleteDocument_eq, h, ↓reduceIte]

theorem Writer.step_addField_eq (w : Writer) (f : Nat) (u : Bool) :
    (w.step (.addField f u)).1 = if !w.added && !w.schema.has f then { w with schema := w.schema.add f u } else w := by
  simp only [Writer.step, Writer.addField]
  cases w.added <;> cases w.schema.has f <;> rfl

theorem Writer.step_removeField_eq (w : Writer) (f : Nat) :
    (w.step (.removeField f)).1 = if !w.added && w.schema.has f then { w with schema := w.schema.remove f } else w := by
  simp only [Writer.step, Writer.removeField]
  cases w.added <;> cases w.schema.has f <;> rfl

theorem Writer.step_delBy_eq (w : Writer) (q : Query) :
    (w.step (.delBy q)).1 = match w.deleteMany (docsForQuery w.schema q w.segs 0) with
      | .ok w' => w'
      | .error _ => w := by
  simp only [Writer.step, Writer.deleteByQuery]
  cases w.deleteMany (docsForQuery w.schema q w.segs 0) <;> rfl

theorem Writer.step_update_eq (w : Writer) (d : DocRec) :
    (w.step (.update d)).1 = match w.deleteMany (findUnique w.schema w.segs (uniqTerms w.schema d)) with
      | .ok w1 => (w1.step (.add d)).1
      | .error _ => w := by
  simp only [Writer.step, Writer.updateDocument]
  cases w.deleteMany (findUnique w.schema w.segs (uniqTerms w.schema d)) with
  | error e => rfl
  | ok w1 => simp only; cases w1.addDocument d <;> rfl

end WM.Index
