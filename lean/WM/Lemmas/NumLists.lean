import WM.Model.NumLists
import WM.Lemmas.Basics
/-! Number codecs of C20: delta lists, fixed-width digits, two's complement for any width, typecode
capacities (`cap`: a natural is in a format when it is below it), pieces of a byte list by offset (`At`),
the outcomes of `GrowableArray.append`, `extend` by naturals and its items read back from `to_file`'s bytes. -/
namespace WM.NumLists

theorem deltaDecodeFrom_encodeFrom : ∀ (base : Int) (l : List Int),
    deltaDecodeFrom base (deltaEncodeFrom base l) = l
  | _, [] => rfl
  | base, n :: ns => by
    simp only [deltaEncodeFrom, deltaDecodeFrom]
    have : base + (n - base) = n := by omega
    rw [this, deltaDecodeFrom_encodeFrom n ns]

theorem deltaEncodeFrom_decodeFrom : ∀ (base : Int) (l : List Int),
    deltaEncodeFrom base (deltaDecodeFrom base l) = l
  | _, [] => rfl
  | base, n :: ns => by
    simp only [deltaEncodeFrom, deltaDecodeFrom]
    have : base + n - base = n := by omega
    rw [this, deltaEncodeFrom_decodeFrom (base + n) ns]

theorem length_encodeLE : ∀ (size x : Nat), (encodeLE size x).length = size
  | 0, _ => rfl
  | s + 1, x => by simp [encodeLE, length_encodeLE s]

theorem encodeLE_bytes : ∀ (size x : Nat), ∀ b ∈ encodeLE size x, b < 256
  | 0, _ => by simp [encodeLE]
  | s + 1, x => by
    intro b hb
    simp only [encodeLE, List.mem_cons] at hb
    rcases hb with rfl | hb
    · omega
    · exact encodeLE_bytes s _ b hb

theorem decodeLE_encodeLE_mod : ∀ (size x : Nat), decodeLE (encodeLE size x) = x % 256 ^ size
  | 0, x => by simp [encodeLE, decodeLE, Nat.mod_one]
  | s + 1, x => by
    simp only [encodeLE, decodeLE, decodeLE_encodeLE_mod s]
    rw [Nat.pow_succ, Nat.mul_comm (256 ^ s) 256, Nat.mod_mul]

theorem decodeLE_encodeLE (size x : Nat) (h : x < 256 ^ size) : decodeLE (encodeLE size x) = x := by
  rw [decodeLE_encodeLE_mod, Nat.mod_eq_of_lt h]

theorem decodeBE_encodeBE (size x : Nat) (h : x < 256 ^ size) : decodeBE (encodeBE size x) = x := by
  unfold decodeBE encodeBE
  rw [List.reverse_reverse, decodeLE_encodeLE size x h]

theorem length_encodeBE (size x : Nat) : (encodeBE size x).length = size := by
  unfold encodeBE; rw [List.length_reverse, length_encodeLE]

theorem pow_size (tc : TC) : 256 ^ tc.size = 2 ^ (8 * tc.size) := pow_256 _

theorem TC.size_pos (tc : TC) : 0 < tc.size := by cases tc <;> decide

theorem toUnsigned_lt (s : Nat) (x : Int) : toUnsigned s x < 256 ^ s := by
  have hpos : (0 : Int) < 2 ^ (8 * s) := Int.pow_pos (by decide)
  unfold toUnsigned
  rw [pow_256, Int.toNat_lt (Int.emod_nonneg x (Int.ne_of_gt hpos)), two_pow_cast]
  exact Int.emod_lt_of_pos x hpos

theorem toUnsigned_of_nonneg (s : Nat) (x : Int) (h0 : 0 ≤ x) (h : x < (2 ^ (8 * s) : Int)) :
    ((toUnsigned s x : Nat) : Int) = x := by
  unfold toUnsigned
  rw [Int.emod_eq_of_lt h0 h]
  exact Int.toNat_of_nonneg h0

/-- With `H = 2 ^ (8 * s - 1)` the modulus is `2 * H`: a number in `[-H, H)` is its own residue when
    non-negative and `x + 2 * H` otherwise, and `fromUnsigned` tells the two apart by comparing with `H`. -/
theorem fromUnsigned_toUnsigned (s : Nat) (hs : 0 < s) (x : Int)
    (h1 : -(2 ^ (8 * s - 1) : Int) ≤ x) (h2 : x < (2 ^ (8 * s - 1) : Int)) :
    fromUnsigned s (toUnsigned s x) = x := by
  have hM : 2 ^ (8 * s) = 2 * 2 ^ (8 * s - 1) := by
    rw [← Nat.pow_succ']; congr 1; omega
  unfold fromUnsigned toUnsigned
  rw [← two_pow_cast] at h1 h2 ⊢
  rw [hM]
  generalize 2 ^ (8 * s - 1) = H at *
  have hu := Int.toNat_of_nonneg (Int.emod_nonneg x (by omega : ((2 * H : Nat) : Int) ≠ 0))
  generalize (x % ((2 * H : Nat) : Int)).toNat = u at hu ⊢
  by_cases hx : 0 ≤ x
  · rw [Int.emod_eq_of_lt hx (by omega)] at hu
    rw [if_pos (by omega)]
    exact hu
  · rw [← Int.add_emod_right, Int.emod_eq_of_lt (by omega) (by omega)] at hu
    rw [if_neg (by omega)]
    omega

theorem value_roundtrip (tc : TC) (x : Int) (h : tc.fits x = true) :
    (if tc.signed then fromUnsigned tc.size (toUnsigned tc.size x) else ((toUnsigned tc.size x : Nat) : Int)) = x := by
  unfold TC.fits at h
  split at h <;> rename_i hs <;> simp only [Bool.and_eq_true, decide_eq_true_eq] at h
  · rw [if_pos hs]; exact fromUnsigned_toUnsigned _ tc.size_pos x h.1 h.2
  · rw [if_neg hs]; exact toUnsigned_of_nonneg _ x h.1 h.2

/-- capacity (exclusive upper bound) of a typecode -/
def cap (tc : TC) : Int := if tc.signed then 2 ^ (8 * tc.size - 1) else 2 ^ (8 * tc.size)

theorem fits_iff (tc : TC) (x : Int) :
    tc.fits x = true ↔ (if tc.signed then -(cap tc) ≤ x else 0 ≤ x) ∧ x < cap tc := by
  unfold TC.fits cap
  split <;> simp only [Bool.and_eq_true, decide_eq_true_eq]

theorem cap_pos (tc : TC) : 0 < cap tc := by
  unfold cap; split <;> exact Int.pow_pos (by decide)

theorem cap_le (tc : TC) : cap tc ≤ 2 ^ (8 * tc.size) := by
  unfold cap; split
  · rw [← two_pow_cast, ← two_pow_cast]
    exact Int.ofNat_le.mpr (Nat.pow_le_pow_right (by decide) (Nat.sub_le _ _))
  · exact Int.le_refl _

theorem fits_of_nonneg (tc : TC) (x : Int) (h0 : 0 ≤ x) (h : x < cap tc) : tc.fits x = true := by
  rw [fits_iff]
  refine ⟨?_, h⟩
  have := cap_pos tc
  split <;> omega

theorem fits_natCast (tc : TC) (x : Nat) (h : (x : Int) < cap tc) : tc.fits (x : Int) = true :=
  fits_of_nonneg tc x (Int.natCast_nonneg x) h

theorem cap_H : cap .H = 65536 := by decide
theorem cap_i : cap .i = 2147483648 := by decide
theorem cap_I : cap .I = 4294967296 := by decide
theorem cap_q : cap .q = 9223372036854775808 := by decide

theorem lt_cap_i (x : Nat) (h : x < 2 ^ 31) : (x : Int) < cap .i := by rw [cap_i]; omega
theorem lt_cap_q (x : Nat) (h : x < 2 ^ 63) : (x : Int) < cap .q := by rw [cap_q]; omega

/-- `x` stands in `file` at byte offset `pos` -/
def At (file : List Nat) (pos : Nat) (x : List Nat) : Prop := ∃ p q, file = p ++ x ++ q ∧ p.length = pos

theorem at_self (x : List Nat) : At x 0 x := ⟨[], [], (List.append_nil _).symm, rfl⟩

theorem at_mid (p x q : List Nat) : At (p ++ x ++ q) p.length x := ⟨p, q, rfl, rfl⟩

theorem At.cast {file x : List Nat} {pos pos' : Nat} (h : At file pos x) (e : pos = pos') : At file pos' x := e ▸ h

theorem At.head {file x y : List Nat} {pos : Nat} (h : At file pos (x ++ y)) : At file pos x := by
  obtain ⟨p, q, rfl, hp⟩ := h
  exact ⟨p, y ++ q, by simp only [List.append_assoc], hp⟩

theorem At.tail {file x y : List Nat} {pos : Nat} (h : At file pos (x ++ y)) : At file (pos + x.length) y := by
  obtain ⟨p, q, rfl, rfl⟩ := h
  exact ⟨p ++ x, q, by simp only [List.append_assoc], List.length_append⟩

theorem At.trans {file x y : List Nat} {pos k : Nat} (h : At file pos y) (h' : At y k x) : At file (pos + k) x := by
  obtain ⟨p, q, rfl, rfl⟩ := h
  obtain ⟨p', q', rfl, rfl⟩ := h'
  exact ⟨p ++ p', q' ++ q, by simp only [List.append_assoc], List.length_append⟩

theorem At.right {b x : List Nat} {pos : Nat} (a : List Nat) (h : At b pos x) : At (a ++ b) (a.length + pos) x := by
  obtain ⟨p, q, rfl, rfl⟩ := h
  exact ⟨a ++ p, q, by simp only [List.append_assoc], List.length_append⟩

theorem At.bound {file x : List Nat} {pos : Nat} (h : At file pos x) : pos + x.length ≤ file.length := by
  obtain ⟨p, q, rfl, rfl⟩ := h
  simp only [List.length_append]; omega

theorem At.slice_eq {file x : List Nat} {pos n : Nat} (h : At file pos x) (hn : x.length = n) :
    (file.drop pos).take n = x := by
  obtain ⟨p, q, rfl, rfl⟩ := h
  subst hn
  rw [List.append_assoc, List.drop_left, List.take_left]

theorem at_flatMap {α} (f : α → List Nat) (size : Nat) (hf : ∀ a, (f a).length = size) :
    ∀ (l : List α) (k : Nat) (a : α), l[k]? = some a → At (l.flatMap f) (k * size) (f a)
  | [], k, a, h => by simp at h
  | x :: t, 0, a, h => by
    cases Option.some.inj (List.getElem?_cons_zero ▸ h)
    rw [List.flatMap_cons, Nat.zero_mul]
    exact (at_self _).head
  | x :: t, k + 1, a, h => by
    rw [List.flatMap_cons]
    refine (At.right (f x) (at_flatMap f size hf t k a (List.getElem?_cons_succ ▸ h))).cast ?_
    rw [hf, Nat.succ_mul, Nat.add_comm]

theorem length_flatMap_fixed {α} (f : α → List Nat) (size : Nat) (hf : ∀ a, (f a).length = size) (l : List α) :
    (l.flatMap f).length = l.length * size := by
  rw [List.length_flatMap, funext hf, List.map_const', List.sum_replicate_nat]

theorem writeFixed_eq_flatMap (size : Nat) : ∀ (xs : List Nat), (∀ x ∈ xs, x < 256 ^ size) →
    writeFixed size xs = some (xs.flatMap (encodeLE size))
  | [], _ => rfl
  | x :: xs, h => by
    simp [writeFixed, h x (by simp),
      writeFixed_eq_flatMap size xs (fun y hy => h y (List.mem_cons_of_mem _ hy))]

/-- `append` ends with some typecode `tc'` (the old one or a retyped one) that still holds the old items; either `n`
    was appended and fits `tc'`, or `OverflowError` was raised and the items are as they were. -/
theorem GA.append_cases (g : GA) (n : Int) :
    ∃ tc', (∀ x ∈ g.items, g.tc.fits x = true → tc'.fits x = true) ∧
      ((g.append n = ({ tc := tc', items := g.items ++ [n], allowLongs := g.allowLongs }, false) ∧ tc'.fits n = true)
        ∨ g.append n = ({ g with tc := tc' }, true)) := by
  unfold GA.append
  by_cases h1 : g.tc.fits n = true
  · rw [if_pos h1]; exact ⟨g.tc, fun _ _ h => h, Or.inl ⟨rfl, h1⟩⟩
  · rw [if_neg h1]
    cases retypeCode g.allowLongs n with
    | none => exact ⟨g.tc, fun _ _ h => h, Or.inr rfl⟩
    | some tc' =>
      simp only
      by_cases h2 : g.items.all tc'.fits = true
      · have hold := fun x hx (_ : g.tc.fits x = true) => List.all_eq_true.mp h2 x hx
        rw [if_pos h2]
        by_cases h3 : tc'.fits n = true
        · rw [if_pos h3]; exact ⟨tc', hold, Or.inl ⟨rfl, h3⟩⟩
        · rw [if_neg h3]; exact ⟨tc', hold, Or.inr rfl⟩
      · rw [if_neg h2]; exact ⟨g.tc, fun _ _ h => h, Or.inr rfl⟩

theorem GA.append_nat (g : GA) (n : Int) (h : ∀ x ∈ g.items, 0 ≤ x ∧ g.tc.fits x = true)
    (hn : 0 ≤ n) (hlim : n < 2 ^ 63) (hl : g.allowLongs = true ∨ n < 2 ^ 32) :
    (g.append n).2 = false := by
  unfold GA.append
  split
  · rfl
  · next hnf =>
    -- `_retype` picks a typecode whose capacity exceeds `n`; the old items, naturals below the old capacity, fit it too
    obtain ⟨tc', hr, hc⟩ : ∃ tc', retypeCode g.allowLongs n = some tc' ∧ n < cap tc' := by
      unfold retypeCode
      by_cases h1 : n < 2 ^ 16
      · exact ⟨.H, if_pos h1, by rw [cap_H]; exact h1⟩
      by_cases h2 : n < 2 ^ 31
      · exact ⟨.i, by rw [if_neg h1, if_pos h2], by rw [cap_i]; exact h2⟩
      by_cases h3 : n < 2 ^ 32
      · exact ⟨.I, by rw [if_neg h1, if_neg h2, if_pos h3], by rw [cap_I]; exact h3⟩
      · exact ⟨.q, by rw [if_neg h1, if_neg h2, if_neg h3, if_pos (hl.resolve_right h3)], by rw [cap_q]; exact hlim⟩
    have hcap : cap g.tc ≤ n := Int.not_lt.mp fun hlt => hnf (fits_of_nonneg g.tc n hn hlt)
    have hall : g.items.all tc'.fits = true := List.all_eq_true.mpr fun x hx =>
      fits_of_nonneg tc' x (h x hx).1 (Int.lt_trans (Int.lt_of_lt_of_le ((fits_iff _ _).mp (h x hx).2).2 hcap) hc)
    simp only [hr, hall, fits_of_nonneg tc' n hn hc, ↓reduceIte]

theorem GA.extend_nat : ∀ (ns : List Int) (g : GA), g.allowLongs = true →
    (∀ x ∈ g.items, 0 ≤ x ∧ g.tc.fits x = true) → (∀ n ∈ ns, 0 ≤ n ∧ n < 2 ^ 63) →
    ∃ tc', g.extend ns = ({ g with tc := tc', items := g.items ++ ns }, false) ∧
      ∀ x ∈ g.items ++ ns, tc'.fits x = true
  | [], g, _, hg, _ => ⟨g.tc, by rw [GA.extend, List.append_nil], by rw [List.append_nil]; exact fun x hx => (hg x hx).2⟩
  | n :: t, g, hal, hg, hns => by
    obtain ⟨hn0, hn63⟩ := hns n List.mem_cons_self
    have hok := g.append_nat n hg hn0 hn63 (Or.inl hal)
    obtain ⟨tc', htc, ⟨ha, hfn⟩ | ha⟩ := g.append_cases n
    · obtain ⟨tc'', he, hfit⟩ := GA.extend_nat t ⟨tc', g.items ++ [n], g.allowLongs⟩ hal
        (forall_mem_snoc (fun x hx => ⟨(hg x hx).1, htc x hx (hg x hx).2⟩) ⟨hn0, hfn⟩)
        fun m hm => hns m (List.mem_cons_of_mem _ hm)
      rw [List.append_assoc] at he hfit
      exact ⟨tc'', by rw [GA.extend, ha]; exact he, hfit⟩
    · rw [ha] at hok; cases hok

theorem readItem_toBytes (g : GA) (h : ∀ x ∈ g.items, g.tc.fits x = true) (k : Nat) (hk : k < g.items.length) :
    readItem g.tc g.toBytes k = some g.items[k] := by
  have hat := at_flatMap (fun x => encodeBE g.tc.size (toUnsigned g.tc.size x)) g.tc.size
    (fun a => length_encodeBE _ _) g.items k g.items[k] (List.getElem?_eq_getElem hk)
  unfold readItem GA.toBytes
  simp only
  rw [hat.slice_eq (length_encodeBE _ _), length_encodeBE, if_pos rfl, decodeBE_encodeBE _ _ (toUnsigned_lt g.tc.size _)]
  exact congrArg some (value_roundtrip g.tc _ (h _ (List.getElem_mem hk)))

end WM.NumLists
