import WM.Lemmas.FSBasic
/-! Trace-level consequences of the step lemmas, for any run of storage events: the split at the
rename and the clean-up after it, what survives a run, traces that never re-bind a name. -/
namespace WM.FS

theorem run_append (fs : FS) (a b : List Event) : run fs (a ++ b) = run (run fs a) b := by
  simp [run, List.foldl_append]

theorem run_cons (fs : FS) (e : Event) (es : List Event) : run fs (e :: es) = run (step fs e) es := rfl

theorem run_wf {fs : FS} (hwf : WF fs) (tr : List Event) : WF (run fs tr) := by
  induction tr generalizing fs with
  | nil => exact hwf
  | cons e es ih => exact ih (step_wf hwf e)

theorem renamed_cons_rename (a b : Name) (es : List Event) : renamed (.rename a b :: es) = true := rfl

theorem renamed_cons (e : Event) (es : List Event) :
    renamed (e :: es) = (isRename e || renamed es) := by
  cases e <;> rfl

theorem split_at_rename (tr : List Event) (h : renamed tr = true) :
    tr = uptoRename tr ++ afterRename tr := by
  induction tr with
  | nil => cases h
  | cons e es ih =>
    cases e with
    | rename a b => rfl
    | _ => exact congrArg (_ :: ·) (ih h)

theorem listed_after_quiet (fs : FS) (es : List Event)
    (hq : ∀ e ∈ es, isCreate e = false ∧ isRename e = false) (n : Name)
    (h : n ∈ (run fs es).listing) : n ∈ fs.listing ∧ Event.delete n ∉ es := by
  induction es generalizing fs with
  | nil => exact ⟨h, by simp⟩
  | cons e es ih =>
    obtain ⟨h1, h2⟩ := ih (step fs e) (fun x hx => hq x (List.mem_cons_of_mem _ hx)) h
    have hqe := hq e List.mem_cons_self
    have hnew : newName e = none := by cases e <;> first | rfl | simp [isCreate, isRename] at hqe
    rw [mem_listing] at h1 ⊢
    have hnames : (step fs e).names = fs.names :=
      (step_names fs e).resolve_right fun ⟨m, hm, _⟩ => by rw [hnew] at hm; cases hm
    have hb := (bound_step fs e n h1.2).resolve_right fun hm => by rw [hnew] at hm; cases hm
    refine ⟨⟨hnames ▸ h1.1, hb⟩, ?_⟩
    rintro (_ | ⟨_, hmem⟩)
    · simp [step] at h1
    · exact h2 hmem

theorem run_keeps_bound (fs : FS) (tr : List Event) (n : Name)
    (ht : ∀ e ∈ tr, oldName e ≠ some n) (hb : n ∈ fs.listing) : n ∈ (run fs tr).listing := by
  induction tr generalizing fs with
  | nil => exact hb
  | cons e es ih =>
    refine ih (step fs e) (fun x hx => ht x (List.mem_cons_of_mem _ hx)) ?_
    rw [mem_listing] at hb ⊢
    refine ⟨mem_names_step fs e n hb.1, ?_⟩
    rcases step_dir_cases fs e n with h | ⟨_, h⟩ | ⟨h, _⟩
    · rw [h]; exact hb.2
    · exact h
    · exact absurd h (ht e List.mem_cons_self)

theorem run_data_stable (fs : FS) (tr : List Event) (i : Nat) (hi : i < fs.next)
    (hs : (fs.data i).st ≠ .writing) (hc : freshCreates fs tr = true) :
    (run fs tr).data i = fs.data i := by
  induction tr generalizing fs with
  | nil => rfl
  | cons e es ih =>
    obtain ⟨hce, hc'⟩ := freshCreates_cons.1 hc
    obtain ⟨h1, h2⟩ := step_data_stable fs e i hi hs hce
    rw [run_cons, ih (step fs e) (Nat.lt_of_lt_of_le hi h2) (by rw [h1]; exact hs) hc', h1]

theorem freshNames_append (fs : FS) (a b : List Event) :
    freshNames fs (a ++ b) = (freshNames fs a && freshNames (run fs a) b) := by
  induction a generalizing fs with
  | nil => simp [freshNames, run]
  | cons e es ih =>
    simp only [List.cons_append, freshNames, run_cons, ih, Bool.and_assoc]

theorem freshNames_freshCreates {fs : FS} (hwf : WF fs) (tr : List Event)
    (hfr : freshNames fs tr = true) : freshCreates fs tr = true := by
  induction tr generalizing fs with
  | nil => rfl
  | cons e es ih =>
    obtain ⟨h1, h2⟩ := freshNames_cons.1 hfr
    refine freshCreates_cons.2 ⟨fun n hn => ?_, ih (step_wf hwf e) h2⟩
    cases hd : fs.dir n with
    | none => rfl
    | some i => exact absurd (hwf.support n (by rw [hd]; rfl)) (h1 n (hn ▸ rfl))

end WM.FS
