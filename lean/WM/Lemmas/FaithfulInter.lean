import WM.Lemmas.Faithful
/-! `IntersectionMatcher` and `RequireMatcher` are faithful cursors over `interWith f`. -/
namespace WM.Matcher

namespace Inter
variable {α β : Type} {A : Ops α} {B : Ops β} {dA fA : α → Den} {dB fB : β → Den}
  {WA : α → Prop} {WB : β → Prop}

/-- both active ⇒ on the same document -/
def Aligned (dA : α → Den) (dB : β → Den) (m : Bin α β) : Prop :=
  ∀ x r La y s Lb, dA m.a = (x, r) :: La → dB m.b = (y, s) :: Lb → x = y

theorem findLoop_spec (f : Rat → Rat → Rat) (FA : Faithful A dA fA WA) (FB : Faithful B dB fB WB) :
    ∀ (fuel : Nat) (a : α) (b : β) (x y : Nat) (ra rb : Rat) (La Lb : Den),
      WA a → WB b → dA a = (x, ra) :: La → dB b = (y, rb) :: Lb → A.rem a + B.rem b < fuel →
      Yields (findLoop A B fuel a b x y) (Synced A B dA fA dB fB WA WB (Aligned dA dB) (interWith f) ⟨a, b⟩) := by
  intro fuel
  induction fuel with
  | zero => intro a b x y ra rb La Lb _ _ _ _ h; omega
  | succ n ih =>
    intro a b x y ra rb La Lb wa wb ha hb hfuel
    have hAa : A.isActive a = true := (FA.active _ wa).2 (by simp [ha])
    have hBa : B.isActive b = true := (FB.active _ wb).2 (by simp [hb])
    have ascA := FA.asc _ wa
    have ascB := FB.asc _ wb
    unfold findLoop
    rw [hAa, hBa]
    by_cases hxy : x = y
    · subst hxy
      rw [if_neg (by simp)]; exact .ok (Synced.refl _ wa wb (headRel_of_cons ha hb rfl))
    · have hne : (true && true && x != y) = true := by simp [hxy]
      rw [if_pos hne]
      by_cases hlt : x < y
      · rw [if_pos hlt]
        -- `a` skips to `y`: it loses ids that `b` does not have
        refine (FA.skipTo_step y wa (by simp [ha])).bind fun a' st => ?_
        have hlt' : A.rem a' < A.rem a := st.adv.rem_lt (by rw [st.den_eq, ha]; exact dropBelow_ne_of_head_lt hlt)
        have hden : interWith f (dA a') (dB b) = interWith f (dA a) (dB b) := by
          rw [st.den_eq]; exact interWith_dropBelow_left f ascA (ascB.head_le hb)
        have hmv : Moved A B dA fA dB fB WA WB ⟨a, b⟩ ⟨a', b⟩ := .left wb st
        rcases FA.head st.wf with ⟨hda', hina⟩ | ⟨x', r', La', hda', hact', hid', -⟩
        · rw [hina]; exact .ok ⟨hmv, headRel_of_nil_left hda', hden⟩
        · rw [hact', hid']
          exact (ih a' b x' y r' rb La' Lb st.wf wb hda' hb (by omega)).mono fun _ hm => hm.after hmv hden
      · rw [if_neg hlt]
        refine (FB.skipTo_step x wb (by simp [hb])).bind fun b' st => ?_
        have hlt' : B.rem b' < B.rem b :=
          st.adv.rem_lt (by rw [st.den_eq, hb]; exact dropBelow_ne_of_head_lt (by omega))
        have hden : interWith f (dA a) (dB b') = interWith f (dA a) (dB b) := by
          rw [st.den_eq]; exact interWith_dropBelow_right f ascB (ascA.head_le ha)
        have hmv : Moved A B dA fA dB fB WA WB ⟨a, b⟩ ⟨a, b'⟩ := .right wa st
        rcases FB.head st.wf with ⟨hdb', hinb⟩ | ⟨y', s', Lb', hdb', hact', hid', -⟩
        · rw [hinb]; exact .ok ⟨hmv, headRel_of_nil_right hdb', hden⟩
        · rw [hact', hid']
          exact (ih a b' x y' ra s' La Lb' wa st.wf ha hdb' (by omega)).mono fun _ hm => hm.after hmv hden

theorem findNext_spec (f : Rat → Rat → Rat) (FA : Faithful A dA fA WA) (FB : Faithful B dB fB WB)
    (m : Bin α β) (x y : Nat) (ra rb : Rat) (La Lb : Den) (wa : WA m.a) (wb : WB m.b)
    (ha : dA m.a = (x, ra) :: La) (hb : dB m.b = (y, rb) :: Lb) (hxy : x ≠ y) :
    Yields (findNext A B m) (Synced A B dA fA dB fB WA WB (Aligned dA dB) (interWith f) m) := by
  unfold findNext
  rw [FA.id _ _ _ _ wa ha, FB.id _ _ _ _ wb hb]
  show Yields (if x = y then _ else _) _
  rw [if_neg hxy]
  exact findLoop_spec f FA FB (A.rem m.a + B.rem m.b + 1) m.a m.b x y ra rb La Lb wa wb ha hb (by omega)

theorem findFirst_spec (f : Rat → Rat → Rat) (FA : Faithful A dA fA WA) (FB : Faithful B dB fB WB)
    (m : Bin α β) (wa : WA m.a) (wb : WB m.b) :
    Yields (findFirst A B m) (Synced A B dA fA dB fB WA WB (Aligned dA dB) (interWith f) m) := by
  unfold findFirst
  rcases FA.head wa with ⟨ha, hAa⟩ | ⟨x, ra, La, ha, hAa, hAid, -⟩
  · rw [hAa]; exact .ok (Synced.refl _ wa wb (headRel_of_nil_left ha))
  · rcases FB.head wb with ⟨hb, hBa⟩ | ⟨y, rb, Lb, hb, hBa, hBid, -⟩
    · rw [hAa, hBa]; exact .ok (Synced.refl _ wa wb (headRel_of_nil_right hb))
    · rw [hAa, hBa, hAid, hBid]
      show Yields (if (x != y) = true then _ else _) _
      by_cases hxy : x = y
      · subst hxy
        rw [if_neg (by simp)]; exact .ok (Synced.refl _ wa wb (headRel_of_cons ha hb rfl))
      · rw [if_pos (by simp [hxy])]
        exact findNext_spec f FA FB m x y ra rb La Lb wa wb ha hb hxy

theorem realign_eq_findFirst (m : Bin α β) (ha : A.isActive m.a = true) (hb : B.isActive m.b = true) :
    realign A B m = findFirst A B m := by
  simp [realign, findFirst, ha, hb]

theorem head (f : Rat → Rat → Rat) (FA : Faithful A dA fA WA) (m : Bin α β) (wa : WA m.a)
    (hal : Aligned dA dB m) :
    (interWith f (dA m.a) (dB m.b) = [] ∧ (dA m.a = [] ∨ dB m.b = [])) ∨
    ∃ x ra rb La Lb, interWith f (dA m.a) (dB m.b) = (x, f ra rb) :: interWith f La Lb ∧
      dA m.a = (x, ra) :: La ∧ dB m.b = (x, rb) :: Lb := by
  cases ha : dA m.a with
  | nil => left; exact ⟨interWith_nil_left f _, Or.inl rfl⟩
  | cons p La =>
    obtain ⟨x, ra⟩ := p
    cases hb : dB m.b with
    | nil => left; exact ⟨interWith_nil_right f _, Or.inr rfl⟩
    | cons q Lb =>
      obtain ⟨y, rb⟩ := q
      have := hal x ra La y rb Lb ha hb
      subst this
      right
      exact ⟨x, ra, rb, La, Lb, interWith_cons_cons f (ha ▸ FA.asc _ wa), rfl, rfl⟩

theorem faithful_of (f : Rat → Rat → Rat) (FA : Faithful A dA fA WA) (FB : Faithful B dB fB WB)
    (O : Ops (Bin α β)) (hm : MoveEq O (Inter.ops A B))
    (hscore : ∀ m ra rb, A.score m.a = .ok ra → B.score m.b = .ok rb → O.score m = .ok (f ra rb)) :
    Faithful O (fun m => interWith f (dA m.a) (dB m.b)) (fun m => interWith f (fA m.a) (fB m.b))
      (fun m => WA m.a ∧ WB m.b ∧ Aligned dA dB m) := by
  simp only [MoveEq, Inter.ops] at hm
  obtain ⟨hact, hid, hnext, hskip, hreset, hrem⟩ := hm
  exact .of_state (fun m h => asc_interWith f _ (FA.asc _ h.1))
    (fun m h => by
      rw [hact, hid, hnext, hskip]
      unfold Inter.isActive
      -- exhausted on one side, or both sides on the same document
      rcases head f FA m h.1 h.2.2 with ⟨h0, h1 | h2⟩ | ⟨x, ra, rb, La, Lb, h3, h1, h2⟩
      · exact .inl ⟨h0, by rw [(FA.inactive h.1).2 h1]; rfl⟩
      · exact .inl ⟨h0, by rw [(FB.inactive h.2.1).2 h2, Bool.and_false]⟩
      have hAa := (FA.active _ h.1).2 (by simp [h1])
      have hBa := (FB.active _ h.2.1).2 (by simp [h2])
      refine .inr ⟨x, _, _, h3, by rw [hAa, hBa]; rfl, FA.id _ _ _ _ h.1 h1,
        hscore m ra rb (FA.score _ _ _ _ h.1 h1) (FB.score _ _ _ _ h.2.1 h2), ?_, fun t => ?_⟩
      · unfold Inter.next Inter.isActive
        rw [hAa, hBa]
        refine (FA.next_step h.1 h1).bind fun a' st => ?_
        have ascA := FA.asc _ h.1
        rw [h1] at ascA
        -- the rest of a lies strictly beyond x, so b's head is irrelevant
        have hrest : interWith f (dA a') (dB m.b) = interWith f La Lb := by
          rw [st.den_eq, h2]; exact interWith_cons_right f ascA.head_lt
        -- what `next` does after stepping `a`
        have hal : Yields
            (if (A.isActive a' && B.isActive m.b) = true then findNext A B ⟨a', m.b⟩ else pure ⟨a', m.b⟩)
            (Synced A B dA fA dB fB WA WB (Aligned dA dB) (interWith f) ⟨a', m.b⟩) := by
          rcases FA.head st.wf with ⟨hda', hina⟩ | ⟨x2, r2, La', hda', hact', -, -⟩
          · rw [hina]; exact .ok (Synced.refl _ st.wf h.2.1 (headRel_of_nil_left hda'))
          · have hx2 : x < x2 := ascA.head_lt (x2, r2) (by rw [← st.den_eq, hda']; exact List.mem_cons_self)
            rw [hact', hBa]
            exact findNext_spec f FA FB ⟨a', m.b⟩ x2 x r2 rb La' Lb st.wf h.2.1 hda' h2 (by omega)
        exact hal.mono fun m' hm => hm.step (.left h.2.1 st) (congrFun hrem) hrest
      · unfold Inter.skipTo Inter.isActive
        rw [hAa, hBa]
        refine (FA.skipTo_step t h.1 (by simp [h1])).bind fun a' sa =>
          (FB.skipTo_step t h.2.1 (by simp [h2])).bind fun b' sb => ?_
        -- what is left of `skip_to` is `_find_first`
        refine (findFirst_spec f FA FB ⟨a', b'⟩ sa.wf sb.wf).mono fun m' hm =>
          hm.step ((Moved.left h.2.1 sa).trans (.right sa.wf sb)) (congrFun hrem) ?_
        simp only [sa.den_eq, sb.den_eq]; exact interWith_dropBelow f (FA.asc _ h.1) (FB.asc _ h.2.1) t)
    (fun m h => by rw [hreset]; exact Synced.reset FA FB (findFirst_spec f FA FB) m h.1 h.2.1)

/-- `IntersectionMatcher` -/
theorem faithful (FA : Faithful A dA fA WA) (FB : Faithful B dB fB WB) :
    Faithful (Inter.ops A B) (fun m => interWith (· + ·) (dA m.a) (dB m.b))
      (fun m => interWith (· + ·) (fA m.a) (fB m.b)) (fun m => WA m.a ∧ WB m.b ∧ Aligned dA dB m) :=
  faithful_of (· + ·) FA FB _ (.refl _)
    (fun m ra rb h1 h2 => by show Inter.score A B m = _; unfold Inter.score; rw [h1, h2]; rfl)

/-- the constructor establishes the invariant (C11 `constructors_wf`) -/
theorem init_spec (f : Rat → Rat → Rat) (FA : Faithful A dA fA WA) (FB : Faithful B dB fB WB)
    (a : α) (b : β) (wa : WA a) (wb : WB b) :
    Yields (Inter.init A B a b) fun m' => (WA m'.a ∧ WB m'.b ∧ Aligned dA dB m') ∧
      interWith f (dA m'.a) (dB m'.b) = interWith f (dA a) (dB b) :=
  (findFirst_spec f FA FB ⟨a, b⟩ wa wb).mono fun _ h => ⟨⟨h.wa, h.wb, h.inv⟩, h.den_eq⟩

end Inter

theorem Require.moveEq_inter {α β : Type} (A : Ops α) (B : Ops β) : MoveEq (Require.ops A B) (Inter.ops A B) :=
  ⟨rfl, rfl, rfl, rfl, rfl, rfl⟩

/-- `RequireMatcher` -/
theorem Require.faithful {α β : Type} {A : Ops α} {B : Ops β} {dA fA : α → Den} {dB fB : β → Den}
    {WA : α → Prop} {WB : β → Prop} (FA : Faithful A dA fA WA) (FB : Faithful B dB fB WB) :
    Faithful (Require.ops A B) (fun m => interWith (fun s _ => s) (dA m.a) (dB m.b))
      (fun m => interWith (fun s _ => s) (fA m.a) (fB m.b))
      (fun m => WA m.a ∧ WB m.b ∧ Inter.Aligned dA dB m) :=
  Inter.faithful_of (fun s _ => s) FA FB _ (moveEq_inter A B) (fun _ _ _ h1 _ => h1)

end WM.Matcher
