import WM.Model.Lev
/-! The union matcher of a fuzzy term query; enumerations shifted by an offset (document numbers
of later segments). -/
namespace WM.Lev

theorem filter_zipIdx_shift {α} (l : List α) (k : Nat) (q : α → Bool) :
    ((l.zipIdx 0).filter fun x => q x.1).map (fun x => x.2 + k) =
      ((l.zipIdx k).filter fun x => q x.1).map (·.2) := by
  rw [List.zipIdx_eq_map_add (i := k), List.filter_map, List.map_map]
  exact List.map_congr_left fun x _ => Nat.add_comm ..

theorem fuzzyDocsOf_filter (docs : List (List (List Nat))) (m : List (List Nat)) (q : List Nat → Bool)
    (hm : ∀ doc, doc ∈ docs → ∀ t, t ∈ doc → t ∈ m) :
    fuzzyDocsOf docs (m.filter q) = ((docs.zipIdx.filter fun x => x.1.any q).map (·.2)) := by
  show (docs.zipIdx.filter fun x => x.1.any fun t => (m.filter q).contains t).map (·.2) = _
  congr 1
  apply List.filter_congr
  intro x hx
  have hdoc : x.1 ∈ docs := List.mem_of_getElem? (List.mem_zipIdx_iff_getElem?.mp hx)
  rw [Bool.eq_iff_iff, List.any_eq_true, List.any_eq_true]
  constructor
  · rintro ⟨t, ht, hc⟩
    exact ⟨t, ht, (List.mem_filter.mp (List.contains_iff_mem.mp hc)).2⟩
  · rintro ⟨t, ht, hc⟩
    exact ⟨t, ht, List.contains_iff_mem.mpr (List.mem_filter.mpr ⟨hm _ hdoc t ht, hc⟩)⟩

end WM.Lev
