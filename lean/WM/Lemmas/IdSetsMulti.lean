import WM.Lemmas.IdSetsGeneric
/-! `MultiIdSet`: serial sub-sets glued by offsets. -/
namespace WM.IdSets
open WM.Spec.IdSet (Sorted)

/-- "SERIAL sub-DocIdSets": as many offsets as sets, at least one, the first offset is 0, offsets
    ascend, and every member of set `k` (shifted) lies below the next offset. -/
structure Multi.WF (m : Multi) : Prop where
  len_eq : m.sets.length = m.offsets.length
  nonempty : 0 < m.offsets.length
  first : m.offsets[0]'nonempty = 0
  mono : ∀ (i j : Nat) (hij : i ≤ j) (hj : j < m.offsets.length), m.offsets[i]'(by omega) ≤ m.offsets[j]
  fits : ∀ (k : Nat) (hk : k + 1 < m.offsets.length) (hs : k < m.sets.length),
    ∀ x ∈ (m.sets[k]).iter, x + m.offsets[k]'(by omega) < m.offsets[k + 1]
  wf : ∀ s ∈ m.sets, s.WF

theorem Multi.mem_iter (m : Multi) (x : Nat) :
    x ∈ m.iter ↔ ∃ (k : Nat) (hk : k < m.sets.length) (hk' : k < m.offsets.length),
      ∃ y ∈ (m.sets[k]).iter, x = y + m.offsets[k] := by
  unfold Multi.iter
  rw [List.mem_flatMap]
  constructor
  · rintro ⟨⟨s, off⟩, hp, hx⟩
    rcases List.getElem_of_mem hp with ⟨k, hk, hget⟩
    rw [List.length_zip] at hk
    rw [List.getElem_zip] at hget
    simp only [Prod.mk.injEq] at hget
    rcases List.mem_map.mp hx with ⟨y, hy, rfl⟩
    refine ⟨k, (Nat.lt_min.mp hk).1, (Nat.lt_min.mp hk).2, y, ?_, ?_⟩
    · rw [hget.1]; exact hy
    · rw [hget.2]
  · rintro ⟨k, hk, hk', y, hy, rfl⟩
    refine ⟨(m.sets[k], m.offsets[k]), ?_, ?_⟩
    · have hz : k < (m.sets.zip m.offsets).length := by rw [List.length_zip]; exact Nat.lt_min.mpr ⟨hk, hk'⟩
      have := List.getElem_mem hz
      rw [List.getElem_zip] at this
      exact this
    · exact List.mem_map.mpr ⟨y, hy, rfl⟩

theorem Multi.contains_spec (m : Multi) (h : m.WF) (item : Nat) :
    m.contains item = .ok (decide (item ∈ m.iter)) := by
  unfold Multi.contains Multi.documentSet bisectRight
  obtain ⟨r, hr, hrl, h3, h4⟩ := bisectBy_spec (· ≤ item) m.offsets fun i j hij hj hp => by
    rw [decide_eq_true_eq] at hp ⊢
    exact Nat.le_trans (h.mono i j (Nat.le_of_lt hij) hj) hp
  -- the first offset is 0, so the search ends behind some offset `k`, the last one `≤ item`
  obtain ⟨k, rfl⟩ : ∃ k, r = k + 1 := by
    cases r with
    | zero =>
      have := h4 0 h.nonempty (Nat.le_refl _)
      rw [h.first] at this
      simp at this
    | succ k => exact ⟨k, rfl⟩
  have hk : k < m.sets.length := h.len_eq ▸ hrl
  have hle : m.offsets[k] ≤ item := by simpa using h3 k hrl (Nat.lt_succ_self k)
  rw [hr]
  simp only [Except.map, bind, Except.bind, Nat.add_sub_cancel]
  rw [List.getElem?_eq_getElem hrl, List.getElem?_eq_getElem hk]
  simp only
  rw [if_neg (Nat.not_lt.mpr hle), Inner.contains_spec _ (h.wf _ (List.getElem_mem hk)).ok]
  congr 1
  rw [decide_eq_decide, Multi.mem_iter]
  constructor
  · intro hy
    exact ⟨k, hk, hrl, _, hy, (Nat.sub_add_cancel hle).symm⟩
  · rintro ⟨k', hks, hko, y, hy, rfl⟩
    -- no other set can hold the item: earlier ones end below offset `k`, later ones start above it
    have hkeq : k' = k := by
      rcases Nat.lt_trichotomy k' k with hlt | heq | hgt
      · exact absurd (Nat.lt_of_lt_of_le (h.fits k' (Nat.lt_of_le_of_lt hlt hrl) hks y hy)
          (Nat.le_trans (h.mono (k' + 1) k hlt hrl) hle)) (Nat.lt_irrefl _)
      · exact heq
      · have := h4 k' hko hgt
        rw [decide_eq_false_iff_not] at this
        exact absurd (Nat.le_add_left _ _) this
    subst hkeq
    rw [Nat.add_sub_cancel]; exact hy

theorem Multi.len_aux : ∀ (sets : List Inner) (offsets : List Nat), sets.length = offsets.length →
    (∀ s ∈ sets, s.WF) → ∀ acc : Nat,
    foldE (fun acc s => (s.len).map (acc + ·)) acc sets
      = .ok (acc + ((sets.zip offsets).flatMap fun (s, off) => s.iter.map (· + off)).length)
  | [], [], _, _, acc => by simp [foldE]
  | [], _ :: _, h, _, _ => by simp at h
  | _ :: _, [], h, _, _ => by simp at h
  | s :: ss, o :: os, h, hwf, acc => by
    have ih := Multi.len_aux ss os (by simpa using h) (fun x hx => hwf x (List.mem_cons_of_mem _ hx))
      (acc + s.iter.length)
    simp only [foldE, Inner.len_spec s (hwf s (by simp)), Except.map] at ih ⊢
    rw [ih]
    simp only [List.zip_cons_cons, List.flatMap_cons, List.length_append, List.length_map]
    rw [Nat.add_assoc]

theorem Multi.sorted_iter (m : Multi) (h : m.WF) : Sorted m.iter := by
  unfold Multi.iter Sorted
  rw [List.flatMap_def, List.pairwise_flatten]
  constructor
  · intro l hl
    rcases List.mem_map.mp hl with ⟨⟨s, off⟩, hp, rfl⟩
    have hs : s ∈ m.sets := (List.of_mem_zip hp).1
    have := (h.wf s hs).ok.sorted_iter
    simp only
    rw [List.pairwise_map]
    exact List.Pairwise.imp (fun hab => Nat.add_lt_add_right hab _) this
  · rw [List.pairwise_map, List.pairwise_iff_getElem]
    intro i j hi hj hij
    rw [List.length_zip, h.len_eq, Nat.min_self] at hi hj
    simp only [List.getElem_zip]
    intro x hx y hy
    rcases List.mem_map.mp hx with ⟨a, ha, rfl⟩
    rcases List.mem_map.mp hy with ⟨b, hb, rfl⟩
    exact Nat.lt_of_lt_of_le (h.fits i (Nat.lt_of_le_of_lt hij hj) (h.len_eq ▸ hi) a ha)
      (Nat.le_trans (h.mono (i + 1) j hij hj) (Nat.le_add_left _ _))

end WM.IdSets
