import WM.Model.Columns
import WM.Lemmas.Varint
/-! The row encodings of the columns that wrap a `VarBytesColumn`: the two list encodings and the pickle
encoding decode to what was encoded. -/
namespace WM.Columns

theorem decodeVarListAux_encode (ls : List Bytes) (rest : Bytes) :
    decodeVarListAux ls.length ((ls.flatMap fun v => WM.Varint.encode v.length ++ v) ++ rest) = some ls := by
  induction ls with
  | nil => rfl
  | cons v ls ih =>
    simp only [List.length_cons, decodeVarListAux, List.flatMap_cons, List.append_assoc]
    rw [WM.Varint.decode_encode]
    simp only
    rw [List.take_left, List.drop_left, ih]
    rfl

theorem encodeVarList_ne_nil (ls : List Bytes) : encodeVarList ls ≠ [] := by
  intro h
  have := (List.append_eq_nil_iff.mp h).1
  unfold WM.Varint.encode at this
  split at this <;> simp at this

theorem decodeVarList_encode (ls : List Bytes) : decodeVarList (encodeVarList ls) = some ls := by
  have hne : (encodeVarList ls).isEmpty = false := by
    cases h : encodeVarList ls with
    | nil => exact absurd h (encodeVarList_ne_nil ls)
    | cons a l => rfl
  rw [decodeVarList, hne, encodeVarList, WM.Varint.decode_encode]
  simpa using decodeVarListAux_encode ls []

theorem chunksOf_flatten (k : Nat) (vs : List Bytes) (hk : 0 < k) (h : ∀ v ∈ vs, v.length = k) :
    chunksOf k vs.flatten = vs := by
  induction vs with
  | nil => rw [chunksOf]; simp
  | cons v vs ih =>
    have hv : v.length = k := h v List.mem_cons_self
    have : ¬ (k = 0 ∨ (v :: vs).flatten = []) := by
      rintro (hh | hh)
      · exact absurd hh (Nat.ne_of_gt hk)
      · rw [List.flatten_cons, List.append_eq_nil_iff] at hh
        rw [hh.1] at hv; exact absurd hv.symm (Nat.ne_of_gt hk)
    rw [chunksOf, dif_neg this, List.flatten_cons, List.take_left' hv, List.drop_left' hv,
      ih (fun x hx => h x (List.mem_cons_of_mem _ hx))]

theorem decodeFixList_encode (k : Nat) (hk : 0 < k) (ls : List Bytes) (h : ∀ v ∈ ls, v.length = k) :
    encodeFixList k ls = .ok ls.flatten ∧ decodeFixList k ls.flatten = ls := by
  constructor
  · have : ls.all (fun v => v.length == k) = true := by
      simp only [List.all_eq_true, beq_iff_eq]; exact h
    rw [encodeFixList, if_pos this]
  · have := chunksOf_flatten k ls hk h
    unfold decodeFixList
    split
    · rename_i he
      rw [List.isEmpty_iff.mp he, chunksOf, dif_pos (Or.inr rfl)] at this
      exact this
    · exact this

theorem pickleGet_enc {α : Type} (ser : α → Bytes) (de : Bytes → α) (hrt : ∀ x, de (ser x) = x)
    (hne : ∀ x, ser x ≠ []) (o : Option α) : pickleGet de (pickleEnc ser o) = o := by
  cases o with
  | none => rfl
  | some x =>
    rw [pickleEnc, pickleGet, if_neg (by rw [List.isEmpty_iff]; exact hne x), hrt]

end WM.Columns
