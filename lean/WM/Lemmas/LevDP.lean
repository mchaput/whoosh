import WM.Lemmas.Edit
import WM.Model.Lev
/-! The row-wise DP of `support/levenshtein.py` computes the specification distance. -/
namespace WM.Lev
open WM.Edit

/-- Entry `(i, j)` of the DP table: distance between the prefixes of length `i` and `j`. -/
def D (tr : Bool) (s1 s2 : List Nat) (i j : Nat) : Nat := ed tr (s1.take i) (s2.take j)

theorem D_zero_right (tr : Bool) (s1 s2 : List Nat) (i : Nat) (hi : i ≤ s1.length) :
    D tr s1 s2 i 0 = i := by
  simp [D, Nat.min_eq_left hi]

theorem D_zero_left (tr : Bool) (s1 s2 : List Nat) (j : Nat) (hj : j ≤ s2.length) :
    D tr s1 s2 0 j = j := by
  simp [D, Nat.min_eq_left hj]

theorem D_full (tr : Bool) (s1 s2 : List Nat) : D tr s1 s2 s1.length s2.length = ed tr s1 s2 := by
  simp [D]

/-- The three classical alternatives in table form. -/
def Dbase (tr : Bool) (s1 s2 : List Nat) (x y c1 c2 : Nat) : Nat :=
  min (D tr s1 s2 x (y + 1) + 1) (min (D tr s1 s2 (x + 1) y + 1) (D tr s1 s2 x y + neq c1 c2))

theorem take_getLast?_eq_some {s : List Nat} {x c : Nat} (hx : x ≤ s.length) :
    (s.take x).getLast? = some c ↔ 0 < x ∧ s[x - 1]? = some c := by
  cases x with
  | zero => simp
  | succ x =>
    rw [List.take_succ_eq_append_getElem hx, List.getLast?_concat, Nat.add_sub_cancel,
      List.getElem?_eq_getElem hx]
    exact ⟨fun h => ⟨Nat.succ_pos _, h⟩, fun h => h.2⟩

/-- The table recurrence, with the tests of the Python code (including the redundant
    `seq1[x] != seq2[y]` of the transposition block); `c1 = seq1[x]`, `c2 = seq2[y]`. -/
theorem D_succ_succ (tr : Bool) {s1 s2 : List Nat} {x y c1 c2 : Nat} (h1 : s1[x]? = some c1)
    (h2 : s2[y]? = some c2) :
    D tr s1 s2 (x + 1) (y + 1) =
      if (tr = true ∧ x > 0 ∧ y > 0) ∧ some c1 = s2[y - 1]? ∧ s1[x - 1]? = some c2 ∧ c1 ≠ c2 then
        min (Dbase tr s1 s2 x y c1 c2) (D tr s1 s2 (x - 1) (y - 1) + 1)
      else Dbase tr s1 s2 x y c1 c2 := by
  obtain ⟨hx, rfl⟩ := List.getElem?_eq_some_iff.mp h1
  obtain ⟨hy, rfl⟩ := List.getElem?_eq_some_iff.mp h2
  have hbase : snocBase tr s1[x] s2[y] (s1.take x) (s2.take y) = Dbase tr s1 s2 x y s1[x] s2[y] := by
    unfold snocBase Dbase D
    rw [List.take_succ_eq_append_getElem hx, List.take_succ_eq_append_getElem hy]
  unfold D
  rw [List.take_succ_eq_append_getElem hx, List.take_succ_eq_append_getElem hy, ed_snoc_snoc,
    List.dropLast_take hx, List.dropLast_take hy, hbase]
  refine ite_cond_congr (propext ?_)
  rw [take_getLast?_eq_some (Nat.le_of_lt hx), take_getLast?_eq_some (Nat.le_of_lt hy)]
  constructor
  · rintro ⟨ht, ⟨hy0, e1⟩, ⟨hx0, e2⟩, hn⟩
    exact ⟨⟨ht, hx0, hy0⟩, e1.symm, e2, hn⟩
  · rintro ⟨⟨ht, hx0, hy0⟩, e1, e2, hn⟩
    exact ⟨ht, ⟨hy0, e1.symm⟩, ⟨hx0, e2⟩, hn⟩

theorem D_succ_succ_ge (tr : Bool) {s1 s2 : List Nat} {x y c1 c2 : Nat} (h1 : s1[x]? = some c1)
    (h2 : s2[y]? = some c2) :
    min (Dbase tr s1 s2 x y c1 c2) (D tr s1 s2 (x - 1) (y - 1) + 1) ≤ D tr s1 s2 (x + 1) (y + 1) := by
  rw [D_succ_succ tr h1 h2]
  split
  · exact Nat.le_refl _
  · exact Nat.min_le_left _ _

theorem pyGet_nat (r : List Nat) (j : Nat) : pyGet? r (j : Int) = r[j]? := by
  rw [pyGet?, if_neg (Int.not_lt.mpr (Int.natCast_nonneg j)), Int.toNat_natCast]

theorem pyGet_pred_succ (r : List Nat) (j : Nat) :
    pyGet? r (((j + 1 : Nat) : Int) - 1) = r[j]? := by
  rw [Int.natCast_succ, Int.add_sub_cancel, pyGet_nat]

theorem pyGet_pred_zero (r : List Nat) (n : Nat) (h : r.length = n + 1) :
    pyGet? r (((0 : Nat) : Int) - 1) = r[n]? := by
  show pyGet? r (-1) = _
  rw [pyGet?, if_pos (by decide), if_pos (h ▸ Nat.succ_le_succ (Nat.zero_le n)), h]
  rfl

/-- `r` is the Python list of row `i` up to column `y`.  The code keeps column 0 in the *last*
    cell (`[0] * len(seq2) + [x + 1]`), so that `thisrow[y - 1]` also works for `y = 0`. -/
def RowUpTo (tr : Bool) (s1 s2 : List Nat) (r : List Nat) (i y : Nat) : Prop :=
  r.length = s2.length + 1 ∧ r[s2.length]? = some (D tr s1 s2 i 0) ∧
    ∀ j, j < y → r[j]? = some (D tr s1 s2 i (j + 1))

def IsRow (tr : Bool) (s1 s2 : List Nat) (r : List Nat) (i : Nat) : Prop :=
  RowUpTo tr s1 s2 r i s2.length

theorem RowUpTo.get {tr : Bool} {s1 s2 r : List Nat} {i y : Nat} (h : RowUpTo tr s1 s2 r i y)
    {j : Nat} (hj : j ≤ y) {k : Int} (hk : k = (j : Int) - 1) :
    pyGet? r k = some (D tr s1 s2 i j) := by
  subst hk
  cases j with
  | zero => rw [pyGet_pred_zero _ _ h.1]; exact h.2.1
  | succ j => rw [pyGet_pred_succ]; exact h.2.2 j hj

theorem rowUpTo_init (tr : Bool) (s1 s2 : List Nat) (x : Nat) (hx : x < s1.length) :
    RowUpTo tr s1 s2 (List.replicate s2.length 0 ++ [x + 1]) (x + 1) 0 :=
  ⟨by simp, by simp [D_zero_right _ _ _ _ hx], fun _ hj => absurd hj (Nat.not_lt_zero _)⟩

theorem isRow_first (tr : Bool) (s1 s2 : List Nat) :
    IsRow tr s1 s2 ((List.range s2.length).map (· + 1) ++ [0]) 0 :=
  ⟨by simp, by simp [D_zero_left], fun j hj => by simp [List.getElem?_append, hj, D_zero_left _ _ _ _ hj]⟩

theorem rowUpTo_set (tr : Bool) (s1 s2 : List Nat) (r : List Nat) (i y : Nat) (hy : y < s2.length)
    (h : RowUpTo tr s1 s2 r i y) :
    RowUpTo tr s1 s2 (r.set y (D tr s1 s2 i (y + 1))) i (y + 1) := by
  obtain ⟨hl, h0, hc⟩ := h
  refine ⟨by rw [List.length_set, hl], ?_, fun j hj => ?_⟩
  · rw [List.getElem?_set_ne (Nat.ne_of_lt hy)]; exact h0
  · rcases Nat.lt_succ_iff_lt_or_eq.mp hj with hj | rfl
    · rw [List.getElem?_set_ne (Nat.ne_of_gt hj)]; exact hc j hj
    · rw [List.getElem?_set_self (by omega)]

theorem dpCell_eq (tr : Bool) (s1 s2 : List Nat) (x y : Nat) (twoago oneago thisrow : List Nat)
    (hx : x < s1.length) (hy : y < s2.length)
    (h1 : IsRow tr s1 s2 oneago x)
    (h2 : tr = true → 0 < x → IsRow tr s1 s2 twoago (x - 1))
    (hp : RowUpTo tr s1 s2 thisrow (x + 1) y) :
    dpCell tr s1 s2 x twoago oneago thisrow y =
      some (thisrow.set y (D tr s1 s2 (x + 1) (y + 1))) := by
  obtain ⟨c1, hc1⟩ : ∃ c, s1[x]? = some c := ⟨_, List.getElem?_eq_getElem hx⟩
  obtain ⟨c2, hc2⟩ : ∃ c, s2[y]? = some c := ⟨_, List.getElem?_eq_getElem hy⟩
  obtain ⟨c1p, hc1p⟩ : ∃ c, s1[x - 1]? = some c :=
    ⟨_, List.getElem?_eq_getElem (Nat.lt_of_le_of_lt (Nat.sub_le x 1) hx)⟩
  obtain ⟨c2p, hc2p⟩ : ∃ c, s2[y - 1]? = some c :=
    ⟨_, List.getElem?_eq_getElem (Nat.lt_of_le_of_lt (Nat.sub_le y 1) hy)⟩
  have hset : ∀ v, pySet? thisrow y v = some (thisrow.set y v) := fun v =>
    if_pos (hp.1 ▸ Nat.lt_succ_of_lt hy)
  rw [D_succ_succ tr hc1 hc2]
  unfold dpCell
  simp only [(pyGet_nat oneago y).trans (h1.2.2 y hy), hp.get (Nat.le_refl y) rfl,
    h1.get (Nat.le_of_lt hy) rfl, hc1, hc2, hc1p, hc2p, Option.bind_eq_bind, Option.bind_some,
    ite_not, hset, Option.some.injEq]
  by_cases hg : tr = true ∧ x > 0 ∧ y > 0
  · rw [if_pos hg]
    by_cases hc : c1 = c2p ∧ c1p = c2 ∧ c1 ≠ c2
    · rw [if_pos hc, if_pos (And.intro hg hc), (h2 hg.1 hg.2.1).get (j := y - 1)
        (Nat.le_trans (Nat.sub_le y 1) (Nat.le_of_lt hy)) (by omega)]
      rfl
    · rw [if_neg hc, if_neg (mt And.right hc)]; rfl
  · rw [if_neg hg, if_neg (mt And.left hg)]; rfl

theorem dpInner_spec (tr : Bool) (s1 s2 : List Nat) (x : Nat) (twoago oneago : List Nat)
    (hx : x < s1.length) (h1 : IsRow tr s1 s2 oneago x)
    (h2 : tr = true → 0 < x → IsRow tr s1 s2 twoago (x - 1)) :
    ∀ (n y : Nat) (thisrow : List Nat), y + n = s2.length → RowUpTo tr s1 s2 thisrow (x + 1) y →
      ∃ r, dpInner tr s1 s2 x twoago oneago n y thisrow = some r ∧ IsRow tr s1 s2 r (x + 1) := by
  intro n
  induction n with
  | zero =>
    intro y thisrow hn hp
    cases (hn : y = s2.length)
    exact ⟨thisrow, rfl, hp⟩
  | succ n ih =>
    intro y thisrow hn hp
    have hy : y < s2.length := by omega
    rw [dpInner, dpCell_eq tr s1 s2 x y twoago oneago thisrow hx hy h1 h2 hp]
    exact ih (y + 1) _ (by omega) (rowUpTo_set tr s1 s2 thisrow (x + 1) y hy hp)

/-! ### The early exit is sound: row minima never decrease -/

/-- Every cell of row `i` exceeds the limit `l`: what `min(thisrow) > limit` tests. -/
def RowAbove (tr : Bool) (s1 s2 : List Nat) (l i : Nat) : Prop :=
  ∀ j, j ≤ s2.length → l < D tr s1 s2 i j

theorem D_succ_le (tr : Bool) (s1 s2 : List Nat) (i j : Nat) (hi : i < s1.length) :
    D tr s1 s2 (i + 1) j ≤ D tr s1 s2 i j + 1 := by
  unfold D
  rw [List.take_succ_eq_append_getElem hi]
  exact ed_snoc_left_le tr _ _ _

theorem rowAbove_succ (tr : Bool) (s1 s2 : List Nat) (l i : Nat) (hi : i < s1.length)
    (h : RowAbove tr s1 s2 l i) : RowAbove tr s1 s2 l (i + 1) := by
  have h0 := h 0 (Nat.zero_le _)
  rw [D_zero_right _ _ _ _ (Nat.le_of_lt hi)] at h0
  intro j
  induction j with
  | zero => intro _; rw [D_zero_right _ _ _ _ hi]; exact Nat.lt_succ_of_lt h0
  | succ j ih =>
    intro hj
    have hj' : j < s2.length := hj
    refine Nat.lt_of_lt_of_le (Nat.lt_min.mpr ⟨?_, ?_⟩) (D_succ_succ_ge tr (List.getElem?_eq_getElem hi) (List.getElem?_eq_getElem hj'))
    · exact Nat.lt_min.mpr ⟨Nat.lt_succ_of_lt (h (j + 1) hj), Nat.lt_min.mpr
        ⟨Nat.lt_succ_of_lt (ih (Nat.le_of_lt hj')),
         Nat.lt_of_lt_of_le (h j (Nat.le_of_lt hj')) (Nat.le_add_right _ _)⟩⟩
    · -- two rows up the entries are at most one smaller than in row `i`
      have h1 := h (j - 1) (by omega)
      have h2 := D_succ_le tr s1 s2 (i - 1) (j - 1) (by omega)
      rw [Nat.sub_add_cancel (by omega : 1 ≤ i)] at h2
      omega

theorem rowAbove_final (tr : Bool) (s1 s2 : List Nat) (l : Nat) :
    ∀ (n i : Nat), i + n = s1.length → RowAbove tr s1 s2 l i → l < ed tr s1 s2 := by
  intro n
  induction n with
  | zero =>
    intro i hn h
    cases (hn : i = s1.length)
    exact D_full tr s1 s2 ▸ h s2.length (Nat.le_refl _)
  | succ n ih =>
    intro i hn h
    exact ih (i + 1) (by omega) (rowAbove_succ tr s1 s2 l i (by omega) h)

theorem pyMin?_eq_min? (r : List Nat) : pyMin? r = r.min? := by
  cases r with
  | nil => rfl
  | cons a vs => exact List.min?_cons'.symm

theorem isRow_mem (tr : Bool) (s1 s2 : List Nat) (r : List Nat) (i j : Nat) (h : IsRow tr s1 s2 r i)
    (hj : j ≤ s2.length) : D tr s1 s2 i j ∈ r := by
  cases j with
  | zero => exact List.mem_of_getElem? h.2.1
  | succ j => exact List.mem_of_getElem? (h.2.2 j hj)

/-- What `dp` may return: the distance, or `limit + 1` when the distance exceeds the limit. -/
def DpResult (tr : Bool) (s1 s2 : List Nat) (limit : Option Nat) (r : Nat) : Prop :=
  r = ed tr s1 s2 ∨ ∃ l, limit = some l ∧ r = l + 1 ∧ l < ed tr s1 s2

theorem earlyExit_spec (limit : Option Nat) (x : Nat) {tr : Bool} {s1 s2 row : List Nat} {i : Nat}
    (hrow : IsRow tr s1 s2 row i) :
    ∃ b, earlyExit limit x row = some b ∧
      (b = true → ∃ l, limit = some l ∧ RowAbove tr s1 s2 l i) := by
  cases limit with
  | none => exact ⟨false, rfl, fun h => nomatch h⟩
  | some l =>
    simp only [earlyExit]
    split
    · obtain ⟨m, hm⟩ : ∃ m, row.min? = some m := by
        cases row with
        | nil => cases hrow.1
        | cons a vs => exact ⟨_, rfl⟩
      rw [pyMin?_eq_min?, hm]
      exact ⟨decide (m > l), rfl, fun h => ⟨l, rfl, fun j hj =>
        Nat.lt_of_lt_of_le (of_decide_eq_true h)
          ((List.min?_eq_some_iff.mp hm).2 _ (isRow_mem tr s1 s2 row i j hrow hj))⟩⟩
    · exact ⟨false, rfl, fun h => nomatch h⟩

theorem dpOuter_spec (tr : Bool) (s1 s2 : List Nat) (limit : Option Nat) :
    ∀ (n x : Nat) (oneago thisrow : List Nat), x + n = s1.length → IsRow tr s1 s2 thisrow x →
      (tr = true → 0 < x → IsRow tr s1 s2 oneago (x - 1)) →
      ∃ r, dpOuter tr s1 s2 limit n x oneago thisrow = some r ∧ DpResult tr s1 s2 limit r := by
  intro n
  induction n with
  | zero =>
    intro x oneago thisrow hn h1 _
    cases (by omega : x = s1.length)
    exact ⟨ed tr s1 s2, D_full tr s1 s2 ▸ h1.get (Nat.le_refl _) rfl, Or.inl rfl⟩
  | succ n ih =>
    intro x oneago thisrow hn h1 h2
    have hx : x < s1.length := by omega
    obtain ⟨row, hrow, hisrow⟩ := dpInner_spec tr s1 s2 x oneago thisrow hx h1 h2 s2.length 0
      (List.replicate s2.length 0 ++ [x + 1]) (by omega) (rowUpTo_init tr s1 s2 x hx)
    obtain ⟨b, hb, hbt⟩ := earlyExit_spec limit x hisrow
    simp only [dpOuter, hrow, hb, Option.bind_eq_bind, Option.bind_some]
    cases b with
    | false => exact ih (x + 1) thisrow row (by omega) hisrow (fun _ _ => h1)
    | true =>
      obtain ⟨l, rfl, hl⟩ := hbt rfl
      exact ⟨l + 1, rfl, Or.inr ⟨l, rfl, rfl, rowAbove_final tr s1 s2 l n (x + 1) (by omega) hl⟩⟩

theorem dp_spec (tr : Bool) (s1 s2 : List Nat) (limit : Option Nat) :
    ∃ r, dp tr s1 s2 limit = some r ∧ DpResult tr s1 s2 limit r :=
  dpOuter_spec tr s1 s2 limit s1.length 0 [] _ (by omega) (isRow_first tr s1 s2)
    (fun _ h => absurd h (Nat.lt_irrefl 0))

theorem dp_none (tr : Bool) (s1 s2 : List Nat) : dp tr s1 s2 none = some (ed tr s1 s2) := by
  obtain ⟨r, hr, rfl | ⟨l, hl, _⟩⟩ := dp_spec tr s1 s2 none
  · exact hr
  · cases hl

theorem dp_some (tr : Bool) (s1 s2 : List Nat) (l : Nat) :
    ∃ r, dp tr s1 s2 (some l) = some r ∧ min r (l + 1) = min (ed tr s1 s2) (l + 1) ∧
      (r ≤ l ↔ ed tr s1 s2 ≤ l) ∧ (r ≤ l → r = ed tr s1 s2) := by
  obtain ⟨r, hr, h⟩ := dp_spec tr s1 s2 (some l)
  refine ⟨r, hr, ?_⟩
  rcases h with rfl | ⟨l', hl, rfl, hlt⟩
  · exact ⟨rfl, Iff.rfl, fun _ => rfl⟩
  · simp only [Option.some.injEq] at hl
    subst hl
    refine ⟨?_, ?_, ?_⟩
    · rw [Nat.min_self, Nat.min_eq_right (by omega)]
    · constructor <;> intro h <;> omega
    · intro h; omega

theorem baseLoop_eq (w : List Nat) (d : Nat) (l : List (List Nat)) :
    baseLoop w d l = .ok (l.filter fun t => decide (osa t w ≤ d)) := by
  induction l with
  | nil => rfl
  | cons t l ih =>
    obtain ⟨r, hr, _, hiff, _⟩ := dp_some true t w d
    have hr' : distance t w (some d) = some r := hr
    change r ≤ d ↔ osa t w ≤ d at hiff
    rw [baseLoop, hr', ih]
    simp only [Except.map, List.filter_cons]
    by_cases h : r ≤ d
    · simp [h, hiff.mp h]
    · have : ¬ osa t w ≤ d := fun hc => h (hiff.mpr hc)
      simp [h, this]

end WM.Lev
