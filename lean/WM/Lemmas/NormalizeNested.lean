import WM.Model.NormalizeNested
import WM.Lemmas.NormalizeBasic
/-! `NestedParent` on a segmented index (property C15): the answer depends on the two sub-queries only through
    what they match (`parentAnswer_congr`) and is empty when one of them matches nothing, which is what
    `normalize()` answering `NullQuery` stands for (`parentAnswerOpt_normalize`). -/
namespace WM.NormalizeNested
open WM.Normalize WM.Sat

theorem walk_no_parents (rs : List Row) (h : ∀ r ∈ rs, r.2.1 = false) (em : Bool) :
    walk none em rs = [] := by
  induction rs generalizing em with
  | nil => simp [walk]
  | cons r rest ih =>
    obtain ⟨id, isP, isC⟩ := r
    have hp : isP = false := h (id, isP, isC) (by simp)
    subst hp
    have ih' := fun em => ih (fun r hr => h r (List.mem_cons_of_mem _ hr)) em
    cases isC <;> simp [walk, ih']

theorem walk_no_children (rs : List Row) (h : ∀ r ∈ rs, r.2.2 = false) (last : Option Nat) (em : Bool) :
    walk last em rs = [] := by
  induction rs generalizing last em with
  | nil => simp [walk]
  | cons r rest ih =>
    obtain ⟨id, isP, isC⟩ := r
    have hc : isC = false := h (id, isP, isC) (by simp)
    subst hc
    have ih' := fun last em => ih (fun r hr => h r (List.mem_cons_of_mem _ hr)) last em
    simp [walk, ih']

theorem parentAnswer_congr (env : Env) (segs : List (List Doc)) (n n' : NParent)
    (hp : ∀ seg ∈ segs, ∀ d ∈ seg, sat env n'.parents d = sat env n.parents d)
    (hc : ∀ seg ∈ segs, ∀ d ∈ seg, sat env n'.child d = sat env n.child d) :
    parentAnswer env segs n' = parentAnswer env segs n :=
  congrArg List.flatten <| List.map_congr_left fun seg hs =>
    congrArg (walk none false) (List.map_congr_left fun d hd => by rw [hp seg hs d hd, hc seg hs d hd])

theorem parentAnswer_no_parents (env : Env) (segs : List (List Doc)) (n : NParent)
    (h : ∀ seg ∈ segs, ∀ d ∈ seg, sat env n.parents d = false) : parentAnswer env segs n = [] :=
  List.flatMap_eq_nil_iff.mpr fun seg hs => walk_no_parents _ (List.forall_mem_map.mpr (h seg hs)) _

theorem parentAnswer_no_children (env : Env) (segs : List (List Doc)) (n : NParent)
    (h : ∀ seg ∈ segs, ∀ d ∈ seg, sat env n.child d = false) : parentAnswer env segs n = [] :=
  List.flatMap_eq_nil_iff.mpr fun seg hs => walk_no_children _ (List.forall_mem_map.mpr (h seg hs)) _ _

theorem parentAnswerOpt_normalize (env : Env) (segs : List (List Doc)) (n : NParent) :
    parentAnswerOpt env segs n.normalize
      = parentAnswer env segs { n with parents := normalize n.parents, child := normalize n.child } := by
  dsimp only [NParent.normalize]
  split
  · next h =>
    symm
    rcases (Bool.or_eq_true _ _).mp h with h | h
    · exact parentAnswer_no_parents env segs _ fun _ _ d _ => congrArg (sat env · d) (Q.isNull_iff.mp h)
    · exact parentAnswer_no_children env segs _ fun _ _ d _ => congrArg (sat env · d) (Q.isNull_iff.mp h)
  · rfl

end WM.NormalizeNested
