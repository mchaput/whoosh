import WM.Model.MatcherTree
import WM.Lemmas.Den
import WM.Lemmas.Yields
/-!
`Faithful O den full WF`: the operation table `O` over states `σ` is a faithful forward cursor over
the result list `den s` for every well-formed state (`WF s`).  This is the per-node content of
C11; each matcher functor is shown to preserve it.

Every move of a cursor is described by one notion, `Advances`.  `next`, `skip_to` and the alignment loops of the composite
classes all produce it (`Step`), so the budget clauses of the contract are proved once (`Advances.trans`, `Advances.bin`,
`Advances.wrap`).  A class proves the contract through `Faithful.of_state`: its lists ascend, a well-formed state is exhausted
or stands on the head of its list (what `is_active`, `id`, `score` read; `head` for the class's sub-matchers), from there `next`
and `skip_to` are steps, and `reset`.  `Moved`/`Synced` say it for two sub-matchers.  `MoveEq O' O`: two tables with the same
cursor operations; a class states its theorem for every table that moves like its own (`faithful_of`), so that it also serves
the reads other than the score; `faithful_inv` is the class's own table under any invariant that contains the class's own and
is restored by the moves (the quality contract adds to the invariant), `faithful` the class's own invariant.

After the general part: `program_sim` (a forward simulation of one command is one of every program) and its instance for
cursor programs, `Faithful.program`; then the two classes that need nothing else, `NullMatcher` (`null_faithful`) and
`ListMatcher` (namespace `ListM`: its `WF`, `skipCount_spec`, `faithful_of`, `faithful_inv`, `faithful`).
-/
namespace WM.Matcher

/-- The cursor contract (C11) of an operation table, relative to a meaning function `den`, the
    complete list `full` (what `reset` returns to) and a well-formedness invariant `WF`. -/
structure Faithful {σ : Type} (O : Ops σ) (den full : σ → Den) (WF : σ → Prop) : Prop where
  asc : ∀ s, WF s → Asc (den s)
  active : ∀ s, WF s → (O.isActive s = true ↔ den s ≠ [])
  id : ∀ s x r L, WF s → den s = (x, r) :: L → O.id s = .ok x
  score : ∀ s x r L, WF s → den s = (x, r) :: L → O.score s = .ok r
  next : ∀ s x r L, WF s → den s = (x, r) :: L →
    ∃ s', O.next s = .ok s' ∧ WF s' ∧ den s' = L ∧ O.rem s' < O.rem s ∧ full s' = full s
  skipTo : ∀ s t, WF s → den s ≠ [] →
    ∃ s', O.skipTo s t = .ok s' ∧ WF s' ∧ den s' = dropBelow t (den s) ∧ O.rem s' ≤ O.rem s ∧
      (den s' ≠ den s → O.rem s' < O.rem s) ∧ full s' = full s
  reset : ∀ s, WF s → ∃ s', O.reset s = .ok s' ∧ WF s' ∧ den s' = full s ∧ full s' = full s

/-- `s'` is `s` moved forward: the loop budget of the parents does not grow, it shrinks when the
    remaining list changed, and the complete list is the same. -/
structure Advances {σ : Type} (O : Ops σ) (den full : σ → Den) (s s' : σ) : Prop where
  rem_le : O.rem s' ≤ O.rem s
  rem_lt : den s' ≠ den s → O.rem s' < O.rem s
  full_eq : full s' = full s

namespace Advances
variable {σ : Type} {O : Ops σ} {den full : σ → Den} {s s' s'' : σ}

theorem refl (O : Ops σ) (den full : σ → Den) (s : σ) : Advances O den full s s :=
  ⟨Nat.le_refl _, fun h => absurd rfl h, rfl⟩

theorem trans (h₁ : Advances O den full s s') (h₂ : Advances O den full s' s'') : Advances O den full s s'' := by
  refine ⟨Nat.le_trans h₂.rem_le h₁.rem_le, fun hd => ?_, h₂.full_eq.trans h₁.full_eq⟩
  by_cases e : den s' = den s
  · exact Nat.lt_of_lt_of_le (h₂.rem_lt fun e' => hd (e'.trans e)) h₁.rem_le
  · exact Nat.lt_of_le_of_lt h₂.rem_le (h₁.rem_lt e)

theorem of_lt (h : O.rem s' < O.rem s) (hf : full s' = full s) : Advances O den full s s' :=
  ⟨Nat.le_of_lt h, fun _ => h, hf⟩

/-- a node that has the budget of its one sub-matcher and whose lists are functions of that one's -/
theorem wrap {α : Type} {A : Ops α} {dA fA : α → Den} {c : σ → α} (hrem : ∀ m, O.rem m = A.rem (c m)) {m m' : σ}
    (h : Advances A dA fA (c m) (c m')) (hd : dA (c m') = dA (c m) → den m' = den m)
    (hf : fA (c m') = fA (c m) → full m' = full m) : Advances O den full m m' :=
  ⟨by rw [hrem, hrem]; exact h.rem_le, fun hne => by rw [hrem, hrem]; exact h.rem_lt fun e => hne (hd e),
    hf h.full_eq⟩

/-- a node whose budget is the sum of its sub-matchers' and whose lists are a function `g` of theirs -/
theorem bin {α β : Type} {A : Ops α} {B : Ops β} {dA fA : α → Den} {dB fB : β → Den} {O : Ops (Bin α β)}
    (g : Den → Den → Den) (hrem : ∀ m, O.rem m = A.rem m.a + B.rem m.b) {m m' : Bin α β}
    (ha : Advances A dA fA m.a m'.a) (hb : Advances B dB fB m.b m'.b) :
    Advances O (fun m => g (dA m.a) (dB m.b)) (fun m => g (fA m.a) (fB m.b)) m m' := by
  refine ⟨by rw [hrem, hrem]; exact Nat.add_le_add ha.rem_le hb.rem_le, fun hd => ?_, by simp only [ha.full_eq, hb.full_eq]⟩
  rw [hrem, hrem]
  by_cases ea : dA m'.a = dA m.a
  · exact Nat.add_lt_add_of_le_of_lt ha.rem_le (hb.rem_lt fun eb => hd (by simp only [ea, eb]))
  · exact Nat.add_lt_add_of_lt_of_le (ha.rem_lt ea) hb.rem_le

end Advances

/-- what a cursor call leaves: a well-formed state on the list `L` that is the old state moved forward -/
structure Step {σ : Type} (O : Ops σ) (den full : σ → Den) (WF : σ → Prop) (s s' : σ) (L : Den) : Prop where
  wf : WF s'
  den_eq : den s' = L
  adv : Advances O den full s s'

theorem Step.rem_lt {σ : Type} {O : Ops σ} {den full : σ → Den} {WF : σ → Prop} {s s' : σ} {p : Nat × Rat} {L : Den}
    (h : Step O den full WF s s' L) (hd : den s = p :: L) : O.rem s' < O.rem s :=
  h.adv.rem_lt fun e => by
    have := congrArg List.length (h.den_eq.symm.trans (e.trans hd))
    simp at this

namespace Faithful
variable {σ : Type} {O : Ops σ} {den full : σ → Den} {WF : σ → Prop}

theorem of_false (O : Ops σ) (den full : σ → Den) : Faithful O den full (fun _ => False) where
  asc _ h := h.elim
  active _ h := h.elim
  id _ _ _ _ h := h.elim
  score _ _ _ _ h := h.elim
  next _ _ _ _ h := h.elim
  skipTo _ _ h := h.elim
  reset _ h := h.elim

theorem inactive (F : Faithful O den full WF) {s : σ} (h : WF s) :
    O.isActive s = false ↔ den s = [] := by
  rw [← Bool.not_eq_true, F.active s h, Ne, Classical.not_not]

theorem head (F : Faithful O den full WF) {s : σ} (h : WF s) :
    (den s = [] ∧ O.isActive s = false) ∨
      ∃ x r L, den s = (x, r) :: L ∧ O.isActive s = true ∧ O.id s = .ok x ∧ O.score s = .ok r := by
  cases hd : den s with
  | nil => exact .inl ⟨rfl, (F.inactive h).2 hd⟩
  | cons p L =>
    exact .inr ⟨p.1, p.2, L, rfl, (F.active s h).2 (by simp [hd]), F.id s _ _ _ h hd, F.score s _ _ _ h hd⟩

theorem head_iff (F : Faithful O den full WF) {s : σ} (h : WF s) (x : Nat) :
    (∃ r L, den s = (x, r) :: L) ↔ O.isActive s = true ∧ O.id s = .ok x := by
  constructor
  · rintro ⟨r, L, hd⟩
    exact ⟨(F.active s h).2 (by rw [hd]; exact List.cons_ne_nil _ _), F.id s x r L h hd⟩
  · rintro ⟨ha, hid⟩
    obtain ⟨⟨x', r⟩, L, hd⟩ := List.exists_cons_of_ne_nil ((F.active s h).1 ha)
    cases (F.id s x' r L h hd).symm.trans hid
    exact ⟨r, L, hd⟩

theorem next_active (F : Faithful O den full WF) {s : σ} (h : WF s) (ha : O.isActive s = true) :
    ∃ x r L s', den s = (x, r) :: L ∧ O.id s = .ok x ∧ O.score s = .ok r ∧ O.next s = .ok s' ∧ WF s' ∧ den s' = L ∧
      full s' = full s := by
  obtain ⟨⟨x, r⟩, L, hd⟩ := List.exists_cons_of_ne_nil ((F.active s h).1 ha)
  obtain ⟨s', h1, h2, h3, -, h5⟩ := F.next s x r L h hd
  exact ⟨x, r, L, s', hd, F.id s x r L h hd, F.score s x r L h hd, h1, h2, h3, h5⟩

theorem skipTo_active (F : Faithful O den full WF) {s : σ} (t : Nat) (h : WF s) (ha : O.isActive s = true) :
    Yields (O.skipTo s t) fun s' => WF s' ∧ den s' = dropBelow t (den s) ∧ full s' = full s := by
  obtain ⟨s', h1, h2, h3, -, -, h6⟩ := F.skipTo s t h ((F.active s h).1 ha)
  exact ⟨s', h1, h2, h3, h6⟩

theorem next_step (F : Faithful O den full WF) {s : σ} {x : Nat} {r : Rat} {L : Den} (h : WF s)
    (hd : den s = (x, r) :: L) : Yields (O.next s) (Step O den full WF s · L) := by
  obtain ⟨s', h1, h2, h3, h4, h5⟩ := F.next s x r L h hd
  exact ⟨s', h1, h2, h3, .of_lt h4 h5⟩

theorem skipTo_step (F : Faithful O den full WF) {s : σ} (t : Nat) (h : WF s) (hne : den s ≠ []) :
    Yields (O.skipTo s t) (Step O den full WF s · (dropBelow t (den s))) := by
  obtain ⟨s', h1, h2, h3, h4⟩ := F.skipTo s t h hne
  exact ⟨s', h1, h2, h3, h4.1, h4.2.1, h4.2.2⟩

theorem skipToA_step (F : Faithful O den full WF) {s : σ} (t : Nat) (h : WF s) :
    Yields (O.skipToA s t) (Step O den full WF s · (dropBelow t (den s))) := by
  refine .ite (fun ha => F.skipTo_step t h ((F.active s h).1 ha)) fun ha => .ok ⟨h, ?_, .refl _ _ _ _⟩
  rw [(F.inactive h).1 (Bool.eq_false_iff.2 ha)]; rfl

/-- How every class proves the contract: one case split on the head of the list (`state`), with the two moves given as
    `Step`s there.  The strict budget clause of `next` is that of `Advances`, the list having lost its head. -/
theorem of_state
    (asc : ∀ s, WF s → Asc (den s))
    (state : ∀ s, WF s → (den s = [] ∧ O.isActive s = false) ∨
      ∃ x r L, den s = (x, r) :: L ∧ O.isActive s = true ∧ O.id s = .ok x ∧ O.score s = .ok r ∧
        Yields (O.next s) (Step O den full WF s · L) ∧
        ∀ t, Yields (O.skipTo s t) (Step O den full WF s · (dropBelow t (den s))))
    (reset : ∀ s, WF s → Yields (O.reset s) fun s' => WF s' ∧ den s' = full s ∧ full s' = full s) :
    Faithful O den full WF := by
  -- `state` read on a list known to start with `(x, r)`
  have on : ∀ s x r L, WF s → den s = (x, r) :: L → O.isActive s = true ∧ O.id s = .ok x ∧ O.score s = .ok r ∧
      Yields (O.next s) (Step O den full WF s · L) ∧
      ∀ t, Yields (O.skipTo s t) (Step O den full WF s · (dropBelow t (den s))) := by
    intro s x r L h hd
    rcases state s h with ⟨h0, -⟩ | ⟨x', r', L', h1, h2⟩
    · rw [h0] at hd; cases hd
    · rw [h1] at hd; cases hd; exact h2
  refine ⟨asc, fun s h => ?_, fun s x r L h hd => (on s x r L h hd).2.1, fun s x r L h hd => (on s x r L h hd).2.2.1,
    fun s x r L h hd => ?_, fun s t h hne => ?_, reset⟩
  · rcases state s h with ⟨h1, h2⟩ | ⟨x, r, L, h1, h2, -⟩
    · rw [h1, h2]; exact ⟨fun e => Bool.noConfusion e, fun e => absurd rfl e⟩
    · rw [h1, h2]; exact ⟨fun _ => List.cons_ne_nil _ _, fun _ => rfl⟩
  · obtain ⟨s', h1, h2⟩ := (on s x r L h hd).2.2.2.1
    exact ⟨s', h1, h2.wf, h2.den_eq, h2.rem_lt hd, h2.adv.full_eq⟩
  · obtain ⟨⟨x, r⟩, L, hd⟩ := List.exists_cons_of_ne_nil hne
    obtain ⟨s', h1, h2⟩ := (on s x r L h hd).2.2.2.2 t
    exact ⟨s', h1, h2.wf, h2.den_eq, h2.adv.rem_le, h2.adv.rem_lt, h2.adv.full_eq⟩

end Faithful

theorem Faithful.of_eq {σ : Type} {O : Ops σ} {den full den' full' : σ → Den} {WF : σ → Prop}
    (F : Faithful O den full WF) (h₁ : ∀ s, den' s = den s) (h₂ : ∀ s, full' s = full s) :
    Faithful O den' full' WF := by
  have e₁ : den' = den := funext h₁
  have e₂ : full' = full := funext h₂
  subst e₁ e₂
  exact F

/-- The position invariants of the aligning classes (`Inter.Aligned`, `AndNot.Ahead`, `AndMaybe.NotBehind`) relate the heads of
    two lists by some `R`.  They hold when a side is empty, and on two known heads they say `R x y`. -/
theorem headRel_of_nil_left {R : Nat → Nat → Prop} {A B : Den} (h : A = []) :
    ∀ x r La y s Lb, A = (x, r) :: La → B = (y, s) :: Lb → R x y :=
  fun _ _ _ _ _ _ h1 _ => nomatch h.symm.trans h1

theorem headRel_of_nil_right {R : Nat → Nat → Prop} {A B : Den} (h : B = []) :
    ∀ x r La y s Lb, A = (x, r) :: La → B = (y, s) :: Lb → R x y :=
  fun _ _ _ _ _ _ _ h2 => nomatch h.symm.trans h2

theorem headRel_of_cons {R : Nat → Nat → Prop} {A B La Lb : Den} {x y : Nat} {r s : Rat} (ha : A = (x, r) :: La)
    (hb : B = (y, s) :: Lb) (h : R x y) : ∀ x' r' La' y' s' Lb', A = (x', r') :: La' → B = (y', s') :: Lb' → R x' y' :=
  fun _ _ _ _ _ _ h1 h2 => by cases ha.symm.trans h1; cases hb.symm.trans h2; exact h

section Moved
variable {α β : Type} (A : Ops α) (B : Ops β) (dA fA : α → Den) (dB fB : β → Den) (WA : α → Prop) (WB : β → Prop)

/-- Both sub-matchers of `m'` are well formed and each is the one of `m` moved forward (or left where it was). -/
structure Moved (m m' : Bin α β) : Prop where
  wa : WA m'.a
  wb : WB m'.b
  a : Advances A dA fA m.a m'.a
  b : Advances B dB fB m.b m'.b

/-- What the alignment loops (`_find_next`, `_find_first`) guarantee about their result `m'` when started from `m`:
    the sides only moved forward, the position invariant `I` of the class holds, the list `g (dA ·) (dB ·)` of the
    node is the same. -/
structure Synced (I : Bin α β → Prop) (g : Den → Den → Den) (m m' : Bin α β) : Prop
    extends Moved A B dA fA dB fB WA WB m m' where
  inv : I m'
  den_eq : g (dA m'.a) (dB m'.b) = g (dA m.a) (dB m.b)

variable {A B dA fA dB fB WA WB}

theorem Moved.refl {m : Bin α β} (wa : WA m.a) (wb : WB m.b) : Moved A B dA fA dB fB WA WB m m :=
  ⟨wa, wb, .refl _ _ _ _, .refl _ _ _ _⟩

theorem Moved.trans {m₁ m₂ m₃ : Bin α β} (h₁ : Moved A B dA fA dB fB WA WB m₁ m₂)
    (h₂ : Moved A B dA fA dB fB WA WB m₂ m₃) : Moved A B dA fA dB fB WA WB m₁ m₃ :=
  ⟨h₂.wa, h₂.wb, h₁.a.trans h₂.a, h₁.b.trans h₂.b⟩

theorem Moved.left {a a' : α} {b : β} {L : Den} (wb : WB b) (h : Step A dA fA WA a a' L) :
    Moved A B dA fA dB fB WA WB ⟨a, b⟩ ⟨a', b⟩ := ⟨h.wf, wb, h.adv, .refl _ _ _ _⟩

theorem Moved.right {a : α} {b b' : β} {L : Den} (wa : WA a) (h : Step B dB fB WB b b' L) :
    Moved A B dA fA dB fB WA WB ⟨a, b⟩ ⟨a, b'⟩ := ⟨wa, h.wf, .refl _ _ _ _, h.adv⟩

theorem Moved.step {O : Ops (Bin α β)} {W : Bin α β → Prop} {m m' : Bin α β} {L : Den}
    (h : Moved A B dA fA dB fB WA WB m m') (g : Den → Den → Den)
    (hrem : ∀ m, O.rem m = A.rem m.a + B.rem m.b) (hW : W m') (hL : g (dA m'.a) (dB m'.b) = L) :
    Step O (fun m => g (dA m.a) (dB m.b)) (fun m => g (fA m.a) (fB m.b)) W m m' L :=
  ⟨hW, hL, .bin g hrem h.a h.b⟩

theorem Synced.refl {I : Bin α β → Prop} (g : Den → Den → Den) {m : Bin α β} (wa : WA m.a) (wb : WB m.b)
    (hI : I m) : Synced A B dA fA dB fB WA WB I g m m := ⟨Moved.refl wa wb, hI, rfl⟩

theorem Synced.after {I : Bin α β → Prop} {g : Den → Den → Den} {m m₁ m' : Bin α β}
    (hs : Synced A B dA fA dB fB WA WB I g m₁ m') (hm : Moved A B dA fA dB fB WA WB m m₁)
    (hg : g (dA m₁.a) (dB m₁.b) = g (dA m.a) (dB m.b)) : Synced A B dA fA dB fB WA WB I g m m' :=
  ⟨hm.trans hs.toMoved, hs.inv, hs.den_eq.trans hg⟩

/-- the node's own step after an alignment: sub-matchers moved from `m` to `m₁` (where the node's list is `L`), then
    aligned to `m'` -/
theorem Synced.step {O : Ops (Bin α β)} {I : Bin α β → Prop} {g : Den → Den → Den} {m m₁ m' : Bin α β} {L : Den}
    (hs : Synced A B dA fA dB fB WA WB I g m₁ m') (hm : Moved A B dA fA dB fB WA WB m m₁)
    (hrem : ∀ m, O.rem m = A.rem m.a + B.rem m.b) (hL : g (dA m₁.a) (dB m₁.b) = L) :
    Step O (fun m => g (dA m.a) (dB m.b)) (fun m => g (fA m.a) (fB m.b)) (fun m => WA m.a ∧ WB m.b ∧ I m) m m' L :=
  (hm.trans hs.toMoved).step g hrem ⟨hs.wa, hs.wb, hs.inv⟩ (hs.den_eq.trans hL)

theorem Synced.reset {I : Bin α β → Prop} {g : Den → Den → Den} (FA : Faithful A dA fA WA) (FB : Faithful B dB fB WB)
    {align : Bin α β → R (Bin α β)}
    (hal : ∀ m, WA m.a → WB m.b → Yields (align m) (Synced A B dA fA dB fB WA WB I g m))
    (m : Bin α β) (wa : WA m.a) (wb : WB m.b) :
    Yields (do let a' ← A.reset m.a; let b' ← B.reset m.b; align ⟨a', b'⟩) fun m' => (WA m'.a ∧ WB m'.b ∧ I m') ∧
      g (dA m'.a) (dB m'.b) = g (fA m.a) (fB m.b) ∧ g (fA m'.a) (fB m'.b) = g (fA m.a) (fB m.b) := by
  refine Yields.bind (FA.reset _ wa) fun a' ha => Yields.bind (FB.reset _ wb) fun b' hb =>
    (hal ⟨a', b'⟩ ha.1 hb.1).mono fun m' hm => ⟨⟨hm.wa, hm.wb, hm.inv⟩, ?_, ?_⟩
  · rw [hm.den_eq]; simp only [ha.2.1, hb.2.1]
  · simp only [hm.a.full_eq, hm.b.full_eq, ha.2.2, hb.2.2]

end Moved

/-- everything but the score and the quality operations agrees -/
def MoveEq {σ : Type} (A' A : Ops σ) : Prop :=
  A'.isActive = A.isActive ∧ A'.id = A.id ∧ A'.next = A.next ∧ A'.skipTo = A.skipTo ∧ A'.reset = A.reset ∧
    A'.rem = A.rem

theorem MoveEq.refl {σ : Type} (A : Ops σ) : MoveEq A A := ⟨rfl, rfl, rfl, rfl, rfl, rfl⟩

theorem MoveEq.eq_with {σ : Type} {A' A : Ops σ} (h : MoveEq A' A) :
    A' = { A with score := A'.score, supportsBQ := A'.supportsBQ, blockQuality := A'.blockQuality,
                  maxQuality := A'.maxQuality, skipToQuality := A'.skipToQuality } := by
  cases A'; cases A
  obtain ⟨rfl, rfl, rfl, rfl, rfl, rfl⟩ := h
  rfl

theorem MoveEq.withScore {σ : Type} (A : Ops σ) (f : σ → R Rat) : MoveEq { A with score := f } A :=
  ⟨rfl, rfl, rfl, rfl, rfl, rfl⟩

theorem MoveEq.symm {σ : Type} {A B : Ops σ} (h : MoveEq A B) : MoveEq B A :=
  ⟨h.1.symm, h.2.1.symm, h.2.2.1.symm, h.2.2.2.1.symm, h.2.2.2.2.1.symm, h.2.2.2.2.2.symm⟩

theorem MoveEq.trans {σ : Type} {A B C : Ops σ} (h₁ : MoveEq A B) (h₂ : MoveEq B C) : MoveEq A C :=
  ⟨h₁.1.trans h₂.1, h₁.2.1.trans h₂.2.1, h₁.2.2.1.trans h₂.2.2.1, h₁.2.2.2.1.trans h₂.2.2.2.1,
    h₁.2.2.2.2.1.trans h₂.2.2.2.2.1, h₁.2.2.2.2.2.trans h₂.2.2.2.2.2⟩

/-- Forward simulation, from commands to programs: `run` executes the commands of a program one after the other, `runS` does
    the same on a model where a command may be undefined. -/
theorem program_sim {κ σ α : Type} {exec : κ → σ → R σ} {spec : κ → α → Option α} {run : List κ → σ → R σ}
    {runS : List κ → α → Option α} (r0 : ∀ m, run [] m = .ok m)
    (r1 : ∀ m c cs, run (c :: cs) m = (exec c m).bind (run cs)) (s0 : ∀ a, runS [] a = some a)
    (s1 : ∀ a c cs, runS (c :: cs) a = (spec c a).bind (runS cs)) (Rel : σ → α → Prop)
    (step : ∀ c m a a', Rel m a → spec c a = some a' → Yields (exec c m) (Rel · a'))
    (prog : List κ) (m : σ) (a a' : α) (h : Rel m a) (hs : runS prog a = some a') :
    Yields (run prog m) (Rel · a') := by
  induction prog generalizing m a with
  | nil => exact ⟨m, r0 m, Option.some.inj ((s0 a).symm.trans hs) ▸ h⟩
  | cons c cs ih =>
    rw [s1] at hs
    obtain ⟨a₁, h1, h2⟩ := Option.bind_eq_some_iff.1 hs
    rw [r1]
    exact (step c m a a₁ h h1).bind fun m₁ g => ih m₁ a₁ g h2

/-- A program of cursor commands that the list semantics `runSpec` accepts runs on the matcher and ends on the predicted
    lists.  Stated for whatever is read as the score, since `run` uses the moves only; the table `ops s` itself is the case
    `sc = (ops s).score`, which is `ops s` by eta for structures. -/
theorem Faithful.program {s : Shape} {sc : St s → R Rat} {d f : St s → Den} {W : St s → Prop}
    (F : Faithful { ops s with score := sc } d f W) (prog : List Cmd) (m : St s) (h : W m) (F' L : Den)
    (hs : runSpec prog (f m, d m) = some (F', L)) :
    Yields (run s prog m) fun m' => W m' ∧ d m' = L ∧ f m' = F' := by
  refine program_sim (run.eq_1 s) (run.eq_2 s) runSpec.eq_1 runSpec.eq_2 (fun m st => W m ∧ d m = st.2 ∧ f m = st.1) ?_
    prog m _ _ ⟨h, rfl, rfl⟩ hs
  rintro c m ⟨_, _⟩ st ⟨h, rfl, rfl⟩ hs
  cases c with
  | next =>
    cases hd : d m with
    | nil => rw [hd] at hs; cases hs
    | cons p L =>
      rw [hd] at hs
      cases hs
      obtain ⟨m', h1, h2, h3, -, h5⟩ := F.next m p.1 p.2 L h hd
      exact ⟨m', h1, h2, h3, h5⟩
  | skipTo t =>
    cases hd : d m with
    | nil => rw [hd] at hs; cases hs
    | cons p L =>
      obtain ⟨m', h1, h2, h3, -, -, h6⟩ := F.skipTo m t h (hd ▸ List.cons_ne_nil _ _)
      rw [hd] at hs
      cases hs
      exact ⟨m', h1, h2, hd ▸ h3, h6⟩
  | reset =>
    cases hs
    exact F.reset m h

theorem null_faithful : Faithful nullOps (fun _ => []) (fun _ => []) (fun _ => True) where
  asc _ _ := asc_nil
  active _ _ := by simp [nullOps]
  id _ _ _ _ _ h := by cases h
  score _ _ _ _ _ h := by cases h
  next _ _ _ _ _ h := by cases h
  skipTo _ _ _ h := absurd rfl h
  reset _ _ := ⟨(), rfl, trivial, rfl, rfl⟩

namespace ListM

def WF (m : ListM) : Prop := m.ids.Pairwise (· < ·) ∧ m.weights.length = m.ids.length

theorem den_eq_nil_iff {m : ListM} (h : m.WF) : m.den = [] ↔ m.ids.length ≤ m.i := by
  simp [den, full, List.drop_eq_nil_iff, List.length_zip, h.2]

theorem skipCount_spec (t : Nat) (ids : List Nat) (ws : List Rat) :
    (ids.zip ws).drop (skipCount t ids) = dropBelow t (ids.zip ws) := by
  induction ids generalizing ws with
  | nil => rfl
  | cons x xs ih =>
    cases ws with
    | nil => simp
    | cons w ws =>
      rw [List.zip_cons_cons, dropBelow_cons, skipCount]
      split
      · exact ih ws
      · rfl

/-- any table that moves like the list matcher's and reads the entry of `w m` at the position (`w` untouched by the
    moves), under any invariant that does not speak of the position -/
theorem faithful_of (O : Ops ListM) (w : ListM → List Rat) (hw : ∀ (m : ListM) i, w { m with i := i } = w m)
    (hm : MoveEq O ListM.ops) (hs : ∀ m r, (w m)[m.i]? = some r → O.score m = .ok r)
    (W : ListM → Prop) (hW : ∀ m, W m → m.ids.Pairwise (· < ·) ∧ (w m).length = m.ids.length)
    (hset : ∀ (m : ListM) i, W m → W { m with i := i }) :
    Faithful O (fun m => (m.ids.zip (w m)).drop m.i) (fun m => m.ids.zip (w m)) W := by
  obtain ⟨e1, e2, e3, e4, e5, e6⟩ := hm
  refine .of_state (fun m h => asc_sublist (List.drop_sublist _ _) (asc_zip (hW m h).1)) (fun m h => ?_)
    fun m h => ⟨{ m with i := 0 }, by rw [e5]; rfl, hset m 0 h, by rw [hw]; rfl, by rw [hw]⟩
  rw [e1, e2, e3, e4]
  by_cases hi : m.i < m.ids.length
  · have hi' : m.i < (m.ids.zip (w m)).length := by rw [List.length_zip, (hW m h).2, Nat.min_self]; exact hi
    have step : ∀ k, Step O (fun m => (m.ids.zip (w m)).drop m.i) (fun m => m.ids.zip (w m)) W m
        { m with i := m.i + k } ((m.ids.zip (w m)).drop (m.i + k)) := fun k =>
      ⟨hset m _ h, by rw [hw], by rw [e6]; exact Nat.sub_le_sub_left (Nat.le_add_right _ _) _, fun hne => by
        rw [e6]
        exact Nat.sub_lt_sub_left hi (Nat.lt_add_of_pos_right (Nat.pos_of_ne_zero fun h0 => hne (by rw [hw, h0]; rfl))),
        by rw [hw]⟩
    refine .inr ⟨_, _, _, (List.drop_eq_getElem_cons hi').trans (by rw [List.getElem_zip]),
      by simpa [ops, isActive] using hi, by simp [ops, ListM.id, hi], hs m _ (List.getElem?_eq_getElem _),
      .ok (step 1), fun t => ⟨_, by simp [ops, skipTo, isActive, hi]; rfl, ?_⟩⟩
    rw [drop_zip, ← skipCount_spec, ← drop_zip, List.drop_drop]
    exact step _
  · exact .inl ⟨List.drop_eq_nil_of_le (by rw [List.length_zip]; omega), by simpa [ops, isActive] using hi⟩

theorem faithful_inv (W : ListM → Prop) (hW : ∀ m, W m → WF m) (hset : ∀ (m : ListM) i, W m → W { m with i := i }) :
    Faithful ops den full W :=
  faithful_of ops (·.weights) (fun _ _ => rfl) (MoveEq.refl _)
    (fun m r h => by
      show m.score = _
      unfold score
      cases hw : m.weights with
      | nil => simp [hw] at h
      | cons w ws => simp only [← hw, h])
    W hW hset

theorem faithful : Faithful ops den full WF := faithful_inv _ (fun _ h => h) (fun _ _ h => h)

end ListM

end WM.Matcher
