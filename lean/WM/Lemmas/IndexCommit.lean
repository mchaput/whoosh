import WM.Lemmas.IndexSim
import WM.Lemmas.Yields
/-! `add_reader`, merge policies and `commit`: what reaches the TOC. -/
namespace WM.Index
open WM.Dict

theorem Writer.addReader_fields {w w' : Writer} {s : Seg} (h : w.addReader s = .ok w') :
    w'.schema = w.schema ∧ w'.segs = w.segs ∧ w'.added = true ∧
    w'.ndocs = w.ndocs ++ s.liveDocs.map (restrict w.schema) := by
  unfold Writer.addReader at h
  simp only at h
  cases hps : (s.livePosts w.schema).mapM (renumber s w.ndocs.length) with
  | none => rw [hps] at h; cases h
  | some ps =>
    rw [hps] at h
    cases h
    exact ⟨rfl, rfl, rfl, rfl⟩

theorem Writer.addReaders_fields {w w' : Writer} {ss : List Seg} (h : w.addReaders ss = .ok w') :
    w'.schema = w.schema ∧ w'.added = (w.added || !ss.isEmpty) ∧
    w'.ndocs = w.ndocs ++ contentOf w.schema ss := by
  induction ss generalizing w with
  | nil =>
    cases h
    simp [contentOf]
  | cons s r ih =>
    simp only [Writer.addReaders, List.foldlM_cons, bind, Except.bind] at h
    cases h1 : w.addReader s with
    | error e => rw [h1] at h; cases h
    | ok w1 =>
      rw [h1] at h
      obtain ⟨a1, _, a4, a5⟩ := Writer.addReader_fields h1
      obtain ⟨b1, b4, b5⟩ := ih h
      refine ⟨b1.trans a1, by simp [b4, a4], ?_⟩
      rw [b5, a5, a1]
      simp [contentOf, List.flatMap_cons]

theorem Writer.addReaders_notAdded {w w' : Writer} {ss : List Seg} (h : w.addReaders ss = .ok w')
    (hna : w.added = false → w.ndocs = []) : w'.added = false → w'.ndocs = [] := by
  obtain ⟨_, b4, b5⟩ := Writer.addReaders_fields h
  intro ha
  rw [b4, Bool.or_eq_false_iff, Bool.not_eq_false', List.isEmpty_iff] at ha
  rw [b5, hna ha.1, ha.2]
  rfl

theorem Writer.addReaders_fits {w w' : Writer} {ss : List Seg} (h : w.addReaders ss = .ok w')
    (hfits : ∀ d ∈ w.ndocs, d.fits w.schema = true) : ∀ d ∈ w'.ndocs, d.fits w'.schema = true := by
  obtain ⟨b1, _, b5⟩ := Writer.addReaders_fields h
  intro d hd
  rw [b1]
  rcases List.mem_append.mp (b5 ▸ hd) with hd | hd
  · exact hfits d hd
  · exact contentOf_fits w.schema _ d hd

theorem Writer.commitPlan_of_addReaders {w : Writer} (plan : Plan) {w1 : Writer}
    (h : w.addReaders (plan w.segs).1 = .ok w1) :
    w.commitPlan plan = .ok { schema := w1.schema, gen := w1.gen
                              segs := if w1.added then (plan w.segs).2 ++ [w1.finalizeSegment] else (plan w.segs).2 } := by
  unfold Writer.commitPlan
  simp only [h, Except.map]

theorem Writer.commitPlan_inv {w : Writer} {plan : Plan} {t' : Toc} (h : w.commitPlan plan = .ok t') :
    Yields (w.addReaders (plan w.segs).1) fun w1 =>
      t' = { schema := w1.schema, gen := w1.gen
             segs := if w1.added then (plan w.segs).2 ++ [w1.finalizeSegment] else (plan w.segs).2 } := by
  cases h1 : w.addReaders (plan w.segs).1 with
  | error e => simp [Writer.commitPlan, h1, Except.map] at h
  | ok w1 =>
    rw [Writer.commitPlan_of_addReaders plan h1] at h
    cases h
    exact .ok rfl

theorem Writer.commitPlan_schema {w : Writer} {plan : Plan} {t' : Toc} (h : w.commitPlan plan = .ok t') :
    t'.schema = w.schema := by
  obtain ⟨w1, h1, rfl⟩ := Writer.commitPlan_inv h
  exact (Writer.addReaders_fields h1).1

theorem Writer.finalizeSegment_content (w : Writer) (hfits : ∀ d ∈ w.ndocs, d.fits w.schema = true) :
    contentOf w.schema [w.finalizeSegment] = w.ndocs := by
  rw [contentOf_singleton, liveDocs_of_no_deletions _ rfl]
  exact map_restrict_of_fits _ _ hfits

theorem Writer.commitPlan_content {w : Writer} {plan : Plan} {t' : Toc} (h : w.commitPlan plan = .ok t')
    (hfits : ∀ d ∈ w.ndocs, d.fits w.schema = true) (hna : w.added = false → w.ndocs = []) :
    t'.schema = w.schema ∧
    t'.content = contentOf w.schema (plan w.segs).2 ++ (w.ndocs ++ contentOf w.schema (plan w.segs).1) := by
  obtain ⟨w1, h1, rfl⟩ := Writer.commitPlan_inv h
  obtain ⟨b1, _, b5⟩ := Writer.addReaders_fields h1
  refine ⟨b1, ?_⟩
  have hfits1 := Writer.addReaders_fits h1 hfits
  simp only [Toc.content]
  split
  · rw [contentOf_append, Writer.finalizeSegment_content w1 hfits1, b1, b5]
  · next ha => rw [b1, ← b5, Writer.addReaders_notAdded h1 hna (by simpa using ha), List.append_nil]

/-- A merge policy that only re-arranges: what it merges plus what it leaves is the old list. -/
def PlanOK (plan : Plan) : Prop := ∀ segs, ((plan segs).1 ++ (plan segs).2).Perm segs

theorem PlanOK.sub {plan : Plan} (h : PlanOK plan) (segs : List Seg) :
    ∀ s, s ∈ (plan segs).1 ∨ s ∈ (plan segs).2 → s ∈ segs :=
  fun _ hs => (h segs).mem_iff.mp (List.mem_append.mpr hs)

theorem PlanOK.content_perm {plan : Plan} (h : PlanOK plan) (sc : Schema) (segs : List Seg) (n : List DocRec) :
    (contentOf sc (plan segs).2 ++ (n ++ contentOf sc (plan segs).1)).Perm (contentOf sc segs ++ n) := by
  have h2 := contentOf_perm sc (h segs)
  rw [contentOf_append] at h2
  refine List.perm_append_comm.trans (.trans ?_ (h2.append_right n))
  rw [List.append_assoc]
  exact List.perm_append_comm

theorem Writer.commitPlan_content_perm {w : Writer} {plan : Plan} (hplan : PlanOK plan) {t' : Toc}
    (h : w.commitPlan plan = .ok t') (hfits : ∀ d ∈ w.ndocs, d.fits w.schema = true)
    (hna : w.added = false → w.ndocs = []) : t'.content.Perm (contentOf w.schema w.segs ++ w.ndocs) :=
  (Writer.commitPlan_content h hfits hna).2 ▸ hplan.content_perm w.schema w.segs w.ndocs

theorem planNoMerge_ok : PlanOK planNoMerge := by intro segs; simp [planNoMerge]
theorem planOptimize_ok : PlanOK planOptimize := by intro segs; simp [planOptimize]

theorem mergeSmallLoop_perm (l : List Seg) (i total : Nat) (found : Bool) (tm un : List Seg) :
    ((mergeSmallLoop l i total found tm un).1 ++ (mergeSmallLoop l i total found tm un).2.1).Perm (tm ++ un ++ l) := by
  -- wherever a segment is put, it is appended to one of the two accumulators
  have hmid (s : Seg) (tm un r : List Seg) : (tm ++ [s] ++ un ++ r).Perm (tm ++ un ++ s :: r) := by
    simp only [List.append_assoc, List.singleton_append]
    exact List.Perm.append_left _ List.perm_middle.symm
  have hend (s : Seg) (tm un r : List Seg) : (tm ++ (un ++ [s]) ++ r).Perm (tm ++ un ++ s :: r) := by
    simp only [List.append_assoc, List.singleton_append, List.Perm.refl]
  fun_induction mergeSmallLoop l i total found tm un with
  | case1 => simp
  | case2 =>
    rename_i ih
    exact ih.trans (hend ..)
  | case3 =>
    rename_i ih
    exact ih.trans (hmid ..)
  | case4 =>
    rename_i ih
    exact ih.trans (hmid ..)

theorem planMergeSmall_ok : PlanOK planMergeSmall := by
  intro segs
  simp only [planMergeSmall]
  split
  · have := mergeSmallLoop_perm (segs.mergeSort fun a b => decide (a.docCountAll ≤ b.docCountAll)) 0 0 false [] []
    exact this.trans (List.mergeSort_perm _ _)
  · simp

theorem MergeKind.plan_ok (k : MergeKind) (h : k ≠ .clear) : PlanOK k.plan := by
  cases k with
  | noMerge => exact planNoMerge_ok
  | mergeSmall => exact planMergeSmall_ok
  | optimize => exact planOptimize_ok
  | clear => exact absurd rfl h

end WM.Index
